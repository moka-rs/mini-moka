/-
  Model **T**: the two accesses of an UPDATE `insert(k, v)` of `mini_moka::sync::Cache` — ONE key,
  any number of threads — namely *read the clock* and, later, *write the map entry with that
  reading as its timestamp*.

  What is modelled.  `do_insert_with_hash` reads the expiration clock (`ts`), calls the user's
  weigher, and only then takes the shard's write guard and, for a resident key, builds the new
  value entry with `new_value_entry_from`, which stores `ts` into the `EntryInfo` the old and the
  new value share: `set_last_accessed(ts)`, `set_last_modified(ts)` — PLAIN stores.  Between the
  clock reading and the store other threads may advance the clock, update the same key with a later
  reading, and complete an `invalidate_all`.  The detailed models (`Sync`, `ConcS`, `ConcM`, `ConcF`)
  make reading and store one atomic step; this model splits them.

  `mono` selects how the shared timestamp is written:
    * `mono = false` : the code: a plain store, the timestamp of the key is the reading of the
                       insert whose value the map holds;
    * `mono = true`  : the seeded changes `C01h` / `C05i` ("timestamps only move forward"): the
                       store is `max old ts`: a writer that read the clock first but wrote last
                       leaves ITS value with the OTHER writer's later timestamp.
  (Opposite sense in model `ConcV`: there `mono = true` is the repaired code.)

  State: the clock `now`; the watermark `va` (`invalidate_all`, atomic here — its own two steps
  are model `ConcV`); the slot `cur = some (v, r)`: the value the map holds and, GHOST, the clock
  reading of the insert that wrote it; `lm`: the `last_modified` of the key's `EntryInfo`, the only
  timestamp a lookup tests; `pend`: the inserts that have read the clock and not yet written,
  `(thread, value, reading)`.

  Events (`step mono ttl s ev : Option State`, `none` = not enabled):
   * `tick d`     : the clock advances by `d`;
   * `read t v`   : thread `t` (holding nothing) reads the clock for `insert(k, v)`;
   * `write t`    : thread `t` writes: `cur := (v, r)`, `lm := r` (or `max lm r`);
   * `invAll`     : `va := max va now`;
   * `get`        : returns `(v, r)` iff `cur = some (v, r)`, `¬ lm < va` and `¬ lm + ttl ≤ now`
                    (`expiredTs`, the test of `Sync`).

  NOT modelled: other keys, removal (an `invalidate(k)` or an eviction between the two steps makes
  the insert a fresh one with its own `EntryInfo`: nothing is shared), time-to-idle (same shape),
  capacity, queues, maintenance, memory ordering.

  Core Lean only.
-/

namespace MiniMoka
namespace ConcT

structure State where
  now : Nat := 0
  va : Option Nat := none
  cur : Option (Nat × Nat) := none
  lm : Nat := 0
  pend : List (Nat × Nat × Nat) := []
  deriving Repr, DecidableEq

inductive Ev where
  | tick (d : Nat)
  | read (t v : Nat)
  | write (t : Nat)
  | invAll
  | get
  deriving Repr, DecidableEq

def holds (s : State) (t : Nat) : Option (Nat × Nat) :=
  (s.pend.find? (fun p => p.1 == t)).map (fun p => p.2)

/-- The lookup's test of the shared timestamp (`Sync.expiredTs` written out; no theorem ties them). -/
def hidden (ttl : Option Nat) (s : State) : Bool :=
  (match s.va with
   | some v => decide (s.lm < v)
   | none => false) ||
  (match ttl with
   | some d => decide (s.lm + d ≤ s.now)
   | none => false)

def lookup (ttl : Option Nat) (s : State) : Option (Nat × Nat) :=
  match s.cur with
  | some vr => if hidden ttl s then none else some vr
  | none => none

-- no step depends on `_ttl`
def step (mono : Bool) (_ttl : Option Nat) (s : State) : Ev → Option State
  | .tick d => some { s with now := s.now + d }
  | .read t v =>
    match holds s t with
    | some _ => none
    | none => some { s with pend := s.pend ++ [(t, v, s.now)] }
  | .write t =>
    match holds s t with
    | none => none
    | some (v, r) =>
      some { s with cur := some (v, r),
                    lm := if mono then max s.lm r else r,
                    pend := s.pend.filter (fun p => p.1 != t) }
  | .invAll => some { s with va := some (match s.va with | some v => max v s.now | none => s.now) }
  | .get => some s

/-- Run a schedule; `none` if some event was not enabled. Observations: one per `get`, with the
clock and the watermark at that moment. -/
def run (mono : Bool) (ttl : Option Nat) :
    State → List Ev → Option (State × List (Option (Nat × Nat) × Nat × Option Nat))
  | s, [] => some (s, [])
  | s, ev :: rest =>
    match step mono ttl s ev with
    | none => none
    | some s' =>
      match run mono ttl s' rest with
      | none => none
      | some (sf, obs) =>
        match ev with
        | .get => some (sf, (lookup ttl s, s.now, s.va) :: obs)
        | _ => some (sf, obs)

end ConcT
end MiniMoka
