/-
  C17 — configuration is honoured exactly as given.
-/
import MiniMoka.Config
import MiniMoka.Lemmas.UnsyncNoLoss
import MiniMoka.Lemmas.SketchLaws

namespace MiniMoka
namespace Props

open Config

/-- `policy()` reports exactly the knobs the cache was built with, whenever `build` returns. -/
theorem C17_policy_roundtrip (k : Knobs) (pol : Policy) (h : build k = .ok pol) :
    pol.maxCapacity = k.maxCapacity ∧ pol.timeToLive = k.timeToLive ∧ pol.timeToIdle = k.timeToIdle := by
  unfold build at h
  split at h
  · cases h
  · split at h
    · cases h
    · cases h; exact ⟨rfl, rfl, rfl⟩

theorem tooLong_iff (d : Option Nat) : tooLong d = true ↔ ∃ x, d = some x ∧ x > maxDuration := by
  cases d with
  | none => simp [tooLong]
  | some x => simp [tooLong]

/-- `build` panics if and only if `time_to_live` or `time_to_idle` exceeds 1000 years (the
boundary itself is accepted, one nanosecond more is not). -/
theorem C17_panic_iff (k : Knobs) :
    (∃ f, build k = .error f) ↔
      ((∃ d, k.timeToLive = some d ∧ d > maxDuration) ∨ (∃ d, k.timeToIdle = some d ∧ d > maxDuration)) := by
  rw [← tooLong_iff, ← tooLong_iff]
  unfold build
  by_cases h1 : tooLong k.timeToLive = true
  · simp [h1]
  · by_cases h2 : tooLong k.timeToIdle = true
    · simp [h1, h2]
    · simp [h1, h2]

example : build { timeToLive := some maxDuration } =
    .ok { maxCapacity := none, timeToLive := some maxDuration, timeToIdle := none } := by rfl
example : build { timeToLive := some (maxDuration + 1) } = .error .builderTtl := by rfl
example : build { timeToIdle := some (maxDuration + 1), maxCapacity := some 3 } = .error .builderTti := by
  rfl
example : maxDuration = 31536000000000000000 := by rfl

/-- `new(n)` is `builder().max_capacity(n).build()`. -/
theorem C17_new_eq_builder (n : Nat) : build { maxCapacity := some n } = .ok (new n) := by
  rfl

/-- `initial_capacity` has no observable effect: the parameters of the cache models do not
depend on it at all. -/
theorem C17_initial_capacity_unobservable (k : Knobs) (ic : Option Nat) (w : Nat → Nat → Nat)
    (hash : Nat → UInt64) (capF : Nat → Nat → Nat → Nat) :
    params { k with initialCapacity := ic } w hash capF = params k w hash capF ∧
    build { k with initialCapacity := ic } = build k := ⟨rfl, rfl⟩

/-- Without a weigher every entry weighs 1. -/
theorem C17_default_weight_one (k : Knobs) (hw : k.hasWeigher = false) (w : Nat → Nat → Nat)
    (hash : Nat → UInt64) (capF : Nat → Nat → Nat → Nat) (key v : Nat) :
    (params k w hash capF).weigh key v = 1 := by
  simp [params, Params.weigh, hw]

/-- A cache built without `max_capacity` never evicts for size (single-threaded cache): every
insert of a new key is retained and keeps every other resident, and the only entries the
start-of-operation purge drops are expired ones. -/
theorem C17_no_capacity_never_evicts_unsync {p : Params} (hq : Unsync.NoQuirks p)
    (hcap : p.cap = none) {s : Unsync.UState} (hi : Unsync.Inv Sketch.Good p s) (k v : Nat)
    (hnew : AL.get? (Unsync.maintain p s).map k = none) :
    (∃ e, AL.get? (Unsync.insert p s k v).map k = some e ∧ e.val = v) ∧
    (∀ k' e', AL.get? (Unsync.maintain p s).map k' = some e' →
      ∃ e'', AL.get? (Unsync.insert p s k v).map k' = some e'' ∧ e''.val = e'.val) ∧
    (∀ k' e', AL.get? s.map k' = some e' → AL.get? (Unsync.maintain p s).map k' = none →
      Unsync.isExpiredEntry p s e' s.now = true) := by
  have hfit : Unsync.hasEnoughCapacity p (p.weigh k v) (Unsync.maintain p s).ws = true := by
    simp [Unsync.hasEnoughCapacity, hcap]
  obtain ⟨h1, h2⟩ := Unsync.insert_hasroom_keeps hq hi k v hnew hfit
  exact ⟨h1, h2, fun k' e' hw hg =>
    Unsync.maintain_only_expired hq hi (fun c hc => by rw [hcap] at hc; cases hc) k' e' ⟨hw, hg⟩⟩

end Props
end MiniMoka
