/-
  C03 part A on the concurrent cache driven by one thread — no spurious loss: without
  `max_capacity` the cache is exactly a map with expiry, for every placement of `sync()` and of
  clock steps and whatever is still queued.  Also the `sync::Cache` half of C17 ("a cache built
  without max_capacity never evicts for size").
-/
import MiniMoka.Lemmas.SyncExact
import MiniMoka.Lemmas.OracleParts

namespace MiniMoka
namespace Props

open Sync

/-- C03 part A on the concurrent cache without `max_capacity`, driven by one thread: for every
ttl/tti, weigher and hash function and every history (any placement of `sync()` and of clock
steps, invalidations while inserts and reads of the same keys are still queued, re-insertion
while the `remove` is queued, housekeeping runs inside `insert`/`get`/`invalidate`), every
`get` / `contains_key` / `iter` returns everything the reference map-with-expiry says must be
live, `get` and `iter` with the latest value.  "Must be live" = inserted, not invalidated
since (`invalidate_all` targets what was written at a strictly earlier clock reading; entries
written at the very reading of the call may go either way), time-to-live not reached, and
time-to-idle not reached counting from the last `get` that a `sync()` has followed (or from
the insert). -/
theorem C03A_sync (p : Params) (hq : Sync.NoQuirks p) (_hsm : SmallSketch p) (hcap : p.cap = none)
    (h : List Op) :
    Spec.exactC03 .sync p.ttl p.tti {} (Sync.trace p h) = true :=
  exactC03_run_sync hq (fun _ _ => True) (fun s op _ _ => ⟨maintOk_none hq hcap s op, True.intro⟩)
    h {} {} True.intro (coupledRS_init p)

/-- The bounded variant: with `max_capacity = c`, the same holds for every history whose
inserts weigh at most `c` in total: the run-local weighted size never exceeds what has been
inserted, so every candidate is admitted at once (`has_enough_capacity`), nothing is ever
rejected (the TinyLFU comparison and the "too big" test are never reached) and
`evict_lru_entries` has nothing to do. -/
theorem C03A_sync_large_capacity (p : Params) (hq : Sync.NoQuirks p) (hsm : SmallSketch p)
    {c : Nat} (hcap : p.cap = some c) (h : List Op)
    (hle : Spec.totalInserted p.weigh (Sync.trace p h) ≤ c) :
    Spec.exactC03 .sync p.ttl p.tti {} (Sync.trace p h) = true := by
  unfold Sync.trace at hle ⊢
  rw [Spec.totalInserted_isRun (Sync.isRun p)] at hle
  exact exactC03_run_sync hq (RoomInv p c) (fun _ _ _ hi => roomInv_step hq hsm hcap hi)
    h {} {} (roomInv_init p c h hle)
    (coupledRS_init p)

/-- Both together: the part-A conjunct of the C03 oracle (`Spec.oracleC03 .sync`), for every
configuration and every history. -/
theorem C03A_sync_oracle (p : Params) (hq : Sync.NoQuirks p) (hsm : SmallSketch p) (h : List Op) :
    (match p.cap with
     | none => Spec.exactC03 .sync p.ttl p.tti {} (Sync.trace p h)
     | some c =>
       if Spec.totalInserted p.weigh (Sync.trace p h) ≤ c then
         Spec.exactC03 .sync p.ttl p.tti {} (Sync.trace p h)
       else true) = true :=
  Spec.partA_of (fun hcap => C03A_sync p hq hsm hcap h)
    (fun _ hcap hle => C03A_sync_large_capacity p hq hsm hcap h hle)

/-- C17, concurrent cache: a cache built without `max_capacity` never evicts for size.  In
*any* state (whatever is queued), a maintenance run — the explicit `sync()` as well as the
housekeeping `try_sync` that `insert`, `get` and `invalidate` perform — first applies every
queued read to the idle timers and then removes a map entry only if that entry is expired or
invalidated (`is_expired_entry_wo/ao` with `valid_after`), judged with the timestamps it has
after the run.  Every other entry stays, with its value entry untouched. -/
theorem C17_no_capacity_never_evicts_sync (p : Params) (hq : Sync.NoQuirks p) (hcap : p.cap = none)
    (s : SState) (hn : (AL.keys s.map).Nodup) :
    (∀ k ve, AL.get? s.map k = some ve →
      AL.get? (syncRun p s).map k = some ve ∨
        isExpiredInfo p (syncRun p s) (getInfo (syncRun p s) ve.info) (syncRun p s).now = true) ∧
    (∀ hash ve ts, ROp.hit hash ve ts ∈ s.readQ → ts ≤ (getInfo (syncRun p s) ve.info).la) ∧
    (∀ k ve, AL.get? s.map k = some ve →
      AL.get? (trySync p s).map k = some ve ∨
        isExpiredInfo p (trySync p s) (getInfo (trySync p s) ve.info) (trySync p s).now = true) :=
  ⟨fun k ve hk => syncRun_kept_none hq hcap s hn k ve hk,
   fun hash ve ts hin => syncRun_applied hq s hash ve ts hin,
   fun k ve hk => by
     rcases (trySync_frameX (syncOk_none hq hcap s)).kept hn k ve hk with h | ⟨_, h⟩
     · exact Or.inl h
     · exact Or.inr h⟩

/-- The trace-level reading of the same clause: without `max_capacity` no lookup ever misses an
entry that is inserted, not invalidated and not expired (`C03A_sync`). -/
theorem C17_no_capacity_never_evicts_sync_trace (p : Params) (hq : Sync.NoQuirks p)
    (hsm : SmallSketch p) (hcap : p.cap = none) (h : List Op) :
    Spec.exactC03 .sync p.ttl p.tti {} (Sync.trace p h) = true := C03A_sync p hq hsm hcap h

/-- A history past the initial periodic-sync window (operations stay queued until `sync`), with
ttl and tti, hits that extend the idle timer across a `sync` (key 1 outlives key 2), expiry by
both deadlines, all invalidation kinds (also at the clock reading of an insert), re-insertion
while the `remove` is queued. -/
example : Spec.exactC03 .sync (some 7) (some 3) {} (Sync.trace
    { ttl := some 7, tti := some 3 }
    [.adv Gen.PAST_SYNC_INTERVAL_NS, .ins 1 10, .ins 2 20, .adv 2, .get 1, .has 2, .iter, .sync, .adv 2, .get 1,
     .has 2, .iter, .adv 2, .get 1, .sync, .adv 2, .get 1, .iter, .ins 3 30, .ins 4 40, .ins 3 31,
     .get 3, .inv 3, .get 3, .ins 3 32, .get 3, .iter, .invAll, .iter, .ins 6 60, .adv 1, .get 6,
     .invAll, .get 6, .sync, .iter, .ins 6 61, .get 6]) = true := by
  decide +kernel

/-- The same inside the periodic-sync window, where every call runs the housekeeper. -/
example : Spec.exactC03 .sync (some 7) (some 3) {} (Sync.trace
    { ttl := some 7, tti := some 3 }
    [.ins 1 10, .ins 2 20, .adv 2, .get 1, .has 2, .iter, .adv 2, .get 1, .has 2, .iter, .adv 2,
     .get 1, .sync, .adv 2, .get 1, .iter, .ins 3 30, .ins 3 31, .get 3, .inv 3, .get 3, .ins 3 32,
     .get 3, .invAll, .iter, .ins 6 60, .adv 1, .get 6]) = true := by
  decide +kernel

/-- With a capacity that the inserted weight never reaches (weights 0..3, total 9 ≤ 10), the
whole C03 oracle of the concurrent cache. -/
example : Spec.oracleC03 .sync (some 10) (some 7) none (fun _ v => v % 4) (Sync.trace
    { cap := some 10, ttl := some 7, hasWeigher := true, w := fun _ v => v % 4 }
    [.adv Gen.PAST_SYNC_INTERVAL_NS, .ins 1 1, .ins 2 2, .adv 3, .get 1, .ins 1 3, .iter, .sync, .adv 4, .has 2,
     .get 1, .inv 1, .ins 3 2, .ins 1 1, .iter, .get 3, .sync, .get 1]) = true := by
  decide +kernel

/-- What the lookups of such a history return: the hit at +2 is queued, so at +4 the idle timer
(3) has run out in the cache's eyes; `sync` applies the hit and the entry is back (the oracle
demands it from then on); key 2 is gone for good. -/
example : (Sync.trace { ttl := some 9, tti := some 3 }
    [.adv Gen.PAST_SYNC_INTERVAL_NS, .ins 1 10, .ins 2 20, .adv 2, .get 1, .adv 2, .get 1, .sync, .get 1, .has 2,
     .iter]).map
      (fun oo => match oo.2 with
        | .val v => v
        | .bool true => some 1
        | .iter l => some l.length
        | _ => none) =
    [none, none, none, none, some 10, none, none, none, some 10, none, some 1] := by
  decide +kernel

/-- The oracle is not vacuous: it rejects traces that lose a live entry, return a stale value,
omit a live entry from an iteration, or forget an idle-timer extension that a `sync` has
followed — while it accepts either answer before that `sync`, and for an entry written at the
clock reading of an `invalidate_all`. -/
example : Spec.exactC03 .sync (some 5) none {}
    [(.ins 1 10, .ok), (.adv 4, .ok), (.get 1, .val none)] = false := by decide

example : Spec.exactC03 .sync none none {}
    [(.ins 1 10, .ok), (.ins 1 11, .ok), (.get 1, .val (some 10))] = false := by decide

example : Spec.exactC03 .sync none (some 3) {}
    [(.ins 1 10, .ok), (.ins 2 20, .ok), (.adv 2, .ok), (.iter, .iter [(1, 10)])] = false := by
  decide

example : Spec.exactC03 .sync none (some 3) {}
    [(.ins 1 10, .ok), (.adv 2, .ok), (.get 1, .val (some 10)), (.sync, .ok), (.adv 2, .ok),
     (.get 1, .val none)] = false := by decide

example : Spec.exactC03 .sync none (some 3) {}
    [(.ins 1 10, .ok), (.adv 2, .ok), (.get 1, .val (some 10)), (.adv 2, .ok),
     (.get 1, .val none)] = true := by decide

example : Spec.exactC03 .sync none none {}
    [(.adv 3, .ok), (.ins 1 10, .ok), (.invAll, .ok), (.get 1, .val none)] = true := by decide

example : Spec.exactC03 .sync none none {}
    [(.adv 3, .ok), (.invAll, .ok), (.ins 1 10, .ok), (.get 1, .val none)] = false := by decide

end Props
end MiniMoka

#print axioms MiniMoka.Props.C03A_sync
#print axioms MiniMoka.Props.C03A_sync_large_capacity
#print axioms MiniMoka.Props.C03A_sync_oracle
#print axioms MiniMoka.Props.C17_no_capacity_never_evicts_sync
#print axioms MiniMoka.Props.C17_no_capacity_never_evicts_sync_trace
