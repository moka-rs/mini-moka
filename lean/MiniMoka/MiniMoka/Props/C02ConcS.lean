/-
  C02 for every interleaving of the detailed many-thread model: **every execution of `ConcS`
  (`MiniMoka/ConcS.lean`: per-key map steps, atomic maintenance runs, enqueues, any number of
  threads) projects to an execution that model R (`MiniMoka/ConcR.lean`) accepts**, so the
  C02 theorems of `Props/C02.lean`, proved for all executions of R, hold for every
  interleaving of ConcS at this granularity.

  The projection (`ConcSR.projEvs p evs`, a fold over the path; the id of an operation is the
  position of its map-step event in `evs`):
    insMap t k v ↦ invoke t o (ins k v), mapStep o
    invMap t k   ↦ invoke t o (del k), mapStep o      (+ respond o none if nothing was found:
                   the thread then holds no operation and the call returns at once)
    getMap t k   ↦ invoke t o (get k), mapStep o      (the result is decided here)
    maint / sync ↦ daemon d for exactly the keys d that the run deletes (`SyncR.delKeys`)
    enq t        ↦ respond o r for the operation t holds: r = what its `getMap` decided
                   (`ConcS.lookup`), `none` for ins / del
    tick, invAll ↦ nothing
  `CState` does not record ids and decided results; the fold carries them in a ghost component
  (`ConcSR.Ghost`).  A thread that never enqueues leaves an operation with invoke and mapStep
  but no response; R allows that (`ConcR.WF` only asks that the fold accepts).

  Hypotheses: `Sync.NoQuirks p` only (the frame lemmas of maintenance need it).  Neither
  `SmallSketch` nor the ConcS invariant is used: ConcS steps do not consult the fault flag, and
  the one fact about states that the proof needs, distinct keys in the map, is preserved by
  every step (`ConcSR.step_kn`).

  What this does and does not cover: as in `ConcS.lean`, a maintenance run is atomic with
  respect to the map steps of other threads; the theorems speak about that granularity.
-/
import MiniMoka.Lemmas.ConcSRefinesR

namespace MiniMoka
namespace Props

open ConcR (Tid Oid Key Val lookup)
open SyncR ConcSR

/-- **ConcS refines R.**  For every path `evs` of ConcS from the empty cache (current code):
the projected event list is accepted by R from `State.init` (it is `ConcR.WF`), ends in a
map with the lookups of `absMap` of the final ConcS state, and its calls (`SyncR.callsOf`:
instance, thread, operation as `ConcR.opOf` gives it, returned value of every `respond`, in
order) are the calls of the path (`ConcSR.callsC`: what each `enq` — or `invMap` that finds
nothing — returns), each of which returns exactly what its map step decided
(`ConcSR.decidedC`: per map-step event, position, thread, operation and the result,
`(ConcS.lookup p c.s k).2` in the state `c` of the `getMap`, `none` for `insMap`/`invMap`). -/
theorem ConcS_refines_R (p : Params) (hq : Sync.NoQuirks p) {evs : List ConcS.Ev}
    {c : ConcS.CState} (hrun : ConcS.runEvs p {} evs = some c) :
    ∃ a', ConcR.run (projEvs p evs) = some a' ∧
      KVEq a'.map (absMap c.s) ∧
      ConcR.WF (projEvs p evs) ∧
      callsOf (projEvs p evs) = callsC p evs ∧
      (∀ y ∈ callsC p evs, y ∈ decidedC p evs) := by
  have h := (sysS p).refines_R (R := fun a c g => Rel a c g ∧ Sync.KN c.s)
    (fun e h hs => (step_rel hq h.1 h.2 e hs).imp
      fun _ h' => ⟨h'.1, h'.2, step_kn hq h.2 e hs⟩)
    (c0 := {}) (c := c) (evs := evs) ⟨rel_init, List.nodup_nil⟩
  rw [sysS_run, sysS_projFrom, sysS_callsFrom, sysS_decidedFrom] at h
  obtain ⟨a', _, h1, h2, h3, h4, h5⟩ := h hrun
  exact ⟨a', h1, h2.1.map, h3, h4, h5⟩

theorem ConcS_projection_WF (p : Params) (hq : Sync.NoQuirks p) {evs : List ConcS.Ev}
    {c : ConcS.CState} (hrun : ConcS.runEvs p {} evs = some c) : ConcR.WF (projEvs p evs) := by
  obtain ⟨_, _, _, h, _⟩ := ConcS_refines_R p hq hrun
  exact h

/-- Instance `o` of the projection is the per-key map step at position `o` of the path. -/
theorem ConcS_opOf (p : Params) {evs : List ConcS.Ev} {c : ConcS.CState}
    (hrun : ConcS.runEvs p {} evs = some c) (o : Nat) :
    ConcR.opOf (projEvs p evs) o = (evs[o]?).bind mapEvOp := by
  have h := (sysS p).opOf_proj (c0 := {}) (c := c) (evs := evs)
  rw [sysS_run, sysS_projFrom] at h
  exact h hrun o

theorem insMap_of_mop {evs : List ConcS.Ev} {w : Nat} {tw : Tid} {k : Key} {v : Val}
    (h : (evs[w]?).bind mapEvOp = some (tw, .ins k v)) : evs[w]? = some (.insMap tw k v) := by
  obtain ⟨e, he, hm⟩ := Option.bind_eq_some_iff.1 h
  rw [he, mapEvOp_ins hm]

theorem getMap_of_mop {evs : List ConcS.Ev} {g : Nat} {t : Tid} {k : Key}
    (h : (evs[g]?).bind mapEvOp = some (t, .get k)) : evs[g]? = some (.getMap t k) := by
  obtain ⟨e, he, hm⟩ := Option.bind_eq_some_iff.1 h
  rw [he, mapEvOp_get hm]

/-- **C02 (read-from) for every interleaving of ConcS.**  If in a path `evs` the `get k` whose
map step is event `g` (thread `t`) returned `some v` — `(g, t, get k, some v)` is one of the
calls of the path — then event `g` is `getMap t k`, and there is an earlier event `w < g`,
`insMap tw k v`, such that
  * no event strictly between positions `w` and `g` is an `insMap _ k _` or an `invMap _ k`;
  * in the projected execution `E`, no write of `k` at all — no map step of an `ins k _` /
    `del k` and no `daemon k`, i.e. no deletion of `k` by a maintenance run — lies strictly
    between the map steps of `w` and `g` (`ConcR.NoWriteIn`, see `ConcR.writesKey_iff`).
(A `get` that returns `none` is always allowed: the key may have been deleted, or the lookup
filtered an expired entry.) -/
theorem C02_for_ConcS_read_from (p : Params) (hq : Sync.NoQuirks p) {evs : List ConcS.Ev}
    {c : ConcS.CState} (hrun : ConcS.runEvs p {} evs = some c)
    {g : Nat} {t : Tid} {k : Key} {v : Val}
    (hret : (g, t, ConcR.Op.get k, some v) ∈ callsC p evs) :
    evs[g]? = some (.getMap t k) ∧
    ∃ w tw, w < g ∧ evs[w]? = some (.insMap tw k v) ∧
      (∀ m, w < m → m < g → ∀ t', (∀ v', evs[m]? ≠ some (.insMap t' k v')) ∧
        evs[m]? ≠ some (.invMap t' k)) ∧
      ∃ i j, i < j ∧ (projEvs p evs)[i]? = some (.mapStep w) ∧
        (projEvs p evs)[j]? = some (.mapStep g) ∧
        ConcR.NoWriteIn (projEvs p evs) k (i + 1) j := by
  obtain ⟨a', hr, _⟩ := ConcS_refines_R p hq hrun
  have h := (sysS p).read_from (c0 := {}) (c := c) (evs := evs) (a' := a') (g := g) (t := t)
    (k := k) (v := v)
  rw [sysS_run, sysS_projFrom, sysS_callsFrom] at h
  obtain ⟨hg, w, tw, hwg, hw, hbetween, hpos⟩ := h hrun hr hret
  refine ⟨getMap_of_mop hg, w, tw, hwg, insMap_of_mop hw, fun m hwm hmg t' => ⟨?_, ?_⟩, hpos⟩
  · intro v' he
    exact hbetween m hwm hmg t' (.ins k v') (by rw [he]; rfl) (Or.inl ⟨v', rfl⟩)
  · intro he
    exact hbetween m hwm hmg t' (.del k) (by rw [he]; rfl) (Or.inr rfl)

/-- **C02 (not superseded) for every interleaving of ConcS.**  If moreover an `insMap _ k _` /
`invMap _ k` (event `u`) returned — its response is at position `a` of the projected
execution — before the `get` was invoked (position `b > a`), then `u` is not after the write
`w` that the `get` read from: `u ≤ w`.  A get never returns a value superseded by an operation
on the same key that completed before the get began. -/
theorem C02_for_ConcS_not_superseded (p : Params) (hq : Sync.NoQuirks p) {evs : List ConcS.Ev}
    {c : ConcS.CState} (hrun : ConcS.runEvs p {} evs = some c)
    {g : Nat} {t : Tid} {k : Key} {v : Val}
    (hret : (g, t, ConcR.Op.get k, some v) ∈ callsC p evs)
    {u : Nat} {tu : Tid} {a b : Nat} {x : Option Val}
    (hu : (∃ v', evs[u]? = some (.insMap tu k v')) ∨ evs[u]? = some (.invMap tu k))
    (hures : (projEvs p evs)[a]? = some (.respond u x))
    (hginv : (projEvs p evs)[b]? = some (.invoke t g (.get k))) (hab : a < b) :
    ∃ w tw, w < g ∧ evs[w]? = some (.insMap tw k v) ∧ u ≤ w := by
  obtain ⟨a', hr, _⟩ := ConcS_refines_R p hq hrun
  obtain ⟨opu, hopu, hk⟩ : ∃ opu, (evs[u]?).bind mapEvOp = some (tu, opu) ∧
      ((∃ v', opu = .ins k v') ∨ opu = .del k) := by
    rcases hu with ⟨v', he⟩ | he
    · exact ⟨.ins k v', by rw [he]; rfl, Or.inl ⟨v', rfl⟩⟩
    · exact ⟨.del k, by rw [he]; rfl, Or.inr rfl⟩
  have h := (sysS p).not_superseded (c0 := {}) (c := c) (evs := evs) (a' := a') (g := g)
    (t := t) (k := k) (v := v) (u := u) (tu := tu) (opu := opu) (a := a) (b := b) (x := x)
  rw [sysS_run, sysS_projFrom, sysS_callsFrom] at h
  obtain ⟨w, tw, hwg, hw, hle⟩ := h hrun hr hret hopu hk hures hginv hab
  exact ⟨w, tw, hwg, insMap_of_mop hw, hle⟩

/-- **C02 (final state) for every interleaving of ConcS.**  At the end of a path, for each key
`k`: (1) if the map of the final state holds `v` for `k`, then `v` was written by an
`insMap _ k v` (event `w`) after whose map step the projected execution has no write of `k`
(no later `ins k _` / `del k` map step, no deletion of `k` by maintenance); (2) if a deletion
of `k` (a `daemon k` or the map step of a `del k`) is followed by no `ins k _` map step, the
final map does not hold `k`. -/
theorem C02_for_ConcS_final (p : Params) (hq : Sync.NoQuirks p) {evs : List ConcS.Ev}
    {c : ConcS.CState} (hrun : ConcS.runEvs p {} evs = some c) (k : Key) :
    (∀ v, lookup (absMap c.s) k = some v →
      ∃ i w tw, (projEvs p evs)[i]? = some (.mapStep w) ∧ evs[w]? = some (.insMap tw k v) ∧
        ConcR.NoWriteIn (projEvs p evs) k (i + 1) (projEvs p evs).length) ∧
    (∀ (m : Nat) (e : ConcR.Ev), (projEvs p evs)[m]? = some e →
      (e = .daemon k ∨ ∃ d td, e = .mapStep d ∧ evs[d]? = some (.invMap td k)) →
      (∀ (m' : Nat) w tw v, m < m' → (projEvs p evs)[m']? = some (.mapStep w) →
        evs[w]? ≠ some (.insMap tw k v)) →
      lookup (absMap c.s) k = none) := by
  obtain ⟨a', hr, hm, _⟩ := ConcS_refines_R p hq hrun
  have h := (sysS p).final (c0 := {}) (c := c) (evs := evs) (a' := a')
  rw [sysS_run, sysS_projFrom] at h
  obtain ⟨h1, h2⟩ := h hrun hr k
  constructor
  · intro v hv
    rw [← hm k] at hv
    obtain ⟨i, w, tw, hi, hw, hnw⟩ := h1 v hv
    exact ⟨i, w, tw, hi, insMap_of_mop hw, hnw⟩
  · intro m e hme hdel hlast
    rw [← hm k]
    refine h2 m e hme ?_ ?_
    · rcases hdel with h | ⟨d, td, h, hd⟩
      · exact Or.inl h
      · exact Or.inr ⟨d, td, h, by rw [hd]; rfl⟩
    · intro m' w tw v hmm' hw hopw
      exact hlast m' w tw v hmm' hw (insMap_of_mop hopw)

/-- Two threads race on key 7: both map steps precede both enqueues, thread 2's value wins
the map, its operation is queued first; maintenance; a third thread reads. -/
def raceEvs : List ConcS.Ev :=
  [.insMap 1 7 1, .insMap 2 7 2, .enq 2, .enq 1, .maint 3, .getMap 3 7, .enq 3]

example : projEvs {} raceEvs =
    [.invoke 1 0 (.ins 7 1), .mapStep 0, .invoke 2 1 (.ins 7 2), .mapStep 1,
     .respond 1 none, .respond 0 none,
     .invoke 3 5 (.get 7), .mapStep 5, .respond 5 (some 2)] := by
  decide +kernel

/-- The path is enabled, the get returns 2, R accepts the projection and ends with the map of
the final ConcS state. -/
example : (ConcS.runEvs {} {} raceEvs).isSome = true ∧
    callsC {} raceEvs =
      [(1, 2, .ins 7 2, none), (0, 1, .ins 7 1, none), (5, 3, .get 7, some 2)] ∧
    ConcR.WF (projEvs {} raceEvs) ∧
    (ConcR.run (projEvs {} raceEvs)).map (·.map) =
      (ConcS.runEvs {} {} raceEvs).map (fun c => absMap c.s) ∧
    (ConcS.runEvs {} {} raceEvs).map (fun c => absMap c.s) = some [(7, 2)] := by
  decide +kernel

/-- The theorems apply: the get read thread 2's insert (event 1). -/
example : ∃ w tw, w < 5 ∧ raceEvs[w]? = some (.insMap tw 7 2) := by
  obtain ⟨c, hc⟩ := Option.isSome_iff_exists.1
    (show (ConcS.runEvs {} {} raceEvs).isSome = true by decide +kernel)
  obtain ⟨_, w, tw, h1, h2, _⟩ := C02_for_ConcS_read_from {} rfl hc (g := 5) (t := 3) (k := 7)
    (v := 2) (by decide +kernel)
  exact ⟨w, tw, h1, h2⟩

def raceP : Params := { cap := some 1, hasWeigher := true, w := fun _ v => v }

/-- A get that overlaps a maintenance run: thread 3 reads key 2 (`getMap`, result `some 1`),
then a maintenance run rejects key 2 (`daemon 2`), then thread 3's call returns `some 1`: the
response carries what the map step read.  At the end thread 3 holds a second get and thread 1
an insert (invoke and map step, no response yet); the `invMap 1 5` finds nothing and returns
at once. -/
def overlapEvs : List ConcS.Ev :=
  [.insMap 1 1 1, .enq 1, .maint 1, .insMap 2 2 1, .getMap 3 2, .enq 2, .maint 2, .enq 3,
   .getMap 3 2, .invMap 1 5, .insMap 1 1 4]

example : projEvs raceP overlapEvs =
      [.invoke 1 0 (.ins 1 1), .mapStep 0, .respond 0 none,
       .invoke 2 3 (.ins 2 1), .mapStep 3, .invoke 3 4 (.get 2), .mapStep 4, .respond 3 none,
       .daemon 2, .respond 4 (some 1),
       .invoke 3 8 (.get 2), .mapStep 8,
       .invoke 1 9 (.del 5), .mapStep 9, .respond 9 none,
       .invoke 1 10 (.ins 1 4), .mapStep 10] ∧
    ConcR.WF (projEvs raceP overlapEvs) ∧
    callsC raceP overlapEvs =
      [(0, 1, .ins 1 1, none), (3, 2, .ins 2 1, none), (4, 3, .get 2, some 1),
       (9, 1, .del 5, none)] ∧
    decidedC raceP overlapEvs =
      [(0, 1, .ins 1 1, none), (3, 2, .ins 2 1, none), (4, 3, .get 2, some 1),
       (8, 3, .get 2, none), (9, 1, .del 5, none), (10, 1, .ins 1 4, none)] ∧
    (ConcR.run (projEvs raceP overlapEvs)).map (·.map) = some [(1, 4)] ∧
    (ConcS.runEvs raceP {} overlapEvs).map (fun c => (absMap c.s, c.pending.map (·.1))) =
      some ([(1, 4)], [3, 1]) := by
  decide +kernel

/-- R is not vacuous here: it rejects the same trace with the stale get answering a value
that the map never held for key 2. -/
example : ¬ ConcR.WF
    [.invoke 1 0 (.ins 1 1), .mapStep 0, .respond 0 none,
     .invoke 2 3 (.ins 2 1), .mapStep 3, .invoke 3 4 (.get 2), .mapStep 4, .respond 3 none,
     .daemon 2, .respond 4 (some 9)] := by
  decide +kernel

#print axioms ConcS_refines_R
#print axioms ConcS_projection_WF
#print axioms ConcS_opOf
#print axioms C02_for_ConcS_read_from
#print axioms C02_for_ConcS_not_superseded
#print axioms C02_for_ConcS_final

end Props
end MiniMoka
