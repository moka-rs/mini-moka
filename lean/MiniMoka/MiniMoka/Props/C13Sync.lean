/-
  C13 / C12 on the concurrent cache driven by one thread (`sync::Cache`, model `Sync`):
  TinyLFU admission.  In a quiescent calm cache a new key that finds no room is admitted by the
  next maintenance run exactly when its popularity estimate exceeds the summed estimates of the
  shortest prefix of the access order whose weight covers the candidate's; that prefix is what
  leaves; otherwise the candidate is dropped and no resident is touched.
-/
import MiniMoka.Lemmas.SyncRecency

namespace MiniMoka
namespace Props

open Sync Sync.Admit Sync.Nodes
open Unsync.Admit (shortestPre shortestPre_eq_some_iff shortestPre_eq_none_iff)

/-- Every state the one thread can reach satisfies the invariant the theorems below assume
(`AInv`: node ownership, queue bounds, a node stores the hash of its key, no time stamp lies in
the future; no fault). -/
theorem C13_sync_reachable (p : Params) (hq : Sync.NoQuirks p) (hsm : SmallSketch p) (h : List Op) :
    AInv p (Sync.stateAfter p {} h) :=
  stateAfter_induct (I := AInv p) (fun _ op hs => step_ainv hq hsm hs op) h (init_ainv p)

/-- **C13 on the concurrent cache, the admission decision** (state level).  For every
configuration of the current code (`NoQuirks`; any weigher, hasher, ttl/tti) with capacity
`cap`, every reachable (`AInv`) quiescent calm state `s` (`CalmS`: both queues empty,
`weighted_size ≤ cap`, every node of the access-order list owned by the map's entry of its key,
no resident past an expiry deadline) and every key `k` that is not resident, of weight
`w := p.weigh k v ≤ cap` that does not fit (`s.ws + w > cap`): let
`s' := syncRun p (insert p s k v)` be the state after `insert(k, v)` and the next maintenance
run (the insert may itself run housekeeping before it queues its write — both regimes of
`shouldApply` are covered), and `cf := s.sk.frequency (p.hash k)` the estimate read in `s`.

* If the shortest prefix of the access order `s.prob` whose weights reach `w` has length `n`
  and `cf` is strictly greater than the summed estimates of these `n` residents, then in `s'`
  the key is resident with value `v`, exactly the `n` residents of that prefix have left, every
  other key holds the entry it held, and the access order is the remaining nodes followed by `k`.
* Otherwise (no prefix is heavy enough, or `cf` does not exceed the sum) the map and the access
  order of `s'` are those of `s`: the candidate was dropped, no resident was touched. -/
theorem C13_sync_admission {p : Params} (hq : Sync.NoQuirks p) (hsm : SmallSketch p) {cap : Nat}
    (hcap : p.cap = some cap) {s : SState} (hi : AInv p s) (hc : CalmS p cap s) (k v : Nat)
    (hnew : AL.get? s.map k = none) (hfit : p.weigh k v ≤ cap)
    (hroom : s.ws + p.weigh k v > cap) :
    (∀ n, shortestPre (p.weigh k v) (probWeights s) = some n →
      s.sk.frequency (p.hash k) > ((probFreqs s).take n).sum →
      (∃ e, AL.get? (syncRun p (insert p s k v)).map k = some e ∧ e.val = v) ∧
      (∀ k' ∈ (s.prob.take n).map (·.key),
        (∃ e', AL.get? s.map k' = some e') ∧ AL.get? (syncRun p (insert p s k v)).map k' = none) ∧
      (∀ k', k' ≠ k → k' ∉ (s.prob.take n).map (·.key) →
        AL.get? (syncRun p (insert p s k v)).map k' = AL.get? s.map k') ∧
      (syncRun p (insert p s k v)).prob.map (·.key) = (s.prob.drop n).map (·.key) ++ [k]) ∧
    ((¬ ∃ n, shortestPre (p.weigh k v) (probWeights s) = some n ∧
        s.sk.frequency (p.hash k) > ((probFreqs s).take n).sum) →
      (∀ k', AL.get? (syncRun p (insert p s k v)).map k' = AL.get? s.map k') ∧
      (syncRun p (insert p s k v)).prob = s.prob) := by
  have hkn := hi.top.map.kn
  have hkn2 : (AL.keys (AL.put s.map k (candVE s v))).Nodup := AL.nodup_put _ _ hkn
  obtain ⟨hadm, hrej⟩ := insert_sync_calm hq hsm hcap hi hc k v hnew hfit hroom
  refine ⟨?_, ?_⟩
  · intro n hn1 hn2
    obtain ⟨hmap, node, hnk, hprob⟩ := hadm n hn1 hn2
    have hkv : k ∉ (s.prob.take n).map (·.key) := by
      intro hin
      obtain ⟨m, hm, hmk⟩ := List.mem_map.mp hin
      obtain ⟨e, he, _⟩ := hc.cur m (List.mem_of_mem_take hm)
      rw [hmk, hnew] at he; cases he
    refine ⟨⟨candVE s v, ?_, rfl⟩, ?_, ?_, ?_⟩
    · rw [hmap, get?_eraseKeys hkn2, if_neg hkv, AL.get?_put_self]
    · intro k' hk'
      refine ⟨?_, by rw [hmap, get?_eraseKeys hkn2, if_pos hk']⟩
      obtain ⟨m, hm, hmk⟩ := List.mem_map.mp hk'
      obtain ⟨e, he, _⟩ := hc.cur m (List.mem_of_mem_take hm)
      exact ⟨e, by rw [← hmk]; exact he⟩
    · intro k' hne hk'
      rw [hmap, get?_eraseKeys hkn2, if_neg hk', AL.get?_put_ne _ (Ne.symm hne)]
    · rw [hprob, List.map_append, List.map_cons, List.map_nil, hnk]
  · intro hno
    obtain ⟨hmap, hprob⟩ := hrej hno
    refine ⟨?_, hprob⟩
    intro k'
    rw [hmap, AL.get?_erase k k' hkn2]
    by_cases hx : k = k'
    · subst hx; rw [if_pos rfl, hnew]
    · rw [if_neg hx, AL.get?_put_ne _ hx]

/-- **A candidate that fits is admitted outright.**  In a quiescent calm state, a new key whose
weight fits in the room the residents leave (and that does not expire the moment it is inserted:
neither `ttl` nor `tti` is zero) is resident after `insert` and the next maintenance run, at
the most recently used end of the access order; the popularity estimates are not consulted
and every other key holds the entry it held. -/
theorem C13_sync_has_room {p : Params} (hq : Sync.NoQuirks p) (hsm : SmallSketch p) {cap : Nat}
    (hcap : p.cap = some cap) {s : SState} (hi : AInv p s) (hc : CalmS p cap s) (k v : Nat)
    (hnew : AL.get? s.map k = none) (hroom : s.ws + p.weigh k v ≤ cap)
    (httl : p.ttl ≠ some 0) (htti : p.tti ≠ some 0) :
    (∃ e, AL.get? (syncRun p (insert p s k v)).map k = some e ∧ e.val = v) ∧
    (∀ k', k' ≠ k → AL.get? (syncRun p (insert p s k v)).map k' = AL.get? s.map k') ∧
    (syncRun p (insert p s k v)).prob.map (·.key) = s.prob.map (·.key) ++ [k] := by
  obtain ⟨hmap, node, hnk, hprob⟩ := insert_sync_fits hq hsm hcap hi hc k v hnew hroom httl htti
  refine ⟨⟨candVE s v, by rw [hmap, AL.get?_put_self], rfl⟩, ?_, ?_⟩
  · intro k' hne
    rw [hmap, AL.get?_put_ne _ (Ne.symm hne)]
  · rw [hprob, List.map_append, List.map_cons, List.map_nil, hnk]

/-- **Scan resistance** on the concurrent cache: in a quiescent calm cache a new key whose
estimate is zero and that finds no room never displaces a resident, whatever the residents'
estimates and weights. -/
theorem C13_sync_scan_resistance {p : Params} (hq : Sync.NoQuirks p) (hsm : SmallSketch p)
    {cap : Nat} (hcap : p.cap = some cap) {s : SState} (hi : AInv p s) (hc : CalmS p cap s)
    (k v : Nat) (hnew : AL.get? s.map k = none) (hfit : p.weigh k v ≤ cap)
    (hroom : s.ws + p.weigh k v > cap) (hcold : s.sk.frequency (p.hash k) = 0) :
    (∀ k', AL.get? (syncRun p (insert p s k v)).map k' = AL.get? s.map k') ∧
    (syncRun p (insert p s k v)).prob = s.prob := by
  refine (C13_sync_admission hq hsm hcap hi hc k v hnew hfit hroom).2 ?_
  rintro ⟨n, _, h2⟩
  rw [hcold] at h2
  exact absurd h2 (Nat.not_lt_zero _)

/-- **C13 on traces, concurrent cache.**  For every configuration of the current code (any
capacity incl. none, any weigher, hasher, ttl/tti; `SmallSketch` is the documented sketch-size
limit) and every history of one thread, the C13 oracle accepts the model's trace: in every
window `sync, snap, freq k, ins k v, [snap,] sync, snap` whose outer snapshots show empty
queues, in which `k` is new, the first snapshot is calm, the candidate is not oversized and
finds no room, the keys resident afterwards are those predicted from the first snapshot and
the popularity reading by the closed formula (`predictAdmission`). -/
theorem C13_sync_oracle (p : Params) (hq : Sync.NoQuirks p) (hsm : SmallSketch p) (h : List Op) :
    Spec.oracleC13 .sync p.cap p.ttl p.tti p.weigh (Sync.trace p h) = true :=
  oracleC13_trace hq hsm h

/-! ### non-vacuity -/

namespace C13SyncEx

def cfg : Params := { cap := some 4, hasWeigher := true, w := fun _ v => v % 5 }

theorem nq_cfg : Sync.NoQuirks cfg := by unfold Sync.NoQuirks; rfl

theorem small_cfg : SmallSketch cfg :=
  .of_default_capF rfl (fun c h => by cases h; decide)

/-- Residents 1 (weight 1, LRU), 2 (weight 2), 3 (weight 1) fill the cache; key 7 is looked up
three times (estimate 3), key 8 never. -/
def fill : List Op :=
  [.ins 1 1, .sync, .ins 2 2, .sync, .ins 3 1, .sync, .get 7, .get 7, .get 7, .sync]

/-- Then: key 7 of weight 3 is inserted (admitted, victims 1 and 2), then key 8 of weight 2
(rejected: estimate 0). -/
def hist : List Op :=
  fill ++ [.snap, .freq 7, .ins 7 3, .sync, .snap, .freq 8, .ins 8 2, .snap, .sync, .snap]

def full : SState := Sync.stateAfter cfg {} fill

/-- What the examples below need to know about `full`, evaluated once. -/
theorem full_facts :
    Spec.calm 4 cfg.ttl cfg.tti (Sync.snapshot cfg full) = true ∧
    (Sync.snapshot cfg full).rq = 0 ∧ (Sync.snapshot cfg full).wq = 0 ∧
    AL.get? full.map 7 = none ∧ full.ws + cfg.weigh 7 3 > 4 ∧
    shortestPre (cfg.weigh 7 3) (probWeights full) = some 2 ∧
    full.sk.frequency (cfg.hash 7) > ((probFreqs full).take 2).sum ∧
    AL.get? full.map 8 = none ∧ full.ws + cfg.weigh 8 2 > 4 ∧
    full.sk.frequency (cfg.hash 8) = 0 ∧
    Spec.quiescent (Sync.snapshot cfg full) = true ∧ (Sync.get cfg full 1).2 = some 1 ∧
    Spec.quiescent (Sync.snapshot cfg (syncRun cfg (Sync.get cfg full 1).1)) = true := by
  decide +kernel

end C13SyncEx

open C13SyncEx

/-- The state after `fill` is quiescent and calm, the cache is full, key 7 has estimate 3 and
the residents estimate 0: the shortest prefix covering weight 3 is `[1, 2]`. -/
example :
    full.readQ.length = 0 ∧ full.writeQ.length = 0 ∧ full.ws = 4 ∧
    full.prob.map (·.key) = [1, 2, 3] ∧ probWeights full = [1, 2, 1] ∧
    probFreqs full = [0, 0, 0] ∧ full.sk.frequency (cfg.hash 7) = 3 ∧
    shortestPre (cfg.weigh 7 3) (probWeights full) = some 2 ∧
    Spec.calm 4 cfg.ttl cfg.tti (Sync.snapshot cfg full) = true := by
  decide +kernel

/-- `C13_sync_admission` applied to that state (all hypotheses discharged, including
reachability and calmness): key 7 is admitted, exactly the residents 1 and 2 leave. -/
example :
    (∃ e, AL.get? (syncRun cfg (Sync.insert cfg full 7 3)).map 7 = some e ∧ e.val = 3) ∧
    (∀ k' ∈ (full.prob.take 2).map (·.key),
      (∃ e', AL.get? full.map k' = some e') ∧
        AL.get? (syncRun cfg (Sync.insert cfg full 7 3)).map k' = none) ∧
    (∀ k', k' ≠ 7 → k' ∉ (full.prob.take 2).map (·.key) →
      AL.get? (syncRun cfg (Sync.insert cfg full 7 3)).map k' = AL.get? full.map k') ∧
    (syncRun cfg (Sync.insert cfg full 7 3)).prob.map (·.key) =
      (full.prob.drop 2).map (·.key) ++ [7] := by
  obtain ⟨hcalm, hrq, hwq, hnew, hroom, hpre, hfreq, _⟩ := full_facts
  exact (C13_sync_admission nq_cfg small_cfg (cap := 4) (s := full) rfl
    (C13_sync_reachable cfg nq_cfg small_cfg fill) (calmS_of_snapshot hcalm hrq hwq) 7 3 hnew
    (by decide) hroom).1 2 hpre hfreq

/-- The same run evaluated: residents 3 and 7, access order `[3, 7]`. -/
example :
    AL.keys (syncRun cfg (Sync.insert cfg full 7 3)).map = [3, 7] ∧
    (syncRun cfg (Sync.insert cfg full 7 3)).prob.map (·.key) = [3, 7] ∧
    (syncRun cfg (Sync.insert cfg full 7 3)).ws = 4 := by
  decide +kernel

/-- A rejection on the same state: key 8 was never looked up (`C13_sync_scan_resistance`). -/
example :
    (∀ k', AL.get? (syncRun cfg (Sync.insert cfg full 8 2)).map k' = AL.get? full.map k') ∧
    (syncRun cfg (Sync.insert cfg full 8 2)).prob = full.prob := by
  obtain ⟨hcalm, hrq, hwq, _, _, _, _, hnew, hroom, hcold, _⟩ := full_facts
  exact C13_sync_scan_resistance nq_cfg small_cfg (cap := 4) (s := full) rfl
    (C13_sync_reachable cfg nq_cfg small_cfg fill) (calmS_of_snapshot hcalm hrq hwq) 8 2 hnew
    (by decide) hroom hcold

/-- The trace oracle accepts the model's trace of a history with an admission with two victims
(window `sync, snap, freq 7, ins 7 3, sync, snap`) and a rejection (window with the extra
snapshot); the resident keys in the three quiescent snapshots are as expected. -/
example :
    Spec.oracleC13 .sync (some 4) none none cfg.weigh (Sync.trace cfg hist) = true ∧
    (Sync.trace cfg hist).filterMap (fun x => match x.2 with
      | .snap sn => if sn.wq == 0 then some (Spec.keysOf sn) else none
      | _ => none) = [[1, 2, 3], [3, 7], [3, 7]] := by
  decide +kernel

/-- The oracle is not vacuous: it rejects a hand-made trace in which the popular key 7
displaces the wrong residents (2 and 3 instead of the LRU prefix 1, 2). -/
example : Spec.oracleC13 .sync (some 4) none none cfg.weigh
    [(.sync, .ok), (.snap, .snap (Sync.snapshot cfg full)),
     (.freq 7, .freq 3), (.ins 7 3, .ok), (.sync, .ok),
     (.snap, .snap (Sync.snapshot cfg (Sync.stateAfter cfg {} [.ins 1 1, .sync, .ins 7 3, .sync])))]
    = false := by
  decide +kernel

/-- It also rejects one in which the cold key 8 (estimate 0) displaces the LRU resident. -/
example : Spec.oracleC13 .sync (some 4) none none cfg.weigh
    [(.sync, .ok), (.snap, .snap (Sync.snapshot cfg full)),
     (.freq 8, .freq 0), (.ins 8 1, .ok), (.sync, .ok),
     (.snap, .snap (Sync.snapshot cfg (Sync.stateAfter cfg {}
        [.ins 2 2, .sync, .ins 3 1, .sync, .ins 8 1, .sync])))]
    = false := by
  decide +kernel

/-! ## C12 on the concurrent cache: victims are the LRU prefix, recency is order of use -/

/-- Every state the one thread can reach satisfies the invariant of the recency theorems
(`RInv`: `AInv`, an info belongs to one key, a dirty entry has its insert queued). -/
theorem C12_sync_reachable (p : Params) (hq : Sync.NoQuirks p) (hsm : SmallSketch p) (h : List Op) :
    RInv p (Sync.stateAfter p {} h) :=
  stateAfter_induct (I := RInv p) (fun _ op hs => step_rinv hq hsm hs op) h (init_rinv p)

/-- **C12, recency is order of use, state level.**  `N` is the access order at the last
quiescent point, `mv` the at most one key used since (`insert`, or a `get` that returned a
value), `SI`/`Pend` the segment invariant that every operation of the one thread maintains
(`C12_sync_segment`).  Whenever both queues are empty again and every node belongs to the
map's entry of its key, the access order is: the keys of `N` that are still resident and were
not used, in their old relative order, then the used key if it is still resident. -/
theorem C12_sync_recency_state {p : Params} {s : SState} (hr : RInv p s) {N : List AoNode}
    {mv : List Nat} {u : Option Nat} {d : Bool} (hN : (N.map (·.key)).Nodup)
    (h : SI N mv u d s) (hp : Pend d u s) (hrq : s.readQ = []) (hwq : s.writeQ = [])
    (hcur : AllCur s s.prob) :
    s.prob.map (·.key) =
      (N.map (·.key)).filter (fun k => (s.prob.map (·.key)).contains k && !mv.contains k) ++
        mv.filter ((s.prob.map (·.key)).contains ·) :=
  final_order hr.ainv.top.nodes.toNodesCore hr.key.prob hN h hp hrq hwq hcur

/-- The segment invariant (as the recency walk carries it: `WInv st s`, `st` the oracle's
bookkeeping) is kept by maintenance (`sync`), by `invalidate`, `invalidate_all`, clock steps
and lookups that miss; an `insert k` and a `get k` that returns a value register the use of
`k` (`useSt`). -/
theorem C12_sync_segment {p : Params} (hq : Sync.NoQuirks p) {st : Spec.RecSt} {s : SState}
    (hr : RInv p s) (h : WInv st s) (k v d : Nat) :
    WInv st (syncRun p s) ∧ WInv st (Sync.invalidate p s k) ∧ WInv st (Sync.invalidateAll s) ∧
    WInv st { s with now := s.now + d } ∧ WInv (useSt st k) (Sync.insert p s k v) ∧
    ((Sync.get p s k).2 = none → WInv st (Sync.get p s k).1) ∧
    (∀ v', (Sync.get p s k).2 = some v' → WInv (useSt st k) (Sync.get p s k).1) :=
  ⟨h.sync hq hr.ainv.top, h.inv hq hr.ainv k, h.of_eq rfl rfl rfl rfl rfl,
   h.of_eq rfl rfl rfl rfl rfl, h.ins hq hr k v, (h.getOp hq hr k).1, (h.getOp hq hr k).2⟩

/-- A hit in a quiescent state followed by a maintenance run that ends quiescent: the key goes
to the most recently used end, the other survivors keep their relative order. -/
theorem C12_sync_hit_order {p : Params} (hq : Sync.NoQuirks p) (hsm : SmallSketch p) {s : SState}
    (hr : RInv p s) (hqs : Spec.quiescent (Sync.snapshot p s) = true) (k v : Nat)
    (hv : (Sync.get p s k).2 = some v)
    (hqs' : Spec.quiescent (Sync.snapshot p (syncRun p (Sync.get p s k).1)) = true) :
    Spec.lruOrder (Sync.snapshot p (syncRun p (Sync.get p s k).1)) =
      Spec.expectedOrder (Sync.snapshot p s) (Sync.snapshot p (syncRun p (Sync.get p s k).1)) [k] :=
  get_sync_order hq hsm hr hqs k v hv hqs'

/-- An insert (of a new key, or an update) in a quiescent state followed by a maintenance run
that ends quiescent: the key, if it is resident, is at the most recently used end, the other
survivors keep their relative order — whatever was evicted for it. -/
theorem C12_sync_insert_order {p : Params} (hq : Sync.NoQuirks p) (hsm : SmallSketch p)
    {s : SState} (hr : RInv p s) (hqs : Spec.quiescent (Sync.snapshot p s) = true) (k v : Nat)
    (hqs' : Spec.quiescent (Sync.snapshot p (syncRun p (Sync.insert p s k v))) = true) :
    Spec.lruOrder (Sync.snapshot p (syncRun p (Sync.insert p s k v))) =
      Spec.expectedOrder (Sync.snapshot p s) (Sync.snapshot p (syncRun p (Sync.insert p s k v))) [k] :=
  insert_sync_order hq hsm hr hqs k v hqs'

/-- **C12, "recency is order of use", on traces, concurrent cache.**  For every configuration
of the current code and every history of one thread, the recency walk accepts the model's
trace: between two quiescent snapshots (both queues empty, every node current) with at most
one use in between (an `insert`, a `get` that returned a value) — and any number of `sync`,
`invalidate`, `invalidate_all`, clock steps, misses, `contains_key`, iterations — the access
order is that of the earlier snapshot restricted to the keys still resident and not used,
followed by the used key if it is still resident. -/
theorem C12_sync_recency (p : Params) (hq : Sync.NoQuirks p) (hsm : SmallSketch p) (h : List Op) :
    Spec.recencyC12 .sync (Sync.trace p h) = true :=
  recencyC12_trace hq hsm h

/-- **C12 on traces, concurrent cache.**  The C12 oracle accepts every trace of the model: the
recency walk (`C12_sync_recency`; with no `max_capacity` this is the whole oracle) and, with a
capacity, the admission windows of C13, in which the residents that leave for size are the
shortest sufficient prefix of the access order.  The batch-size argument of `oracleC12` is
consulted for `.unsync` only (`oracleC12_trace` holds for any). -/
theorem C12_sync_oracle (p : Params) (hq : Sync.NoQuirks p) (hsm : SmallSketch p) (h : List Op) :
    Spec.oracleC12 .sync p.cap p.ttl p.tti p.weigh Gen.UNSYNC_EVICTION_BATCH_SIZE
      (Sync.trace p h) = true :=
  oracleC12_trace hq hsm _ h

/-! ### non-vacuity (C12) -/

namespace C13SyncEx

/-- A history with quiescent snapshots around: a hit on the LRU key, an update, an
invalidation with a clock step and a miss, lookups that miss, an insert that fits, an admission
with two victims, `invalidate_all`. -/
def histR : List Op :=
  [.ins 1 1, .sync, .ins 2 1, .sync, .ins 3 1, .sync, .snap,
   .get 1, .sync, .snap,
   .ins 2 1, .sync, .snap,
   .inv 3, .adv 5, .get 9, .sync, .snap,
   .get 7, .get 7, .get 7, .sync, .snap,
   .ins 4 2, .sync, .snap,
   .ins 7 2, .sync, .snap,
   .adv 1, .invAll, .sync, .snap]

end C13SyncEx

/-- The recency walk accepts that trace, and the access orders seen in its quiescent snapshots
are what the rule says: `[1,2,3]`, hit on 1 → `[2,3,1]`, update of 2 → `[3,1,2]`, invalidation of
3 → `[1,2]`, lookups that miss → `[1,2]`, insert of 4 (fits) → `[1,2,4]`, admission of the
popular 7 (weight 2) evicting 1 and 2 → `[4,7]`, `invalidate_all` → `[]`. -/
example :
    Spec.recencyC12 .sync (Sync.trace cfg histR) = true ∧
    Spec.oracleC12 .sync cfg.cap cfg.ttl cfg.tti cfg.weigh Gen.UNSYNC_EVICTION_BATCH_SIZE
      (Sync.trace cfg histR) = true ∧
    (Sync.trace cfg histR).filterMap (fun x => match x.2 with
      | .snap sn => if Spec.quiescent sn then some (Spec.lruOrder sn) else none
      | _ => none) = [[1, 2, 3], [2, 3, 1], [3, 1, 2], [1, 2], [1, 2], [1, 2, 4], [4, 7], []] := by
  decide +kernel

/-- `C12_sync_hit_order` applied to a reachable state (hypotheses discharged). -/
example :
    Spec.lruOrder (Sync.snapshot cfg (syncRun cfg (Sync.get cfg full 1).1)) =
      Spec.expectedOrder (Sync.snapshot cfg full)
        (Sync.snapshot cfg (syncRun cfg (Sync.get cfg full 1).1)) [1] := by
  obtain ⟨_, _, _, _, _, _, _, _, _, _, hq0, hhit, hq1⟩ := full_facts
  exact C12_sync_hit_order nq_cfg small_cfg (s := full)
    (C12_sync_reachable cfg nq_cfg small_cfg fill) hq0 1 1 hhit hq1

example : Spec.lruOrder (Sync.snapshot cfg (syncRun cfg (Sync.get cfg full 1).1)) = [2, 3, 1] := by
  decide +kernel

/-- The recency walk is not vacuous: it rejects a hand-made trace in which a hit does not move
the key to the most recently used end. -/
example : Spec.recencyC12 .sync
    [(.snap, .snap (Sync.snapshot cfg full)), (.get 1, .val (some 1)), (.sync, .ok),
     (.snap, .snap (Sync.snapshot cfg full))] = false := by
  decide +kernel

/-- It also rejects one in which two residents swap places without having been used. -/
example : Spec.recencyC12 .sync
    [(.snap, .snap (Sync.snapshot cfg (Sync.stateAfter cfg {} [.ins 1 1, .sync, .ins 2 1, .sync]))),
     (.sync, .ok),
     (.snap, .snap (Sync.snapshot cfg (Sync.stateAfter cfg {} [.ins 2 1, .sync, .ins 1 1, .sync])))]
    = false := by
  decide +kernel

end Props
end MiniMoka

namespace MiniMoka.Props
#print axioms C13_sync_reachable
#print axioms C13_sync_admission
#print axioms C13_sync_has_room
#print axioms C13_sync_scan_resistance
#print axioms C13_sync_oracle
#print axioms C12_sync_reachable
#print axioms C12_sync_recency_state
#print axioms C12_sync_segment
#print axioms C12_sync_hit_order
#print axioms C12_sync_insert_order
#print axioms C12_sync_recency
#print axioms C12_sync_oracle
end MiniMoka.Props
