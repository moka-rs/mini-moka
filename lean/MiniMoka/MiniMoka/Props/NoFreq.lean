/-
  The driver judges the window oracles of C03, C04 and C14 on traces from which the hook
  reads `freq k` have been dropped (`Spec.noFreq`). For model traces that is the trace of
  the history without those reads (`Props/NoFreqTrace.lean`), so the oracle
  theorems carry over.
-/
import MiniMoka.Props.NoFreqTrace
import MiniMoka.Props.C04
import MiniMoka.Props.C10Sync
import MiniMoka.Props.C03BSync

namespace MiniMoka
namespace Props

theorem C04_unsync_noFreq (p : Params) (hq : Unsync.NoQuirks p) (hsm : SmallSketch p) (h : List Op) :
    Spec.oracleC04 .unsync p.cap (Spec.noFreq (Unsync.trace p h)) = true := by
  rw [noFreq_unsync_trace]; exact C04_unsync p hq hsm _

theorem C04_sync_noFreq (p : Params) (hq : Sync.NoQuirks p) (hsm : SmallSketch p) (h : List Op) :
    Spec.oracleC04 .sync p.cap (Spec.noFreq (Sync.trace p h)) = true := by
  rw [noFreq_sync_trace]; exact C04_sync p hq hsm _

theorem C03_sync_oracle_noFreq (p : Params) (hq : Sync.NoQuirks p) (hsm : SmallSketch p) (h : List Op) :
    Spec.oracleC03 .sync p.cap p.ttl p.tti p.weigh (Spec.noFreq (Sync.trace p h)) = true := by
  rw [noFreq_sync_trace]; exact C03_sync_oracle p hq hsm _

end Props
end MiniMoka
