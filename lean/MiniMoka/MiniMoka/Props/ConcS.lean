/-
  C08 / C10 / C11 / C04 (count) for `sync::Cache` under ALL interleavings of any number of
  threads, at the granularity of `MiniMoka/ConcS.lean`: per-key map step / atomic maintenance
  run / enqueue.  (What that granularity leaves out is listed at the head of that file: above
  all, map steps of other threads *inside* a maintenance run.)

  All for every configuration of the current code (`NoQuirks`, `SmallSketch`) and every state
  reachable by any finite sequence of steps of any number of threads (`Reach p c`).  The
  invariant (`ConcS_inv`) is the one-thread invariant with two changes: the counters invariant
  `CTop` speaks of the logical queue `write queue ++ write operations held by threads` (in any
  order: `CInv` is membership-based), and the one-thread bound "queues at most at their flush
  points" (`QInv`, part of `TInv`) does NOT hold with several threads: the queues are bounded by
  the channel capacities.
  In `ConcS_refines_Sync`, `ConcM_refines_ConcS`, `ConcF_refines_ConcM` the model named first is
  the finer one and contains the executions of the second; in `…_refines_R` the executions of
  the model named first are among those of R.
-/
import MiniMoka.Lemmas.ConcS
import MiniMoka.Lemmas.SyncSnapshot
import MiniMoka.Lemmas.SyncCapacity

namespace MiniMoka
namespace Props

open Sync Sync.Nodes Sync.Counters ConcS

/-- C08 for all interleavings, and the invariant of the reachable states. -/
theorem ConcS_inv (p : Params) (hq : Sync.NoQuirks p) (hsm : SmallSketch p) (c : CState)
    (hr : Reach p c) :
    c.s.fault = none ∧ NodesInvTop c.s ∧ MapOK c.s ∧ c.s.running = false ∧
    c.s.writeQ.length ≤ Gen.WRITE_LOG_SIZE ∧ c.s.readQ.length ≤ Gen.READ_LOG_SIZE ∧
    CTop p c.s (c.s.writeQ ++ pendWrites c.pending) ∧ CSInv p c := by
  have h := reach_csinv hq hsm hr
  exact ⟨h.top.nofault, h.top.nodes, h.top.map, h.running, h.wq, h.rq, h.cinv, h⟩

/-- No step of any interleaving raises a fault: whenever a step is enabled in a reachable
state, the state it leads to is not faulty. -/
theorem ConcS_no_fault_step (p : Params) (hq : Sync.NoQuirks p) (hsm : SmallSketch p)
    (c c' : CState) (hr : Reach p c) (e : Ev) (hs : ConcS.step p c e = some c') :
    c'.s.fault = none :=
  (reach_csinv hq hsm (Reach.step e hr hs)).top.nofault

/-- C10 for all interleavings: in a reachable state in which no thread holds an operation and
the write queue is empty, `entry_count = |entries|` and
`weighted_size = Σ policy weights = Σ weigher(key, value)`. -/
theorem ConcS_C10_quiescent (p : Params) (hq : Sync.NoQuirks p) (hsm : SmallSketch p)
    (c : CState) (hr : Reach p c) (hp : c.pending = []) (hw : c.s.writeQ = []) :
    Spec.snapCountersOk p.weigh (Sync.snapshot p c.s) = true := by
  rw [snapCountersOk_readQ]
  exact snapshot_counters (csinv_quiescent_tinv (reach_csinv hq hsm hr) hp hw) hw

/-- Slightly more general: read operations may still be held. -/
theorem ConcS_C10_no_write_pending (p : Params) (hq : Sync.NoQuirks p) (hsm : SmallSketch p)
    (c : CState) (hr : Reach p c) (hp : pendWrites c.pending = []) (hw : c.s.writeQ = []) :
    Spec.snapCountersOk p.weigh (Sync.snapshot p c.s) = true := by
  rw [snapCountersOk_readQ]
  exact snapshot_counters (csinv_tinv_of_no_write (reach_csinv hq hsm hr) hp hw) hw

/-- C10 right after a maintenance run (`maint` by any thread, or the explicit `sync`) taken while
no thread holds a write operation. -/
theorem ConcS_C10_after_maint (p : Params) (hq : Sync.NoQuirks p) (hsm : SmallSketch p)
    (c c' : CState) (hr : Reach p c) (hp : pendWrites c.pending = []) (t : Tid)
    (hs : ConcS.step p c (.maint t) = some c' ∨ ConcS.step p c (.sync t) = some c') :
    Spec.snapCountersOk p.weigh (Sync.snapshot p c'.s) = true := by
  have hw : c'.s.writeQ = [] ∧ c'.pending = c.pending := by
    have hrun := (reach_csinv hq hsm hr).running
    rcases hs with hs | hs
    · cases Step.of_eq hs
      exact ⟨(trySync_spec p c.s hrun).writeQ, rfl⟩
    · cases Step.of_eq hs
      exact ⟨syncRun_writeQ p c.s, rfl⟩
  have hr' : Reach p c' := hs.elim (Reach.step _ hr) (Reach.step _ hr)
  exact ConcS_C10_no_write_pending p hq hsm c' hr' (by rw [hw.2]; exact hp) hw.1

/-- C04 (count) for all interleavings: the map never holds more entries than
`entry_count + |write queue| + one per thread that holds a write operation`. -/
theorem ConcS_C04_overshoot (p : Params) (hq : Sync.NoQuirks p) (hsm : SmallSketch p)
    (c : CState) (hr : Reach p c) :
    c.s.map.length ≤ c.s.ec + c.s.writeQ.length + (pendWrites c.pending).length :=
  csinv_map_length_le (reach_csinv hq hsm hr)

theorem pendWrites_length_le (l : List (Tid × Pend)) : (pendWrites l).length ≤ l.length := by
  induction l with
  | nil => exact Nat.le_refl _
  | cons x l ih =>
    obtain ⟨t, pd⟩ := x
    cases pd with
    | write op => simp only [pendWrites, List.length_cons]; omega
    | read op => simp only [pendWrites, List.length_cons]; omega

/-- C11 for all interleavings: when no thread holds an operation, `liveOk` (with both queues
empty there are as many live key objects and live value objects as entries). -/
theorem ConcS_C11_quiescent (p : Params) (hq : Sync.NoQuirks p) (hsm : SmallSketch p)
    (c : CState) (hr : Reach p c) (hp : c.pending = []) :
    Spec.liveOk (Sync.snapshot p c.s) = true :=
  csinv_liveOk (reach_csinv hq hsm hr) hp

/-- C11, the bound on the live objects held by the map, the lists and the queues: in every
state, reachable or not (objects held by threads between their steps are not part of the
snapshot). -/
theorem ConcS_C11_bounded (p : Params) (c : CState) :
    Spec.liveBounded (Sync.snapshot p c.s) = true :=
  snapshot_liveBounded p c.s

/-- C04 (weight) after a maintenance run taken while no thread holds a write operation:
within the capacity, or a full eviction batch was removed.  Stated for `Sync.syncRun`, the state
after a `sync` step; a `maint` step (`Sync.trySync`) differs from it in the flag and the
deadline only. -/
theorem ConcS_C04_weight_after_maint (p : Params) (hq : Sync.NoQuirks p) (hsm : SmallSketch p)
    (c : CState) (hr : Reach p c) (hp : pendWrites c.pending = []) (cap : Nat)
    (hcap : p.cap = some cap) :
    (Sync.syncRun p c.s).ws ≤ cap ∨
      (Sync.syncRun p c.s).map.length + Gen.SYNC_EVICTION_BATCH_SIZE ≤ c.s.map.length := by
  have h := reach_csinv hq hsm hr
  have hc : CTop p c.s (c.s.writeQ ++ []) := by
    have h1 := h.cinv
    rw [hp] at h1
    exact h1
  exact syncRun_weight_gen hq hsm h.top hc hcap

/-- Every step of `Sync.step` (one thread performing map step, housekeeping and enqueue back
to back) is a path of the many-thread system.  Of `QInv` only "no run in progress" is used. -/
theorem ConcS_refines_Sync (p : Params) (s : SState) (hq : QInv s) (op : Op) (t : Tid) :
    ∃ evs, runEvs p ⟨s, []⟩ evs = some ⟨(Sync.step p s op).1, []⟩ :=
  path_of_step p hq.running op t

/-- Every one-thread history is a path from the empty cache. -/
theorem ConcS_refines_Sync_history (p : Params) (h : List Op) (t : Tid) :
    ∃ evs, runEvs p {} evs = some ⟨Sync.stateAfter p {} h, []⟩ := by
  suffices hgen : ∀ (h : List Op) (s : SState), QInv s →
      ∃ evs, runEvs p ⟨s, []⟩ evs = some ⟨Sync.stateAfter p s h, []⟩ from hgen h {} qinv_init
  intro h
  induction h with
  | nil => intro s _; exact ⟨[], rfl⟩
  | cons op rest ih =>
    intro s hs
    obtain ⟨e1, h1⟩ := path_of_step p hs.running op t
    obtain ⟨e2, h2⟩ := ih _ (step_qinv p hs op).1
    refine ⟨e1 ++ e2, ?_⟩
    rw [runEvs_append, h1]
    exact h2

/-- The states one thread can reach are reachable in the many-thread system. -/
theorem ConcS_reach_of_Sync (p : Params) (h : List Op) : Reach p ⟨Sync.stateAfter p {} h, []⟩ := by
  obtain ⟨evs, he⟩ := ConcS_refines_Sync_history p h 0
  exact reach_of_runEvs evs {} _ Reach.init he

def csParams (q : Quirks) : Params := { hasWeigher := true, w := fun _ v => v, q := q }

/-- Defect D10 as an interleaving of two threads: key 1 is resident with value 1; thread 1
updates it to 5, then thread 2 updates it to 2 (the map now holds 2); thread 2 enqueues first,
thread 1 last; then maintenance runs. -/
def d10Interleaving : List Ev :=
  [.tick Gen.PAST_SYNC_INTERVAL_NS, .insMap 1 1 1, .enq 1, .maint 0, .insMap 1 1 5, .insMap 2 1 2, .enq 2, .enq 1,
   .maint 0]

/-- What a path ends in: `([entry_count, weighted_size, |write queue|, threads holding
something], map, [snapCountersOk, liveOk, no fault])`. -/
def csSummary (p : Params) (evs : List Ev) :
    Option (List Nat × List (Nat × Nat) × List Bool) :=
  (runEvs p {} evs).map fun c =>
    ([c.s.ec, c.s.ws, c.s.writeQ.length, c.pending.length],
     c.s.map.map (fun (kv : Nat × VE) => (kv.1, kv.2.val)),
     [Spec.snapCountersOk p.weigh (Sync.snapshot p c.s), Spec.liveOk (Sync.snapshot p c.s),
      c.s.fault.isNone])

/-- Before the last maintenance run the queue holds the upsert of the newer value 2 first and
the upsert of the older value 5 last: the inverted order. -/
example : (runEvs (csParams {}) {} (d10Interleaving.take 8)).map (fun c =>
    c.s.writeQ.map (fun op => match op with
      | .upsert k _ ve _ w => (k, ve.val, w)
      | .remove k ve => (k, ve.val, 0))) = some [(1, 2, 2), (1, 5, 5)] := by
  decide +kernel

/-- On the current code the run ends exact: `weighted_size = 2` for the resident value 2. -/
example : csSummary (csParams {}) d10Interleaving
    = some ([1, 2, 0, 0], [(1, 2)], [true, true, true]) := by
  decide +kernel

/-- With the switch `d10` on, the same interleaving ends with `weighted_size = 5`: the
interleaving semantics does produce the defect. -/
theorem ConcS_counterexample_D10 : csSummary (csParams { d10 := true }) d10Interleaving
    = some ([1, 5, 0, 0], [(1, 2)], [false, true, true]) := by
  decide +kernel

def csParams2 : Params := { cap := some 6, hasWeigher := true, w := fun _ v => v % 5 }

/-- Threads 1 and 2 insert keys 1 and 2 and thread 3 looks key 1 up; maintenance (thread 4) runs
while all three hold their operations; thread 2 enqueues and then invalidates key 1, whose
upsert thread 1 still holds; maintenance again (admits key 2) with three operations held;
everybody enqueues (upsert of key 1 *before* its remove, both stale); maintenance. -/
def heldInterleaving : List Ev :=
  [.insMap 1 1 1, .insMap 2 2 2, .getMap 3 1, .maint 4, .enq 2, .invMap 2 1, .maint 4, .enq 1,
   .enq 3, .enq 2, .maint 4]

/-- After the first maintenance run: two entries, `entry_count = 0`, nothing queued, three
threads hold operations (two of them writes): the overshoot bound is tight. -/
example : csSummary csParams2 (heldInterleaving.take 4)
    = some ([0, 0, 0, 3], [(1, 1), (2, 2)], [false, true, true]) := by
  decide +kernel

example : csSummary csParams2 (heldInterleaving.take 7)
    = some ([1, 2, 0, 3], [(2, 2)], [true, true, true]) := by
  decide +kernel

example : csSummary csParams2 heldInterleaving
    = some ([1, 2, 0, 0], [(2, 2)], [true, true, true]) := by
  decide +kernel

/-- The theorems apply to these paths: their end states are reachable. -/
example : ∀ c, runEvs csParams2 {} heldInterleaving = some c →
    Spec.snapCountersOk csParams2.weigh (Sync.snapshot csParams2 c.s) = true ∨ c.pending ≠ [] ∨
      c.s.writeQ ≠ [] := by
  intro c hc
  by_cases hp : c.pending = []
  · by_cases hw : c.s.writeQ = []
    · exact Or.inl (ConcS_C10_quiescent csParams2 rfl
        (.of_default_capF rfl fun _ hcap => Option.some.inj hcap ▸ by decide +kernel) c
        (reach_of_runEvs _ _ _ Reach.init hc) hp hw)
    · exact Or.inr (Or.inr hw)
  · exact Or.inr (Or.inl hp)

/-- A step that is not enabled: a thread that already holds an operation cannot start another
call, and an idle thread has nothing to enqueue. -/
example : runEvs csParams2 {} [.insMap 1 1 1, .insMap 1 2 2] = none := by decide +kernel
example : runEvs csParams2 {} [.enq 1] = none := by decide +kernel

end Props
end MiniMoka

namespace MiniMoka.Props
#print axioms ConcS_inv
#print axioms ConcS_no_fault_step
#print axioms ConcS_C10_quiescent
#print axioms ConcS_C10_no_write_pending
#print axioms ConcS_C10_after_maint
#print axioms ConcS_C04_overshoot
#print axioms ConcS_C11_quiescent
#print axioms ConcS_C11_bounded
#print axioms ConcS_C04_weight_after_maint
#print axioms ConcS_refines_Sync
#print axioms ConcS_refines_Sync_history
#print axioms ConcS_reach_of_Sync
#print axioms ConcS_counterexample_D10
end MiniMoka.Props
