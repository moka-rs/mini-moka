/-
  C02, the link between the two models: **every operation of the detailed model S of
  `sync::Cache` (`MiniMoka/Sync.lean`) is an execution fragment of the abstract model R
  (`MiniMoka/ConcR.lean`) with exactly one map step, on its own key; whatever else the
  operation does to the map is a deletion (`daemon`).**  Hence every single-thread history of
  S is a well-formed execution of R, and the C02 theorems of `Props/C02.lean`, proved for all
  executions of R, apply to it.

  * `absMap s : ConcR.KV`: key ↦ value of the entry that the map of `s` holds.
  * `KVEq m m'`: same lookups.  R's `store` / `remove` filter, S's `put` / `erase` update in
    place, so the lists differ in order; `ConcR.step` looks at the map through `lookup`
    only, which is why every statement below starts from *any* state `a` of R whose map has
    the lookups of `absMap s`; `runR_respects_KVEq` states the congruence itself.
  * Order of events inside an operation.  In the model, as in the code, the map step is the
    first thing `insert` / `invalidate` / `get` do to the map; maintenance runs afterwards,
    inside `schedule_write_op` / `record_read_op`.  So the fragment is
    `invoke, mapStep, daemon d₁, …, daemon dₙ, respond`: all daemons follow the map step.  The
    `dᵢ` are the keys bound right after the map step and absent at the end of the operation
    (`SyncR.delKeys`).
  * Hypotheses on the state: `Sync.KN s` (keys of the map pairwise distinct) and
    `s.fault = none`.  Both hold in every reachable state (`Sync_reachable`; the second is
    `C08_sync`).  A faulted state ignores every call, so `s.fault = none` is necessary.
  * Only the repaired code is covered (`Sync.NoQuirks p`), like the frame lemmas.
-/
import MiniMoka.Lemmas.SyncRefinesR
import MiniMoka.Props.C02
import MiniMoka.Props.C08SyncAll

namespace MiniMoka
namespace Props

open ConcR (Ev State Tid Oid Key Val lookup store remove threadIdle)
open Sync (SState)
open SyncR

/-- R does not distinguish maps with the same lookups: from states with `KVEq` maps and the
same records, an event list is rejected by both or accepted by both, with `KVEq` results. -/
theorem runR_respects_KVEq {a b : State} (hm : KVEq a.map b.map) (ho : a.ops = b.ops)
    (evs : List Ev) :
    (runR a evs = none ∧ runR b evs = none) ∨
    ∃ a' b', runR a evs = some a' ∧ runR b evs = some b' ∧ KVEq a'.map b'.map ∧ a'.ops = b'.ops :=
  runFrom_congr evs ⟨hm, ho⟩

/-- Every state reached by a history of public calls (current code, documented sketch limit)
satisfies the hypotheses of `Sync_step_refines_R`. -/
theorem Sync_reachable (p : Params) (hq : Sync.NoQuirks p) (hsm : SmallSketch p) (h : List Op) :
    Sync.KN (Sync.runState p {} h) ∧ (Sync.runState p {} h).fault = none :=
  ⟨Sync.kn_run hq h (s := {}) Sync.qinv_init List.nodup_nil,
   runState_fault_none p h {} rfl (C08_sync p hq hsm h)⟩

/-- **`insert k v` of S is `invoke, mapStep, daemons, respond none` of R.**
From any state `a` of R that has the lookups of `absMap s`, in which the instance id `o` is
unused and thread `t` idle, R accepts the fragment and ends with the lookups of the map of
`insert`'s final state; `ds` are the keys deleted by the maintenance inside the call. -/
theorem Sync_ins_refines_R (p : Params) (hq : Sync.NoQuirks p) {s : SState} (hk : Sync.KN s)
    (hf : s.fault = none) (a : State) (hm : KVEq a.map (absMap s)) (t : Tid) (o : Oid)
    (hfresh : AL.get? a.ops o = none) (hidle : threadIdle a t = true) (k v : Nat) :
    ∃ (ds : List Key) (a' : State),
      runR a ([Ev.invoke t o (.ins k v), Ev.mapStep o] ++ ds.map Ev.daemon ++ [Ev.respond o none])
        = some a' ∧
      KVEq a'.map (absMap (Sync.step p s (.ins k v)).1) ∧
      (∀ d ∈ ds, lookup (absMap (Sync.step p s (.ins k v)).1) d = none) ∧
      a'.ops = AL.put a.ops o ⟨t, .ins k v, .done, none⟩ := by
  obtain ⟨a', h1, h2, h3⟩ := fragOf_refines hq hk hf a hm t o hfresh hidle (.ins k v)
  have hresp : respOf (Sync.step p s (.ins k v)).2 = none := by
    rcases step_resp p hf (.ins k v) with h | h <;> exact h
  rw [fragOf_call (rop := .ins k v) rfl, hresp] at h1
  exact ⟨_, a', h1, h2, fun d hd => (mem_delKeys.1 hd).2, h3⟩

/-- **`invalidate k` of S is `invoke, mapStep, daemons, respond none` of R** (operation
`del k`). -/
theorem Sync_inv_refines_R (p : Params) (hq : Sync.NoQuirks p) {s : SState} (hk : Sync.KN s)
    (hf : s.fault = none) (a : State) (hm : KVEq a.map (absMap s)) (t : Tid) (o : Oid)
    (hfresh : AL.get? a.ops o = none) (hidle : threadIdle a t = true) (k : Nat) :
    ∃ (ds : List Key) (a' : State),
      runR a ([Ev.invoke t o (.del k), Ev.mapStep o] ++ ds.map Ev.daemon ++ [Ev.respond o none])
        = some a' ∧
      KVEq a'.map (absMap (Sync.step p s (.inv k)).1) ∧
      (∀ d ∈ ds, lookup (absMap (Sync.step p s (.inv k)).1) d = none) ∧
      a'.ops = AL.put a.ops o ⟨t, .del k, .done, none⟩ := by
  obtain ⟨a', h1, h2, h3⟩ := fragOf_refines hq hk hf a hm t o hfresh hidle (.inv k)
  have hresp : respOf (Sync.step p s (.inv k)).2 = none := by
    rcases step_resp p hf (.inv k) with h | h <;> exact h
  rw [fragOf_call (rop := .del k) rfl, hresp] at h1
  exact ⟨_, a', h1, h2, fun d hd => (mem_delKeys.1 hd).2, h3⟩

/-- **`get k` of S is `invoke, mapStep, daemons, respond r` of R**, where `r` is the observed
result: the observation is `Obs.val r` (or a panic, then `r = none`; there is none in
reachable states, `C08_sync`), and `r` is the value the map step read or `none` (the lookup
filtered an expired / invalidated entry without touching the map).  The record of the
instance keeps the value read (`lookup a.map k`). -/
theorem Sync_get_refines_R (p : Params) (hq : Sync.NoQuirks p) {s : SState} (hk : Sync.KN s)
    (hf : s.fault = none) (a : State) (hm : KVEq a.map (absMap s)) (t : Tid) (o : Oid)
    (hfresh : AL.get? a.ops o = none) (hidle : threadIdle a t = true) (k : Nat) :
    ∃ (ds : List Key) (a' : State) (r : Option Val),
      ((Sync.step p s (.get k)).2 = Obs.val r ∨
        (r = none ∧ ∃ f, (Sync.step p s (.get k)).2 = Obs.panic f)) ∧
      (r = lookup (absMap s) k ∨ r = none) ∧
      runR a ([Ev.invoke t o (.get k), Ev.mapStep o] ++ ds.map Ev.daemon ++ [Ev.respond o r])
        = some a' ∧
      KVEq a'.map (absMap (Sync.step p s (.get k)).1) ∧
      (∀ d ∈ ds, lookup (absMap (Sync.step p s (.get k)).1) d = none) ∧
      a'.ops = AL.put a.ops o ⟨t, .get k, .done, lookup a.map k⟩ := by
  obtain ⟨a', h1, h2, h3⟩ := fragOf_refines hq hk hf a hm t o hfresh hidle (.get k)
  refine ⟨_, a', respOf (Sync.step p s (.get k)).2, ?_, step_resp p hf (.get k), h1, h2,
    fun d hd => (mem_delKeys.1 hd).2, h3⟩
  rcases Sync.step_obs_or_panic p hf (.get k) with h | ⟨f, h⟩
  · left; rw [h]; rfl
  · right; rw [h]; exact ⟨rfl, f, rfl⟩

/-- **`sync()` of S is a sequence of daemons of R.** -/
theorem Sync_sync_refines_R (p : Params) (hq : Sync.NoQuirks p) {s : SState} (hk : Sync.KN s)
    (hf : s.fault = none) (a : State) (hm : KVEq a.map (absMap s)) :
    ∃ (ds : List Key) (a' : State),
      runR a (ds.map Ev.daemon) = some a' ∧
      KVEq a'.map (absMap (Sync.step p s .sync).1) ∧
      (∀ d ∈ ds, lookup (absMap (Sync.step p s .sync).1) d = none) ∧
      a'.ops = a.ops := by
  have hsub := step_sub hq hk hf .sync
  exact ⟨_, _, runFrom_daemons _ a, removeAll_delKeys hm hsub, fun d hd => (mem_delKeys.1 hd).2,
    rfl⟩

/-- **The other operations leave the map alone**: `contains_key`, `iter`, the snapshot and
frequency hooks, the clock step and `invalidate_all` (which only moves the watermark that
makes lookups ignore older entries) are not operations of R and stand for no event. -/
theorem Sync_other_absMap (p : Params) {s : SState} (hf : s.fault = none) (op : Op)
    (hop : (∃ k, op = .has k) ∨ op = .iter ∨ op = .snap ∨ (∃ k, op = .freq k) ∨
      (∃ d, op = .adv d) ∨ op = .invAll ∨ (∃ pr, op = .invIf pr)) :
    absMap (Sync.step p s op).1 = absMap s := by
  rw [Sync.step_fst hf]
  rcases hop with ⟨k, rfl⟩ | rfl | rfl | ⟨k, rfl⟩ | ⟨d, rfl⟩ | rfl | ⟨pr, rfl⟩ <;> rfl

/-- **C02 refinement, one step.**  All clauses at once: in a state `s` of S with distinct keys
and no fault, seen from any state `a` of R with the same lookups, with `o` unused and `t`
idle, (1) `ins k v`, (2) `inv k`, (3) `get k` are `invoke, mapStep, daemons, respond`
fragments of R with exactly one map step, on `k`; (4) `sync` is a sequence of daemons;
(5) every other operation leaves `absMap` unchanged.  The conjunction of the theorems above. -/
theorem Sync_step_refines_R (p : Params) (hq : Sync.NoQuirks p) {s : SState} (hk : Sync.KN s)
    (hf : s.fault = none) (a : State) (hm : KVEq a.map (absMap s)) (t : Tid) (o : Oid)
    (hfresh : AL.get? a.ops o = none) (hidle : threadIdle a t = true) :
    (∀ k v, ∃ (ds : List Key) (a' : State),
      runR a ([Ev.invoke t o (.ins k v), Ev.mapStep o] ++ ds.map Ev.daemon ++ [Ev.respond o none])
        = some a' ∧
      KVEq a'.map (absMap (Sync.step p s (.ins k v)).1) ∧
      (∀ d ∈ ds, lookup (absMap (Sync.step p s (.ins k v)).1) d = none) ∧
      a'.ops = AL.put a.ops o ⟨t, .ins k v, .done, none⟩) ∧
    (∀ k, ∃ (ds : List Key) (a' : State),
      runR a ([Ev.invoke t o (.del k), Ev.mapStep o] ++ ds.map Ev.daemon ++ [Ev.respond o none])
        = some a' ∧
      KVEq a'.map (absMap (Sync.step p s (.inv k)).1) ∧
      (∀ d ∈ ds, lookup (absMap (Sync.step p s (.inv k)).1) d = none) ∧
      a'.ops = AL.put a.ops o ⟨t, .del k, .done, none⟩) ∧
    (∀ k, ∃ (ds : List Key) (a' : State) (r : Option Val),
      ((Sync.step p s (.get k)).2 = Obs.val r ∨
        (r = none ∧ ∃ f, (Sync.step p s (.get k)).2 = Obs.panic f)) ∧
      (r = lookup (absMap s) k ∨ r = none) ∧
      runR a ([Ev.invoke t o (.get k), Ev.mapStep o] ++ ds.map Ev.daemon ++ [Ev.respond o r])
        = some a' ∧
      KVEq a'.map (absMap (Sync.step p s (.get k)).1) ∧
      (∀ d ∈ ds, lookup (absMap (Sync.step p s (.get k)).1) d = none) ∧
      a'.ops = AL.put a.ops o ⟨t, .get k, .done, lookup a.map k⟩) ∧
    (∃ (ds : List Key) (a' : State),
      runR a (ds.map Ev.daemon) = some a' ∧
      KVEq a'.map (absMap (Sync.step p s .sync).1) ∧
      (∀ d ∈ ds, lookup (absMap (Sync.step p s .sync).1) d = none) ∧
      a'.ops = a.ops) ∧
    (∀ op, ((∃ k, op = .has k) ∨ op = .iter ∨ op = .snap ∨ (∃ k, op = .freq k) ∨
        (∃ d, op = .adv d) ∨ op = .invAll ∨ (∃ pr, op = .invIf pr)) →
      absMap (Sync.step p s op).1 = absMap s) :=
  ⟨fun k v => Sync_ins_refines_R p hq hk hf a hm t o hfresh hidle k v,
   fun k => Sync_inv_refines_R p hq hk hf a hm t o hfresh hidle k,
   fun k => Sync_get_refines_R p hq hk hf a hm t o hfresh hidle k,
   Sync_sync_refines_R p hq hk hf a hm,
   fun op hop => Sync_other_absMap p hf op hop⟩

/-- The same in one formula, with the fragment as a function of the operation
(`SyncR.fragOf`: the fragments above, with `ds` the keys bound right after the map step and
absent from the final map). -/
theorem Sync_step_refines_R_frag (p : Params) (hq : Sync.NoQuirks p) {s : SState}
    (hk : Sync.KN s) (hf : s.fault = none) (a : State) (hm : KVEq a.map (absMap s)) (t : Tid)
    (o : Oid) (hfresh : AL.get? a.ops o = none) (hidle : threadIdle a t = true) (op : Op) :
    ∃ a', runR a (fragOf p s t o op) = some a' ∧
      KVEq a'.map (absMap (Sync.step p s op).1) ∧
      (∀ k, Ev.daemon k ∈ fragOf p s t o op → lookup (absMap (Sync.step p s op).1) k = none) := by
  obtain ⟨a', h1, h2, _⟩ := fragOf_refines hq hk hf a hm t o hfresh hidle op
  exact ⟨a', h1, h2, fun k hk' => fragOf_daemons hk'⟩

/-- **C02 refinement, histories.**  For every configuration of the current code (documented
sketch limit) and every history `h` of public calls made by one thread `t`, the event list
`SyncR.evsOf p t {} 0 h` (the fragments of the operations of `h`, one after the other, the
instance id of an operation being its position in `h`)
  * is a well-formed execution of R from `State.init`;
  * ends in a map with the lookups of `absMap` of the final state of S;
  * its calls (`SyncR.callsOf`: instance, thread, operation as given by `ConcR.opOf`, and
    returned value of every `respond` event, in order) are exactly the data operations of
    `h` with the observations of `Sync.trace p h`: what each `get` observed, `none` for
    `insert` / `invalidate` (`SyncR.callsOfTrace`).
Consequently every theorem of `Props/C02.lean` (`C02_read_from`, `C02_not_superseded`,
`C02_monotone`, `C02_final`, `C07_reader`), proved for all well-formed executions of R,
holds of this execution, i.e. of every single-thread history of S; for the concurrent
interleavings see `Props/C02ConcS.lean` and `Props/C02ConcF.lean`.
`C08_sync` (no panic) is what rules out faulted states. -/
theorem Sync_history_refines_R (p : Params) (hq : Sync.NoQuirks p) (hsm : SmallSketch p)
    (t : Tid) (h : List Op) :
    ∃ a', ConcR.run (evsOf p t {} 0 h) = some a' ∧
      KVEq a'.map (absMap (Sync.runState p {} h)) ∧
      callsOf (evsOf p t {} 0 h) = callsOfTrace t 0 (Sync.trace p h) := by
  -- `SyncR.sysT` refines R; the relation: same lookups, all instances complete, `s` reachable
  -- (as the state after some history `h0`, so that `KN` and `fault = none` are `Sync_reachable`)
  obtain ⟨a', _, h1, ⟨h2, _⟩, _, h4, _⟩ := (sysT p t).refines_R
    (R := fun a s g => KVEq a.map (absMap s) ∧ Cpl a.ops ⟨g.next, []⟩ ∧
      ∃ h0, s = Sync.runState p {} h0)
    (fun {a s s' g} op hR hs => by
      obtain ⟨hm, hd, h0, rfl⟩ := hR
      cases hs
      obtain ⟨hk, hf⟩ := Sync_reachable p hq hsm h0
      obtain ⟨a', hr, hm', hd'⟩ := fragOf_refines_done hq hk hf hm hd t op
      exact ⟨a', hr, hm', hd', h0 ++ [op], (runState_append p h0 [op] {}).symm⟩)
    (c0 := {}) ⟨KVEq.refl _, cpl_init, [], rfl⟩ (sysT_run p t h {})
  rw [sysT_projFrom] at h1 h4
  rw [sysT_callsFrom] at h4
  exact ⟨a', h1, h2, h4⟩

/-- The execution of a history is well formed: the hypothesis of the C02 theorems. -/
theorem Sync_history_WF (p : Params) (hq : Sync.NoQuirks p) (hsm : SmallSketch p) (t : Tid)
    (h : List Op) : ConcR.WF (evsOf p t {} 0 h) := by
  obtain ⟨a', h1, _⟩ := Sync_history_refines_R p hq hsm t h
  exact ConcR.WF_iff.2 ⟨a', h1⟩

/-! ## Examples (non-vacuity) -/

/-- Capacity 1 with a weigher: a full cache rejects and evicts. -/
def refP : Params := { cap := some 1, hasWeigher := true, w := fun _ v => v }

def refH : List Op :=
  [.ins 1 1, .ins 2 1, .ins 3 1, .get 1, .get 2, .get 3, .sync, .get 3, .inv 1, .get 1]

theorem refP_small : SmallSketch refP :=
  .of_default_capF rfl fun _ hc => Option.some.inj hc ▸ by decide +kernel

/-- The execution of R that `refH` stands for, evaluated once for the examples below. -/
theorem refH_evs : evsOf refP 0 {} 0 refH =
    [.invoke 0 0 (.ins 1 1), .mapStep 0, .respond 0 none,
     .invoke 0 1 (.ins 2 1), .mapStep 1, .respond 1 none,
     .invoke 0 2 (.ins 3 1), .mapStep 2, .daemon 2, .respond 2 none,
     .invoke 0 3 (.get 1), .mapStep 3, .daemon 3, .respond 3 (some 1),
     .invoke 0 4 (.get 2), .mapStep 4, .respond 4 none,
     .invoke 0 5 (.get 3), .mapStep 5, .respond 5 none,
     .invoke 0 7 (.get 3), .mapStep 7, .respond 7 none,
     .invoke 0 8 (.del 1), .mapStep 8, .respond 8 none,
     .invoke 0 9 (.get 1), .mapStep 9, .respond 9 none] := by
  decide +kernel

/-- The maintenance that `insert 3` runs (inside `schedule_write_op`, after its map step)
applies the queued write of key 2 and rejects it: the fragment of `ins 3 1` has the non-empty
`ds = [2]`; the `get 1` that follows runs the maintenance that rejects key 3. -/
example : evsOf refP 0 {} 0 refH =
    [.invoke 0 0 (.ins 1 1), .mapStep 0, .respond 0 none,
     .invoke 0 1 (.ins 2 1), .mapStep 1, .respond 1 none,
     .invoke 0 2 (.ins 3 1), .mapStep 2, .daemon 2, .respond 2 none,
     .invoke 0 3 (.get 1), .mapStep 3, .daemon 3, .respond 3 (some 1),
     .invoke 0 4 (.get 2), .mapStep 4, .respond 4 none,
     .invoke 0 5 (.get 3), .mapStep 5, .respond 5 none,
     .invoke 0 7 (.get 3), .mapStep 7, .respond 7 none,
     .invoke 0 8 (.del 1), .mapStep 8, .respond 8 none,
     .invoke 0 9 (.get 1), .mapStep 9, .respond 9 none] :=
  refH_evs

example : fragOf refP (Sync.runState refP {} [.ins 1 1, .ins 2 1]) 0 2 (.ins 3 1) =
    [.invoke 0 2 (.ins 3 1), .mapStep 2, .daemon 2, .respond 2 none] := by
  decide +kernel

example : (List.range 5).map (fun i => absMap (Sync.runState refP {} (refH.take i))) =
    [[], [(1, 1)], [(1, 1), (2, 1)], [(1, 1), (3, 1)], [(1, 1)]] := by
  decide +kernel

/-- R accepts it and ends with the map of S (here literally, not only up to lookups). -/
example : (ConcR.run (evsOf refP 0 {} 0 refH)).map (·.map) =
    some (absMap (Sync.runState refP {} refH)) := by
  rw [refH_evs]
  decide +kernel

example : callsOf (evsOf refP 0 {} 0 refH) = callsOfTrace 0 0 (Sync.trace refP refH) ∧
    callsOf (evsOf refP 0 {} 0 refH) =
      [(0, 0, .ins 1 1, none), (1, 0, .ins 2 1, none), (2, 0, .ins 3 1, none),
       (3, 0, .get 1, some 1), (4, 0, .get 2, none), (5, 0, .get 3, none),
       (7, 0, .get 3, none), (8, 0, .del 1, none), (9, 0, .get 1, none)] := by
  rw [refH_evs]
  decide +kernel

/-- The theorems apply to this configuration, and so do those of `Props/C02.lean`: the
`get 1` (instance 3, map step at position 11) that returned `some 1` read from a map step of
an `ins 1 1` with no write of key 1 in between. -/
example : ∃ i w tw, i < 11 ∧ (evsOf refP 0 {} 0 refH)[i]? = some (.mapStep w) ∧
    ConcR.opOf (evsOf refP 0 {} 0 refH) w = some (tw, .ins 1 1) ∧
    ConcR.NoWriteIn (evsOf refP 0 {} 0 refH) 1 (i + 1) 11 :=
  ConcR.C02_read_from (Sync_history_WF refP rfl refP_small 0 refH) (g := 3) (t := 0)
    (by rw [refH_evs]; decide +kernel) (by rw [refH_evs]; decide +kernel)
    (by rw [refH_evs]; decide +kernel)

/-- `sync()` is daemons only: here it evicts / rejects keys 3 and 4. -/
example : fragOf refP (Sync.runState refP {}
      [.ins 1 1, .ins 2 1, .ins 3 1, .adv Gen.PAST_SYNC_INTERVAL_NS, .ins 4 1]) 0 5 .sync =
    [.daemon 3, .daemon 4] := by
  decide +kernel

def refQ : Params := { ttl := some 10 }

def refG : List Op := [.ins 1 7, .adv Gen.PAST_SYNC_INTERVAL_NS, .get 1, .has 1, .get 2]

/-- A filtered lookup: the `get 1` (instance 2) is answered `none` although key 1 is in the
map before and after the call (the entry is expired and no maintenance is due: the map step
read `some 7`, kept in the record of the instance, and R lets the get respond `none`). -/
example : evsOf refQ 0 {} 0 refG =
      [.invoke 0 0 (.ins 1 7), .mapStep 0, .respond 0 none,
       .invoke 0 2 (.get 1), .mapStep 2, .respond 2 none,
       .invoke 0 4 (.get 2), .mapStep 4, .respond 4 none] ∧
    absMap (Sync.runState refQ {} (refG.take 2)) = [(1, 7)] ∧
    absMap (Sync.runState refQ {} (refG.take 3)) = [(1, 7)] ∧
    (Sync.trace refQ refG).map (fun oo => respOf oo.2) = [none, none, none, none, none] ∧
    (ConcR.run (evsOf refQ 0 {} 0 refG)).map
        (fun a => (a.map, a.ops.map (fun x => (x.1, x.2.ret)))) =
      some ([(1, 7)], [(0, none), (2, some 7), (4, none)]) := by
  decide +kernel

/-- With maintenance due, the same expired entry is deleted inside the `get`, after its map
step. -/
example : evsOf refQ 0 {} 0 [.ins 1 7, .adv 10, .get 1] =
    [.invoke 0 0 (.ins 1 7), .mapStep 0, .respond 0 none,
     .invoke 0 2 (.get 1), .mapStep 2, .daemon 1, .respond 2 none] := by
  decide +kernel

#print axioms runR_respects_KVEq
#print axioms Sync_reachable
#print axioms Sync_ins_refines_R
#print axioms Sync_inv_refines_R
#print axioms Sync_get_refines_R
#print axioms Sync_sync_refines_R
#print axioms Sync_other_absMap
#print axioms Sync_step_refines_R
#print axioms Sync_step_refines_R_frag
#print axioms Sync_history_refines_R
#print axioms Sync_history_WF

end Props
end MiniMoka
