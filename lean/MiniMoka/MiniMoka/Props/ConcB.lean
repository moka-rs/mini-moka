/-
  The two flags `is_admitted` / `is_dirty` of an `EntryInfo` under ALL interleavings of any number
  of client threads and the maintenance role (`MiniMoka/ConcB.lean`): the assumption of the
  detailed models — a write of one flag is an atomic step that does not disturb the other —
  made explicit, proved for the code as it is, refuted for the seeded "one byte,
  load–modify–store" change.

  For the code as it is (`separate`: two independent atomics) and for the equivalent packing
  (`packedAtomic`: one byte, `fetch_or` / `fetch_and`; the same steps, hence the same reachable
  states) the entry is counted in `entry_count` exactly when its admitted flag is set, and a
  client step changes neither `admitted` nor `count`.  For `packedRacy` (one byte, `load` then
  later `store` of the modified copy) a client's stale store wipes the admitted bit and
  maintenance admits the entry a second time: `count = 2` (`ConcB_counterexample_packed_racy`).
  The fault is only the window between load and store: `owLoad t ; owStore t` run back to back is
  exactly the atomic `overwrite t`, likewise the maintenance role's load / store pairs and
  `applyWrite` (`ConcB_racy_uninterrupted_overwrite`, `ConcB_racy_uninterrupted_applyWrite`).
  Granularity (`ConcB_applyWrite_granularity`): `applyWrite` of the good variants is one step
  although `handle_upsert` makes three accesses; client steps that fall between `set_dirty(false)`
  and the test / write of `admitted` can be moved behind `applyWrite` without changing the result.

  `ConcB.…` (in full `MiniMoka.Props.ConcB.…`) are the lemmas of `Lemmas/ConcB.lean`.
-/
import MiniMoka.Lemmas.ConcB

namespace MiniMoka
namespace Props

open MiniMoka.ConcB

/-- **Counted once.**  The code as it is (and the atomic packing), any number of client threads,
any interleaving: in every reachable state the entry is counted in `entry_count` exactly when
its admitted flag is set — never twice, never a counted entry that looks un-admitted. -/
theorem ConcB_counted_once (v : Variant) (hv : v ≠ .packedRacy) (s : State) (hr : Reach v s) :
    s.count = if s.admitted then 1 else 0 :=
  (ConcB.reach_inv hv hr).counted

/-- In the good variants no actor is ever between a load and a store of the flags. -/
theorem ConcB_no_window (v : Variant) (hv : v ≠ .packedRacy) (s : State) (hr : Reach v s) :
    s.held = [] ∧ s.mpc = .idle :=
  ⟨(ConcB.reach_inv hv hr).noHeld, (ConcB.reach_inv hv hr).idle⟩

/-- **Flags independent.**  The code as it is (and the atomic packing), any state: a step of a
client thread changes neither `admitted` nor `count` (and leaves `dirty` set); a step of the
maintenance role changes `dirty` only by clearing it. -/
theorem ConcB_flags_independent (v : Variant) (hv : v ≠ .packedRacy) (s s' : State) (e : Ev)
    (hs : step v s e = some s') :
    (e.client = true → s'.admitted = s.admitted ∧ s'.count = s.count ∧ s'.dirty = true) ∧
    (e.client = false → s'.dirty = s.dirty ∨ s'.dirty = false) := by
  rw [ConcB.step_good hv] at hs
  cases e with
  | overwrite t => cases hs; exact ⟨fun _ => ⟨rfl, rfl, rfl⟩, fun h => (by cases h)⟩
  | applyWrite =>
    refine ⟨fun h => (by cases h), fun _ => Or.inr ?_⟩
    by_cases hq : s.queued = 0
    · simp [stepAtomic, hq] at hs
    · rw [ConcB.applyWrite_eq hq] at hs
      cases hs
      unfold admitPart
      split <;> rfl
  | remove =>
    refine ⟨fun h => (by cases h), fun _ => Or.inl ?_⟩
    rw [ConcB.remove_eq] at hs
    cases hs
    split <;> rfl
  | owLoad t => cases hs
  | owStore t => cases hs
  | mLoad => cases hs
  | mStore => cases hs

/-- Client 1 loads the byte; maintenance applies the insert op (clears dirty, admits); client 1
stores its stale copy with dirty set; maintenance applies client 1's op. -/
def racyEvs : List Ev :=
  [.owLoad 1,                        -- client 1, `set_dirty(true)`: loads (¬admitted, dirty)
   .mLoad, .mStore,                  -- maintenance, `handle_upsert`: `set_dirty(false)`
   .mLoad, .mStore,                  --   not admitted: `set_admitted(true)`, count = 1
   .owStore 1,                       -- client 1 stores (¬admitted, dirty): admitted bit wiped
   .mLoad, .mStore,                  -- maintenance, client 1's op: `set_dirty(false)`
   .mLoad, .mStore]                  --   "not admitted": admitted a second time, count = 2

/-- The same calls on the code as it is. -/
def goodEvs : List Ev := [.applyWrite, .overwrite 1, .applyWrite]

/-- **The seeded change double-counts** (`packedRacy`, by `decide`): the interleaving `racyEvs`
is enabled and ends with the entry counted twice, nothing queued, nothing held, maintenance idle:
`entry_count` stays one too high for ever.  After the first five events the entry is admitted
and counted once; the sixth, a step of a CLIENT (`owStore 1`), changes `admitted` from `true`
to `false` while `count` stays `1`.  The same calls on the code as it is (`goodEvs`, both good
variants) end with `count = 1`. -/
theorem ConcB_counterexample_packed_racy :
    runEvs .packedRacy init racyEvs
        = some { admitted := true, dirty := false, count := 2, queued := 0, held := [],
                 mpc := .idle }
    ∧ (runEvs .packedRacy init (racyEvs.take 5)).map State.obs = some (true, false, 1, 0)
    ∧ (runEvs .packedRacy init (racyEvs.take 6)).map State.obs = some (false, true, 1, 1)
    ∧ (runEvs .separate init goodEvs).map State.obs = some (true, false, 1, 0)
    ∧ (runEvs .packedAtomic init goodEvs).map State.obs = some (true, false, 1, 0) := by
  refine ⟨by decide, by decide, by decide, by decide, by decide⟩

/-- Both theorems fail for `packedRacy`: a reachable state with `count = 2`, and a reachable state
in which a client step clears `admitted`. -/
theorem ConcB_packed_racy_violates :
    (∃ s, Reach .packedRacy s ∧ s.count ≠ if s.admitted then 1 else 0) ∧
    (∃ s s' t, Reach .packedRacy s ∧ step .packedRacy s (.owStore t) = some s' ∧
      s.admitted = true ∧ s'.admitted = false) := by
  constructor
  · exact ⟨_, ConcB.reach_of_runEvs _ _ _ Reach.init ConcB_counterexample_packed_racy.1,
      by decide⟩
  · have h5 : runEvs .packedRacy init (racyEvs.take 5)
        = some ⟨true, false, 1, 0, [(1, false, true)], .idle⟩ := by decide
    exact ⟨_, ⟨false, true, 1, 1, [], .idle⟩, 1, ConcB.reach_of_runEvs _ _ _ Reach.init h5,
      by decide, rfl, rfl⟩

/-- **`packedAtomic` refines `separate`, and conversely**: the two variants have the same step
function (an atomic read-modify-write of the byte IS a write of the one flag), hence the same
reachable states. -/
theorem ConcB_packedAtomic_refines_separate :
    (∀ s e, step .packedAtomic s e = step .separate s e) ∧
    (∀ s, Reach .packedAtomic s ↔ Reach .separate s) := by
  have hstep : ∀ s e, step .packedAtomic s e = step .separate s e :=
    fun s e => ConcB.stepAtomic_eq .packedAtomic s e
  exact ⟨hstep, fun s => ⟨ConcB.reach_congr hstep, ConcB.reach_congr fun s e => (hstep s e).symm⟩⟩

/-- The same reachable tuples `(admitted, dirty, count, queued)`. -/
theorem ConcB_packedAtomic_same_obs (o : Bool × Bool × Nat × Nat) :
    (∃ s, Reach .packedAtomic s ∧ s.obs = o) ↔ (∃ s, Reach .separate s ∧ s.obs = o) :=
  ⟨fun ⟨s, hr, ho⟩ => ⟨s, (ConcB_packedAtomic_refines_separate.2 s).1 hr, ho⟩,
   fun ⟨s, hr, ho⟩ => ⟨s, (ConcB_packedAtomic_refines_separate.2 s).2 hr, ho⟩⟩

/-- In `packedRacy`, a client's `owLoad t ; owStore t` run back to back (no step of another actor
in between) is exactly the atomic `overwrite t` of the code as it is. -/
theorem ConcB_racy_uninterrupted_overwrite (s : State) (t : Tid)
    (hfree : AL.get? s.held t = none) :
    runEvs .packedRacy s [.owLoad t, .owStore t] = step .separate s (.overwrite t) := by
  simp only [runEvs, step, stepRacy, hfree, AL.get?_put_self, ConcB.modify_dirty,
    AL.erase_put_of_none _ hfree, stepAtomic, writeFlag]

/-- Likewise the maintenance role: from an idle state with an op queued, its load / store pairs
run back to back (`mLoad ; mStore ; mLoad` and, if the entry was not admitted, `; mStore`) are
exactly the atomic `applyWrite` of the code as it is. -/
theorem ConcB_racy_uninterrupted_applyWrite (s : State) (hidle : s.mpc = .idle) :
    runEvs .packedRacy s
        (if s.admitted then [.mLoad, .mStore, .mLoad] else [.mLoad, .mStore, .mLoad, .mStore])
      = step .separate s .applyWrite := by
  obtain ⟨a, d, c, q, h, m⟩ := s
  simp only at hidle
  subst hidle
  by_cases hq : q = 0
  · subst hq
    cases a <;> simp [runEvs, step, stepRacy, stepAtomic]
  · cases a <;>
      simp [runEvs, step, stepRacy, stepAtomic, writeFlag, hq, ConcB.modify_dirty,
        ConcB.modify_admitted]

/-- `applyWrite` is `clearPart` then `admitPart`, and client steps that fall between the two
parts can be moved behind `applyWrite`: `clearPart ; overwrite t₁ … overwrite tₙ ; admitPart`
ends in the same state as `applyWrite ; overwrite t₁ … overwrite tₙ`.  (A client writes `dirty`
and `queued` only, `admitPart` reads and writes `admitted` and `count` only.)  So taking
`applyWrite` as one step loses no behaviour of the code as it is. -/
theorem ConcB_applyWrite_granularity (s : State) (hq : s.queued ≠ 0) (ts : List Tid) :
    step .separate s .applyWrite = some (admitPart (clearPart s)) ∧
    (runEvs .separate (clearPart s) (ts.map .overwrite)).map admitPart
      = runEvs .separate s (.applyWrite :: ts.map .overwrite) := by
  have h1 : step .separate s .applyWrite = some (admitPart (clearPart s)) :=
    ConcB.applyWrite_eq hq
  refine ⟨h1, ?_⟩
  simp only [runEvs, h1]
  generalize clearPart s = u
  induction ts generalizing u with
  | nil => simp [runEvs]
  | cons t rest ih =>
    have hc : step .separate (admitPart u) (.overwrite t)
        = (step .separate u (.overwrite t)).map admitPart := by
      cases ha : u.admitted <;> simp [step, stepAtomic, writeFlag, admitPart, ha]
    simp only [List.map_cons, runEvs, hc]
    simp only [step, stepAtomic, writeFlag, Option.map_some]
    exact ih _

end Props
end MiniMoka

#print axioms MiniMoka.Props.ConcB_counted_once
#print axioms MiniMoka.Props.ConcB_no_window
#print axioms MiniMoka.Props.ConcB_flags_independent
#print axioms MiniMoka.Props.ConcB_counterexample_packed_racy
#print axioms MiniMoka.Props.ConcB_packed_racy_violates
#print axioms MiniMoka.Props.ConcB_packedAtomic_refines_separate
#print axioms MiniMoka.Props.ConcB_packedAtomic_same_obs
#print axioms MiniMoka.Props.ConcB_racy_uninterrupted_overwrite
#print axioms MiniMoka.Props.ConcB_racy_uninterrupted_applyWrite
#print axioms MiniMoka.Props.ConcB_applyWrite_granularity
