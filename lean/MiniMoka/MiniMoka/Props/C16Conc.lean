/-
  C16 (concurrent part): iteration over the sharded map beside concurrent writers.
  Model in `MiniMoka/ConcI.lean`; the theorems are put together here from the facts about `run`,
  `lookup` and the acceptor in `Lemmas/ConcI.lean`.

  All theorems quantify over: any number `n` of shards, any shard function `shardOf`, any
  well-formed initial map `m0` (unique keys per shard, keys in their own shard), and ANY
  trace `tr` that is one iteration (`visit 0, …, visit (n-1)` in order) with arbitrary
  `write`/`remove` events interleaved anywhere, i.e. all interleavings with any number of
  writer threads whose map operations are atomic per key. `out` is what the iterator
  yielded. ASSUMPTION of the model (stated in `ConcI.lean`): each shard is observed at one
  moment ("shard snapshot"), which DashMap guarantees by holding the shard's read lock
  while it yields the shard's entries.
-/
import MiniMoka.Lemmas.ConcI

namespace MiniMoka.ConcI

/-- The iterator's output for initial map `m0` and trace `tr`. -/
abbrev outOf (shardOf : Key → Nat) (m0 : Nat → Shard) (tr : List Ev) : List (Key × Val) :=
  (run shardOf ⟨m0, []⟩ tr).out

/-- No key is yielded twice, whatever the writers do. -/
theorem C16_no_duplicates (shardOf : Key → Nat) (n : Nat) (m0 : Nat → Shard) (tr : List Ev)
    (hw : WfMap shardOf m0) (hit : IsIteration n tr) :
    ((outOf shardOf m0 tr).map Prod.fst).Nodup := by
  refine nodup_out_gen shardOf tr ⟨m0, []⟩ 0 n hw ?_ (by simp) (by simp)
  rw [hit, List.range_eq_range']

/-- Each yielded `(k, v)` was the map's binding of `k` at the moment its shard was
visited, a moment inside the iteration (`tr = pre ++ visit (shardOf k) :: post`). -/
theorem C16_value_was_current (shardOf : Key → Nat) (m0 : Nat → Shard) (tr : List Ev)
    (hw : WfMap shardOf m0) {k : Key} {v : Val} (h : (k, v) ∈ outOf shardOf m0 tr) :
    ∃ pre post, tr = pre ++ Ev.visit (shardOf k) :: post ∧
      lookup shardOf (run shardOf ⟨m0, []⟩ pre).map k = some v := by
  rcases (mem_out_run shardOf).1 h with h0 | ⟨pre, i, post, htr, hmem⟩
  · exact absurd h0 (by simp)
  · have hwp := wf_run shardOf (s := ⟨m0, []⟩) hw pre i
    have hi : shardOf k = i := hwp.2 k (AL.mem_keys_of_mem hmem)
    subst hi
    exact ⟨pre, post, htr, AL.get?_of_mem hwp.1 hmem⟩

/-- A key that is absent at every moment of the iteration is not yielded. -/
theorem C16_no_phantom (shardOf : Key → Nat) (m0 : Nat → Shard) (tr : List Ev)
    (hw : WfMap shardOf m0) {k : Key}
    (habs : ∀ pre post, tr = pre ++ post →
      lookup shardOf (run shardOf ⟨m0, []⟩ pre).map k = none) :
    k ∉ (outOf shardOf m0 tr).map Prod.fst := by
  intro hk
  obtain ⟨⟨k', v⟩, hmem, rfl⟩ := List.mem_map.1 hk
  obtain ⟨pre, post, htr, hl⟩ := C16_value_was_current shardOf m0 tr hw hmem
  rw [habs pre _ htr] at hl
  exact absurd hl (by simp)

/-- A key that is present at every moment from the start to the end of the iteration
(writers may update it) is yielded exactly once. -/
theorem C16_resident_yielded_once (shardOf : Key → Nat) (n : Nat) (m0 : Nat → Shard)
    (tr : List Ev) (hw : WfMap shardOf m0) (hit : IsIteration n tr) {k : Key}
    (hk : shardOf k < n)
    (hres : ∀ pre post, tr = pre ++ post →
      (lookup shardOf (run shardOf ⟨m0, []⟩ pre).map k).isSome) :
    ((outOf shardOf m0 tr).map Prod.fst).count k = 1 := by
  rw [(C16_no_duplicates shardOf n m0 tr hw hit).count, if_pos]
  have hv : shardOf k ∈ visits tr := by rw [hit]; exact List.mem_range.2 hk
  obtain ⟨pre, post, htr⟩ := mem_visits hv
  have hp := hres pre _ htr
  obtain ⟨v, hv'⟩ := Option.isSome_iff_exists.1 hp
  have hmem : (k, v) ∈ outOf shardOf m0 tr :=
    (mem_out_run shardOf).2 (Or.inr ⟨pre, _, post, htr, AL.mem_of_get? hv'⟩)
  exact List.mem_map.2 ⟨(k, v), hmem, rfl⟩

/-- The same with the syntactic hypothesis: present at the start and no `remove k` among
the interleaved writer events (only `write`s to it). -/
theorem C16_resident_yielded_once' (shardOf : Key → Nat) (n : Nat) (m0 : Nat → Shard)
    (tr : List Ev) (hw : WfMap shardOf m0) (hit : IsIteration n tr) {k : Key}
    (hk : shardOf k < n) (h0 : (lookup shardOf m0 k).isSome) (hnr : Ev.remove k ∉ tr) :
    ((outOf shardOf m0 tr).map Prod.fst).count k = 1 := by
  apply C16_resident_yielded_once shardOf n m0 tr hw hit hk
  intro pre post htr
  apply present_of_no_remove shardOf pre ⟨m0, []⟩ h0
  intro hm
  exact hnr (by rw [htr]; exact List.mem_append_left _ hm)

/-- Every yielded value of `k` is its initial value or a value written during the
iteration before the visit. -/
theorem C16_value_origin (shardOf : Key → Nat) (m0 : Nat → Shard) (tr : List Ev)
    (hw : WfMap shardOf m0) {k : Key} {v : Val} (h : (k, v) ∈ outOf shardOf m0 tr) :
    lookup shardOf m0 k = some v ∨ Ev.write k v ∈ tr := by
  obtain ⟨pre, post, htr, hl⟩ := C16_value_was_current shardOf m0 tr hw h
  rcases value_origin shardOf pre ⟨m0, []⟩ hw hl with h1 | h1
  · exact Or.inl h1
  · exact Or.inr (by rw [htr]; exact List.mem_append_left _ h1)

/-- Sequential corollary: with no writer events the output is exactly the content of the
map: equal to the shards' contents in shard order (hence a permutation of it), without
repeated keys, and `(k, v)` is yielded iff it is the binding of `k` in a shard `< n`. -/
theorem C16_sequential (shardOf : Key → Nat) (n : Nat) (m0 : Nat → Shard)
    (hw : WfMap shardOf m0) :
    outOf shardOf m0 (seqIteration n) = content n m0 ∧
    (outOf shardOf m0 (seqIteration n)).Perm (content n m0) ∧
    ((outOf shardOf m0 (seqIteration n)).map Prod.fst).Nodup ∧
    ∀ k v, (k, v) ∈ outOf shardOf m0 (seqIteration n) ↔
      (shardOf k < n ∧ lookup shardOf m0 k = some v) := by
  have heq : outOf shardOf m0 (seqIteration n) = content n m0 := by
    simp [outOf, seqIteration, run_seq, content]
  refine ⟨heq, by rw [heq], ?_, ?_⟩
  · exact C16_no_duplicates shardOf n m0 _ hw (by simp [IsIteration, seqIteration, visits_seq])
  · intro k v
    rw [heq, mem_content]
    constructor
    · rintro ⟨i, hi, hmem⟩
      have hs : shardOf k = i := (hw i).2 k (AL.mem_keys_of_mem hmem)
      subst hs
      exact ⟨hi, AL.get?_of_mem (hw _).1 hmem⟩
    · rintro ⟨hi, hl⟩
      exact ⟨shardOf k, hi, AL.mem_of_get? hl⟩

/-- Soundness (and completeness) of the executable acceptor: it accepts exactly when no
key is repeated in the yielded list, every fixed key appears exactly once, and every
yielded value is one of the candidate values of its key. -/
theorem acceptI_sound (keys : List Key) (out : List (Key × Val))
    (cand : List (Key × List Val)) :
    acceptI keys out cand = true ↔
      (out.map Prod.fst).Nodup ∧
      (∀ k ∈ keys, (out.map Prod.fst).count k = 1) ∧
      (∀ kv ∈ out, kv.2 ∈ candOf cand kv.1) :=
  acceptI_iff keys out cand

/-- The model's runs are accepted: if the fixed keys live in shards `< n`, are present at
the start and never removed, and `cand` lists for every key at least its initial value
and the values written to it, then the acceptor accepts the output of every interleaving.
(So a rejection by `acceptI` on a recorded real run contradicts the model.) -/
theorem C16_model_accepted (shardOf : Key → Nat) (n : Nat) (m0 : Nat → Shard) (tr : List Ev)
    (hw : WfMap shardOf m0) (hit : IsIteration n tr)
    (keys : List Key) (cand : List (Key × List Val))
    (hkeys : ∀ k ∈ keys, shardOf k < n ∧ (lookup shardOf m0 k).isSome ∧ Ev.remove k ∉ tr)
    (hcand : ∀ k v, (lookup shardOf m0 k = some v ∨ Ev.write k v ∈ tr) → v ∈ candOf cand k) :
    acceptI keys (outOf shardOf m0 tr) cand = true := by
  rw [acceptI_sound]
  refine ⟨C16_no_duplicates shardOf n m0 tr hw hit, ?_, ?_⟩
  · intro k hk
    obtain ⟨h1, h2, h3⟩ := hkeys k hk
    exact C16_resident_yielded_once' shardOf n m0 tr hw hit h1 h2 h3
  · rintro ⟨k, v⟩ hmem
    exact hcand k v (C16_value_origin shardOf m0 tr hw hmem)

/-! ## Non-vacuity: a 2-shard run with writer events between the two visits -/

def exShardOf : Key → Nat := fun k => k % 2
def exMap : Nat → Shard := ofList [[(0, 10), (2, 20)], [(1, 11), (5, 55)]]
/-- visit shard 0; then writers update key 1, insert key 3, remove key 5 and (too late to
be seen) update key 2 and remove key 0; visit shard 1. -/
def exTrace : List Ev :=
  [.visit 0, .write 1 99, .write 3 7, .remove 5, .write 2 21, .remove 0, .visit 1]

theorem exTrace_isIteration : IsIteration 2 exTrace := by decide

theorem exMap_wf : WfMap exShardOf exMap := by
  intro i
  match i with
  | 0 => decide
  | 1 => decide
  | (j + 2) => simp [exMap, ofList]

/-- The output: shard 0 as it was at the first visit, shard 1 as it was at the second. -/
example : outOf exShardOf exMap exTrace = [(0, 10), (2, 20), (1, 99), (3, 7)] := by decide

/-- Key 1 is resident throughout (only written): hypotheses of
`C16_resident_yielded_once'` hold, and it is yielded once with the written value. -/
example : exShardOf 1 < 2 ∧ (lookup exShardOf exMap 1).isSome ∧ Ev.remove 1 ∉ exTrace := by
  decide

example : ((outOf exShardOf exMap exTrace).map Prod.fst).count 1 = 1 := by decide

/-- The hypotheses of the theorems are jointly satisfiable: instantiate them here. -/
example : ((outOf exShardOf exMap exTrace).map Prod.fst).Nodup :=
  C16_no_duplicates exShardOf 2 exMap exTrace exMap_wf exTrace_isIteration
example : ((outOf exShardOf exMap exTrace).map Prod.fst).count 1 = 1 :=
  C16_resident_yielded_once' exShardOf 2 exMap exTrace exMap_wf exTrace_isIteration
    (by decide) (by decide) (by decide)

/-- The acceptor on this run: fixed keys 1 and 2. -/
example : acceptI [1, 2] (outOf exShardOf exMap exTrace)
    [(0, [10]), (1, [11, 99]), (2, [20, 21]), (3, [7]), (5, [55])] = true := by decide

/-- The acceptor rejects a duplicate, a missing fixed key, and a value never written. -/
example : acceptI [1] [(1, 11), (2, 20), (1, 99)] [(1, [11, 99]), (2, [20])] = false := by
  decide
example : acceptI [1, 2] [(1, 11)] [(1, [11]), (2, [20])] = false := by decide
example : acceptI [1] [(1, 12)] [(1, [11, 99])] = false := by decide

/-- The visiting order matters: a trace that visits shard 0 twice is not an iteration
(`IsIteration`) and does yield key 0 twice. -/
example : ¬ ((outOf exShardOf exMap [.visit 0, .visit 0]).map Prod.fst).Nodup := by decide

end MiniMoka.ConcI

section Axioms
open MiniMoka.ConcI
#print axioms C16_no_duplicates
#print axioms C16_value_was_current
#print axioms C16_no_phantom
#print axioms C16_resident_yielded_once
#print axioms C16_resident_yielded_once'
#print axioms C16_value_origin
#print axioms C16_sequential
#print axioms acceptI_sound
#print axioms C16_model_accepted
end Axioms
