/-
  C10 / C11 / C04 on the concurrent cache driven by one thread: counters and live objects at
  quiescent points, for all configurations of the current code (`NoQuirks`) with the documented
  sketch-size limit `SmallSketch`, and all histories.  The invariant is in
  `Lemmas/SyncCounters.lean`, what the snapshot of a state of the invariant shows in
  `Lemmas/SyncSnapshot.lean`.  The weaker tolerance for C04 "excess only while more than 400
  entries are left" is false of the code: see the remark after the C04 examples.  The repaired
  defects D8 and D7 are shown with their switches on, as counterexamples.
-/
import MiniMoka.Lemmas.SyncSnapshot
import MiniMoka.Lemmas.SyncCapacity
import MiniMoka.Wire

namespace MiniMoka
namespace Props

open Sync Sync.Nodes Sync.Counters

/-- C10 on the concurrent cache driven by one thread: for every configuration of the current
code (any capacity, weigher, ttl / tti, hash function) and every history, every snapshot
taken right after `sync` with both queues empty shows `entry_count = number of entries`,
`weighted_size = Σ of the stored policy weights = Σ weigher(key, value)` over the entries
the map holds. -/
theorem C10_sync (p : Params) (hq : Sync.NoQuirks p) (hsm : SmallSketch p) (h : List Op) :
    Spec.oracleC10 .sync p.weigh (Sync.trace p h) = true :=
  oracleC10_go_run hq hsm (init_t p) h

/-- Stronger than the oracle asks: the counters are exact at *every* snapshot with an empty
write queue (pending reads do not matter, and neither does what precedes the snapshot). -/
theorem C10_sync_every_quiescent_snapshot (p : Params) (hq : Sync.NoQuirks p)
    (hsm : SmallSketch p) (h : List Op) (op : Op) (sn : Snap)
    (hm : (op, Obs.snap sn) ∈ Sync.trace p h) (hwq : sn.wq = 0) :
    Spec.snapCountersOk p.weigh sn = true := by
  obtain ⟨s', hs', rfl⟩ := run_snap_t hq hsm h (init_t p) op sn hm
  exact snapshot_counters hs' (List.eq_nil_of_length_eq_zero hwq)

/-- C11 on the concurrent cache driven by one thread: at every snapshot with both queues
empty the number of live key objects and the number of live value objects both equal the
number of entries (objects of replaced, invalidated, evicted, rejected and expired entries
have been released once their queued operations are applied); at every snapshot the live
objects are bounded by the entries, the list nodes and the queued operations. -/
theorem C11_sync (p : Params) (hq : Sync.NoQuirks p) (hsm : SmallSketch p) (h : List Op) :
    Spec.oracleC11 (Sync.trace p h) = true :=
  oracleC11_run hq hsm (init_t p) h

/-- The first half of `boundC04Sync`, at every snapshot of every trace: the map holds at most
`entry_count + |write queue|` entries (the oracle allows one more: the entry of an `insert`
whose map step is done and whose `upsert` is not queued yet, a state one thread never
observes). -/
theorem C04_sync_count (p : Params) (hq : Sync.NoQuirks p) (hsm : SmallSketch p) (h : List Op)
    (op : Op) (sn : Snap) (hm : (op, Obs.snap sn) ∈ Sync.trace p h) :
    sn.entries.length ≤ sn.ec + sn.wq := by
  obtain ⟨s', hs', rfl⟩ := run_snap_t hq hsm h (init_t p) op sn hm
  rw [(shows p s').length_entries]
  exact map_length_le hs'

/-- The weight half at the level of states: after `sync` in any reachable state (all queued
operations applied, expired entries and LRU victims evicted, counters published) the
weighted size is within the capacity, unless the run has removed a full eviction batch. -/
theorem C04_sync_after_sync (p : Params) (hq : Sync.NoQuirks p) (hsm : SmallSketch p)
    (h : List Op) (c : Nat) (hcap : p.cap = some c) :
    (Sync.syncRun p (Sync.stateAfter p {} h)).ws ≤ c ∨
      (Sync.syncRun p (Sync.stateAfter p {} h)).map.length + Gen.SYNC_EVICTION_BATCH_SIZE ≤
        (Sync.stateAfter p {} h).map.length :=
  syncRun_weight hq hsm (stateAfter_t hq hsm h (init_t p)) hcap

/-- C04 on the concurrent cache driven by one thread, for the oracle
`Spec.oracleC04`: for every configuration of the current code and every history,
every snapshot shows at most `entry_count + |write queue| + 1` entries, and every snapshot
taken right after `sync` with both queues empty shows residents weighing at most
`max_capacity`, unless that maintenance run removed a full batch of
`SYNC_EVICTION_BATCH_SIZE` entries (the excess left by updates that made entries heavier is
worked off one batch per run). -/
theorem C04_sync (p : Params) (hq : Sync.NoQuirks p) (hsm : SmallSketch p) (h : List Op) :
    Spec.oracleC04 .sync p.cap (Sync.trace p h) = true := by
  unfold Spec.oracleC04
  cases hcap : p.cap with
  | none => rfl
  | some c =>
    exact boundC04SyncGo_run hq hsm hcap 0 _ {} h (init_t p) (Nat.zero_le _) rfl

/-! ### non-vacuity -/

def c10Params : Params :=
  { cap := some 6, ttl := some 2000000000, hasWeigher := true, w := fun _ v => v % 5 }

/-- Inserts, an update that changes the weight (1 → 3), an invalidation, two rejected
candidates (keys 3 and 5: the cache is full and they are not popular), an update of a not yet
admitted entry, expiry of key 1, `invalidate_all`; snapshots with pending operations and
quiescent snapshots right after `sync` (with 2, 2, 1, 2, 2 and 1 entries; six in all). -/
def c10History : List Op :=
  [.ins 1 1, .ins 2 2, .snap, .sync, .snap, .ins 1 3, .snap, .sync, .snap, .get 1, .ins 3 4,
   .inv 2, .snap, .sync, .snap, .get 4, .get 4, .get 4, .adv Gen.PAST_SYNC_INTERVAL_NS, .ins 4 2, .ins 4 7,
   .ins 5 9, .snap, .sync, .snap, .adv (2000000000 - Gen.PAST_SYNC_INTERVAL_NS), .ins 6 1, .sync, .snap, .invAll, .sync, .snap]

/-- The trace of `c10History`, evaluated once: the three oracles accept it, and what its
quiescent snapshots show. -/
theorem c10History_trace :
    Spec.oracleC10 .sync c10Params.weigh (Sync.trace c10Params c10History) = true ∧
    Spec.oracleC11 (Sync.trace c10Params c10History) = true ∧
    Spec.oracleC04 .sync c10Params.cap (Sync.trace c10Params c10History) = true ∧
    (Sync.trace c10Params c10History).filterMap (fun oo => match oo.2 with
      | .snap sn => if sn.rq == 0 && sn.wq == 0 then
          some (sn.entries.map (fun e => (e.key, e.val, e.weight)), sn.ec, sn.ws, sn.liveK, sn.liveV)
        else none
      | _ => none) =
      [([(1, 1, 1), (2, 2, 2)], 2, 3, 2, 2), ([(1, 3, 3), (2, 2, 2)], 2, 5, 2, 2),
       ([(1, 3, 3)], 1, 3, 1, 1), ([(1, 3, 3), (4, 7, 2)], 2, 5, 2, 2),
       ([(4, 7, 2), (6, 1, 1)], 2, 3, 2, 2), ([(6, 1, 1)], 1, 1, 1, 1)] := by
  decide +kernel

example : Spec.oracleC10 .sync c10Params.weigh (Sync.trace c10Params c10History) = true :=
  c10History_trace.1

example : Spec.oracleC11 (Sync.trace c10Params c10History) = true :=
  c10History_trace.2.1

example : Spec.oracleC04 .sync c10Params.cap (Sync.trace c10Params c10History) = true :=
  c10History_trace.2.2.1

/-- What the quiescent snapshots of that trace show: `(entries, entry_count, weighted_size,
live keys, live values)`. -/
example : (Sync.trace c10Params c10History).filterMap (fun oo => match oo.2 with
    | .snap sn => if sn.rq == 0 && sn.wq == 0 then
        some (sn.entries.map (fun e => (e.key, e.val, e.weight)), sn.ec, sn.ws, sn.liveK, sn.liveV)
      else none
    | _ => none) =
    [([(1, 1, 1), (2, 2, 2)], 2, 3, 2, 2), ([(1, 3, 3), (2, 2, 2)], 2, 5, 2, 2),
     ([(1, 3, 3)], 1, 3, 1, 1), ([(1, 3, 3), (4, 7, 2)], 2, 5, 2, 2),
     ([(4, 7, 2), (6, 1, 1)], 2, 3, 2, 2), ([(6, 1, 1)], 1, 1, 1, 1)] :=
  c10History_trace.2.2.2

/-- The theorems apply to this configuration. -/
example : Spec.oracleC10 .sync c10Params.weigh (Sync.trace c10Params c10History) = true :=
  C10_sync c10Params rfl
    (SmallSketch.of_default_capF rfl fun c hc => by cases hc; decide +kernel) _

/-- The oracles reject wrong counters and leaked objects. -/
example : Spec.oracleC10 .sync (fun _ _ => 1)
    [(.sync, .ok), (.snap, .snap { Wire.emptySnap with ec := 1, ws := 0 })] = false := by decide

example : Spec.oracleC11 [(.snap, .snap { Wire.emptySnap with liveK := 0, liveV := 1 })] = false := by
  decide

/-! ### C04: what the oracle rejects and accepts -/

def heavySnap : Snap :=
  let e : EntryView :=
    { key := 1, val := 5, weight := 5, la := none, lm := none, aoOk := true, woOk := true }
  { Wire.emptySnap with ec := 1, ws := 5, entries := [e] }

/-- The oracle rejects a maintenance run that leaves excess behind without having
removed anything: capacity 3, one resident of weight 5 before and after `sync`; with and
without a snapshot before the `sync`. -/
example : Spec.oracleC04 .sync (some 3)
    [(.ins 1 5, .ok), (.snap, .snap heavySnap), (.sync, .ok), (.snap, .snap heavySnap)] = false := by
  decide

example : Spec.oracleC04 .sync (some 3)
    [(.ins 1 5, .ok), (.sync, .ok), (.snap, .snap heavySnap)] = false := by
  decide

/-- The check rejects a map that holds more entries than `entry_count + |write queue| + 1`. -/
example : Spec.oracleC04 .sync (some 3)
    [(.snap, .snap { heavySnap with ec := 0, entries := heavySnap.entries ++ heavySnap.entries })]
      = false := by
  decide

/-- It accepts excess that remains after a full batch was removed (501 `insert` calls before,
one heavy entry after). -/
example : Spec.boundC04SyncGo 3 501 [(.sync, .ok), (.snap, .snap heavySnap)] = true := by
  decide

/-! Why the tolerance is "a full batch was removed" and not "many entries are left": the oracle
`entries.length > 400 || snapWeight ≤ cap` at a quiescent snapshot after `sync` is false of the
code. Capacity 10, weigher = value, eviction batch 500. 501 keys of weight 0
are all admitted; key 0 is then updated to weight 1000000. The next maintenance run must evict
999990: the LRU loop evicts its batch of 500 weight-0 entries and stops; the heavy entry (most
recently used) stays. The quiescent snapshot after `sync` shows 1 entry, at most 400, weighing
1000000 > 10: that tolerance does not apply, while `Spec.oracleC04` accepts (a full batch was
worked off).

    def p : Params := { cap := some 10, hasWeigher := true, w := fun _ v => v }
    def h (n : Nat) : List Op :=
      (List.range n).map (fun k => Op.ins k 0) ++ [.sync, .snap, .ins 0 1000000, .sync, .snap]
    -- on `Sync.trace p (h 501)`: the 400-entries oracle is false, `Spec.oracleC04` true

Evaluating this takes the kernel minutes and no smaller witness exists (by `C04_sync_after_sync`
a map of at most one batch never keeps excess after `sync`), so it is not part of the build. -/

/-! ### the repaired defects, with their switches on -/

/-- D8 (weight drift: the policy weight was written at insert time). History of
`corpus/D8.ops`: key 2 is updated (weight 1 → 3) while the admission of key 4 is still
queued; the admission evicts key 2 and frees its *new* weight. -/
def d8History : List Op :=
  [.ins 1 5, .sync, .ins 2 1, .sync, .adv 1000000000, .get 1, .sync, .adv 1000000000, .get 4,
   .get 4, .ins 4 3, .ins 2 3, .sync, .snap]

def d8Params (q : Quirks) : Params := { cap := some 8, hasWeigher := true, w := fun _ v => v, q := q }

theorem C10_sync_counterexample_D8 :
    Spec.oracleC10 .sync (d8Params {}).weigh (Sync.trace (d8Params { d8 := true }) d8History)
      = false := by
  decide +kernel

example : Spec.oracleC10 .sync (d8Params {}).weigh (Sync.trace (d8Params {}) d8History) = true := by
  decide +kernel

/-- D7 (maintenance addressed map entries by key only). History of `corpus/D7.ops`: with the
switch on, a node of a replaced generation of key 3 survives its entry; the counters and the
live-object counts are wrong at the quiescent snapshots (and the run ends in a
use-after-free). -/
def d7History' : List Op :=
  [.ins 1 1, .ins 2 1, .sync, .ins 3 1, .ins 3 1, .adv Gen.PAST_SYNC_INTERVAL_NS, .get 3, .sync, .snap, .ins 3 1,
   .sync, .snap, .get 4, .get 4, .get 4, .ins 4 2, .sync, .snap]

def d7Params' (q : Quirks) : Params := { cap := some 2, hasWeigher := true, w := fun _ v => v, q := q }

/-- The trace of `d7History'` with the switch on, evaluated once: both checks reject it. -/
theorem d7History'_trace :
    Spec.oracleC10 .sync (d7Params' {}).weigh (Sync.trace (d7Params' { d7 := true }) d7History')
      = false ∧
    Spec.oracleC11 (Sync.trace (d7Params' { d7 := true }) d7History') = false := by
  decide +kernel

theorem C10_sync_counterexample_D7 :
    Spec.oracleC10 .sync (d7Params' {}).weigh (Sync.trace (d7Params' { d7 := true }) d7History')
      = false :=
  d7History'_trace.1

theorem C11_sync_counterexample_D7 :
    Spec.oracleC11 (Sync.trace (d7Params' { d7 := true }) d7History') = false :=
  d7History'_trace.2

example : Spec.oracleC10 .sync (d7Params' {}).weigh (Sync.trace (d7Params' {}) d7History') = true ∧
    Spec.oracleC11 (Sync.trace (d7Params' {}) d7History') = true := by
  decide +kernel

end Props
end MiniMoka

namespace MiniMoka.Props
#print axioms C10_sync
#print axioms C10_sync_every_quiescent_snapshot
#print axioms C11_sync
#print axioms C04_sync_count
#print axioms C04_sync_after_sync
#print axioms C04_sync
#print axioms C10_sync_counterexample_D8
#print axioms C10_sync_counterexample_D7
#print axioms C11_sync_counterexample_D7
end MiniMoka.Props
