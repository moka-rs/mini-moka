/-
  The granularity of a lookup (`MiniMoka/ConcG.lean`): ONE key, any number of threads, ALL
  interleavings.  The assumption of the detailed models — a lookup (fetch the value entry, test
  the key's shared timestamps, return the value) is one atomic step with respect to updates of
  the same key — made explicit, proved for the code as it is, refuted for the seeded
  "release the guard early" change.

  For the atomic lookup (`split = false`) AND for the code at its real granularity
  (`split = true, guard = true`: fetch and test are two steps, ticks / `invalidate_all` / other
  lookups run in between, updates of the key do not), no lookup returns a value discarded by an
  `invalidate_all` that completed before the lookup began, nor a value at or after its write time
  plus time-to-live (`ConcG_get_fresh_cfg`).  With `split = true, guard = false` (the seeded
  change) an update in the window refreshes the SHARED `last_modified` and the stale value passes
  the test (`ConcG_counterexample_split`).  `getFetch t ; getTest t` run back to back is exactly
  the atomic `get t` (`ConcG_split_uninterrupted`): the fault is only the window.

  `ConcG.…` (in full `MiniMoka.Props.ConcG.…`) are the lemmas of `Lemmas/ConcG.lean`.
-/
import MiniMoka.Lemmas.ConcG

namespace MiniMoka
namespace Props

open MiniMoka.ConcG

/-- **The lookup guarantee**, any configuration in which no update of the key falls between fetch
and test (`split = false`: the lookup is one step; or `guard = true`: the shard guard is held from
fetch to test), any number of threads, any interleaving, every reachable state `s`, every value
`r` returned by a lookup so far. -/
theorem ConcG_get_fresh_cfg (cfg : Cfg) (hgood : cfg.split = false ∨ cfg.guard = true)
    (s : State) (hr : Reach cfg s) (r : Ret) (hmem : r ∈ s.returned) :
    (r.value, r.wr) ∈ s.written ∧
    (∀ i ∈ r.invs, i ≤ r.wr) ∧
    (∀ d, cfg.ttl = some d → r.time < r.wr + d) ∧
    r.invs <:+ s.completedInv ∧ r.began ≤ r.time ∧ r.time ≤ s.now :=
  let h := (ConcG.reach_inv hgood hr).ret r hmem
  ⟨h.written, h.fresh, h.unexpired, h.invs, h.began, h.time⟩

/-- **Get is fresh** (the lookup as ONE step, as in the detailed models): every value `r.value`
returned by a lookup was written at a reading `r.wr` that is not before ANY `invalidate_all`
reading `i` completed when the lookup began (so `¬ (r.wr < va)` for the watermark the lookup
saw: no value discarded by a completed `invalidate_all` is ever returned), and, with time-to-live
`d`, the lookup returned before `r.wr + d`.  (`r.invs` is a suffix — an older part — of the log
`s.completedInv`; an atomic lookup begins and returns at the same reading.) -/
theorem ConcG_get_fresh (guard : Bool) (ttl : Option Nat) (s : State)
    (hr : Reach { split := false, guard := guard, ttl := ttl } s) (r : Ret)
    (hmem : r ∈ s.returned) :
    (r.value, r.wr) ∈ s.written ∧
    (∀ i ∈ r.invs, i ≤ r.wr) ∧
    (∀ d, ttl = some d → r.time < r.wr + d) ∧
    r.invs <:+ s.completedInv ∧ r.began ≤ r.time ∧ r.time ≤ s.now :=
  ConcG_get_fresh_cfg _ (Or.inl rfl) s hr r hmem

/-- The same guarantee for the code at its real granularity: fetch and test are two steps, clock
ticks, `invalidate_all` calls and other lookups fall in between, updates of the key do not (the
shard guard).  So taking the lookup as one step loses no violation of the guarantee. -/
theorem ConcG_get_fresh_guarded (ttl : Option Nat) (s : State)
    (hr : Reach { split := true, guard := true, ttl := ttl } s) (r : Ret)
    (hmem : r ∈ s.returned) :
    (r.value, r.wr) ∈ s.written ∧
    (∀ i ∈ r.invs, i ≤ r.wr) ∧
    (∀ d, ttl = some d → r.time < r.wr + d) ∧
    r.invs <:+ s.completedInv ∧ r.began ≤ r.time ∧ r.time ≤ s.now :=
  ConcG_get_fresh_cfg _ (Or.inr rfl) s hr r hmem

/-- With the atomic lookup nobody is ever between fetch and test; with the guard whoever is still
holds the CURRENT value entry, whose write time is the info's `last_modified`. -/
theorem ConcG_held_current (cfg : Cfg) (hgood : cfg.split = false ∨ cfg.guard = true)
    (s : State) (hr : Reach cfg s) :
    (cfg.split = false → s.held = []) ∧
    (∀ t p, (t, p) ∈ s.held → p.entry = s.cur) ∧
    (∀ v wr, s.cur = some (v, wr) → wr = s.lm) := by
  have hi := ConcG.reach_inv hgood hr
  exact ⟨hi.atomic, fun t p hp => (hi.held t p hp).1, fun v wr h => (hi.cur v wr h).1⟩

/-- The seeded change, no time-to-live. -/
def splitCfg : Cfg := { split := true, guard := false, ttl := none }

/-- The seeded change, time-to-live 5. -/
def splitTtlCfg : Cfg := { split := true, guard := false, ttl := some 5 }

/-- Value 1 written at 10; `invalidate_all` at 11; thread 3 begins a lookup at 11 and fetches
value 1; at 12 thread 1 updates the key; thread 3 tests the (refreshed) shared timestamps. -/
def splitEvs : List Ev :=
  [.tick 10, .insert 1 1,            -- value 1, written at 10, `last_modified = 10`
   .tick 1, .invAll 2,               -- `valid_after = 11`: value 1 is hidden, the call returns
   .getFetch 3,                      -- thread 3 begins `get` at 11, clones the entry of value 1
   .tick 1, .insert 1 2,             -- thread 1 updates: value 2, SHARED `last_modified = 12`
   .getTest 3]                       -- thread 3 tests `12 < 11`: "live" — returns value 1

/-- The same calls with the atomic lookup. -/
def atomicEvs : List Ev :=
  [.tick 10, .insert 1 1, .tick 1, .invAll 2, .get 3, .tick 1, .insert 1 2]

/-- Value 1 written at 10, time-to-live 5; at 15 thread 3 fetches it, thread 1 updates the key,
thread 3 tests the (refreshed) shared timestamps. -/
def splitTtlEvs : List Ev :=
  [.tick 10, .insert 1 1,            -- value 1, written at 10: expires at 15
   .tick 5,
   .getFetch 3,                      -- thread 3 begins `get` at 15, clones the entry of value 1
   .insert 1 2,                      -- thread 1 updates: value 2, SHARED `last_modified = 15`
   .getTest 3]                       -- thread 3 tests `15 + 5 ≤ 15`: "live" — returns value 1

def atomicTtlEvs : List Ev := [.tick 10, .insert 1 1, .tick 5, .get 3, .insert 1 2]

/-- **The seeded change returns a discarded value** (`split = true, guard = false`, by `decide`).
`splitEvs` is enabled and ends with ONE returned record: thread 3 got value 1, written at 10
(its only write: `written = [(2, 12), (1, 10)]`), by a lookup that began at 11, after the
`invalidate_all` with reading 11 had completed, and returned at 12.  `splitTtlEvs` (time-to-live
5): thread 3 got value 1, written at 10, at reading 15 = 10 + 5.  The same calls with the atomic
lookup return nothing; at the real granularity of the code as it is (`guard = true`) the
interleavings do not exist: the `insert` in the window is not enabled. -/
theorem ConcG_counterexample_split :
    runEvs splitCfg init splitEvs
        = some { now := 12, va := some 11, cur := some (2, 12), lm := 12,
                 written := [(2, 12), (1, 10)], held := [], completedInv := [11],
                 returned := [{ tid := 3, value := 1, wr := 10, began := 11, time := 12,
                                invs := [11] }] }
    ∧ runEvs splitTtlCfg init splitTtlEvs
        = some { now := 15, va := none, cur := some (2, 15), lm := 15,
                 written := [(2, 15), (1, 10)], held := [], completedInv := [],
                 returned := [{ tid := 3, value := 1, wr := 10, began := 15, time := 15,
                                invs := [] }] }
    ∧ (runEvs { split := false } init atomicEvs).map (·.returned) = some []
    ∧ (runEvs { split := false, ttl := some 5 } init atomicTtlEvs).map (·.returned) = some []
    ∧ runEvs { split := true, guard := true } init splitEvs = none
    ∧ runEvs { split := true, guard := true, ttl := some 5 } init splitTtlEvs = none := by
  refine ⟨by decide, by decide, by decide, by decide, by decide, by decide⟩

/-- The guarantee is not vacuous: the atomic lookup and the guarded split lookup do return
values — the fresh ones.  After `atomicEvs` (value 1 hidden by the `invalidate_all` at 11, value 2
written at 12) a lookup returns value 2; a guarded split lookup with a clock tick in its window
returns the value it fetched. -/
theorem ConcG_get_returns :
    (runEvs { split := false } init (atomicEvs ++ [.get 3])).map (·.returned)
        = some [{ tid := 3, value := 2, wr := 12, began := 12, time := 12, invs := [11] }]
    ∧ (runEvs { split := true, guard := true } init
          [.tick 10, .insert 1 1, .getFetch 3, .tick 1, .getTest 3]).map (·.returned)
        = some [{ tid := 3, value := 1, wr := 10, began := 10, time := 11, invs := [] }] := by
  refine ⟨by decide, by decide⟩

/-- The guarantee fails for the seeded change: a reachable state with a returned value ALL of
whose writes are strictly before an `invalidate_all` completed when the lookup began; and (with
time-to-live 5) a reachable state with a value returned at its write time plus time-to-live. -/
theorem ConcG_split_violates :
    (∃ s, Reach splitCfg s ∧ ∃ r ∈ s.returned, ∃ i ∈ r.invs,
        ∀ w, (r.value, w) ∈ s.written → w < i) ∧
    (∃ s, Reach splitTtlCfg s ∧ ∃ r ∈ s.returned,
        ∀ w, (r.value, w) ∈ s.written → w + 5 ≤ r.time) := by
  constructor
  · refine ⟨_, ConcG.reach_of_runEvs _ _ _ Reach.init ConcG_counterexample_split.1,
      _, List.mem_cons_self, 11, List.mem_cons_self, fun w hw => ?_⟩
    simp only [List.mem_cons, Prod.mk.injEq, List.not_mem_nil, or_false] at hw
    omega
  · refine ⟨_, ConcG.reach_of_runEvs _ _ _ Reach.init ConcG_counterexample_split.2.1,
      _, List.mem_cons_self, fun w hw => ?_⟩
    simp only [List.mem_cons, Prod.mk.injEq, List.not_mem_nil, or_false] at hw
    show w + 5 ≤ 15
    omega

/-- **Split, uninterrupted, is atomic.**  In the split variants (with or without the guard),
`getFetch t ; getTest t` run back to back (no step of another thread in between) is exactly the
atomic `get t`. -/
theorem ConcG_split_uninterrupted (guard guard' : Bool) (ttl : Option Nat) (s : State) (t : Tid)
    (hfree : AL.get? s.held t = none) :
    runEvs { split := true, guard := guard, ttl := ttl } s [.getFetch t, .getTest t]
      = step { split := false, guard := guard', ttl := ttl } s (.get t) := by
  simp only [runEvs, step, hfree, if_true, AL.get?_put_self, AL.erase_put_of_none _ hfree,
    Bool.false_eq_true, if_false]

end Props
end MiniMoka

#print axioms MiniMoka.Props.ConcG_get_fresh_cfg
#print axioms MiniMoka.Props.ConcG_get_fresh
#print axioms MiniMoka.Props.ConcG_get_fresh_guarded
#print axioms MiniMoka.Props.ConcG_held_current
#print axioms MiniMoka.Props.ConcG_counterexample_split
#print axioms MiniMoka.Props.ConcG_get_returns
#print axioms MiniMoka.Props.ConcG_split_violates
#print axioms MiniMoka.Props.ConcG_split_uninterrupted
