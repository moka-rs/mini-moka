/-
  C07 — invalidation is immediate, permanent and precise.
-/
import MiniMoka.Lemmas.UnsyncPrecise
import MiniMoka.Lemmas.SyncFrame
import MiniMoka.Lemmas.SketchLaws
import MiniMoka.Props.C01

namespace MiniMoka
namespace Props

open Spec

/-- Immediate and permanent, single-threaded cache: for every configuration and history, once
`invalidate(k)`, `invalidate_all()` or `invalidate_entries_if(p)` has returned, no lookup
yields a targeted entry until its key is inserted again (the reference marks the entry dead at
the call; a yielded key must be alive in the reference).  This is the first conjunct of
`oracleC07 .unsync`; the second, `preciseC07`, is proved on states
(`C07_precise_invalidate_entries_if`, `C07_precise_invalidate_all`), not on traces. -/
theorem C07_unsync (p : Params) (hq : Unsync.NoQuirks p) (hsm : SmallSketch p) (h : List Op) :
    lookupOracle .unsync checkC07 {} (Unsync.trace p h) = true :=
  lookup_unsync p hq hsm _ (fun _ _ hkv => checkC07_of_checkC01 (unsync_allChecks_iff.mp hkv).1) h

/-- Immediate and permanent, concurrent cache driven by one thread (any `sync` placement, any
queue state, invalidations issued while inserts and reads of the same keys are still queued):
`invalidate_all` targets what was inserted at a strictly earlier clock reading. -/
theorem C07_sync (p : Params) (hq : Sync.NoQuirks p) (h : List Op) :
    lookupOracle .sync checkC07 {} (Sync.trace p h) = true :=
  lookup_sync p hq _ (Sync.checkC07_of_allChecks p) h

/-- Precise (single-threaded cache): `invalidate_entries_if(pred)` removes exactly the entries
satisfying the predicate — every other entry stays, with its value. -/
theorem C07_precise_invalidate_entries_if {p : Params} (hq : Unsync.NoQuirks p) {s : Unsync.UState}
    (hi : Unsync.Inv Sketch.Good p s) (pr : Pred) (k : Nat) (e : Unsync.UEntry) :
    AL.get? (Unsync.invalidateEntriesIf p s pr).map k = some e ↔
      (AL.get? s.map k = some e ∧ pr.eval k e.val = false) :=
  Unsync.invalidateEntriesIf_exact hq hi pr k e

/-- Precise: `invalidate(k)` removes `k` from what the purge at its start leaves, nothing else. -/
theorem C07_precise_invalidate {p : Params} (hq : Unsync.NoQuirks p) {s : Unsync.UState}
    (hi : Unsync.Inv Sketch.Good p s) (k k' : Nat) :
    AL.get? (Unsync.invalidate p s k).map k' =
      if k = k' then none else AL.get? (Unsync.maintain p s).map k' :=
  Unsync.invalidate_exact hq hi k k'

/-- Precise: `invalidate_all()` of the single-threaded cache empties it. -/
theorem C07_precise_invalidate_all (p : Params) (s : Unsync.UState) :
    (Unsync.invalidateAll p s).map = [] := rfl

/-- Precise (concurrent cache): `invalidate_all()` touches nothing but the watermark, and an
entry inserted or updated at the call's clock reading or later that was observable stays
observable. -/
theorem C07_precise_sync_invalidate_all (p : Params) (s : Sync.SState) (k : Nat) (ve : Sync.VE)
    (hk : AL.get? s.map k = some ve) (hlm : s.now ≤ (Sync.getInfo s ve.info).lm)
    (hla : s.now ≤ (Sync.getInfo s ve.info).la) (hobs : Sync.containsKey p s k = true) :
    (Sync.invalidateAll s).map = s.map ∧ (Sync.invalidateAll s).infos = s.infos ∧
    Sync.containsKey p (Sync.invalidateAll s) k = true := by
  refine ⟨rfl, rfl, ?_⟩
  have hinfo : Sync.getInfo (Sync.invalidateAll s) ve.info = Sync.getInfo s ve.info := rfl
  simp only [Sync.containsKey, hk, Bool.not_eq_true', Sync.isExpiredInfo, Bool.or_eq_false_iff,
    Sync.expiredTs] at hobs
  obtain ⟨⟨_, t1⟩, ⟨_, t2⟩⟩ := hobs
  have hk' : AL.get? (Sync.invalidateAll s).map k = some ve := hk
  simp only [Sync.containsKey, hk', hinfo, Bool.not_eq_true', Sync.isExpiredInfo,
    Bool.or_eq_false_iff, Sync.expiredTs]
  have h1 : ¬ (Sync.getInfo s ve.info).lm < s.now := by omega
  have h2 : ¬ (Sync.getInfo s ve.info).la < s.now := by omega
  refine ⟨⟨?_, t1⟩, ⟨?_, t2⟩⟩ <;> simp [Sync.invalidateAll, h1, h2]

-- Readers against an invalidating thread, all interleavings: `ConcR.C07_reader` (Props/C02.lean).

example : lookupOracle .unsync checkC07 {} (Unsync.trace { cap := some 3, ttl := some 9 }
    [.ins 1 1, .ins 2 2, .inv 1, .get 1, .has 1, .iter, .ins 1 3, .get 1, .invIf (.vlt 3), .get 2,
     .get 1, .invAll, .iter, .ins 2 5, .get 2]) = true := by decide +kernel

example : lookupOracle .sync checkC07 {} (Sync.trace { cap := some 3 }
    [.ins 1 1, .inv 1, .get 1, .ins 1 2, .get 1, .adv 5, .invAll, .get 1, .ins 1 3, .sync, .get 1,
     .iter]) = true := by decide +kernel

/-- The oracle rejects a trace in which an invalidated entry reappears. -/
example : lookupOracle .unsync checkC07 {}
    [(.ins 1 1, .ok), (.inv 1, .ok), (.adv 3, .ok), (.get 1, .val (some 1))] = false := by decide

end Props
end MiniMoka
