/-
  C15: `contains_key` and iteration are pure observations.

  Concurrent cache: in full strength, for every configuration (quirks included), every state
  (faulted or not) and every history.  Single-threaded cache: `iter` likewise; `contains_key` is
  NOT pure there (known finding D9, confirmed on the real code: it runs the expiry purge and the
  size eviction before looking).  What is proved of it: it is pure when that maintenance has
  nothing to do (not the converse), and `C15_unsync_counterexample` exhibits two histories that
  differ by one `contains_key` call only and whose final `get` observations differ.
-/
import MiniMoka.Lemmas.SyncPure
import MiniMoka.Lemmas.Purity
import MiniMoka.Props.C08Unsync

namespace MiniMoka
namespace Props

/-- `contains_key`, `iter` (and the two read-only harness hooks) of the concurrent cache
return the state they were called in, whatever it is. -/
theorem C15_sync_step (p : Params) (s : Sync.SState) (op : Op) (h : isPure op = true) :
    (Sync.step p s op).1 = s :=
  Sync.step_pure p s op h

/-- Metamorphic form: for every configuration, start state and history, removing all
`contains_key` / `iter` / `snap` / `freq` calls removes exactly their own observations;
every other observation is unchanged. -/
theorem C15_sync (p : Params) (s : Sync.SState) (h : List Op) :
    (Sync.run p s h).filter (fun oo => !isPure oo.1) =
      Sync.run p s (h.filter (fun op => !isPure op)) :=
  Sync.run_filter_pure p h s

/-- The same on traces from the empty cache. -/
theorem C15_sync_trace (p : Params) (h : List Op) :
    (Sync.trace p h).filter (fun oo => !isPure oo.1) =
      Sync.trace p (h.filter (fun op => !isPure op)) :=
  C15_sync p {} h

/-- Two histories with the same non-pure calls have the same non-pure observations. -/
theorem C15_sync_congr (p : Params) (s : Sync.SState) (h1 h2 : List Op)
    (heq : h1.filter (fun op => !isPure op) = h2.filter (fun op => !isPure op)) :
    (Sync.run p s h1).filter (fun oo => !isPure oo.1) =
      (Sync.run p s h2).filter (fun oo => !isPure oo.1) := by
  rw [C15_sync, C15_sync, heq]

/-- Adding one pure call anywhere in a history changes no other observation. -/
theorem C15_sync_insert_anywhere (p : Params) (s : Sync.SState) (pre post : List Op) (op : Op)
    (hop : isPure op = true) :
    (Sync.run p s (pre ++ op :: post)).filter (fun oo => !isPure oo.1) =
      (Sync.run p s (pre ++ post)).filter (fun oo => !isPure oo.1) := by
  apply C15_sync_congr
  rw [List.filter_append, List.filter_append, List.filter_cons_of_neg (by simpa using hop)]

/-- Single-threaded cache: an operation that `isPureU` accepts (`iter`, and the harness hooks)
leaves the state as it is. -/
theorem C15_unsync_iter_step (p : Params) (s : Unsync.UState) (op : Op)
    (h : isPureU op = true) : (Unsync.step p s op).1 = s :=
  Unsync.step_pureU p s op h

/-- `iter` (and the hooks `snap`, `freq`) of the single-threaded cache are pure: removing
them from a history removes exactly their observations. -/
theorem C15_unsync_iter (p : Params) (s : Unsync.UState) (h : List Op) :
    (Unsync.run p s h).filter (fun oo => !isPureU oo.1) =
      Unsync.run p s (h.filter (fun op => !isPureU op)) :=
  Unsync.run_filter_pureU p h s

/- Full-strength statement for `contains_key`, which is FALSE for the single-threaded cache
   (see `C15_unsync_counterexample`):
     ∀ p s h, (Unsync.run p s h).filter (fun oo => !isPure oo.1)
                = Unsync.run p s (h.filter (fun op => !isPure op))
   What holds is the following. -/

/-- `contains_key` of the single-threaded cache is pure when its start-of-operation
maintenance has nothing to do: in a well-structured state (`Struct`: the invariant of every
reachable state, `C08_unsync_structure`) where no resident is expired at the current clock
reading and nothing is to be evicted for size, the state is returned unchanged and the answer
is whether the key is in the map. -/
theorem C15_unsync_contains_key_partial {p : Params} {s : Unsync.UState}
    (hs : Unsync.Struct p s) (hne : Unsync.NoneExpired p s)
    (hfit : Unsync.weightsToEvict p s = 0) (k : Nat) :
    (Unsync.containsKey p s k).1 = s ∧
    (Unsync.containsKey p s k).2 = (AL.get? s.map k).isSome ∧
    (Unsync.step p s (.has k)).1 = s := by
  have hc := Unsync.containsKey_of_noop (Unsync.maintain_noop hs hne hfit) hne k
  refine ⟨by rw [hc], by rw [hc], ?_⟩
  rw [Unsync.step_state hs.noFault]
  exact congrArg Prod.fst hc

/-- The two maintenance passes taken separately: the expiry purge is the identity when no
resident is expired, the size eviction is the identity when the cache is not over capacity. -/
theorem C15_unsync_maintenance_noop {p : Params} {s : Unsync.UState} :
    (Unsync.Struct p s → Unsync.NoneExpired p s → Unsync.evictExpired p s = s) ∧
    (Unsync.weightsToEvict p s = 0 → Unsync.evictLru p s = s) :=
  ⟨fun hs hne => Unsync.evictExpired_noop hs hne, fun h => Unsync.evictLru_noop h⟩

/-- In every reachable state of the (repaired) single-threaded cache: if no resident is
expired now and the cache is not over capacity, `contains_key` changes nothing. -/
theorem C15_unsync_contains_key_reachable (p : Params) (hq : Unsync.NoQuirks p)
    (hsm : SmallSketch p) (h : List Op) (k : Nat)
    (hne : Unsync.NoneExpired p (Unsync.runState p {} h))
    (hfit : Unsync.weightsToEvict p (Unsync.runState p {} h) = 0) :
    (Unsync.step p (Unsync.runState p {} h) (.has k)).1 = Unsync.runState p {} h :=
  (C15_unsync_contains_key_partial (C08_unsync_structure p hq hsm h) hne hfit k).2.2

def d9Params : Params := { cap := some 8, hasWeigher := true, w := fun _ v => v }

/-- Three entries of weight 2; key 3 is updated in place to weight 7 (weighted size 11 > 8);
the heavy entry is invalidated by predicate (which runs no maintenance); key 1, the LRU
entry, is still there. -/
def d9Without : List Op :=
  [.ins 1 2, .ins 2 2, .ins 3 2, .ins 3 7, .invIf (.kmod 3 0), .get 1]

/-- The same with one `contains_key` of an absent key before the invalidation: it finds the
cache over capacity and evicts keys 1 and 2. -/
def d9With : List Op :=
  [.ins 1 2, .ins 2 2, .ins 3 2, .ins 3 7, .has 99, .invIf (.kmod 3 0), .get 1]

def obsVal : Obs → Option (Option Nat)
  | .val v => some v
  | _ => none

/-- The two traces, evaluated once: what their final `get` observes, with and without the pure
calls filtered out of the longer one. -/
theorem d9_traces :
    ((Unsync.run d9Params {} d9Without).getLast?.map (fun oo => obsVal oo.2)
      = some (some (some 2))) ∧
    ((Unsync.run d9Params {} d9With).getLast?.map (fun oo => obsVal oo.2) = some (some none)) ∧
    (((Unsync.run d9Params {} d9With).filter (fun oo => !isPure oo.1)).getLast?.map
      (fun oo => obsVal oo.2) = some (some none)) := by
  decide +kernel

/-- Known finding D9, on the repaired model (no quirk switch set): the two histories differ
by one `contains_key` call only, yet the final `get 1` returns the value in one and nothing
in the other; consequently the metamorphic equation of `C15_sync` fails for `Unsync`. -/
theorem C15_unsync_counterexample :
    d9Params.q = {} ∧
    d9With.filter (fun op => !isPure op) = d9Without ∧
    ((Unsync.trace d9Params d9Without).getLast?.map (fun oo => obsVal oo.2)
      = some (some (some 2))) ∧
    ((Unsync.trace d9Params d9With).getLast?.map (fun oo => obsVal oo.2)
      = some (some none)) ∧
    (Unsync.run d9Params {} d9With).filter (fun oo => !isPure oo.1) ≠
      Unsync.run d9Params {} (d9With.filter (fun op => !isPure op)) := by
  have hf : d9With.filter (fun op => !isPure op) = d9Without := by decide
  refine ⟨rfl, hf, d9_traces.1, d9_traces.2.1, ?_⟩
  intro heq
  have h2 := congrArg (fun l => l.getLast?.map (fun oo => obsVal oo.2)) heq
  rw [hf] at h2
  exact absurd (d9_traces.2.2.symm.trans (h2.trans d9_traces.1)) (by decide)

/-- `C15_sync` on a history where the pure calls sit between inserts, reads, an
invalidation, a maintenance run and clock steps (ttl configured, so `has` / `iter` have
expired entries to filter): both sides are non-trivial and equal. -/
example :
    let p : Params := { cap := some 3, ttl := some 10 }
    let h : List Op := [.ins 1 10, .has 1, .ins 2 20, .iter, .get 1, .adv 6, .has 2, .ins 3 30,
      .ins 4 40, .iter, .sync, .has 4, .iter, .adv 6, .has 1, .iter, .get 1, .inv 3, .has 3, .get 3]
    ((Sync.trace p h).filter (fun oo => !isPure oo.1)).map (fun oo => obsVal oo.2) =
      (Sync.trace p (h.filter (fun op => !isPure op))).map (fun oo => obsVal oo.2) ∧
    ((Sync.trace p h).filter (fun oo => !isPure oo.1)).length = 11 ∧
    (Sync.trace p h).length = 20 := by
  decide +kernel

/-- The pure calls do observe something: `has` answers change along that history. -/
example :
    let p : Params := { cap := some 3, ttl := some 10 }
    let h : List Op := [.ins 1 10, .has 1, .adv 11, .has 1, .has 2]
    (Sync.trace p h).map (fun oo => match oo.2 with | .bool b => some b | _ => none) =
      [none, some true, none, some false, some false] := by
  decide +kernel

/-- `C15_unsync_iter` on a small history with expiry. -/
example :
    let p : Params := { cap := some 3, tti := some 10 }
    let h : List Op := [.ins 1 10, .iter, .ins 2 20, .snap, .get 1, .adv 6, .freq 1, .ins 3 30,
      .iter, .adv 6, .iter, .get 1, .get 2]
    ((Unsync.trace p h).filter (fun oo => !isPureU oo.1)).map (fun oo => obsVal oo.2) =
      (Unsync.trace p (h.filter (fun op => !isPureU op))).map (fun oo => obsVal oo.2) ∧
    ((Unsync.trace p h).filter (fun oo => !isPureU oo.1)).length = 8 := by
  decide +kernel

/-- The hypotheses of `C15_unsync_contains_key_partial` (nothing to evict, no resident
expired) are met by a reachable state with residents, and `contains_key` then answers
membership. -/
example :
    let p : Params := { cap := some 3, ttl := some 10 }
    let s := Unsync.runState p {} [.ins 1 10, .ins 2 20, .adv 5]
    Unsync.weightsToEvict p s = 0 ∧
    (s.map.all (fun kv => !Unsync.isExpiredEntry p s kv.2 s.now)) = true ∧
    s.map.length = 2 ∧
    (Unsync.containsKey p s 1).2 = true ∧ (Unsync.containsKey p s 7).2 = false := by
  decide +kernel

/-- … and when an entry is expired, `contains_key` does change the state (it purges). -/
example :
    let p : Params := { cap := some 3, ttl := some 10 }
    let s := Unsync.runState p {} [.ins 1 10, .ins 2 20, .adv 11]
    s.map.length = 2 ∧ (Unsync.containsKey p s 1).1.map.length = 0 := by
  decide +kernel

end Props
end MiniMoka

section
open MiniMoka.Props
#print axioms C15_sync_step
#print axioms C15_sync
#print axioms C15_sync_trace
#print axioms C15_sync_insert_anywhere
#print axioms C15_unsync_iter
#print axioms C15_unsync_contains_key_partial
#print axioms C15_unsync_maintenance_noop
#print axioms C15_unsync_contains_key_reachable
#print axioms C15_unsync_counterexample
end
