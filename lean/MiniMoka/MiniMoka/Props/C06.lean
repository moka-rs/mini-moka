/-
  C06 — time-to-idle: no entry is observable after tti without an access.
-/
import MiniMoka.Lemmas.UnsyncLookup
import MiniMoka.Lemmas.SyncLookup
import MiniMoka.Props.C01

namespace MiniMoka
namespace Props

open Unsync Spec

/-- C06 on the single-threaded cache: with `time_to_idle = d`, for every configuration and
history, a key yielded by a lookup at reading `now` satisfies `now < a + d`, where `a` is the
reading of its most recent insert, update or *successful get*; `contains_key` and iteration
never count as an access (the reference bookkeeping does not record them, so if they
extended the idle timer the bound would fail). -/
theorem C06_unsync (p : Params) (hq : NoQuirks p)
    (hsm : SmallSketch p) (h : List Op) :
    oracleC06 .unsync p.tti (Unsync.trace p h) = true :=
  lookup_unsync p hq hsm _ (fun _ _ hkv => (unsync_allChecks_iff.mp hkv).2.2) h

example : oracleC06 .unsync (some 3) (Unsync.trace { tti := some 3 }
    [.ins 1 10, .adv 2, .get 1, .adv 2, .has 1, .iter, .adv 1, .get 1, .ins 2 5, .adv 2, .has 2,
     .adv 1, .has 2, .iter]) = true := by
  decide +kernel

/-- The oracle rejects a trace in which `contains_key` had extended the idle timer. -/
example : oracleC06 .unsync (some 3)
    [(.ins 1 10, .ok), (.adv 2, .ok), (.has 1, .bool true), (.adv 2, .ok), (.get 1, .val (some 10))]
    = false := by
  decide

/-- C06 on the concurrent cache driven by one thread: for every configuration, history and
`sync` placement, a key yielded at reading `now` satisfies `now < a + tti`, `a` being the
reading of its most recent insert, update or successful get — in particular a read that is
applied late can never move the idle deadline beyond that (and, after the D6 repair, never
backwards, which is C03's half). -/
theorem C06_sync (p : Params) (hq : Sync.NoQuirks p) (h : List Op) :
    oracleC06 .sync p.tti (Sync.trace p h) = true :=
  lookup_sync p hq _ (Sync.checkC06_of_allChecks p) h

example : oracleC06 .sync (some 3) (Sync.trace { tti := some 3 }
    [.ins 1 10, .adv 2, .get 1, .adv 2, .has 1, .iter, .sync, .adv 1, .get 1, .ins 2 5, .adv 2,
     .has 2, .adv 1, .has 2, .iter]) = true := by
  decide +kernel

end Props
end MiniMoka
