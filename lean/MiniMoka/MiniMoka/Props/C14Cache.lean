/-
  C14, clause "only `get` calls (hit or miss, each at most once) are ever recorded, never
  `insert`, `contains_key`, iteration or invalidation" — on the two cache models.
  (The clauses about the estimator itself are in `Props/C14.lean`.)

  `s.sk` is the cache's `frequency_sketch`, `s.skOn` its `frequency_sketch_enabled`; the notions
  the statements use (`Sketch.incr1`, `feed`, `Enabled`, `getHashes`, `Sync.readOf`,
  `Sync.SkF.newReads`) are defined in `Lemmas/SketchFeed.lean` and `Lemmas/SketchFrame.lean`;
  `Sketch.init cap` is a freshly sized sketch, all its estimates 0.
  `legacy` is the defect switch `p.q.d5` (D5), `false` for the current code.  The empty sketch `{}`
  ignores increments (`Sketch.increment_of_empty`: `if self.table.is_empty() { return; }`), so a
  lookup made before the sketch is switched on is recorded zero times.

  Hypotheses: `NoQuirks p` (all defect switches off: the current code) and `SmallSketch p` (sketch
  table below 2^28 slots, the documented limit) wherever a statement talks about *reachable*
  states, because that is what the invariants "no fault" and "flag off → sketch empty" are proved
  under.  The state-level statements need no such hypothesis.
-/
import MiniMoka.Lemmas.SketchFrame
import MiniMoka.Lemmas.UnsyncSketch
import MiniMoka.Props.C14

namespace MiniMoka
namespace Props

/-! ## The single-threaded cache -/

/-- State level, any configuration (quirks included), any state: an operation other than
`get` either leaves the sketch and its flag alone or switches the sketch on (flag off → on,
`ensure_capacity`); an operation other than `get` and `insert` leaves them alone. -/
theorem C14_unsync_nonget_frame (p : Params) (s : Unsync.UState) (op : Op)
    (hop : ∀ k, op ≠ .get k) :
    Enabled s.sk s.skOn (Unsync.step p s op).1.sk (Unsync.step p s op).1.skOn ∧
    ((∀ k v, op ≠ .ins k v) →
      (Unsync.step p s op).1.sk = s.sk ∧ (Unsync.step p s op).1.skOn = s.skOn) :=
  ⟨Unsync.SkF.step_en p s op hop, fun hins => Unsync.SkF.step_same p s op hop hins⟩

/-- State level, under the invariant of reachable states: for an operation other than `get`
either the sketch is unchanged, or it has just been switched on *from the empty sketch*: it
had recorded nothing, and is now a freshly sized sketch (all estimates 0 before and after). -/
theorem C14_unsync_nonget_state {P : Sketch → Prop} {p : Params} {s : Unsync.UState}
    (hi : Unsync.Inv P p s) (op : Op) (hop : ∀ k, op ≠ .get k) :
    ((Unsync.step p s op).1.sk = s.sk ∧ (Unsync.step p s op).1.skOn = s.skOn) ∨
    (s.skOn = false ∧ s.sk = {} ∧ (Unsync.step p s op).1.skOn = true ∧
      ∃ cap, (Unsync.step p s op).1.sk = Sketch.init cap) := by
  rcases Unsync.SkF.step_en p s op hop with h | ⟨h1, h2, cap, h3⟩
  · exact Or.inl h
  · refine Or.inr ⟨h1, hi.skOff h1, h2, cap, ?_⟩
    rw [h3, hi.skOff h1]; rfl

/-- **Only lookups are recorded (unsync).**  In every reachable state, an operation other
than `get` (insert, contains_key, iteration, invalidate, invalidate_all,
invalidate_entries_if, clock steps, the hooks) changes no popularity estimate. -/
theorem C14_unsync_only_get_records (p : Params) (hq : Unsync.NoQuirks p) (hsm : SmallSketch p)
    (h : List Op) (op : Op) (hop : ∀ k, op ≠ .get k) (x : UInt64) :
    (Unsync.step p (Unsync.runState p {} h) op).1.sk.frequency x =
      (Unsync.runState p {} h).sk.frequency x :=
  (Unsync.SkF.step_en p _ op hop).frequency
    (Unsync.reachable_inv sketchLaws hq hsm h).skOff x

/-- State level, any configuration: in a fault-free state `get k` records the hash of `k`
exactly once — one `increment` on the sketch as the maintenance `get` starts with leaves it,
and that maintenance does not touch the sketch — whether the lookup hits, misses or finds an
expired entry. -/
theorem C14_unsync_get_records_once_state (p : Params) (s : Unsync.UState) (k : Nat)
    (hf : s.fault = none) :
    (Unsync.step p s (.get k)).1.sk = Sketch.incr1 p.q.d5 (Unsync.maintain p s).sk (p.hash k) ∧
    (Unsync.maintain p s).sk = s.sk ∧
    (Unsync.step p s (.get k)).1.skOn = s.skOn :=
  ⟨(Unsync.SkF.step_get p s k hf).1, (Unsync.SkF.maintain_sk p s).1,
    (Unsync.SkF.step_get p s k hf).2⟩

/-- **`get` records once (unsync).**  In every reachable state `s`, the sketch after `get k`
is exactly `increment (hash k)` of the sketch of `s` (which never faults); the flag is
unchanged. -/
theorem C14_unsync_get_records_once (p : Params) (hq : Unsync.NoQuirks p) (hsm : SmallSketch p)
    (h : List Op) (k : Nat) :
    Sketch.increment false (Unsync.runState p {} h).sk (p.hash k) =
      .ok (Unsync.step p (Unsync.runState p {} h) (.get k)).1.sk ∧
    (Unsync.maintain p (Unsync.runState p {} h)).sk = (Unsync.runState p {} h).sk ∧
    (Unsync.step p (Unsync.runState p {} h) (.get k)).1.skOn = (Unsync.runState p {} h).skOn := by
  have hi := Unsync.reachable_inv sketchLaws hq hsm h
  obtain ⟨h1, h2, h3⟩ :=
    C14_unsync_get_records_once_state p _ k hi.inv.struct.noFault
  refine ⟨?_, h2, h3⟩
  have hd5 : p.q.d5 = false := by rw [hq]
  obtain ⟨sk', e, _⟩ := sketchLaws.incr _ (p.hash k) hi.sk
  rw [h1, h2, hd5, e]
  unfold Sketch.incr1
  rw [e]

/-! ## The concurrent cache (driven by one thread) -/

open Sync Sync.SkF Sync.Nodes

/-- **(b) combined, state level** (any configuration; `QInv`: between two calls of the one
thread, which holds in every reachable state).  For every operation: a prefix `drained` of
the read queue — nothing, or all of it — was removed from the queue and recorded in the
sketch in queue order; what the operation itself queues (`newReads`: one read for a `get`,
nothing otherwise) is appended behind the rest, hence not recorded yet; after the recording
the sketch may have been switched on. -/
theorem C14_sync_step_feed_state (p : Params) {s : SState} (hq : QInv s) (op : Op) :
    ∃ drained rest, s.readQ = drained ++ rest ∧ (drained = [] ∨ rest = []) ∧
      (step p s op).1.readQ = rest ++ newReads p s op ∧
      Enabled (Sketch.feed p.q.d5 s.sk (drained.map ROp.hash)) s.skOn
        (step p s op).1.sk (step p s op).1.skOn :=
  step_drain p hq op

/-- **(a) Only `get` queues reads.**  In every reachable state (any configuration, quirks
included), after an operation other than `get` the read queue is a suffix of the read queue
before: nothing is appended; the maintenance the operation may run has drained nothing or
everything. -/
theorem C14_sync_only_get_queues_reads (p : Params) (h : List Op) (op : Op)
    (hop : ∀ k, op ≠ .get k) :
    ∃ drained, (stateAfter p {} h).readQ = drained ++ (step p (stateAfter p {} h) op).1.readQ ∧
      (drained = [] ∨ (step p (stateAfter p {} h) op).1.readQ = []) := by
  obtain ⟨d, r, h1, h2, h3, _⟩ := C14_sync_step_feed_state p (stateAfter_qinv p h qinv_init) op
  rw [newReads_of_not_get p _ op hop, List.append_nil] at h3
  rw [h3]
  exact ⟨d, h1, h2⟩

/-- **(a) `get` queues exactly one read.**  In every reachable fault-free state, after `get k`
the read queue is what the maintenance left of the old queue (all of it, or nothing) followed
by exactly one read operation, `readOf p s k`: a hit or a miss carrying the hash of `k`.  (It
is never dropped: `C09_sync_read_never_dropped`.) -/
theorem C14_sync_get_queues_one_read (p : Params) (h : List Op) (k : Nat)
    (hf : (stateAfter p {} h).fault = none) :
    ∃ drained rest, (stateAfter p {} h).readQ = drained ++ rest ∧ (drained = [] ∨ rest = []) ∧
      (step p (stateAfter p {} h) (.get k)).1.readQ = rest ++ [readOf p (stateAfter p {} h) k] ∧
      (readOf p (stateAfter p {} h) k).hash = p.hash k ∧
      (readOf p (stateAfter p {} h) k = .miss (p.hash k) ∨
        ∃ ve ts, readOf p (stateAfter p {} h) k = .hit (p.hash k) ve ts) := by
  obtain ⟨d, r, h1, h2, h3, _⟩ :=
    C14_sync_step_feed_state p (stateAfter_qinv p h qinv_init) (.get k)
  rw [newReads_get p _ k hf] at h3
  refine ⟨d, r, h1, h2, h3, readOf_hash p _ k, ?_⟩
  unfold readOf
  split
  · exact Or.inl rfl
  · split
    · exact Or.inl rfl
    · exact Or.inr ⟨_, _, rfl⟩

/-- The same for the current code: reachable states are fault-free. -/
theorem C14_sync_get_queues_one_read' (p : Params) (hq : Sync.NoQuirks p) (hsm : SmallSketch p)
    (h : List Op) (k : Nat) :
    ∃ drained rest, (stateAfter p {} h).readQ = drained ++ rest ∧ (drained = [] ∨ rest = []) ∧
      (step p (stateAfter p {} h) (.get k)).1.readQ = rest ++ [readOf p (stateAfter p {} h) k] ∧
      (readOf p (stateAfter p {} h) k).hash = p.hash k :=
  have ⟨d, r, h1, h2, h3, h4, _⟩ :=
    C14_sync_get_queues_one_read p h k (reachable_ok sketchLaws hq hsm h).1
  ⟨d, r, h1, h2, h3, h4⟩

/-- **(b) The sketch is fed by applying recorded reads only** — the pieces, for any
configuration and any state:
 1. `apply_writes` (admission, updates, removals), `evict_expired`, `evict_lru_entries`
    leave the sketch and its flag alone;
 2. `apply_reads` of one read operation is exactly one `increment` with that operation's hash,
    and of `n` operations the `feed` of the first `n` queued hashes, in queue order;
 3. the sketch is switched on only while its flag is off, and the new sketch is
    `ensure_capacity` of the old one. -/
theorem C14_sync_sketch_fed_by_reads_only (p : Params) :
    (∀ n s, SkSame s (applyWrites p n s)) ∧
    (∀ s, SkSame s (evictExpired p s)) ∧
    (∀ n s wte ev, SkSame s (evictLruLoop p n s wte ev)) ∧
    (∀ s op, (applyRead p s op).sk = Sketch.incr1 p.q.d5 s.sk op.hash ∧
      (applyRead p s op).skOn = s.skOn) ∧
    (∀ n s, (applyReads p n s).sk = Sketch.feed p.q.d5 s.sk ((s.readQ.take n).map ROp.hash) ∧
      (applyReads p n s).skOn = s.skOn) ∧
    (∀ s, shouldEnableSketch p s = true →
      Enabled s.sk s.skOn (enableSketch p s).sk (enableSketch p s).skOn ∧ s.skOn = false) :=
  ⟨fun n s => applyWrites_sk p n s, fun s => (evictExpired_maint p s).skSame,
   fun n s wte ev => (evictLruLoop_maint p n s wte ev).skSame, fun s op => applyRead_sk p s op,
   fun n s => applyReads_sk p n s,
   fun s hen => ⟨enableSketch_en p s hen, shouldEnableSketch_off hen⟩⟩

/-- (b) Enabling happens on a sketch that has recorded nothing: where the invariant of
reachable states holds (`SkOK`: flag off → sketch empty), `enable_frequency_sketch` turns the
empty sketch into a freshly sized one. -/
theorem C14_sync_enable_from_empty {P : Sketch → Prop} (p : Params) {s : SState}
    (hk : SkOK P s) (hen : shouldEnableSketch p s = true) :
    s.sk = {} ∧ ((enableSketch p s).sk = {} ∨ ∃ cap, (enableSketch p s).sk = Sketch.init cap) := by
  obtain ⟨he, hoff⟩ := (C14_sync_sketch_fed_by_reads_only p).2.2.2.2.2 s hen
  have h0 := hk.skOff hoff
  refine ⟨h0, ?_⟩
  rcases he with ⟨h1, _⟩ | ⟨_, _, cap, h3⟩
  · exact Or.inl (h1.trans h0)
  · exact Or.inr ⟨cap, by rw [h3, h0]; rfl⟩

/-- **(b) combined, reachable states of the current code.**  For every history `h` and every
next operation `op`, with `s` the state after `h` and `s'` the state after `op`: there is a
prefix `drained` of `s.readQ` (nothing or all of it) such that `s'.readQ` is the rest followed
by the read `op` queues itself, and
 * either the flag is unchanged and `s'.sk` is `s.sk` with the hashes of `drained` recorded
   in queue order, none of these increments faulting,
 * or the sketch was switched on in this step: it was empty (the drained reads were applied
   to the empty sketch, which ignores them) and `s'.sk` is a freshly sized sketch. -/
theorem C14_sync_step_feed (p : Params) (hq : Sync.NoQuirks p) (hsm : SmallSketch p)
    (h : List Op) (op : Op) :
    ∃ drained rest, (stateAfter p {} h).readQ = drained ++ rest ∧ (drained = [] ∨ rest = []) ∧
      (step p (stateAfter p {} h) op).1.readQ = rest ++ newReads p (stateAfter p {} h) op ∧
      (((step p (stateAfter p {} h) op).1.skOn = (stateAfter p {} h).skOn ∧
        (step p (stateAfter p {} h) op).1.sk =
          Sketch.feed false (stateAfter p {} h).sk (drained.map ROp.hash) ∧
        (drained.map ROp.hash).foldlM (Sketch.increment false) (stateAfter p {} h).sk =
          .ok (step p (stateAfter p {} h) op).1.sk) ∨
       ((stateAfter p {} h).skOn = false ∧ (stateAfter p {} h).sk = {} ∧
        (step p (stateAfter p {} h) op).1.skOn = true ∧
        ∃ cap, (step p (stateAfter p {} h) op).1.sk = Sketch.init cap)) := by
  obtain ⟨_, hk, hqi⟩ := reachable_ok sketchLaws hq hsm h
  have hd5 : p.q.d5 = false := by rw [hq]
  obtain ⟨d, r, h1, h2, h3, h4⟩ := C14_sync_step_feed_state p hqi op
  rw [hd5] at h4
  refine ⟨d, r, h1, h2, h3, ?_⟩
  rcases h4 with ⟨e1, e2⟩ | ⟨e1, e2, cap, e3⟩
  · refine Or.inl ⟨e2, e1, ?_⟩
    rw [e1]
    exact Sketch.feed_ok sketchLaws _ hk.sk
  · refine Or.inr ⟨e1, hk.skOff e1, e2, cap, ?_⟩
    rw [e3, hk.skOff e1, Sketch.feed_default]; rfl

/-- The operations that neither queue an operation nor run maintenance (`contains_key`,
iteration, `invalidate_all`, clock steps, the hooks) change neither the sketch, nor its flag,
nor the read queue — for any configuration, in any state. -/
theorem C14_sync_pure_ops (p : Params) (s : SState) (op : Op)
    (hop : ∀ k, op ≠ .get k) (hins : ∀ k v, op ≠ .ins k v) (hinv : ∀ k, op ≠ .inv k)
    (hsync : op ≠ .sync) :
    (step p s op).1.sk = s.sk ∧ (step p s op).1.skOn = s.skOn ∧
    (step p s op).1.readQ = s.readQ :=
  step_sk_readQ_same p s op hop hins hinv hsync

/-! ## Whole histories: the sketch holds exactly the lookups -/

/-- **Unsync, whole histories.**  After any history `h` of the current code, the sketch is
either still off and empty (nothing recorded, all estimates 0), or it was switched on at some
point — `getHashes p h = pre ++ post`, the lookups before and after that moment — as a
freshly sized sketch `init cap`, and is now exactly the result of recording `post`: the hashes
of the `get` calls made since, in order, each once, and nothing else (a run of the sketch
model, to which the theorems of `Props/C14.lean` apply: e.g. no estimate is below the ghost
count `g` of that run). -/
theorem C14_unsync_sketch_holds_exactly_the_gets (p : Params) (hq : Unsync.NoQuirks p)
    (hsm : SmallSketch p) (h : List Op) :
    ((Unsync.runState p {} h).skOn = false ∧ (Unsync.runState p {} h).sk = {}) ∨
    ∃ pre post cap g, getHashes p h = pre ++ post ∧ (Unsync.runState p {} h).skOn = true ∧
      Sketch.runG (Sketch.init cap, Sketch.ghost0) post = .ok ((Unsync.runState p {} h).sk, g) ∧
      ∀ x, g x ≤ (Unsync.runState p {} h).sk.frequency x := by
  have hr := (Unsync.SkF.runState_recorded sketchLaws hq hsm h
    (Unsync.init_inv sketchLaws p) (Recorded.init _)).run
  rw [List.nil_append] at hr
  rcases hr with hr | ⟨pre, post, cap, g, h1, h2, h3⟩
  · exact Or.inl hr
  · exact Or.inr ⟨pre, post, cap, g, h1, h2, h3,
      fun x => (Sketch.C14_never_underestimates cap post h3 x).1⟩

/-- **Sync, whole histories.**  After any history `h` of the current code driven by one
thread, the hashes of the `get` calls of `h` are, in order, those already `applied` to the
sketch followed by those waiting in the read queue (none lost, none duplicated, nothing
else queued); and the sketch is either still off and empty, or was switched on at some point
of `applied = pre ++ post` as a freshly sized sketch and is now exactly the result of
recording `post`. -/
theorem C14_sync_sketch_holds_exactly_the_gets (p : Params) (hq : Sync.NoQuirks p)
    (hsm : SmallSketch p) (h : List Op) :
    ∃ applied, getHashes p h = applied ++ (stateAfter p {} h).readQ.map ROp.hash ∧
      (((stateAfter p {} h).skOn = false ∧ (stateAfter p {} h).sk = {}) ∨
       ∃ pre post cap g, applied = pre ++ post ∧ (stateAfter p {} h).skOn = true ∧
        Sketch.runG (Sketch.init cap, Sketch.ghost0) post = .ok ((stateAfter p {} h).sk, g) ∧
        ∀ x, g x ≤ (stateAfter p {} h).sk.frequency x) := by
  have hr := stateAfter_recQ sketchLaws hq hsm h (reach_init sketchLaws)
    (⟨[], rfl, Recorded.init _⟩ : RecQ Sketch.Good {} [])
  rw [List.nil_append] at hr
  obtain ⟨applied, h0, hrec⟩ := hr
  refine ⟨applied, h0, ?_⟩
  rcases hrec.run with hr | ⟨pre, post, cap, g, h1, h2, h3⟩
  · exact Or.inl hr
  · exact Or.inr ⟨pre, post, cap, g, h1, h2, h3,
      fun x => (Sketch.C14_never_underestimates cap post h3 x).1⟩

/-! ## Non-vacuity -/

/-- Capacity 4 (entries): the sketch is switched on when the cache is half full. -/
def exP : Params := { cap := some 4 }

theorem exP_small : SmallSketch exP :=
  SmallSketch.of_default_capF rfl fun c hc => by cases hc; decide

/-- Two inserts (the second one crosses half capacity), then lookups of keys 1, 1, 2 and of
the absent key 7. -/
def exH : List Op := [.ins 1 10, .ins 2 20, .get 1, .get 1, .get 2, .get 7]

/-- Unsync: the estimates are non-zero (2 for key 1, 1 for key 2, 1 for the *missed* key 7);
an insert (of a new key, and an update), `contains_key`, iteration, `invalidate`,
`invalidate_all`, `invalidate_entries_if` and a clock step leave the estimate of key 1 at 2
(and the insert does insert: 3 entries); a `get` raises it to 3, a `get` of another key does
not. -/
example :
    let s := Unsync.runState exP {} exH
    s.skOn = true ∧ s.sk.frequency (exP.hash 1) = 2 ∧ s.sk.frequency (exP.hash 2) = 1 ∧
    s.sk.frequency (exP.hash 7) = 1 ∧ s.map.length = 2 ∧
    (Unsync.step exP s (.ins 3 30)).1.sk.frequency (exP.hash 1) = 2 ∧
    (Unsync.step exP s (.ins 3 30)).1.map.length = 3 ∧
    (Unsync.step exP s (.ins 1 11)).1.sk.frequency (exP.hash 1) = 2 ∧
    (Unsync.step exP s (.has 1)).1.sk.frequency (exP.hash 1) = 2 ∧
    (Unsync.step exP s .iter).1.sk.frequency (exP.hash 1) = 2 ∧
    (Unsync.step exP s (.inv 1)).1.sk.frequency (exP.hash 1) = 2 ∧
    (Unsync.step exP s .invAll).1.sk.frequency (exP.hash 1) = 2 ∧
    (Unsync.step exP s (.invIf .all)).1.sk.frequency (exP.hash 1) = 2 ∧
    (Unsync.step exP s (.adv 5)).1.sk.frequency (exP.hash 1) = 2 ∧
    (Unsync.step exP s (.get 1)).1.sk.frequency (exP.hash 1) = 3 ∧
    (Unsync.step exP s (.get 2)).1.sk.frequency (exP.hash 1) = 2 ∧
    (Unsync.step exP s (.get 2)).1.sk.frequency (exP.hash 2) = 2 := by
  decide +kernel

/-- Unsync, the enabling moment: after the first insert the sketch is off and empty; the
second insert (weighted size 2 = 4 / 2) switches it on: 128 words, all estimates 0 before and
after.  A lookup made before that moment is not recorded (the empty sketch ignores it). -/
example :
    let s := Unsync.runState exP {} [.get 1, .ins 1 10]
    let s' := (Unsync.step exP s (.ins 2 20)).1
    s.skOn = false ∧ s.sk = {} ∧ s.sk.frequency (exP.hash 1) = 0 ∧
    s'.skOn = true ∧ s'.sk = Sketch.init 128 ∧ s'.sk.table.size = 128 ∧
    s'.sk.frequency (exP.hash 1) = 0 ∧ s'.sk.frequency (exP.hash 2) = 0 := by
  decide +kernel

/-- Sync, outside the periodic-sync interval (so that reads pile up in the queue): two
inserts, a maintenance run (which switches the sketch on), three lookups. -/
def exS : List Op := [.adv Gen.PAST_SYNC_INTERVAL_NS, .ins 1 10, .ins 2 20, .sync, .get 1, .get 1, .get 3]

/-- Sync: the three reads are queued (two hits of key 1, a miss of key 3), not yet recorded;
an insert, `contains_key`, iteration, `invalidate`, `invalidate_all` queue no read and change
no estimate; a further `get` queues one more read; the next maintenance run records the
queued reads (estimates 2 and 1) and empties the queue. -/
example :
    let s := stateAfter exP {} exS
    s.skOn = true ∧ s.readQ.map ROp.hash = [exP.hash 1, exP.hash 1, exP.hash 3] ∧
    s.sk.frequency (exP.hash 1) = 0 ∧
    (step exP s (.ins 5 50)).1.readQ.length = 3 ∧ (step exP s (.ins 5 50)).1.writeQ.length = 1 ∧
    (step exP s (.ins 5 50)).1.sk.frequency (exP.hash 1) = 0 ∧
    (step exP s (.has 1)).1.readQ.length = 3 ∧ (step exP s .iter).1.readQ.length = 3 ∧
    (step exP s (.inv 1)).1.readQ.length = 3 ∧ (step exP s .invAll).1.readQ.length = 3 ∧
    (step exP s (.get 2)).1.readQ.map ROp.hash =
      [exP.hash 1, exP.hash 1, exP.hash 3, exP.hash 2] ∧
    (step exP s .sync).1.readQ = [] ∧
    (step exP s .sync).1.sk.frequency (exP.hash 1) = 2 ∧
    (step exP s .sync).1.sk.frequency (exP.hash 3) = 1 ∧
    (step exP s .sync).1.sk.frequency (exP.hash 2) = 0 := by
  decide +kernel

/-- Sync, inside the periodic-sync interval every `get` first runs the maintenance (which
records the reads queued before) and then queues its own read: after two lookups of key 1 one
is recorded and one is waiting. -/
example :
    let s := stateAfter exP {} [.ins 1 10, .ins 2 20, .get 1, .get 1]
    s.skOn = true ∧ s.readQ.map ROp.hash = [exP.hash 1] ∧ s.sk.frequency (exP.hash 1) = 1 := by
  decide +kernel

/-- Sync, the enabling moment: before the maintenance run the sketch is off and empty, the run
switches it on (128 words, every estimate 0); the read queued before is applied to the empty
sketch in that very run, i.e. not recorded. -/
example :
    let s := stateAfter exP {} [.adv Gen.PAST_SYNC_INTERVAL_NS, .get 1, .ins 1 10, .ins 2 20]
    let s' := (step exP s .sync).1
    s.skOn = false ∧ s.sk = {} ∧ s.readQ.map ROp.hash = [exP.hash 1] ∧
    s'.skOn = true ∧ s'.sk = Sketch.init 128 ∧ s'.readQ = [] ∧
    s'.sk.frequency (exP.hash 1) = 0 := by
  decide +kernel

/-- The hypotheses of the reachable-state theorems are satisfiable for this configuration. -/
example : Unsync.NoQuirks exP ∧ Sync.NoQuirks exP ∧ SmallSketch exP := ⟨rfl, rfl, exP_small⟩

end Props
end MiniMoka

section
open MiniMoka.Props
#print axioms C14_unsync_nonget_frame
#print axioms C14_unsync_nonget_state
#print axioms C14_unsync_only_get_records
#print axioms C14_unsync_get_records_once_state
#print axioms C14_unsync_get_records_once
#print axioms C14_sync_only_get_queues_reads
#print axioms C14_sync_get_queues_one_read
#print axioms C14_sync_get_queues_one_read'
#print axioms C14_sync_sketch_fed_by_reads_only
#print axioms C14_sync_enable_from_empty
#print axioms C14_sync_step_feed_state
#print axioms C14_sync_step_feed
#print axioms C14_sync_pure_ops
#print axioms C14_unsync_sketch_holds_exactly_the_gets
#print axioms C14_sync_sketch_holds_exactly_the_gets
end
