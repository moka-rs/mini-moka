/-
  C08 (concurrent cache driven by one thread): memory safety of the deque nodes.  No history
  dereferences a freed list node (`useAfterFree`), underflows the overflow-checked entry
  counter of a maintenance run (`overflow`), or hits an `expect` / `unreachable!` / "not a
  member" panic.  The only fault the proof leaves open is `hang` (the retry loop of
  `schedule_write_op`), which is the subject of `Lemmas/SyncQueues.lean`.
-/
import MiniMoka.Lemmas.SyncNodes
import MiniMoka.Lemmas.SketchLaws

namespace MiniMoka
namespace Props

open Sync Sync.Nodes

/-- For every configuration of the current code (`NoQuirks`: all defect switches off) whose
sketch stays below the documented size limit, and every history of public API calls, no
observation of the sync model is a panic other than `hang`. -/
theorem C08_sync_no_uaf_no_overflow (p : Params) (hq : Sync.NoQuirks p) (hsm : SmallSketch p)
    (h : List Op) : noPanicButHang (Sync.trace p h) = true :=
  run_all sketchLaws hq hsm h {} (init_inv sketchLaws) qinv_init

/-- The same, spelled out: a panic observed in a trace can only be `hang`; in particular
it is never `useAfterFree`, `overflow`, `expect`, `unreachable` or `notMember`. -/
theorem C08_sync_panic_is_hang (p : Params) (hq : Sync.NoQuirks p) (hsm : SmallSketch p)
    (h : List Op) (op : Op) (f : Fault) (hin : (op, Obs.panic f) ∈ Sync.trace p h) :
    f = .hang := by
  have := C08_sync_no_uaf_no_overflow p hq hsm h
  unfold noPanicButHang at this
  rw [List.all_eq_true] at this
  have h1 := this _ hin
  cases f <;> first | rfl | (simp [okObs] at h1)

/-- Combination with the (separately proved) absence of `hang`: if moreover no observation
is `panic hang`, the trace contains no panic at all. -/
theorem C08_sync_no_panic_of_no_hang (p : Params) (hq : Sync.NoQuirks p) (hsm : SmallSketch p)
    (h : List Op) (hh : ∀ op, (op, Obs.panic .hang) ∉ Sync.trace p h) (op : Op) (f : Fault) :
    (op, Obs.panic f) ∉ Sync.trace p h := by
  intro hin
  have := C08_sync_panic_is_hang p hq hsm h op f hin
  subst this
  exact hh op hin

/-- The structural invariant behind it, in every reachable state: node ids are pairwise
distinct (no node is in a list twice), every node of the access-order (write-order) list is
owned by exactly one entry info, which points back at it, every node pointer held by an
info points at a node that is in its list (no node is freed while referenced), an info is
admitted iff it owns an access-order node, and the published entry count is the length of
the access-order list. -/
theorem C08_sync_structure (p : Params) (hq : Sync.NoQuirks p) (hsm : SmallSketch p)
    (h : List Op) : NodesInvTop (finalState p {} h) ∧ MapOK (finalState p {} h) := by
  have := finalState_inv sketchLaws hq hsm h (init_inv sketchLaws) qinv_init
  exact ⟨this.nodes, this.map⟩

/-! ### the defect D7 (maintenance addressing map entries by key only) -/

/-- Weigher by value, capacity 2, identity hash; `d7` switched on. -/
def d7Params : Params :=
  { cap := some 2, hasWeigher := true, w := fun _ v => v, q := { d7 := true } }

/-- The same configuration on the current code. -/
def d7Repaired : Params := { cap := some 2, hasWeigher := true, w := fun _ v => v }

/-- Keys 1 and 2 fill the cache and key 3 is made popular.  Key 1 is updated while the
admission of key 3 is still queued: the maintenance run inside that `insert` evicts key 1,
then the update's own write op is queued and later re-admits the evicted info (a node for
key 1 that no map entry owns).  Key 1 is inserted again (second node for key 1).  After
keys 2 and 3 have been read (their nodes move to the back) the admission of the popular
key 4 selects both nodes of key 1 as victims; removing the first one by key frees the
second, which is dereferenced next. -/
def d7History : List Op :=
  [.ins 1 1, .ins 2 1, .get 3, .get 3, .get 3, .get 3, .ins 3 1, .ins 1 0, .sync, .ins 1 0, .sync,
   .get 2, .get 3, .get 4, .get 4, .get 4, .get 4, .sync, .ins 4 1, .sync]

def obsIsPanic (f : Fault) : Obs → Bool
  | .panic g => g == f
  | _ => false

/-- With `d7` the model reaches a use-after-free through the public API. -/
theorem C08_sync_uaf_counterexample :
    (Sync.trace d7Params d7History).getLast?.map (fun x => obsIsPanic .useAfterFree x.2)
      = some true := by
  decide +kernel

/-- The same history on the current code raises no panic at all. -/
example : (Sync.trace d7Repaired d7History).all (fun x => !(obsIsPanic .useAfterFree x.2) &&
    okObs x.2) = true := by
  decide +kernel

/-! ### non-vacuity -/

/-- Keys 1 and 2 fill the cache, key 3 is made popular and inserted; key 1 is invalidated
while the admission of key 3 is still queued. -/
def skipHistory : List Op :=
  [.ins 1 1, .ins 2 1, .get 3, .get 3, .get 3, .get 3, .ins 3 1, .inv 1]

/-- The maintenance run inside `invalidate 1` (after its map step, before its `Remove` is
queued) admits key 3: the node of key 1 is skipped (its entry has left the map), the node of
key 2 is the victim. -/
example :
    let s := finalState d7Repaired {} (skipHistory.take 7)
    let s' : SState := { s with map := AL.erase s.map 1, cec := s.ec, cws := s.ws }
    let a := admitLoop d7Repaired s' 1 (s'.sk.frequency (d7Repaired.hash 3)) s'.prob {}
    (s.prob.map (·.key), a.victims.map (·.key), a.skipped.map (·.key)) = ([1, 2], [2], [1]) := by
  decide +kernel

/-- Afterwards: no fault, the skipped node of key 1 has been moved behind the new node of
key 3 and is still owned by its (invalidated) info, whose `Remove` is still queued; the
theorems above apply to this state. -/
example :
    let s := finalState d7Repaired {} skipHistory
    (s.fault, s.prob.map (·.key), s.map.map (·.1), s.writeQ.length, s.ec) =
      (none, [3, 1], [3], 1, 2) := by
  decide +kernel

example : noPanicButHang (Sync.trace d7Repaired (skipHistory ++ [.sync, .snap])) = true :=
  C08_sync_no_uaf_no_overflow d7Repaired rfl
    (SmallSketch.of_default_capF rfl fun c hc => by cases hc; decide +kernel) _

/-- Fault tracking is live: on states that violate the invariant (an info pointing at a node
that is in no list; an admitted info while the local entry counter is 0) the model raises
the faults the theorems exclude. -/
example : (moveToBackAoE { infos := [(0, { ao := some 3 })] } 0).fault = some .useAfterFree := by
  decide

example : (unlinkWo { infos := [(0, { wo := some 3 })] } 0).fault = some .useAfterFree := by
  decide

example : (handleRemove { infos := [(0, { admitted := true })] } { id := 1, val := 0, info := 0 }).fault
    = some .overflow := by
  decide

end Props
end MiniMoka

namespace MiniMoka.Props
#print axioms C08_sync_no_uaf_no_overflow
#print axioms C08_sync_panic_is_hang
#print axioms C08_sync_no_panic_of_no_hang
#print axioms C08_sync_structure
#print axioms C08_sync_uaf_counterexample
end MiniMoka.Props
