/-
  C14, clause "only lookups are recorded", on traces: the trace oracle `Spec.onlyGetC14`
  (`MiniMoka/Spec/Oracles.lean`) accepts every trace of the two cache models (current code),
  also after the hook reads `freq k` have been dropped (`Spec.noFreq`), which is what the
  driver judges on recorded traces of the implementation.

  The oracle looks at windows `(snap, snap before) :: (op, ob) :: (snap, snap after)`: unless
  `op` is a `get` or (concurrent cache) a recorded read is waiting (`before.rq ≠ 0`), every key
  that has an estimate in both snapshots keeps it, or the sketch was switched on in between
  and the new estimate is 0 (`Spec.checkC14` is that check; `Lemmas/Walk.lean`).
-/
import MiniMoka.Props.C14Cache
import MiniMoka.Lemmas.UnsyncTrace
import MiniMoka.Props.NoFreqTrace
import MiniMoka.Lemmas.SnapView

namespace MiniMoka
namespace Props
open Spec

theorem onlyGetC14_of_windows (t : Trace) :
    (∀ pre b op ob a rest,
      t = pre ++ (Op.snap, Obs.snap b) :: (op, ob) :: (Op.snap, Obs.snap a) :: rest →
      checkC14 b op a = true) → onlyGetC14 t = true :=
  win3_onlyGetC14.of_windows t

/-- **Unsync: the trace oracle accepts every model trace of the current code.**  An operation
other than `get` leaves the sketch alone or switches it on (`Unsync.SkF.step_en`), and while the
flag is off the sketch is empty, so no estimate changes (`Enabled.frequency`). -/
theorem C14_unsync_trace (p : Params) (hq : Unsync.NoQuirks p) (hsm : SmallSketch p)
    (h : List Op) : Spec.onlyGetC14 (Unsync.trace p h) = true :=
  win3_onlyGetC14.run (Unsync.isRun p) (fun _ op hi => Unsync.step_inv sketchLaws hq hsm hi op)
    (Unsync.snapshot p) (fun _ hi => Unsync.step_snap sketchLaws hq hsm hi)
    (fun s op hi => checkC14_of_nonget fun hop => Or.inr <|
      (Unsync.shows p s).freqsKept (Unsync.shows p _)
        (fun _ => (Unsync.SkF.step_en p s op hop).frequency hi.skOff _))
    h {} (Unsync.init_inv sketchLaws p)

section sync
open Sync Sync.SkF Sync.Nodes

theorem sync_step_snap {p : Params} {s : SState} (hf : s.fault = none) :
    step p s .snap = (s, .snap (snapshot p s)) := by
  unfold step
  simp [hf]

/-- **Sync: the trace oracle accepts every model trace of the current code** (one thread).
With an empty read queue an operation other than `get` drains nothing, so the sketch is fed
nothing (`Sync.SkF.step_drain`). -/
theorem C14_sync_trace (p : Params) (hq : Sync.NoQuirks p) (hsm : SmallSketch p)
    (h : List Op) : Spec.onlyGetC14 (Sync.trace p h) = true := by
  refine win3_onlyGetC14.run (Sync.isRun p) (I := Reach Sketch.Good)
    (fun _ op hi => step_reach sketchLaws hq hsm hi op) (snapshot p)
    (fun _ hi => sync_step_snap hi.top.nofault) (fun s op hi => checkC14_of_nonget fun hop => ?_)
    h {} (reach_init sketchLaws)
  by_cases hrq : s.readQ = []
  · obtain ⟨d, r, h1, _, _, h4⟩ := step_drain p hi.q op
    rw [hrq] at h1
    rw [(List.append_eq_nil_iff.mp h1.symm).1] at h4
    exact Or.inr ((Sync.shows p s).freqsKept (Sync.shows p _)
      (fun _ => h4.frequency hi.top.sk.skOff _))
  · exact Or.inl fun h0 => hrq (List.eq_nil_of_length_eq_zero h0)

end sync

/-- What the driver judges: the oracle on the trace without the hook reads. -/
theorem C14_unsync_trace_noFreq (p : Params) (hq : Unsync.NoQuirks p) (hsm : SmallSketch p)
    (h : List Op) : Spec.onlyGetC14 (Spec.noFreq (Unsync.trace p h)) = true := by
  rw [noFreq_unsync_trace]; exact C14_unsync_trace p hq hsm _

theorem C14_sync_trace_noFreq (p : Params) (hq : Sync.NoQuirks p) (hsm : SmallSketch p)
    (h : List Op) : Spec.onlyGetC14 (Spec.noFreq (Sync.trace p h)) = true := by
  rw [noFreq_sync_trace]; exact C14_sync_trace p hq hsm _

/-! ### Non-vacuity -/

/-- `(skOn, rq, freqs)` of the snapshots of a trace. -/
def snapsOf (t : Trace) : List (Bool × Nat × List (Nat × Nat)) :=
  t.filterMap fun oo => match oo.2 with
    | .snap sn => some (sn.skOn, sn.rq, sn.freqs)
    | _ => none

/-- Unsync model trace: key 1 has been looked up once (estimate 1); an *update* insert of key 1
between two snapshots leaves the estimate at 1; the oracle accepts. -/
example :
    let t := Unsync.trace exP [.ins 1 10, .ins 2 20, .get 1, .snap, .ins 1 11, .snap]
    snapsOf t = [(true, 0, [(1, 1), (2, 0)]), (true, 0, [(1, 1), (2, 0)])] ∧
    onlyGetC14 t = true := by
  decide +kernel

/-- Sync model trace, the same (outside the periodic-sync interval, reads applied by `sync`);
then a `get` between snapshots queues a read (`rq = 1`), and the following `sync` window
raises the estimate to 2, which the oracle allows because a read was waiting. -/
example :
    let t := Sync.trace exP [.adv Gen.PAST_SYNC_INTERVAL_NS, .ins 1 10, .ins 2 20, .sync, .get 1, .sync,
      .snap, .ins 1 11, .snap, .get 1, .snap, .sync, .snap]
    snapsOf t = [(true, 0, [(1, 1), (2, 0)]), (true, 0, [(1, 1), (2, 0)]),
      (true, 1, [(1, 1), (2, 0)]), (true, 0, [(1, 2), (2, 0)])] ∧
    onlyGetC14 t = true := by
  decide +kernel

/-- Sync model trace inside the interval: the insert between the snapshots runs the maintenance
that applies the waiting read, so the estimate of key 1 changes across an insert — with
`rq = 1` in the snapshot before, which is why the oracle exempts such windows. -/
example :
    let t := Sync.trace exP [.ins 1 10, .ins 2 20, .sync, .get 1, .snap, .ins 3 30, .snap]
    snapsOf t = [(true, 1, [(1, 0), (2, 0)]), (true, 0, [(1, 1), (2, 0), (3, 0)])] ∧
    onlyGetC14 t = true := by
  decide +kernel

/-- The snapshot before the hand-made windows below: the unsync model after two inserts and
one lookup of key 1 (sketch on, estimates `[(1, 1), (2, 0)]`). -/
def exBefore : Snap :=
  Unsync.snapshot exP (Unsync.runState exP {} [.ins 1 10, .ins 2 20, .get 1])

/-- Hand-made: an `ins` that raises the estimate of the resident key 1 from 1 to 2 is rejected
(the seeded defect "an in-place insert bumps the estimate"); with the estimate kept it is
accepted; the same raise across a `get` is accepted. -/
example :
    exBefore.freqs = [(1, 1), (2, 0)] ∧ exBefore.skOn = true ∧
    onlyGetC14 [(.snap, .snap exBefore), (.ins 1 11, .ok),
      (.snap, .snap { exBefore with freqs := [(1, 2), (2, 0)] })] = false ∧
    onlyGetC14 [(.snap, .snap exBefore), (.ins 1 11, .ok), (.snap, .snap exBefore)] = true ∧
    onlyGetC14 [(.snap, .snap exBefore), (.get 1, .val (some 10)),
      (.snap, .snap { exBefore with freqs := [(1, 2), (2, 0)] })] = true ∧
    -- the same defect is also caught with the hook reads in between, once they are dropped
    onlyGetC14 (noFreq [(.snap, .snap exBefore), (.freq 1, .freq 1), (.ins 1 11, .ok),
      (.snap, .snap { exBefore with freqs := [(1, 2), (2, 0)] })]) = false := by
  decide +kernel

/-- The sketch switched on in between.  Model traces (both caches): before the second insert
the flag is off, after it (after the `sync` on the concurrent cache) on, estimates 0:
accepted.  Hand-made: with the flag going from off to on a new estimate 0 is accepted whatever
the old one, a non-zero new estimate that differs from the old one is not. -/
example :
    snapsOf (Unsync.trace exP [.ins 1 10, .snap, .ins 2 20, .snap]) =
      [(false, 0, [(1, 0)]), (true, 0, [(1, 0), (2, 0)])] ∧
    onlyGetC14 (Unsync.trace exP [.ins 1 10, .snap, .ins 2 20, .snap]) = true ∧
    snapsOf (Sync.trace exP [.adv Gen.PAST_SYNC_INTERVAL_NS, .ins 1 10, .ins 2 20, .snap, .sync, .snap]) =
      [(false, 0, [(1, 0), (2, 0)]), (true, 0, [(1, 0), (2, 0)])] ∧
    onlyGetC14 (Sync.trace exP [.adv Gen.PAST_SYNC_INTERVAL_NS, .ins 1 10, .ins 2 20, .snap, .sync, .snap]) = true ∧
    onlyGetC14 [(.snap, .snap { exBefore with skOn := false, freqs := [(1, 3)] }), (.ins 2 20, .ok),
      (.snap, .snap { exBefore with skOn := true, freqs := [(1, 0)] })] = true ∧
    onlyGetC14 [(.snap, .snap { exBefore with skOn := false, freqs := [(1, 3)] }), (.ins 2 20, .ok),
      (.snap, .snap { exBefore with skOn := true, freqs := [(1, 1)] })] = false := by
  decide +kernel

/-- `noFreq` on a model trace is the trace of the history without the readings (an instance of
`noFreq_unsync_trace`), and the readings are really there before. -/
example :
    let h : List Op := [.ins 1 10, .freq 1, .ins 2 20, .get 1, .freq 1, .snap, .freq 2,
      .ins 1 11, .snap]
    (Unsync.trace exP h).length = 9 ∧ (noFreq (Unsync.trace exP h)).length = 6 ∧
    onlyGetC14 (noFreq (Unsync.trace exP h)) = true := by
  decide +kernel

end Props
end MiniMoka

section
open MiniMoka.Props
#print axioms onlyGetC14_of_windows
#print axioms C14_unsync_trace
#print axioms C14_sync_trace
#print axioms noFreq_unsync_trace
#print axioms noFreq_sync_trace
#print axioms C14_unsync_trace_noFreq
#print axioms C14_sync_trace_noFreq
end
