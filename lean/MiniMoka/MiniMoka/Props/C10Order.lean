/-
  C10 on the concurrent cache: the counters do not depend on the ORDER in which write
  operations sit in the queue (the repair of defect D10, /repo commit 12c8cbc).

  Two threads that update one key can enqueue their `Upsert` operations in the opposite order
  of their map updates.  Before the repair `handle_upsert` accounted the weight the operation
  carried, so the accounted weight followed whichever operation was applied last, possibly
  the one with the older value.  The repair (`Sync.currentWeight`) accounts the weight of the
  value the map holds *now*, whatever the operation carries.

  One thread always enqueues in map order, so the theorems of `Props/C10Sync.lean` alone do not
  speak about that.  But the invariant `CInv p s Q` behind them mentions the logical queue `Q`
  through *membership only* (`CInv.of_mem`): it never says that the last upsert of an info
  carries the current value.  So the write queue of a state of the invariant may be replaced by
  ANY permutation of it (`TInv.perm_writeQ`).
  What this does NOT cover: states that no permutation of a one-thread queue describes (e.g.
  maintenance running while another thread is between its map step and its enqueue with
  several such threads at once; `TInv p s ex` handles one such operation).
-/
import MiniMoka.Lemmas.SyncSnapshot
import MiniMoka.Lemmas.SyncCapacity

namespace MiniMoka
namespace Props

open Sync Sync.Nodes Sync.Counters

/-- Order independence of the counters: in any state that satisfies the invariant of the
reachable states, replace the write queue by any permutation `Q'` of it; after the
maintenance run (`sync`) the published counters are exact:
`entry_count = |entries|`, `weighted_size = Σ policy weights = Σ weigher(key, value)` for the
values the map holds. -/
theorem C10_sync_queue_order_independent (p : Params) (hq : Sync.NoQuirks p)
    (hsm : SmallSketch p) (s : SState) (hs : TInv p s []) (Q' : List WOp)
    (hperm : Q'.Perm s.writeQ) :
    Spec.snapCountersOk p.weigh
      (Sync.snapshot p (Sync.syncRun p { s with writeQ := Q' })) = true :=
  snapshot_counters (sync_t hq hsm (hs.perm_writeQ hperm)) (syncRun_writeQ _ _)

/-- The same, spelled out on the state after the maintenance run. -/
theorem C10_sync_queue_order_independent_explicit (p : Params) (hq : Sync.NoQuirks p)
    (hsm : SmallSketch p) (s : SState) (hs : TInv p s []) (Q' : List WOp)
    (hperm : Q'.Perm s.writeQ) :
    let s' := Sync.syncRun p { s with writeQ := Q' }
    s'.ec = s'.map.length ∧
    s'.ws = (s'.map.map fun kv => p.weigh kv.1 kv.2.val).sum ∧
    ∀ kv, kv ∈ s'.map → (getInfo s' kv.2.info).weight = p.weigh kv.1 kv.2.val := by
  intro s'
  obtain ⟨q1, q2, q3, _, _⟩ :=
    quiescent (sync_t hq hsm (hs.perm_writeQ hperm)) (syncRun_writeQ _ _)
  refine ⟨q1, ?_, q3⟩
  rw [q2]
  congr 1
  exact List.map_congr_left q3

/-- The instance for the states one thread can reach: after any history, permute the queue
(as other threads' interleavings could have), then run maintenance. -/
theorem C10_sync_queue_order_independent_reachable (p : Params) (hq : Sync.NoQuirks p)
    (hsm : SmallSketch p) (h : List Op) (Q' : List WOp)
    (hperm : Q'.Perm (Sync.stateAfter p {} h).writeQ) :
    Spec.snapCountersOk p.weigh
      (Sync.snapshot p (Sync.syncRun p { Sync.stateAfter p {} h with writeQ := Q' })) = true :=
  C10_sync_queue_order_independent p hq hsm _ (stateAfter_t hq hsm h (init_t p)) Q' hperm

/-- Whatever the API calls that follow the reordering, the C10 check accepts the trace. -/
theorem C10_sync_after_reorder (p : Params) (hq : Sync.NoQuirks p) (hsm : SmallSketch p)
    (s : SState) (hs : TInv p s []) (Q' : List WOp) (hperm : Q'.Perm s.writeQ) (h : List Op) :
    Spec.oracleC10.go p.weigh (Sync.run p { s with writeQ := Q' } h) = true :=
  oracleC10_go_run hq hsm (hs.perm_writeQ hperm) h

/-- After the reordering the C11 check (live key / value objects) accepts every trace. -/
theorem C11_sync_after_reorder (p : Params) (hq : Sync.NoQuirks p) (hsm : SmallSketch p)
    (s : SState) (hs : TInv p s []) (Q' : List WOp) (hperm : Q'.Perm s.writeQ) (h : List Op) :
    Spec.oracleC11 (Sync.run p { s with writeQ := Q' } h) = true :=
  oracleC11_run hq hsm (hs.perm_writeQ hperm) h

/-- After the reordering a maintenance run ends within the capacity or has evicted a full batch. -/
theorem C04_sync_weight_after_reorder (p : Params) (hq : Sync.NoQuirks p) (hsm : SmallSketch p)
    (s : SState) (hs : TInv p s []) (Q' : List WOp) (hperm : Q'.Perm s.writeQ) (c : Nat)
    (hcap : p.cap = some c) :
    (Sync.syncRun p { s with writeQ := Q' }).ws ≤ c ∨
      (Sync.syncRun p { s with writeQ := Q' }).map.length + Gen.SYNC_EVICTION_BATCH_SIZE ≤
        s.map.length :=
  syncRun_weight hq hsm (hs.perm_writeQ hperm) hcap

/-! ### the defect D10, with its switch on -/

def d10Params (q : Quirks) : Params := { hasWeigher := true, w := fun _ v => v, q := q }

/-- Key 1 is inserted with value 1 and admitted; then (the clock is past the periodic-sync
deadline, so nothing is applied meanwhile) it is updated to 5 and to 2.  The map holds 2 and
the queue holds the upsert of 5, then the upsert of 2. -/
def d10History : List Op := [.adv Gen.PAST_SYNC_INTERVAL_NS, .ins 1 1, .sync, .ins 1 5, .ins 1 2]

/-- The state after that history, with the write queue in the order given by `inverted`:
`true` is the order two racing threads can produce (upsert of the newer value 2 first, of the
older value 5 last); one thread alone cannot reach it. -/
def d10State (q : Quirks) (inverted : Bool) : SState :=
  let s := Sync.stateAfter (d10Params q) {} d10History
  if inverted then { s with writeQ := s.writeQ.reverse } else s

/-- What the queue of that state holds: `(key, value-entry id, value, weight carried)`. -/
example : (d10State {} false).writeQ.map (fun op => match op with
    | .upsert k _ ve _ w => (k, ve.id, ve.val, w)
    | .remove k ve => (k, ve.id, ve.val, 0)) = [(1, 3, 5, 5), (1, 4, 2, 2)] := by
  decide +kernel

/-- D10: with the switch on and the queue inverted, the maintenance run ends with
`weighted_size = 5` while the map holds key 1 with value 2 (weight 2): the counters are wrong
(`Σ weigher(key, value) ≠ weighted_size`); in queue order they are right. -/
theorem C10_sync_counterexample_D10 :
    let p := d10Params { d10 := true }
    Spec.snapCountersOk p.weigh (Sync.snapshot p (Sync.syncRun p (d10State { d10 := true } true)))
      = false ∧
    (Sync.syncRun p (d10State { d10 := true } true)).ws = 5 ∧
    (Sync.syncRun p (d10State { d10 := true } true)).map.map (fun kv => (kv.1, kv.2.val))
      = [(1, 2)] ∧
    Spec.snapCountersOk p.weigh (Sync.snapshot p (Sync.syncRun p (d10State { d10 := true } false)))
      = true := by
  decide +kernel

/-- The current code ends exact in either order (`weighted_size = 2`). -/
example :
    let p := d10Params {}
    Spec.snapCountersOk p.weigh (Sync.snapshot p (Sync.syncRun p (d10State {} true))) = true ∧
    (Sync.syncRun p (d10State {} true)).ws = 2 ∧
    Spec.snapCountersOk p.weigh (Sync.snapshot p (Sync.syncRun p (d10State {} false))) = true ∧
    (Sync.syncRun p (d10State {} false)).ws = 2 := by
  decide +kernel

/-- … as the theorem says: the inverted state is a permutation of a reachable one. -/
example : Spec.snapCountersOk (d10Params {}).weigh
    (Sync.snapshot (d10Params {}) (Sync.syncRun (d10Params {})
      { Sync.stateAfter (d10Params {}) {} d10History with
        writeQ := (Sync.stateAfter (d10Params {}) {} d10History).writeQ.reverse })) = true :=
  C10_sync_queue_order_independent_reachable (d10Params {}) rfl
    (SmallSketch.of_default_capF rfl fun c hc => by cases hc)
    d10History _ (List.reverse_perm _)

end Props
end MiniMoka

namespace MiniMoka.Props
#print axioms C10_sync_queue_order_independent
#print axioms C10_sync_queue_order_independent_explicit
#print axioms C10_sync_queue_order_independent_reachable
#print axioms C10_sync_after_reorder
#print axioms C11_sync_after_reorder
#print axioms C04_sync_weight_after_reorder
#print axioms C10_sync_counterexample_D10
end MiniMoka.Props
