/-
  C12 — growth eviction with stale residents (single-threaded cache).  When a lookup runs on a
  cache that is over capacity while some residents are already past a deadline, the stale
  residents are purged first and the size eviction works off only the excess that remains:
  exactly the shortest prefix of the remaining residents, in recency order, that covers
  `live weight - capacity` leaves.  `Spec.growthExpC12` (Spec/OraclesExt.lean) checks this on
  every window `snap, get/contains_key, snap` with at most one batch of residents.
-/
import MiniMoka.Lemmas.UnsyncGrowExp
import MiniMoka.Lemmas.SketchLaws

namespace MiniMoka
namespace Props

open Unsync Unsync.Admit Unsync.GrowExp

/-- **C12, growth eviction with stale residents, on traces.** For every configuration of the
current code with a capacity (any weigher, hasher, ttl/tti) and every history, the oracle
`growthExpC12` (batch = the code's `EVICTION_BATCH_SIZE`) accepts the model's trace. -/
theorem C12_unsync_growth_expiry (p : Params) (hq : Unsync.NoQuirks p) (hsm : SmallSketch p)
    (cap : Nat) (hcap : p.cap = some cap) (h : List Op) :
    Spec.growthExpC12 cap p.ttl p.tti Gen.UNSYNC_EVICTION_BATCH_SIZE (Unsync.trace p h) = true :=
  growthExpC12_trace sketchLaws hq hsm hcap h

/-- The invariant behind it: in every reachable state of a cache with expiry the timestamps of
the access-order list and of the write-order list are non-decreasing from front to back, and
none lies in the future.  Hence the stale nodes form a prefix of either list. -/
theorem C12_unsync_timestamps_sorted (p : Params) (hq : Unsync.NoQuirks p) (hsm : SmallSketch p)
    (hx : p.hasExpiry = true) (h : List Op) :
    TsList (runState p {} h).now ((runState p {} h).prob.map (·.ts)) ∧
    TsList (runState p {} h).now ((runState p {} h).wo.map (·.ts)) :=
  ⟨(reachable_tsInv sketchLaws hq hsm h hx).ao, (reachable_tsInv sketchLaws hq hsm h hx).wo⟩

/-- **The purge is exact.** On a reachable state with at most one batch of residents,
`evict_expired_if_needed` removes every resident that is past a deadline at the state's clock
reading and no other; the recency order of the survivors is unchanged. -/
theorem C12_unsync_purge_exact (p : Params) (hq : Unsync.NoQuirks p) (hsm : SmallSketch p)
    (h : List Op) (hlen : (runState p {} h).map.length ≤ EVICTION_BATCH_SIZE) (k : Nat) (e : UEntry) :
    (AL.get? (evictExpiredIfNeeded p (runState p {} h)).map k = some e ↔
      (AL.get? (runState p {} h).map k = some e ∧
        isExpiredEntry p (runState p {} h) e (runState p {} h).now = false)) ∧
    (evictExpiredIfNeeded p (runState p {} h)).prob.Sublist (runState p {} h).prob := by
  have ph := evictExpiredIfNeeded_purged hq (reachable_inv sketchLaws hq hsm h).inv
    (reachable_tsInv sketchLaws hq hsm h) hlen
  exact ⟨⟨fun hk => ⟨ph.shrinks.sub k e hk, ph.live k e hk⟩, fun hk => ph.keeps k e hk.1 hk.2⟩,
    ph.sub.prob⟩

/-- Capacity 10, time-to-live 2 s, the weight of an entry is its value. -/
def cfgX : Params :=
  { cap := some 10, ttl := some 2000000000, hasWeigher := true, w := fun _ v => v }

/-- Key 1 (weight 4) written at 0, keys 2 and 3 at 1.2 s; a hit on 1; an update makes 3 heavier
(weight 5, weighted size 12 against a capacity of 10); the clock then stands at 2.2 s. -/
def histX : List Op :=
  [.ins 1 4, .adv 1200000000, .ins 2 3, .ins 3 3, .get 1, .ins 3 5, .adv 1000000000]

def staleX : UState := runState cfgX {} histX

theorem nq_cfgX : Unsync.NoQuirks cfgX := by unfold Unsync.NoQuirks; rfl

theorem small_cfgX : SmallSketch cfgX :=
  .of_default_capF rfl (fun c h => by cases h; decide)

/-- In `staleX` key 1 is past its deadline, the cache is over capacity by 2 and the recency order
is 2, 1, 3.  The lookup purges key 1 and then has nothing left to work off: exactly 2 and 3
remain.  (A size eviction run before the purge would have taken the live key 2.) -/
example :
    staleX.ws = 12 ∧ AL.keys staleX.map = [1, 2, 3] ∧ staleX.prob.map (·.key) = [2, 1, 3] ∧
    (staleX.map.filter (fun kv => isExpiredEntry cfgX staleX kv.2 staleX.now)).map (·.1) = [1] ∧
    AL.keys (evictLru cfgX staleX).map = [1, 3] ∧
    AL.keys (containsKey cfgX staleX 2).1.map = [2, 3] ∧
    (containsKey cfgX staleX 2).1.ws = 8 := by
  decide +kernel

/-- The oracle accepts the model's trace of that history followed by `snap, contains_key, snap`
(and a second window in which nothing is left to do). -/
example : Spec.growthExpC12 10 cfgX.ttl cfgX.tti EVICTION_BATCH_SIZE
    (Unsync.trace cfgX (histX ++ [.snap, .has 2, .snap, .get 3, .snap])) = true := by
  decide +kernel

/-- `C12_unsync_growth_expiry` applied to that configuration (hypotheses discharged). -/
example : Spec.growthExpC12 10 cfgX.ttl cfgX.tti Gen.UNSYNC_EVICTION_BATCH_SIZE
    (Unsync.trace cfgX (histX ++ [.snap, .has 2, .snap])) = true :=
  C12_unsync_growth_expiry cfgX nq_cfgX small_cfgX 10 rfl _

/-- The oracle is not vacuous: it rejects a hand-made trace in which the lookup evicted for size
before purging — the live key 2 (least recently used) is gone together with the stale key 1. -/
example : Spec.growthExpC12 10 cfgX.ttl cfgX.tti EVICTION_BATCH_SIZE
    [(.snap, .snap (snapshot cfgX staleX)), (.has 2, .bool false),
     (.snap, .snap (snapshot cfgX (runState cfgX {} (histX ++ [.has 2, .inv 2]))))] = false := by
  decide +kernel

/-- It also rejects one in which the stale key 1 survived the lookup. -/
example : Spec.growthExpC12 10 cfgX.ttl cfgX.tti EVICTION_BATCH_SIZE
    [(.snap, .snap (snapshot cfgX staleX)), (.has 2, .bool true),
     (.snap, .snap (snapshot cfgX staleX))] = false := by
  decide +kernel

def cfgY : Params :=
  { cap := some 6, ttl := some 100, tti := some 50, hasWeigher := true, w := fun _ v => v }

/-- An excess that remains after the purge: at time 55 key 1 (idle since 0) is stale, keys 2 and 3
(weights 2 and 5) are live and weigh 7; a lookup then purges 1 and evicts 2, the least recently
used live resident; 3 remains. -/
def histY : List Op := [.ins 1 2, .adv 30, .ins 2 2, .ins 3 2, .ins 3 5, .adv 25]

example :
    (runState cfgY {} histY).ws = 9 ∧
    (runState cfgY {} histY).prob.map (·.key) = [1, 2, 3] ∧
    AL.keys (get cfgY (runState cfgY {} histY) 9).1.map = [3] ∧
    Spec.growthExpC12 6 cfgY.ttl cfgY.tti EVICTION_BATCH_SIZE
      (Unsync.trace cfgY (histY ++ [.snap, .get 9, .snap])) = true ∧
    Spec.growthExpC12 6 cfgY.ttl cfgY.tti EVICTION_BATCH_SIZE
      [(.snap, .snap (snapshot cfgY (runState cfgY {} histY))), (.get 9, .val none),
       (.snap, .snap (snapshot cfgY (runState cfgY {} (histY ++ [.get 9, .ins 2 1, .inv 3]))))]
      = false := by
  decide +kernel

end Props
end MiniMoka

#print axioms MiniMoka.Props.C12_unsync_timestamps_sorted
#print axioms MiniMoka.Props.C12_unsync_purge_exact
#print axioms MiniMoka.Props.C12_unsync_growth_expiry
