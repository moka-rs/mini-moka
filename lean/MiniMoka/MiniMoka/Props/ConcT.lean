/-
  Properties of model T (`ConcT.lean`): an update's clock reading and its map write are two steps.

  With the code's PLAIN store of the reading into the shared timestamp, for every interleaving of
  any number of threads: the timestamp a lookup tests is the reading of the insert whose value the
  map holds (`TInv`), hence a value whose insert read the clock at `r` is never returned at a
  clock reading `≥ r + ttl` (C05, in the property's own clock-reading wording) nor after an
  `invalidate_all` with a strictly later reading has completed (C01, C07) — `ConcT_get_fresh`,
  `ConcT_run_fresh`.  With a forward-only store (`mono`, the seeded changes `C01h` and `C05i`) both
  fail: `ConcT_counterexample_ttl`, `ConcT_counterexample_watermark`.
-/
import MiniMoka.ConcT

namespace MiniMoka
namespace Props

open ConcT

/-- The shared timestamp is the reading of the insert whose value the map holds. -/
def TInv (s : State) : Prop := ∀ v r, s.cur = some (v, r) → s.lm = r

theorem ConcT_inv_init : TInv {} := by
  intro v r h; cases h

theorem ConcT_inv_step (ttl : Option Nat) (s s' : State) (ev : Ev) (hi : TInv s)
    (hs : step false ttl s ev = some s') : TInv s' := by
  cases ev with
  | tick d => cases hs; exact hi
  | read t v =>
    simp only [step] at hs
    split at hs
    · cases hs
    · cases hs; exact hi
  | write t =>
    simp only [step] at hs
    split at hs
    · cases hs
    · cases hs
      intro v r h
      cases h
      rfl
  | invAll => cases hs; exact hi
  | get => cases hs; exact hi

/-- What a lookup that returns a value guarantees about the reading `r` of the insert that wrote
it: the time-to-live has not run out counted from `r`, and no completed `invalidate_all` has a
strictly later reading. -/
def Fresh (ttl : Option Nat) (ob : Option (Nat × Nat) × Nat × Option Nat) : Prop :=
  ∀ v r, ob.1 = some (v, r) →
    (∀ d, ttl = some d → ob.2.1 < r + d) ∧ (∀ w, ob.2.2 = some w → ¬ r < w)

theorem ConcT_get_fresh (ttl : Option Nat) (s : State) (hi : TInv s) :
    Fresh ttl (lookup ttl s, s.now, s.va) := by
  intro v r h
  dsimp only at h ⊢
  simp only [lookup] at h
  cases hc : s.cur with
  | none => simp [hc] at h
  | some vr =>
    simp only [hc] at h
    split at h
    · cases h
    · rename_i hh
      simp only [Option.some.injEq] at h; subst h
      have hl : s.lm = r := hi v r hc
      simp only [hidden, Bool.or_eq_true, not_or] at hh
      constructor
      · intro d hd
        have h2 := hh.2
        simp only [hd, decide_eq_true_eq] at h2
        omega
      · intro w hw
        have h1 := hh.1
        simp only [hw, decide_eq_true_eq] at h1
        omega

/-- **Every interleaving.** From any state satisfying the invariant (T has no reachability
predicate: the initial state `{}` satisfies it by `ConcT_inv_init`) and for every schedule of
clock ticks, clock readings, map writes, `invalidate_all` calls and lookups of any number of
threads, every lookup that returns a value is `Fresh`. -/
theorem ConcT_run_fresh (ttl : Option Nat) (evs : List Ev) (s sf : State)
    (obs : List (Option (Nat × Nat) × Nat × Option Nat)) (hi : TInv s)
    (hr : run false ttl s evs = some (sf, obs)) : ∀ ob ∈ obs, Fresh ttl ob := by
  induction evs generalizing s sf obs with
  | nil =>
    simp only [run, Option.some.injEq, Prod.mk.injEq] at hr
    intro ob hob; rw [← hr.2] at hob; cases hob
  | cons ev rest ih =>
    simp only [run] at hr
    split at hr
    · cases hr
    · rename_i s' hst
      split at hr
      · cases hr
      · rename_i sf' obs' hrr
        have hrest := ih s' sf' obs' (ConcT_inv_step ttl s s' ev hi hst) hrr
        -- a `get` adds one observation, any other event none
        cases ev with
        | get => cases hr; exact List.forall_mem_cons.2 ⟨ConcT_get_fresh ttl s hi, hrest⟩
        | _ => cases hr; exact hrest

/-- Thread 0 makes the key resident; thread 1 reads the clock at 5 for value 10; thread 2 reads it
at 10 for value 20 and writes; thread 1 writes last; at 17 — past `5 + ttl` — a lookup. -/
def schedTtl : List Ev :=
  [.read 0 1, .write 0, .tick 5, .read 1 10, .tick 5, .read 2 20, .write 2, .write 1, .tick 7, .get]

/-- The same with an `invalidate_all` at 7, between the two readings. -/
def schedVa : List Ev :=
  [.read 0 1, .write 0, .tick 5, .read 1 10, .tick 2, .invAll, .tick 3, .read 2 20, .write 2, .write 1, .get]

/-- The code (plain store): value 10, read at 5, has expired at 17 with `ttl = 10`; nothing is
returned.  The lookup just before the deadline returns it: the schedule is not vacuous. -/
example : (run false (some 10) {} schedTtl).map (·.2) = some [(none, 17, none)] := by decide
example : (run false (some 10) {}
    [.read 0 1, .write 0, .tick 5, .read 1 10, .tick 5, .read 2 20, .write 2, .write 1, .tick 4, .get]).map (·.2)
    = some [(some (10, 5), 14, none)] := by decide

/-- Forward-only store: value 10, whose insert read the clock at 5, is returned at 17 ≥ 5 + 10. -/
theorem ConcT_counterexample_ttl :
    (run true (some 10) {} schedTtl).map (·.2) = some [(some (10, 5), 17, none)] ∧
    ¬ Fresh (some 10) (some (10, 5), 17, none) := by
  refine ⟨by decide, ?_⟩
  intro h
  have := (h 10 5 rfl).1 10 rfl
  dsimp only at this
  omega

/-- The code: value 10, read at 5, is hidden by the `invalidate_all` of reading 7. -/
example : (run false none {} schedVa).map (·.2) = some [(none, 10, some 7)] := by decide

/-- Forward-only store: value 10, read at 5, is returned after the `invalidate_all` of reading 7
has completed. -/
theorem ConcT_counterexample_watermark :
    (run true none {} schedVa).map (·.2) = some [(some (10, 5), 10, some 7)] ∧
    ¬ Fresh none (some (10, 5), 10, some 7) := by
  refine ⟨by decide, ?_⟩
  intro h
  exact (h 10 5 rfl).2 7 rfl (by omega)

end Props
end MiniMoka

#print axioms MiniMoka.Props.ConcT_inv_step
#print axioms MiniMoka.Props.ConcT_get_fresh
#print axioms MiniMoka.Props.ConcT_run_fresh
#print axioms MiniMoka.Props.ConcT_counterexample_ttl
#print axioms MiniMoka.Props.ConcT_counterexample_watermark
