/-
  C01 / C05 / C06 / C07 (lookup soundness) for `sync::Cache` under ALL interleavings of any
  number of threads at the two finer granularities:
   * `MiniMoka/ConcM.lean`: a maintenance run is a sequence of atomic micro-steps (one queued
     read, one queued write, one iteration of an eviction loop, …) and the other threads' map
     steps, enqueues, clock ticks and `invalidate_all` fall between any two of them;
   * `MiniMoka/ConcF.lean` (the finest model): additionally every access to the concurrent map
     during the application of one queued `Upsert` — the lookup of the current entry, every node
     of the admission scan, every victim removal, the removal of a rejected candidate — is its
     own step; current code (`Variant.good`).
  (What is still left out is listed at the head of those files.)

  The linearised trace (`ConcM.linM`, `ConcF.linF`) orders the operations by their MAP STEPS
  exactly as `ConcS.lin` does: `.other (insMap t k v) ↦ (.ins k v, .ok)`,
  `.other (invMap t k) ↦ (.inv k, .ok)`, `.other (getMap t k) ↦ (.get k, .val r)` with `r`
  decided by `ConcS.lookup` in the state at that step — in the middle of a run, if that is where
  the step falls —, `.other (tick d) ↦ (.adv d, .ok)`, `.other (invAll t) ↦ (.invAll, .ok)`;
  `.other (enq t)`, `mBegin` and every `mStep` contribute nothing.

  `ConcF_C01`, `ConcF_C05`, `ConcF_C06`, `ConcF_C07`, `ConcF_lookup_all` and the same for `ConcM`
  hold for every configuration of the current code (`NoQuirks`; no `SmallSketch`, no
  reachability invariant such as `FInv` is needed) and every event list (as in
  Props/ConcSLookup.lean the hypothesis "every step is enabled" is kept in the statements, as the
  reading "for every execution", and not used: the linearised trace ends at the first step that
  is not enabled).  The idea: `ConcS.CoupledC` is preserved by the threads' steps and by every
  frame (`Sync.Frame`), and every micro-step is a frame (`ConcF.FStep.frame`); for the sub-steps
  of an `Upsert` that needs nothing but "the program counter is one of the current code's".  No
  interleaving at this granularity makes a get return a stale, expired or invalidated value.
  The seeded variant `.putBack` does (machine-checked below: `linF` and `oracleC01` expose it).
-/
import MiniMoka.Lemmas.ConcFLookup
import MiniMoka.Props.ConcF

namespace MiniMoka
namespace Props

open Sync ConcS ConcM ConcF Spec

/-- All interleavings of the finest model, all three checks at once, every event list. -/
theorem ConcF_lookup_all (p : Params) (hq : Sync.NoQuirks p) (evs : List ConcM.Ev) :
    lookupOracle .sync (Sync.allChecks p) {} (linF p .good {} evs) = true :=
  lookupOracle_linF hq _ (fun _ _ h => h) evs _ _ (coupledF_init p)

/-- C01 for all interleavings of `ConcF`: every get — wherever it falls inside a maintenance
run — returns nothing or the value of the most recent insert of its key, in map-step order,
that has not been invalidated since. -/
theorem ConcF_C01 (p : Params) (hq : Sync.NoQuirks p) (evs : List ConcM.Ev) (c : FState)
    (_hr : ConcF.runEvs p .good {} evs = some c) :
    Spec.oracleC01 .sync (linF p .good {} evs) = true :=
  lookupOracle_linF hq _ (checkC01_of_allChecks p) evs _ _ (coupledF_init p)

/-- C05 for all interleavings of `ConcF`. -/
theorem ConcF_C05 (p : Params) (hq : Sync.NoQuirks p) (evs : List ConcM.Ev) (c : FState)
    (_hr : ConcF.runEvs p .good {} evs = some c) :
    Spec.oracleC05 .sync p.ttl (linF p .good {} evs) = true :=
  lookupOracle_linF hq _ (checkC05_of_allChecks p) evs _ _ (coupledF_init p)

/-- C06 for all interleavings of `ConcF`: held reads reach the queue at any moment, also between
two micro-steps of the run that is applying reads; none extends an idle deadline beyond the
clock reading of its own get. -/
theorem ConcF_C06 (p : Params) (hq : Sync.NoQuirks p) (evs : List ConcM.Ev) (c : FState)
    (_hr : ConcF.runEvs p .good {} evs = some c) :
    Spec.oracleC06 .sync p.tti (linF p .good {} evs) = true :=
  lookupOracle_linF hq _ (checkC06_of_allChecks p) evs _ _ (coupledF_init p)

/-- C07 (immediate and permanent) for all interleavings of `ConcF`: no micro-step of a run,
whatever it read before the invalidation, brings an invalidated entry back. -/
theorem ConcF_C07 (p : Params) (hq : Sync.NoQuirks p) (evs : List ConcM.Ev) (c : FState)
    (_hr : ConcF.runEvs p .good {} evs = some c) :
    lookupOracle .sync checkC07 {} (linF p .good {} evs) = true :=
  lookupOracle_linF hq _ (checkC07_of_allChecks p) evs _ _ (coupledF_init p)

/-! The same five statements for the coarser model `ConcM`, over `linM`. -/

theorem ConcM_lookup_all (p : Params) (hq : Sync.NoQuirks p) (evs : List ConcM.Ev) :
    lookupOracle .sync (Sync.allChecks p) {} (linM p {} evs) = true :=
  lookupOracle_linM hq _ (fun _ _ h => h) evs _ _ (coupledC_init p)

theorem ConcM_C01 (p : Params) (hq : Sync.NoQuirks p) (evs : List ConcM.Ev) (c : MState)
    (_hr : ConcM.runEvs p {} evs = some c) :
    Spec.oracleC01 .sync (linM p {} evs) = true :=
  lookupOracle_linM hq _ (checkC01_of_allChecks p) evs _ _ (coupledC_init p)

theorem ConcM_C05 (p : Params) (hq : Sync.NoQuirks p) (evs : List ConcM.Ev) (c : MState)
    (_hr : ConcM.runEvs p {} evs = some c) :
    Spec.oracleC05 .sync p.ttl (linM p {} evs) = true :=
  lookupOracle_linM hq _ (checkC05_of_allChecks p) evs _ _ (coupledC_init p)

theorem ConcM_C06 (p : Params) (hq : Sync.NoQuirks p) (evs : List ConcM.Ev) (c : MState)
    (_hr : ConcM.runEvs p {} evs = some c) :
    Spec.oracleC06 .sync p.tti (linM p {} evs) = true :=
  lookupOracle_linM hq _ (checkC06_of_allChecks p) evs _ _ (coupledC_init p)

theorem ConcM_C07 (p : Params) (hq : Sync.NoQuirks p) (evs : List ConcM.Ev) (c : MState)
    (_hr : ConcM.runEvs p {} evs = some c) :
    lookupOracle .sync checkC07 {} (linM p {} evs) = true :=
  lookupOracle_linM hq _ (checkC07_of_allChecks p) evs _ _ (coupledC_init p)

def getResultsF (t : Trace) : List (Nat × Option Nat) :=
  t.filterMap fun oo => match oo with
    | (.get k, .val r) => some (k, r)
    | _ => none

def cflParams : Params := { tti := some 3, ttl := some 100 }

/-- A held read enqueued between two micro-steps of a run.  Key 1 (value 10) is inserted at
reading 0 and a first run links it.  Thread 1 hits it at reading 0 and HOLDS the hit; the clock
passes time-to-idle (reading 5); thread 2 updates key 1 to 11 and enqueues.  A housekeeping run
starts, reads `read_op_ch.len()` (0) and goes on to the writes; NOW thread 1 enqueues its stale
hit; the run pops the `Upsert`; the clock ticks (reading 6), thread 3 gets 11 between two
sub-steps of that `Upsert`; another thread's `try_sync` finds the flag taken; the run ends
without having seen the late read.  Thread 3 enqueues; the next run applies both reads, in
queue order (timestamps 0, then 6): gets at readings 7 and 8 find 11 (idle deadline 6 + 3), the
get at reading 9 nothing. -/
def lateReadMidRun : List ConcM.Ev :=
  [.other (.insMap 2 1 10), .other (.enq 2), .mBegin 9 true] ++ fSteps 10 ++
  [.other (.getMap 1 1), .other (.tick 5), .other (.insMap 2 1 11), .other (.enq 2),
   .mBegin 9 false, .mStep 9, .other (.enq 1), .mStep 9, .other (.tick 1), .other (.getMap 3 1),
   .mBegin 4 false] ++ fSteps 8 ++
  [.other (.enq 3), .mBegin 9 false] ++ fSteps 8 ++
  [.other (.tick 1), .other (.getMap 4 1), .other (.tick 1), .other (.getMap 5 1),
   .other (.tick 1), .other (.getMap 6 1)]

example : (ConcF.runEvs cflParams .good {} lateReadMidRun).isSome = true := by decide +kernel

/-- Right after `enq 1` the run is in the middle of its writes pass and the late read is
queued. -/
example : (ConcF.runEvs cflParams .good {} (lateReadMidRun.take 20)).map
    (fun c => (c.run.map (·.phase), c.s.readQ.length)) = some (some (.writes 4 1), 1) := by
  decide +kernel

example : getResultsF (linF cflParams .good {} lateReadMidRun)
    = [(1, some 10), (1, some 11), (1, some 11), (1, some 11), (1, none)] := by decide +kernel

example : oracleC06 .sync (some 3) (linF cflParams .good {} lateReadMidRun) = true := by
  decide +kernel

/-- The theorems apply to it. -/
example : ∀ c, ConcF.runEvs cflParams .good {} lateReadMidRun = some c →
    oracleC06 .sync (some 3) (linF cflParams .good {} lateReadMidRun) = true :=
  fun c hc => ConcF_C06 cflParams rfl lateReadMidRun c hc

def cflParams2 : Params :=
  { cap := some 2, hasWeigher := true, w := fun _ v => v % 3, tti := some 50 }

/-- Gets between the scan and the victim removals of an admission.  Keys 1 and 2 (weight 1 each)
fill the cache; key 3 is made popular and inserted with weight 2 (a get of key 3 already finds
it: it is in the map before it is admitted).  The run applying its `Upsert` scans and selects the
nodes of keys 1 and 2 as victims.  Between the scan and the removals: gets of keys 1 and 2 find
1 and 1.  The run removes key 1: a get of key 1 finds nothing, key 2 is still there.  Thread 2
inserts key 1 again (value 4), thread 3 invalidates key 2; the removal of victim 2 fails (the
node is skipped): gets find 4, nothing, 2.  The run admits key 3 and its LRU pass evicts it
again; the last run applies the racing operations.  At the end key 1 holds 4. -/
def getsDuringAdmission : List ConcM.Ev :=
  [.other (.insMap 1 1 1), .other (.enq 1), .other (.insMap 1 2 1), .other (.enq 1),
   .mBegin 9 true] ++ fSteps 13 ++
  [.other (.getMap 3 3), .other (.enq 3), .other (.insMap 1 3 2), .other (.enq 1),
   .mBegin 9 true] ++ fSteps 9 ++
  [.other (.getMap 5 1), .other (.getMap 6 2)] ++ fSteps 1 ++
  [.other (.getMap 7 1), .other (.getMap 8 2), .other (.insMap 2 1 4), .other (.invMap 3 2)] ++
  fSteps 1 ++
  [.other (.getMap 10 1), .other (.getMap 11 2), .other (.getMap 12 3)] ++ fSteps 7 ++
  [.other (.getMap 13 1), .other (.getMap 14 3), .other (.enq 2), .other (.enq 3), .other (.enq 5),
   .mBegin 9 true] ++ fSteps 11 ++
  [.other (.tick 1), .other (.getMap 15 1), .other (.getMap 16 3)]

example : (ConcF.runEvs cflParams2 .good {} getsDuringAdmission).isSome = true := by
  decide +kernel

/-- The first two gets after the second `mBegin` fall between the end of the scan and the first
victim removal: the run is at `victims` with both victims still to remove. -/
example : (ConcF.runEvs cflParams2 .good {} (getsDuringAdmission.take 32)).map
    (fun c => c.run.map (fun r => r.w.map (fun w => match w with
      | .victims _ _ vs sk => (vs.length, sk.length)
      | _ => (99, 99)))) = some (some (some (2, 0))) := by
  decide +kernel

example : getResultsF (linF cflParams2 .good {} getsDuringAdmission)
    = [(3, none), (1, some 1), (2, some 1), (1, none), (2, some 1), (1, some 4), (2, none),
       (3, some 2), (1, some 4), (3, none), (1, some 4), (3, none)] := by decide +kernel

example : lookupOracle .sync (Sync.allChecks cflParams2) {}
    (linF cflParams2 .good {} getsDuringAdmission) = true := by decide +kernel

/-- (`getsDuringAdmission` has no counterpart in `ConcM`: its gets fall inside what is ONE
micro-step there.)  A `ConcM` interleaving: a get, then an `invalidate` and a get, between the
micro-steps of the run that links the entry; it does not come back. -/
example : getResultsF (linM cflParams {}
    [.other (.insMap 2 1 10), .other (.enq 2), .mBegin 9 false, .mStep 9, .other (.getMap 1 1),
     .mStep 9, .other (.invMap 3 1), .other (.getMap 4 1), .mStep 9, .mStep 9, .mStep 9, .mStep 9,
     .mStep 9, .other (.getMap 5 1)])
    = [(1, some 10), (1, none), (1, none)] := by decide +kernel

/-- The seeded variant `.putBack` (victims evicted all-or-nothing with an unconditional put-back)
on `victimInterleaving` of Props/ConcF.lean, followed by a get of key 1: the get returns the
value 1 although `insert(1, 4)` was the most recent insert of that key — a stale value.  The
linearised trace is rejected by `oracleC01`; the current code on the same events returns 4. -/
theorem ConcF_putBack_stale_get :
    getResultsF (linF cfParams2 .putBack {} (victimInterleaving ++ [.other (.getMap 5 1)]))
      = [(3, none), (1, some 1)] ∧
    oracleC01 .sync (linF cfParams2 .putBack {} (victimInterleaving ++ [.other (.getMap 5 1)]))
      = false ∧
    getResultsF (linF cfParams2 .good {} (victimInterleaving ++ [.other (.getMap 5 1)]))
      = [(3, none), (1, some 4)] ∧
    oracleC01 .sync (linF cfParams2 .good {} (victimInterleaving ++ [.other (.getMap 5 1)]))
      = true := by
  decide +kernel

/-- A step that is not enabled ends the linearised trace (an explicit `sync` while a run is in
progress blocks). -/
example : getResultsF (linF cflParams .good {}
    [.other (.insMap 1 1 1), .mBegin 9 false, .other (.getMap 2 1), .mBegin 8 true,
     .other (.getMap 3 1)]) = [(1, some 1)] := by decide +kernel

end Props
end MiniMoka

namespace MiniMoka.Props
#print axioms ConcF_lookup_all
#print axioms ConcF_C01
#print axioms ConcF_C05
#print axioms ConcF_C06
#print axioms ConcF_C07
#print axioms ConcM_lookup_all
#print axioms ConcM_C01
#print axioms ConcM_C05
#print axioms ConcM_C06
#print axioms ConcM_C07
#print axioms ConcF_putBack_stale_get
end MiniMoka.Props
