/-
  C09 (every call returns) at the granularity of `MiniMoka/ConcS.lean`: any number of threads,
  steps "map step / atomic maintenance run / enqueue".

  In this system the only way for a call not to return is a thread that holds its operation and
  can never send it: `enq t` is not enabled while the write channel is full (the retry loop of
  `schedule_write_op`).  For every configuration of the current code and every reachable state a
  maintenance run is enabled for every thread (no run is in progress between steps: the
  `running` guard of `maint` / `sync` in `ConcS.step` never fails in a reachable state), it
  empties both queues, and so `ConcS_no_stuck_state`: every started call can complete, whatever
  the other threads did before.
  NOT covered (it is not a property of this granularity): fairness.  A scheduler that never
  lets a `maint` step happen while the write channel is full starves the writers; in the code
  the blocked writer itself calls `try_sync` in its retry loop, which is the `maint` step of
  that very thread, so "some `maint` eventually happens" is guaranteed there.  Also not
  covered: a maintenance run that is in progress on another thread (`running = true`) is not a
  state of this system (runs are atomic); for the retry loop against a concurrently running
  maintenance see `Props/C09Conc.lean`.
-/
import MiniMoka.Lemmas.ConcS

namespace MiniMoka
namespace Props

open Sync ConcS

/-- In every reachable state every thread can run maintenance, through the housekeeper
(`maint`) or explicitly (`sync`). -/
theorem ConcS_maint_always_enabled (p : Params) (hq : Sync.NoQuirks p) (hsm : SmallSketch p)
    (c : CState) (hr : Reach p c) (t : Tid) :
    ConcS.step p c (.maint t) = some { c with s := trySync p c.s } ∧
    ConcS.step p c (.sync t) = some { c with s := syncRun p c.s } := by
  have h := (reach_csinv hq hsm hr).running
  exact ⟨step_maint_eq p h t, step_sync_eq' p h t⟩

/-- A held read can always be enqueued (it is dropped when the read channel is full). -/
theorem ConcS_enq_read_always_enabled (p : Params) (c : CState) (t : Tid) (op : ROp)
    (hp : pendOf c.pending t = some (.read op)) :
    ∃ c', ConcS.step p c (.enq t) = some c' ∧ c'.pending = dropPend c.pending t :=
  step_enq_enabled p hp (fun _ e => by cases e)

/-- A held write can be enqueued exactly when the write channel has room. -/
theorem ConcS_enq_write_enabled_iff (p : Params) (c : CState) (t : Tid) (op : WOp)
    (hp : pendOf c.pending t = some (.write op)) :
    (∃ c', ConcS.step p c (.enq t) = some c') ↔ c.s.writeQ.length < Gen.WRITE_LOG_SIZE := by
  constructor
  · rintro ⟨c', hs⟩
    simp only [ConcS.step, hp] at hs
    by_cases hl : c.s.writeQ.length < Gen.WRITE_LOG_SIZE
    · exact hl
    · rw [if_neg hl] at hs; cases hs
  · intro hl
    obtain ⟨c', h1, _⟩ := step_enq_enabled p hp (fun _ _ => hl)
    exact ⟨c', h1⟩

/-- No thread is blocked forever on the full write channel as long as maintenance can run (and
it always can): a thread `t` that holds an operation can enqueue it in the current state, or
in the state right after one maintenance run by any thread `t'`.  (The second alternative
always holds; the first is the common case.) -/
theorem ConcS_enq_after_maint (p : Params) (hq : Sync.NoQuirks p) (hsm : SmallSketch p)
    (c : CState) (hr : Reach p c) (t : Tid) (pd : Pend) (hp : pendOf c.pending t = some pd)
    (t' : Tid) :
    (∃ c', ConcS.step p c (.enq t) = some c') ∨
    (∃ c1 c2, ConcS.step p c (.maint t') = some c1 ∧ ConcS.step p c1 (.enq t) = some c2 ∧
      c2.pending = dropPend c.pending t) :=
  Or.inr (maint_then_enq p (reach_csinv hq hsm hr).running hp t')

/-- The same, as a statement about both alternatives at once: the path `[maint t', enq t]` is
always enabled and leaves `t` idle. -/
theorem ConcS_maint_enq_path (p : Params) (hq : Sync.NoQuirks p) (hsm : SmallSketch p)
    (c : CState) (hr : Reach p c) (t : Tid) (pd : Pend) (hp : pendOf c.pending t = some pd)
    (t' : Tid) :
    ∃ c2, runEvs p c [.maint t', .enq t] = some c2 ∧ c2.pending = dropPend c.pending t ∧
      pendOf c2.pending t = none := by
  obtain ⟨c1, c2, h1, h2, h3⟩ := maint_then_enq p (reach_csinv hq hsm hr).running hp t'
  exact ⟨c2, by simp only [runEvs, h1, h2], h3, by rw [h3, pendOf_dropPend, if_pos rfl]⟩

/-- No reachable state is stuck: a path of at most two events per thread that holds an
operation (none for idle threads) leads to a (reachable) state in which no thread holds
anything.  Every call that has started can complete. -/
theorem ConcS_no_stuck_state (p : Params) (hq : Sync.NoQuirks p) (hsm : SmallSketch p)
    (c : CState) (hr : Reach p c) :
    ∃ evs c', evs.length ≤ 2 * c.pending.length ∧ runEvs p c evs = some c' ∧ c'.pending = [] ∧
      Reach p c' :=
  drain hq hsm c.pending.length c hr (Nat.le_refl _)

/-! ### every step returns

Every step is a total function (`ConcS.step : Params → CState → Ev → Option CState` is a Lean
definition accepted without `partial`): a step always returns.  The loops inside a
maintenance run are bounded by construction: `syncLoop` runs at most `MAX_SYNC_REPEATS + 1`
passes, `applyReads n` / `applyWrites n` pop at most `n` = the queue length at the start of
the pass, the admission loop walks the access-order list once (`admitLoop`, structurally) and
stops once more than `MAX_CONSECUTIVE_RETRIES` consecutive nodes were skipped, the expiry and LRU eviction loops have
fuel `SYNC_EVICTION_BATCH_SIZE`; the retry loop of `schedule_write_op` is not a loop of this
system at all (it is the enabledness of `enq`).  Examples: a maintenance run on a state whose
write channel is completely full. -/

/-- One thread fills the write channel: `n` inserts of distinct keys, enqueued, no
maintenance. -/
def fillEvs (n : Nat) : List Ev :=
  ((List.range n).map (fun k => [Ev.insMap 0 k 1, Ev.enq 0])).flatten

/-- As long as the channel has room the filling thread never waits. -/
theorem runEvs_fillEvs (p : Params) {n : Nat} (hn : n ≤ Gen.WRITE_LOG_SIZE) :
    ∃ c, runEvs p {} (fillEvs n) = some c ∧ c.s.writeQ.length = n ∧ c.pending = [] ∧
      c.s.running = false := by
  induction n with
  | zero => exact ⟨{}, rfl, rfl, rfl, rfl⟩
  | succ n ih =>
    obtain ⟨c, hc, hw, hp, hr⟩ := ih (Nat.le_of_succ_le hn)
    obtain ⟨hwq, _, hrun, _, _⟩ := insertMap_fields p c.s n 1
    refine ⟨⟨{ (insertMap p c.s n 1).1 with
      writeQ := (insertMap p c.s n 1).1.writeQ ++ [(insertMap p c.s n 1).2] }, []⟩, ?_, ?_, rfl,
      hrun.trans hr⟩
    · have hl : (insertMap p c.s n 1).1.writeQ.length < Gen.WRITE_LOG_SIZE := by
        rw [hwq, hw]; exact hn
      simp only [fillEvs, List.range_succ, List.map_append, List.flatten_append, List.map_cons,
        List.map_nil, List.flatten_cons, List.flatten_nil, List.append_nil]
      rw [runEvs_append, ← fillEvs, hc]
      simp only [runEvs, ConcS.step, hp, pendOf, List.nil_append, if_true, if_pos hl, dropPend]
    · simp only [List.length_append, List.length_singleton, hwq, hw]

/-- `[|write queue|, |map|, entry_count, weighted_size, threads holding something]`. -/
def progressSummary (evs : List Ev) : Option (List Nat) :=
  (runEvs {} {} evs).map fun c =>
    [c.s.writeQ.length, c.s.map.length, c.s.ec, c.s.ws, c.pending.length]

/- The examples below use 70 queued operations (more than the flush point, fewer than the
channel holds).  With the channel full the next writer cannot enqueue at all
(`ConcS_enq_write_enabled_iff`) until some thread's maintenance run has emptied it; to watch that,
evaluate `progressSummary (fillEvs Gen.WRITE_LOG_SIZE ++ [.insMap 0 999 1, .enq 0])` (`none`: not
enabled) and the same with `.maint 1` before the `.enq 0`. -/

/-- The run the two examples below share, evaluated once. -/
theorem progress_run :
    (runEvs {} {} (fillEvs 70 ++ [.insMap 0 999 1, .maint 1])).map (fun c =>
      ([c.s.writeQ.length, c.s.map.length, c.s.ec, c.s.ws, c.pending.length],
       (runEvs {} c [.enq 0, .maint 1]).map fun c =>
         [c.s.writeQ.length, c.s.map.length, c.s.ec, c.s.ws, c.pending.length]))
    = some ([0, 71, 70, 70, 1], some [0, 71, 71, 71, 0]) := by
  decide +kernel

/-- 70 queued operations (more than the flush point 64, which one thread alone never exceeds), a
thread holding a 71st, one maintenance run by another thread, the enqueue, a last run. -/
example : progressSummary (fillEvs 70 ++ [.insMap 0 999 1, .maint 1])
    = some [0, 71, 70, 70, 1] := by
  have h := progress_run
  unfold progressSummary
  cases hr : runEvs {} {} (fillEvs 70 ++ [.insMap 0 999 1, .maint 1]) with
  | none => rw [hr] at h; cases h
  | some c =>
    rw [hr] at h
    exact congrArg (Option.map Prod.fst) h

example : progressSummary (fillEvs 70 ++ [.insMap 0 999 1, .maint 1, .enq 0, .maint 1])
    = some [0, 71, 71, 71, 0] := by
  have h := progress_run
  unfold progressSummary
  rw [show fillEvs 70 ++ [Ev.insMap 0 999 1, .maint 1, .enq 0, .maint 1] =
    (fillEvs 70 ++ [.insMap 0 999 1, .maint 1]) ++ [.enq 0, .maint 1] by
      rw [List.append_assoc]; rfl, runEvs_append]
  cases hr : runEvs {} {} (fillEvs 70 ++ [.insMap 0 999 1, .maint 1]) with
  | none => rw [hr] at h; cases h
  | some c =>
    rw [hr] at h
    exact (Prod.mk.inj (Option.some.inj h)).2

end Props
end MiniMoka

namespace MiniMoka.Props
#print axioms ConcS_maint_always_enabled
#print axioms ConcS_enq_read_always_enabled
#print axioms ConcS_enq_write_enabled_iff
#print axioms ConcS_enq_after_maint
#print axioms ConcS_maint_enq_path
#print axioms ConcS_no_stuck_state
end MiniMoka.Props
