/-
  C13 — TinyLFU admission on the single-threaded cache: a new key that finds no room is
  admitted exactly when its popularity estimate exceeds the summed estimates of the shortest
  prefix of the recency order whose weight covers the candidate's; otherwise it is dropped
  and no resident is touched.
-/
import MiniMoka.Lemmas.UnsyncAdmit
import MiniMoka.Lemmas.SketchLaws

namespace MiniMoka
namespace Props

open Unsync Unsync.Admit

/-- The admission loop of `admit` in closed form (pure statement about the loop): with
`nodes` the probation list in recency order, weights `wOf s n.key` and popularity estimates
`fOf s n`, the final test `victims.weight >= candidate.weight && candidate.freq > victims.freq`
holds iff the shortest prefix whose weights reach `cw` exists and `cf` exceeds the summed
estimates of that prefix; the selected victims are then exactly that prefix.  The early exit
(`candidate.freq < victims.freq → break`) never changes the outcome, and for `cw = 0` the
prefix is empty: admitted iff `cf > 0`. -/
theorem C13_admit_closed_formula {p : Params} {s : UState} {cw cf : Nat}
    (hw : ∀ k e, AL.get? s.map k = some e → e.weight = p.weigh k e.val)
    (nodes : List AoNode) (hall : ∀ n ∈ nodes, ∃ e, AL.get? s.map n.key = some e) :
    ((admitLoop p s cw cf nodes {}).vw ≥ cw ∧ cf > (admitLoop p s cw cf nodes {}).vf ↔
      ∃ n, shortestPre cw (nodes.map (fun n => wOf s n.key)) = some n ∧
        cf > ((nodes.map (fOf s)).take n).sum) ∧
    (∀ n, shortestPre cw (nodes.map (fun n => wOf s n.key)) = some n →
        cf > ((nodes.map (fOf s)).take n).sum →
        (admitLoop p s cw cf nodes {}).victims = nodes.take n ∧
        (admitLoop p s cw cf nodes {}).vw = ((nodes.map (fun n => wOf s n.key)).take n).sum ∧
        (admitLoop p s cw cf nodes {}).vf = ((nodes.map (fOf s)).take n).sum) :=
  admitLoop_closed hw nodes hall

/-- `shortestPre cw ws = some n` means: `n` is the least prefix length whose weights sum to at
least `cw`; `none` means the whole list does not reach `cw`. -/
theorem C13_shortestPre_meaning (cw : Nat) (ws : List Nat) :
    (∀ n, shortestPre cw ws = some n ↔
      (n ≤ ws.length ∧ cw ≤ (ws.take n).sum ∧ ∀ m, m < n → (ws.take m).sum < cw)) ∧
    (shortestPre cw ws = none ↔ ws.sum < cw) :=
  ⟨fun n => shortestPre_eq_some_iff ws cw n, shortestPre_eq_none_iff ws cw⟩

/-- **C13, the admission decision.** For every configuration of the current code
(`NoQuirks`; any capacity, weigher, hasher, ttl/tti), every reachable state (`Inv`) and
every key `k` that is not resident after the operation's own maintenance
(`s1 := maintain p s`), of weight `w := p.weigh k v` and popularity estimate
`cf := s1.sk.frequency (p.hash k)`: when there is no room and the candidate is not oversized,

* if the shortest prefix of the recency order `s1.prob` whose weights reach `w` has length `n`
  and `cf` exceeds the summed estimates of these `n` residents, then after `insert p s k v`
  the key is resident with value `v`, the `n` residents of that prefix (all of them were
  resident) have left, and every other key holds exactly the entry it held before;
* otherwise (no prefix is heavy enough, or `cf` does not exceed the sum) the insert leaves
  the state that maintenance produced: `k` is not resident and no resident is touched. -/
theorem C13_unsync_admission {p : Params} (hq : NoQuirks p) {s : UState}
    (hi : Inv Sketch.Good p s) (k v : Nat)
    (hnew : AL.get? (maintain p s).map k = none)
    (hroom : hasEnoughCapacity p (p.weigh k v) (maintain p s).ws = false)
    (hbig : tooBig p (p.weigh k v) = false) :
    (∀ n, shortestPre (p.weigh k v) (probWeights (maintain p s)) = some n →
      (maintain p s).sk.frequency (p.hash k) > ((probFreqs (maintain p s)).take n).sum →
      (∃ e, AL.get? (insert p s k v).map k = some e ∧ e.val = v) ∧
      (∀ k' ∈ ((maintain p s).prob.take n).map (·.key),
        (∃ e', AL.get? (maintain p s).map k' = some e') ∧ AL.get? (insert p s k v).map k' = none) ∧
      (∀ k', k' ≠ k → k' ∉ ((maintain p s).prob.take n).map (·.key) →
        AL.get? (insert p s k v).map k' = AL.get? (maintain p s).map k')) ∧
    ((¬ ∃ n, shortestPre (p.weigh k v) (probWeights (maintain p s)) = some n ∧
        (maintain p s).sk.frequency (p.hash k) > ((probFreqs (maintain p s)).take n).sum) →
      insert p s k v = maintain p s ∧ AL.get? (insert p s k v).map k = none) := by
  obtain ⟨hadm, hrej⟩ := insert_noroom hq hi.inv k v hnew hroom hbig
  obtain ⟨h1, _, _⟩ := maintain_spec hq hi.inv
  refine ⟨?_, ?_⟩
  · intro n hn1 hn2
    obtain ⟨⟨e, he, hv, _⟩, hmap, _⟩ := hadm n hn1 hn2
    exact ⟨⟨e, he, hv⟩, fun k' hk' => (evicted_iff_prefix h1.struct hnew hmap k').mpr hk',
      fun k' hne hk' => by rw [hmap k' hne, if_neg hk']⟩
  · intro hno
    have := hrej hno
    exact ⟨this, by rw [this]; exact hnew⟩

/-- A candidate heavier than the whole capacity that finds no room is dropped; the state is
the one maintenance produced. -/
theorem C13_unsync_oversized {p : Params} {s : UState} (k v : Nat)
    (hnew : AL.get? (maintain p s).map k = none)
    (hroom : hasEnoughCapacity p (p.weigh k v) (maintain p s).ws = false)
    (hbig : tooBig p (p.weigh k v) = true) :
    insert p s k v = maintain p s ∧ AL.get? (insert p s k v).map k = none := by
  -- `hroom` follows from `hbig`; the statement names all three tests of `handle_insert`
  have _ := hroom
  have := insert_toobig hnew hbig
  exact ⟨this, by rw [this]; exact hnew⟩

/-- A candidate that fits is admitted without consulting the popularity estimates, and no
resident leaves: every other key holds exactly the entry it held before. -/
theorem C13_unsync_has_room {p : Params} (hq : NoQuirks p) {s : UState}
    (hi : Inv Sketch.Good p s) (k v : Nat)
    (hnew : AL.get? (maintain p s).map k = none)
    (hfit : hasEnoughCapacity p (p.weigh k v) (maintain p s).ws = true) :
    (∃ e, AL.get? (insert p s k v).map k = some e ∧ e.val = v) ∧
    (∀ k', k' ≠ k → AL.get? (insert p s k v).map k' = AL.get? (maintain p s).map k') := by
  obtain ⟨⟨e, he, hv, _⟩, hmap, _⟩ := insert_hasroom hq hi.inv k v hnew hfit
  exact ⟨⟨e, he, hv⟩, hmap⟩

/-- **Scan resistance.** A new key whose popularity estimate is zero never displaces a
resident: if it finds no room it is dropped and the state is the one maintenance produced,
whatever the residents' estimates and weights — including a candidate of weight 0 and an
oversized one (the final test needs `cf > victims.freq ≥ 0`). -/
theorem C13_scan_resistance {p : Params} (hq : NoQuirks p) {s : UState}
    (hi : Inv Sketch.Good p s) (k v : Nat)
    (hnew : AL.get? (maintain p s).map k = none)
    (hroom : hasEnoughCapacity p (p.weigh k v) (maintain p s).ws = false)
    (hcold : (maintain p s).sk.frequency (p.hash k) = 0) :
    insert p s k v = maintain p s ∧ AL.get? (insert p s k v).map k = none := by
  cases hbig : tooBig p (p.weigh k v) with
  | true => exact C13_unsync_oversized k v hnew hroom hbig
  | false =>
    refine (C13_unsync_admission hq hi k v hnew hroom hbig).2 ?_
    rintro ⟨n, _, h2⟩
    rw [hcold] at h2
    exact absurd h2 (Nat.not_lt_zero _)

/-- **A hot key is admitted.** If the candidate's estimate exceeds the summed estimates of
the shortest prefix of the recency order that is heavy enough, it is admitted and exactly
that prefix leaves. -/
theorem C13_hot_key_admitted {p : Params} (hq : NoQuirks p) {s : UState}
    (hi : Inv Sketch.Good p s) (k v n : Nat)
    (hnew : AL.get? (maintain p s).map k = none)
    (hroom : hasEnoughCapacity p (p.weigh k v) (maintain p s).ws = false)
    (hbig : tooBig p (p.weigh k v) = false)
    (hpre : shortestPre (p.weigh k v) (probWeights (maintain p s)) = some n)
    (hhot : (maintain p s).sk.frequency (p.hash k) > ((probFreqs (maintain p s)).take n).sum) :
    (∃ e, AL.get? (insert p s k v).map k = some e ∧ e.val = v) ∧
    (∀ k', k' ≠ k → AL.get? (insert p s k v).map k' =
      if k' ∈ ((maintain p s).prob.take n).map (·.key) then none
      else AL.get? (maintain p s).map k') := by
  obtain ⟨⟨e, he, hv, _⟩, hmap, _⟩ := (insert_noroom hq hi.inv k v hnew hroom hbig).1 n hpre hhot
  exact ⟨⟨e, he, hv⟩, hmap⟩

/-- A zero-weight candidate that finds no room (the cache is still over capacity) is
admitted iff its estimate is positive, with no victim at all: this is how the code behaves
(`victims.weight >= 0` holds before any victim is aggregated). -/
theorem C13_zero_weight {p : Params} (hq : NoQuirks p) {s : UState}
    (hi : Inv Sketch.Good p s) (k v : Nat)
    (hnew : AL.get? (maintain p s).map k = none)
    (hroom : hasEnoughCapacity p (p.weigh k v) (maintain p s).ws = false)
    (hzero : p.weigh k v = 0)
    (hpos : (maintain p s).sk.frequency (p.hash k) > 0) :
    (∃ e, AL.get? (insert p s k v).map k = some e ∧ e.val = v) ∧
    (∀ k', k' ≠ k → AL.get? (insert p s k v).map k' = AL.get? (maintain p s).map k') := by
  have hbig : tooBig p (p.weigh k v) = false := by
    rw [hzero]; unfold tooBig; cases p.cap <;> simp
  obtain ⟨h1, h2⟩ := C13_hot_key_admitted hq hi k v 0 hnew hroom hbig
    (by rw [hzero]; exact shortestPre_zero _) (by simpa using hpos)
  exact ⟨h1, fun k' hne => by simpa using h2 k' hne⟩

/-- **C13 on traces.** For every configuration of the current code (any capacity incl. none,
any weigher, hasher, ttl/tti; `SmallSketch` is the documented sketch-size limit) and every
history, the C13 oracle accepts the model's trace: in every window `snap, freq k, ins k v, snap`
in which `k` is new, the cache is calm (nothing expired, not over capacity), the candidate is
not oversized and finds no room, the keys resident afterwards are those predicted from the
first snapshot by the closed formula (`predictAdmission`). -/
theorem C13_unsync_oracle (p : Params) (hq : NoQuirks p) (hsm : SmallSketch p) (h : List Op) :
    Spec.oracleC13 .unsync p.cap p.ttl p.tti p.weigh (Unsync.trace p h) = true :=
  oracleC13_trace sketchLaws hq hsm h

open Unsync.Admit.Ex

/-- What the examples below say of the state `maintain cfg2 full2` (capacity 2, residents 1 and 2,
key 3 looked up twice, key 4 never) and of the two inserts into it, in one evaluation. -/
theorem full2_facts :
    (AL.get? (maintain cfg2 full2).map 3 = none ∧
     hasEnoughCapacity cfg2 (cfg2.weigh 3 30) (maintain cfg2 full2).ws = false ∧
     tooBig cfg2 (cfg2.weigh 3 30) = false ∧
     (maintain cfg2 full2).prob.map (·.key) = [1, 2] ∧
     shortestPre (cfg2.weigh 3 30) (probWeights (maintain cfg2 full2)) = some 1 ∧
     (maintain cfg2 full2).sk.frequency (cfg2.hash 3) = 2 ∧
     ((probFreqs (maintain cfg2 full2)).take 1).sum = 0 ∧
     AL.keys (insert cfg2 full2 3 30).map = [2, 3]) ∧
    AL.get? (maintain cfg2 full2).map 4 = none ∧
    hasEnoughCapacity cfg2 (cfg2.weigh 4 40) (maintain cfg2 full2).ws = false ∧
    (maintain cfg2 full2).sk.frequency (cfg2.hash 4) = 0 ∧
    AL.keys (insert cfg2 full2 4 40).map = [1, 2] := by
  decide +kernel

/-- The hypotheses of `C13_unsync_admission` are met by a reachable state of a concrete cache
(capacity 2, residents 1 and 2, key 3 looked up twice), and its admitted branch fires: the
shortest prefix is the LRU resident 1 (estimate 0 < 2), which leaves; 2 stays; 3 is resident. -/
example :
    AL.get? (maintain cfg2 full2).map 3 = none ∧
    hasEnoughCapacity cfg2 (cfg2.weigh 3 30) (maintain cfg2 full2).ws = false ∧
    tooBig cfg2 (cfg2.weigh 3 30) = false ∧
    (maintain cfg2 full2).prob.map (·.key) = [1, 2] ∧
    shortestPre (cfg2.weigh 3 30) (probWeights (maintain cfg2 full2)) = some 1 ∧
    (maintain cfg2 full2).sk.frequency (cfg2.hash 3) = 2 ∧
    ((probFreqs (maintain cfg2 full2)).take 1).sum = 0 ∧
    AL.keys (insert cfg2 full2 3 30).map = [2, 3] :=
  full2_facts.1

/-- The theorem applied to that state (all hypotheses discharged, including reachability). -/
example : (∃ e, AL.get? (insert cfg2 full2 3 30).map 3 = some e ∧ e.val = 30) ∧
    (∀ k', k' ≠ 3 → AL.get? (insert cfg2 full2 3 30).map k' =
      if k' ∈ ((maintain cfg2 full2).prob.take 1).map (·.key) then none
      else AL.get? (maintain cfg2 full2).map k') := by
  obtain ⟨hnew, hroom, hbig, -, hpre, hf, hsum, -⟩ := full2_facts.1
  refine C13_hot_key_admitted (p := cfg2) (s := full2) nq_cfg2
    (reachable_inv sketchLaws nq_cfg2 small_cfg2 _) 3 30 1 hnew hroom hbig hpre ?_
  rw [hf, hsum]
  exact Nat.zero_lt_two

/-- A rejection on the same state: key 4 was never looked up (estimate 0), the cache is full:
the insert changes nothing (`C13_scan_resistance` applied, and evaluated). -/
example : insert cfg2 full2 4 40 = maintain cfg2 full2 ∧
    AL.get? (insert cfg2 full2 4 40).map 4 = none :=
  C13_scan_resistance (p := cfg2) (s := full2) nq_cfg2
    (reachable_inv sketchLaws nq_cfg2 small_cfg2 _) 4 40
    full2_facts.2.1 full2_facts.2.2.1 full2_facts.2.2.2.1

example : AL.keys (insert cfg2 full2 4 40).map = [1, 2] := full2_facts.2.2.2.2

/-- Weighted cache (capacity 3, weight = value, residents 1 of weight 2 and 2 of weight 1,
key 5 looked up three times): a candidate of weight 3 needs both residents (prefix length 2),
one of weight 2 only the LRU resident, one of weight 4 is oversized and dropped. -/
example :
    shortestPre (cfgW.weigh 5 3) (probWeights (maintain cfgW fullW)) = some 2 ∧
    AL.keys (insert cfgW fullW 5 3).map = [5] ∧
    shortestPre (cfgW.weigh 5 2) (probWeights (maintain cfgW fullW)) = some 1 ∧
    AL.keys (insert cfgW fullW 5 2).map = [2, 5] ∧
    tooBig cfgW (cfgW.weigh 5 4) = true ∧
    AL.keys (insert cfgW fullW 5 4).map = [1, 2] := by
  decide +kernel

/-- The trace oracle of C13 accepts the model's trace of a history with an admission and a
rejection. -/
example : Spec.oracleC13 .unsync (some 2) none none (fun _ _ => 1) (Unsync.trace cfg2
    [.ins 1 10, .ins 2 20, .get 3, .get 3, .snap, .freq 3, .ins 3 30, .snap, .freq 4, .ins 4 40,
     .snap]) = true := by
  decide +kernel

/-- The oracle is not vacuous: it rejects a trace in which a cold key (estimate 0) displaces
the LRU resident of a full cache. -/
example : Spec.oracleC13 .unsync (some 2) none none (fun _ _ => 1)
    [(.snap, .snap (snapshot cfg2 full2)), (.freq 4, .freq 0), (.ins 4 40, .ok),
     (.snap, .snap (snapshot cfg2 (runState cfg2 {} [.ins 2 20, .ins 4 40])))] = false := by
  decide +kernel

end Props
end MiniMoka
