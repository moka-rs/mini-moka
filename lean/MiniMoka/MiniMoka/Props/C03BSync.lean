/-
  C03 part B on the concurrent cache driven by one thread: between two quiescent snapshots a
  fresh key whose (last) value fits in the room the residents leave is retained, and if every
  value inserted in between fits, nothing unexpired is evicted.  With part A
  (`Props/C03ASync.lean`) this is the whole C03 oracle of the concurrent cache.
-/
import MiniMoka.Lemmas.SyncFits
import MiniMoka.Props.C03ASync

namespace MiniMoka
namespace Props

open Sync

/-- C03 part B, concurrent cache with `max_capacity = c`, for every ttl/tti, weigher, hash
function and history.  Every window `sync, snap(before), <inserts of one key k, with snapshots
and popularity readings in between>, sync, snap(after)` of the trace: if `k` is not resident in
`before`, no deadline is zero and the weight of the LAST inserted value fits in the room the
residents of `before` leave (`Σ weights + weigh k v ≤ c`), then `after` holds `(k, v)` — the
later inserts are updates that share the entry info of the first, maintenance re-weighs the
value the map holds now, and it makes no difference which of the inserts started a
housekeeping run of their own; if moreover the heaviest of the inserted values fits, every
resident of `before` that is not expired (or invalidated) at `after` is still resident. -/
theorem C03B_sync (p : Params) (hq : Sync.NoQuirks p) (hsm : SmallSketch p) (c : Nat)
    (hcap : p.cap = some c) (h : List Op) :
    Spec.fitsC03Sync c p.ttl p.tti p.weigh (Sync.trace p h) = true :=
  fitsC03Sync_run hq hsm hcap h {} (Counters.init_t p) (fun v hv => by cases hv)

/-- The whole C03 oracle of the concurrent cache (part A: `C03A_sync_oracle`, part B:
`C03B_sync`), for every configuration and every history. -/
theorem C03_sync_oracle (p : Params) (hq : Sync.NoQuirks p) (hsm : SmallSketch p) (h : List Op) :
    Spec.oracleC03 .sync p.cap p.ttl p.tti p.weigh (Sync.trace p h) = true :=
  Spec.oracleC03_of (C03A_sync_oracle p hq hsm h) (fun c hcap => C03B_sync p hq hsm c hcap h)

/-- A two-insert window (capacity 4, weight = value): key 1 weighs 2; key 2 is inserted with a
value that does not fit (3) and then with one that does (1).  Past the periodic-sync window
both upserts are still queued at the closing `sync`. -/
example : Spec.fitsC03Sync 4 none none (fun _ v => v) (Sync.trace
    { cap := some 4, hasWeigher := true, w := fun _ v => v }
    [.adv Gen.PAST_SYNC_INTERVAL_NS, .ins 1 2, .sync, .snap, .ins 2 3, .snap, .ins 2 1, .freq 2, .sync, .snap])
    = true := by
  decide +kernel

/-- The same inside the periodic-sync window, where the second insert itself runs the
maintenance that handles the first upsert. -/
example : Spec.fitsC03Sync 4 none none (fun _ v => v) (Sync.trace
    { cap := some 4, hasWeigher := true, w := fun _ v => v }
    [.ins 1 2, .sync, .snap, .ins 2 3, .snap, .ins 2 1, .freq 2, .sync, .snap]) = true := by
  decide +kernel

/-- In both regimes the closing snapshot holds key 1 and key 2 with its last value (the check
is not satisfied vacuously). -/
example : ((Sync.trace { cap := some 4, hasWeigher := true, w := fun _ v => v }
    [.adv Gen.PAST_SYNC_INTERVAL_NS, .ins 1 2, .sync, .snap, .ins 2 3, .ins 2 1, .sync, .snap]).map
      (fun oo => match oo.2 with
        | .snap sn => sn.entries.map (fun e => (e.key, e.val, e.weight))
        | _ => [])).getLast? = some [(1, 2, 2), (2, 1, 1)] := by
  decide +kernel

example : ((Sync.trace { cap := some 4, hasWeigher := true, w := fun _ v => v }
    [.ins 1 2, .sync, .snap, .ins 2 3, .ins 2 1, .sync, .snap]).map
      (fun oo => match oo.2 with
        | .snap sn => sn.entries.map (fun e => (e.key, e.val, e.weight))
        | _ => [])).getLast? = some [(1, 2, 2), (2, 1, 1)] := by
  decide +kernel

/-- With ttl and tti, an entry that expires inside the window is exempt. -/
example : Spec.fitsC03Sync 3 (some 5) (some 3) (fun _ _ => 1) (Sync.trace
    { cap := some 3, ttl := some 5, tti := some 3 }
    [.adv Gen.PAST_SYNC_INTERVAL_NS, .ins 1 1, .adv 2, .ins 3 3, .adv 1, .sync, .snap, .ins 2 7, .ins 2 8,
     .sync, .snap, .adv 3, .sync, .snap, .ins 4 4, .sync, .snap]) = true := by
  decide +kernel

/-- A hand-made snapshot with the given residents `(key, value, weight, last accessed)`. -/
def mkSnap (now : Nat) (es : List (Nat × Nat × Nat × Nat)) : Snap :=
  { ec := es.length, ws := (es.map (·.2.2.1)).sum,
    entries := es.map fun e => { key := e.1, val := e.2.1, weight := e.2.2.1, la := some e.2.2.2,
                                 lm := some e.2.2.2, aoOk := true, woOk := true },
    prob := [], wo := [], skOn := false, skSize := 0, skSample := 0, skLen := 0, skCrc := 0,
    freqs := [], now := now }

/-- The oracle is not vacuous: it rejects a window in which the fitting fresh key is missing
afterwards, one in which it is there with a stale value, and one in which a resident was
evicted although everything fit — but not if that resident was past its idle deadline, nor if
the heaviest inserted value did not fit. -/
example : Spec.fitsC03Sync 4 none none (fun _ v => v)
    [(.sync, .ok), (.snap, .snap (mkSnap 0 [(1, 2, 2, 0)])), (.ins 2 1, .ok), (.sync, .ok),
     (.snap, .snap (mkSnap 0 [(1, 2, 2, 0)]))] = false := by decide

example : Spec.fitsC03Sync 4 none none (fun _ v => v)
    [(.sync, .ok), (.snap, .snap (mkSnap 0 [(1, 2, 2, 0)])), (.ins 2 3, .ok), (.ins 2 1, .ok),
     (.sync, .ok), (.snap, .snap (mkSnap 0 [(1, 2, 2, 0), (2, 3, 3, 0)]))] = false := by decide

example : Spec.fitsC03Sync 4 none (some 5) (fun _ v => v)
    [(.sync, .ok), (.snap, .snap (mkSnap 7 [(1, 2, 2, 3)])), (.ins 2 1, .ok), (.sync, .ok),
     (.snap, .snap (mkSnap 7 [(2, 1, 1, 7)]))] = false := by decide

example : Spec.fitsC03Sync 4 none (some 4) (fun _ v => v)
    [(.sync, .ok), (.snap, .snap (mkSnap 7 [(1, 2, 2, 3)])), (.ins 2 1, .ok), (.sync, .ok),
     (.snap, .snap (mkSnap 7 [(2, 1, 1, 7)]))] = true := by decide

example : Spec.fitsC03Sync 4 none none (fun _ v => v)
    [(.sync, .ok), (.snap, .snap (mkSnap 0 [(1, 2, 2, 0)])), (.ins 2 3, .ok), (.ins 2 1, .ok),
     (.sync, .ok), (.snap, .snap (mkSnap 0 [(2, 1, 1, 0)]))] = true := by decide

end Props
end MiniMoka

#print axioms MiniMoka.Props.C03B_sync
#print axioms MiniMoka.Props.C03_sync_oracle
