/-
  C08 (memory safety) for the intrusive doubly linked list `common/deque.rs`.

  Model: `MiniMoka/DequeHeap.lean` (heap of nodes addressed by naturals, every dereference
  of a dead address is `Fault.useAfterFree`, so is a double free); `m s = .ok (r, s')` says that
  operation `m` run in state `s` returns `r` in state `s'` without any fault. The definitions used
  in the statements (`WF`, `Detached`, `Pres`, `Frees`, `Allocs`, `leave`, `succOf`, `Cmd`, `rstep`,
  `Legal`, …) are in `MiniMoka/Lemmas/DequeHeap.lean`.

  The theorems about sequences of calls speak of the command language `Cmd` (`mstep`, `mrun`) of
  the lemma file, compared with the list interpreter `rstep`. The facade `FOp`/`fstep` of the
  model file, which the native driver runs against the Rust `VerifDeque`, has no theorem.
-/
import MiniMoka.Lemmas.DequeHeap

namespace MiniMoka
namespace DequeHeap

theorem C08_deque_new : WF new [] := new_wf

/-- `push_back(Box::new(DeqNode::new(e)))`: returns the fresh address, appends it. -/
theorem C08_deque_push_back {s : DState} {l : List Nat} (h : WF s l) (e : Nat) :
    ∃ s', pushBack e s = .ok (s.next, s') ∧ WF s' (l ++ [s.next]) ∧ Allocs s s' e ∧
      s'.cursor = s.cursor ∧
      (∀ b, b ∉ l → b ≠ s.next → hget s'.heap b = hget s.heap b) :=
  pushBack_spec h e

/-- A fresh address is dead, was never freed (no reuse of freed addresses) and is not linked. -/
theorem C08_deque_alloc_fresh {s : DState} {l : List Nat} (h : WF s l) :
    hget s.heap s.next = none ∧ s.next ∉ s.freed ∧ s.next ∉ l :=
  alloc_fresh h

/-- `push_back` of an existing box (any live node that is not linked): same address. -/
theorem C08_deque_push_back_box {s : DState} {l : List Nat} {a : Nat} {n : Node}
    (h : WF s l) (hal : a ∉ l) (han : hget s.heap a = some n) :
    ∃ s', pushBackBox a s = .ok (a, s') ∧ (WF s' (l ++ [a]) ∧ Pres s s' l (l ++ [a])) ∧
      s'.cursor = s.cursor :=
  pushBackBox_spec h hal han

/-- `pop_front` on a non-empty list: returns the old head (and its element), frees exactly it;
a cursor at the head is advanced first. -/
theorem C08_deque_pop_front {s : DState} {a : Nat} {t : List Nat} (h : WF s (a :: t)) :
    ∃ s', popFront s = .ok (some (a, elemAt s a), s') ∧ WF s' t ∧ Frees s s' a ∧
      s'.cursor = leave (a :: t) a s.cursor ∧
      (∀ b, b ∉ a :: t → hget s'.heap b = hget s.heap b) :=
  popFront_ok h

theorem C08_deque_pop_front_empty {s : DState} (h : WF s []) : popFront s = .ok (none, s) :=
  popFront_nil h

/-- `move_to_back(a)` for `a ∈ l`: `l.erase a ++ [a]`; frees and allocates nothing. The cursor
is untouched when `a` already is the tail, otherwise a cursor at `a` is advanced first. -/
theorem C08_deque_move_to_back {s : DState} {l : List Nat} {a : Nat} (h : WF s l) (ha : a ∈ l) :
    ∃ s', moveToBack a s = .ok ((), s') ∧ WF s' (l.erase a ++ [a]) ∧
      Pres s s' l (l.erase a ++ [a]) ∧
      s'.cursor = if l.getLast? = some a then s.cursor else leave l a s.cursor :=
  moveToBack_ok h ha

/-- `move_front_to_back` is `move_to_back(head)`, or nothing on the empty list. -/
theorem C08_deque_move_front_to_back {s : DState} {l : List Nat} (h : WF s l) :
    (l = [] → moveFrontToBack s = .ok ((), s)) ∧
    (∀ a, l.head? = some a → moveFrontToBack s = moveToBack a s) := by
  refine ⟨fun hl => ?_, fun a ha => ?_⟩
  · subst hl; exact moveFrontToBack_nil h
  · exact moveFrontToBack_eq h (by rw [← List.head?_eq_getElem?]; exact ha)

/-- `unlink(a)` for `a ∈ l`: `l.erase a`, nothing freed, `a` is left detached. -/
theorem C08_deque_unlink {s : DState} {l : List Nat} {a : Nat} (h : WF s l) (ha : a ∈ l) :
    ∃ s', unlink a s = .ok ((), s') ∧ WF s' (l.erase a) ∧ Pres s s' l (l.erase a) ∧
      s'.cursor = leave l a s.cursor ∧ Detached s' (l.erase a) a :=
  unlink_ok h ha

/-- `unlink_and_drop(a)` for `a ∈ l`: `l.erase a`, exactly `a` is freed. -/
theorem C08_deque_unlink_and_drop {s : DState} {l : List Nat} {a : Nat}
    (h : WF s l) (ha : a ∈ l) :
    ∃ s', unlinkAndDrop a s = .ok ((), s') ∧ WF s' (l.erase a) ∧ Frees s s' a ∧
      s'.cursor = leave l a s.cursor ∧ (∀ b, b ∉ l → hget s'.heap b = hget s.heap b) :=
  unlinkAndDrop_ok h ha

/-- `contains` answers list membership, for nodes of this list and for detached nodes; it
changes nothing. -/
theorem C08_deque_contains {s : DState} {l : List Nat} {a : Nat} (h : WF s l)
    (ha : a ∈ l ∨ Detached s l a) :
    contains a s = .ok (decide (a ∈ l), s) :=
  contains_spec h ha

theorem C08_deque_contains_iff {s : DState} {l : List Nat} {a : Nat} (h : WF s l)
    (ha : a ∈ l ∨ Detached s l a) :
    contains a s = .ok (true, s) ↔ a ∈ l := by
  rw [contains_spec h ha]
  by_cases hm : a ∈ l <;> simp [hm]

theorem C08_deque_peek_front {s : DState} {l : List Nat} (h : WF s l) :
    peekFront s = .ok (l.head?, s) ∧ peekFrontPtr s = .ok (l.head?, s) :=
  ⟨peekFront_spec h, peekFrontPtr_spec h⟩

/-- `DeqNode::next_node_ptr(a)` is the successor of `a` in `l`. -/
theorem C08_deque_next_node_ptr {s : DState} {l : List Nat} {a : Nat} (h : WF s l) (ha : a ∈ l) :
    nextNodePtr a s = .ok (succOf l a, s) :=
  nextNodePtr_ok h ha

/-- Allocation status: relinking operations change no address's liveness or element, a freeing
operation changes only the freed address, `push_back` only the fresh address. -/
theorem C08_deque_allocation_status {s s' : DState} :
    (∀ l l', Pres s s' l l' → ∀ b, (hget s'.heap b).isSome = (hget s.heap b).isSome) ∧
    (∀ a, Frees s s' a → ∀ b, b ≠ a → (hget s'.heap b).isSome = (hget s.heap b).isSome) ∧
    (∀ e, Allocs s s' e → ∀ b, b ≠ s.next → (hget s'.heap b).isSome = (hget s.heap b).isSome) :=
  ⟨fun _ _ hp b => hp.live_eq b, fun _ hp b hb => hp.live_eq b hb,
    fun _ hp b hb => hp.live_eq b hb⟩

/-- From `cursor = None`, `l.length + 1` calls of `next` yield the nodes of `l` front to back
(address and stored element) and then `None`; the state is then exactly the initial one
(cursor `None` again: the following call starts over). -/
theorem C08_deque_iterator {s : DState} {l : List Nat} (h : WF s l) (hc : s.cursor = none) :
    iterRun (l.length + 1) s = .ok (l.map (fun a => some (a, elemAt s a)) ++ [none], s) :=
  iterRun_all h hc

/-- One step of the iterator at position `j`, and the step after `Done`. -/
theorem C08_deque_iterator_step {s : DState} {l : List Nat} (h : WF s l) :
    (∀ c j, s.cursor = some (.node c) → l[j]? = some c →
      iterNext s = .ok (some (c, elemAt s c), { s with cursor := curAfter l j })) ∧
    (s.cursor = some .done → iterNext s = .ok (none, { s with cursor := none })) :=
  ⟨fun _ _ hc hj => iterNext_at h hc hj, fun hc => iterNext_done hc⟩

/-- When `a` leaves its position (pop, unlink, move to the back from an inner position) the
cursor does not stay at `a`. Together with `WF` of the result state (cursor at a node of the
new list) this is cursor preservation. -/
theorem C08_deque_cursor_leaves {l : List Nat} (hn : l.Nodup) {a : Nat} (ha : a ∈ l)
    (c : Option Cursor) : leave l a c ≠ some (.node a) :=
  leave_ne hn ha c

/-- `Drop`: all nodes of `l` are freed, each exactly once, in list order; nothing else is
touched; no linked node remains. -/
theorem C08_deque_drop {s : DState} {l : List Nat} (h : WF s l) :
    ∃ s', dropAll s = .ok ((), s') ∧ WF s' [] ∧
      s'.freed = l.reverse ++ s.freed ∧ s'.freed.Nodup ∧ s'.next = s.next ∧
      (∀ a, a ∈ l → hget s'.heap a = none) ∧
      (∀ b, b ∉ l → hget s'.heap b = hget s.heap b) := by
  obtain ⟨s', hrun, hwf, hfreed, hnext, hdead, hframe⟩ := dropAll_spec h
  exact ⟨s', hrun, hwf, hfreed, hwf.freedNodup, hnext, hdead, hframe⟩

/-- Any sequence of legal commands run on a fresh deque: the model never faults
(the run is `.ok`; a dereference or a second free of a freed address would be
`.error useAfterFree`), returns exactly the results of the pure list interpreter `rrun`, and
ends in a state that is well-formed for the interpreter's list, with its cursor, its set of
detached nodes and its free-log; the free-log has no duplicates and every address in it is dead.
(`C08_deque_sequences_from` is the form with `Sim` to build on.) -/
theorem C08_deque_sequences (cmds : List Cmd) (hl : LegalSeq {} cmds) :
    ∃ s, mrun cmds new = .ok ((rrun {} cmds).2, s) ∧
      exec (mrun cmds) new = (s, some (rrun {} cmds).2) ∧
      WF s (rrun {} cmds).1.l ∧
      s.fault = none ∧
      s.cursor = (rrun {} cmds).1.cur ∧
      (∀ a, a ∈ (rrun {} cmds).1.det → Detached s (rrun {} cmds).1.l a) ∧
      s.freed = (rrun {} cmds).1.freed ∧ s.freed.Nodup ∧
      (∀ a, a ∈ s.freed → hget s.heap a = none) := by
  obtain ⟨s, hrun, hsim⟩ := run_legal cmds hl
  exact ⟨s, hrun, exec_ok rfl hrun, hsim.wf, hsim.wf.fault, hsim.cur, hsim.det, hsim.freed,
    hsim.wf.freedNodup, fun a ha => (hsim.wf.freedDead a ha).1⟩

/-- The same from any state related to a reference state (not only the fresh one). -/
theorem C08_deque_sequences_from (cmds : List Cmd) (s : DState) (r : RState) (h : Sim s r)
    (hl : LegalSeq r cmds) :
    ∃ s', mrun cmds s = .ok ((rrun r cmds).2, s') ∧ Sim s' (rrun r cmds).1 :=
  sim_run cmds s r h hl

/-! ## Fault tracking is not vacuous -/

/-- Dereferencing a node after `unlink_and_drop` is reported. -/
example :
    (exec (do let _ ← pushBack 7; let a ← pushBack 8; unlinkAndDrop a; nextNodePtr a) new).1.fault
      = some .useAfterFree := by decide

/-- `contains` on a freed node is reported. -/
example :
    (exec (do let a ← pushBack 7; unlinkAndDrop a; contains a) new).1.fault
      = some .useAfterFree := by decide

/-- Double free is reported. -/
example :
    (exec (do let a ← pushBack 7; unlinkAndDrop a; unlinkAndDrop a) new).1.fault
      = some .useAfterFree := by decide

/-- `move_to_back` of a popped node is reported. -/
example :
    (exec (do let a ← pushBack 7; let _ ← pushBack 8; let _ ← popFront; moveToBack a) new).1.fault
      = some .useAfterFree := by decide

/-- `unlink` of a node that is already unlinked underflows `len` when the list is empty. -/
example :
    (exec (do let a ← pushBack 7; unlink a; unlink a) new).1.fault = some .overflow := by decide

/-- A fault is sticky. -/
example :
    (exec (pushBack 9)
      (exec (do let a ← pushBack 7; unlinkAndDrop a; contains a) new).1).1.fault
      = some .useAfterFree := by decide

/-! ## Non-vacuity -/

/-- A concrete three-node state: what three `push_back`s build. -/
def threeNodes : DState :=
  { heap := [(0, some ⟨some 1, none, 10⟩), (1, some ⟨some 2, some 0, 20⟩),
             (2, some ⟨none, some 1, 30⟩)],
    head := some 0, tail := some 2, len := 3, cursor := none, next := 3 }

/-- (`decide +kernel`: plain `decide` evaluates the monadic run without sharing.) -/
example : (exec (mrun [.push 10, .push 20, .push 30]) new).1 = threeNodes := by decide +kernel

/-- `threeNodes` is well-formed for `[0, 1, 2]`: directly from the definition, -/
example : WF threeNodes [0, 1, 2] := by
  refine ⟨by decide, ?_, rfl, rfl, rfl, Or.inl rfl, rfl, ?_, List.nodup_nil, ?_⟩
  · intro i a h
    rcases i with _ | _ | _ | i
    · simp at h; subst h; exact ⟨_, rfl⟩
    · simp at h; subst h; exact ⟨_, rfl⟩
    · simp at h; subst h; exact ⟨_, rfl⟩
    · simp at h
  · intro a n h
    simp only [threeNodes, hget] at h
    show a < 3
    grind
  · intro a h; simp [threeNodes] at h

/-- and as an instance of the sequence theorem. -/
example : WF threeNodes [0, 1, 2] := by
  obtain ⟨s, _, hex, hwf, _⟩ :=
    C08_deque_sequences [.push 10, .push 20, .push 30] ⟨trivial, trivial, trivial, trivial⟩
  have hs : s = threeNodes := by
    have h1 : (exec (mrun [.push 10, .push 20, .push 30]) new).1 = s := by rw [hex]
    rw [← h1]; decide +kernel
  have hl : (rrun {} [.push 10, .push 20, .push 30]).1.l = [0, 1, 2] := by decide
  rw [hs, hl] at hwf
  exact hwf

/-- A run with the cursor in the middle: iterate once (cursor now at node 1), move node 1 to
the back (cursor advances to node 2), pop the front, unlink-and-drop node 2 (cursor advances to
node 1, now the only node), finish the iteration, start over. -/
def demo : List Cmd :=
  [.push 10, .push 20, .push 30, .iterNext, .moveToBack 1, .popFront, .unlinkAndDrop 2,
   .iterNext, .iterNext, .iterNext]

example : LegalSeq {} demo := by decide

example :
    (rrun {} demo).2 =
      [.addr (some 0), .addr (some 1), .addr (some 2), .node (some (0, 10)), .unit,
       .node (some (0, 10)), .unit, .node (some (1, 20)), .node none, .node (some (1, 20))] ∧
    (rrun {} demo).1.l = [1] ∧ (rrun {} demo).1.freed = [2, 0] ∧
    (exec (mrun demo) new).2 = some (rrun {} demo).2 ∧
    (exec (mrun demo) new).1.cursor = some .done ∧
    (exec (mrun demo) new).1.fault = none := by decide +kernel

/-- Cursor positions along the first part of `demo`. -/
example :
    (exec (mrun (demo.take 4)) new).1.cursor = some (.node 1) ∧
    (exec (mrun (demo.take 5)) new).1.cursor = some (.node 2) ∧
    (exec (mrun (demo.take 7)) new).1.cursor = some (.node 1) := by decide +kernel

#print axioms C08_deque_sequences

end DequeHeap
end MiniMoka
