/-
  The `invalidate_all` watermark under ALL interleavings of any number of threads, with
  `invalidate_all` split into "read the clock" / "store the reading" (`MiniMoka/ConcV.lean`),
  and defect D12.  For the repaired code (`mono = true`, the store is
  `valid_after := max valid_after r`) the watermark never decreases and whatever an
  `invalidate_all` that has returned discarded stays hidden until the key is inserted again; with
  the plain store of the unrepaired code (`mono = false`) a machine-checked interleaving
  (`ConcV_counterexample_D12`) breaks both.

  The link to `Sync` / `ConcS`, which treat `invalidate_all` as one atomic step `va := some now`
  (`Sync.invalidateAll`): `invRead t ; invStore t` run back to back from a state with `va ≤ now`
  is exactly that atomic step, for both stores, and `va ≤ now` holds in every reachable state of
  `ConcS` (`ConcV_justifies_Sync_invalidateAll`).  So the atomic step of `Sync` / `ConcS` is the
  special case "no other thread's store falls between the reading and the store"; what it leaves
  out is exactly the behaviour treated here.

  `ConcV.…` (in full `MiniMoka.Props.ConcV.…`) are the lemmas of `Lemmas/ConcV.lean`, and
  `ConcV.d12_run` below.
-/
import MiniMoka.Lemmas.ConcV
import MiniMoka.Sync
import MiniMoka.Props.ConcSRefill

namespace MiniMoka
namespace Props

open MiniMoka.ConcV

/-- The watermark never lies in the future: every reachable state, BOTH stores (the same shape as
`ConcS_valid_after_le_now`). -/
theorem ConcV_valid_after_le_now (mono : Bool) (s : State) (hr : Reach mono s) :
    ∀ w, s.va = some w → w ≤ s.now :=
  (ConcV.reach_vinv hr).vaNow

/-- Repaired code (`mono = true`), any number of threads, every interleaving: the watermark
never lies in the future, and no step enabled in a reachable state decreases it. -/
theorem ConcV_watermark_monotone (s : State) (hr : Reach true s) :
    (∀ w, s.va = some w → w ≤ s.now) ∧
    (∀ (e : Ev) (s' : State), step true s e = some s' → vaLe s.va s'.va) :=
  ⟨(ConcV.reach_vinv hr).vaNow, fun _ _ hs => ConcV.step_va_mono hs⟩

/-- `ConcV_watermark_monotone` along every finite path from a reachable state. -/
theorem ConcV_watermark_monotone_path (s s' : State) (_hr : Reach true s) (evs : List Ev)
    (h : runEvs true s evs = some s') : vaLe s.va s'.va :=
  (ConcV.runEvs_rel (R := fun a b => vaLe a.va b.va) (fun _ => ConcV.vaLe_refl _) ConcV.vaLe_trans
    (fun _ hs => ConcV.step_va_mono hs) evs s s' _hr h).2

/-- Repaired code, every reachable state: the reading of every `invalidate_all` call that has
returned is at most the watermark. -/
theorem ConcV_completed_below_watermark (s : State) (hr : Reach true s) :
    ∀ r ∈ s.completed, vaLe (some r) s.va := by
  induction hr with
  | init => intro r h; simp at h
  | step e _ hs ih => exact ConcV.step_completed_le ih hs

/-- Repaired code, every reachable state: if a lookup of `k` returns the value `v` of an entry
written at `ts`, then `ts` is at or after the reading of EVERY `invalidate_all` that has returned.
Contrapositive: whatever a completed `invalidate_all` discarded (an entry written strictly
before its reading) is not visible — in this state and, the log only growing, in every later
one. -/
theorem ConcV_invalidation_permanent (s : State) (hr : Reach true s) (k v ts : Nat)
    (he : entry s k = some (v, ts)) (hv : visible s k = some v) :
    ∀ r ∈ s.completed, r ≤ ts := by
  intro r hmem
  have h1 := ConcV_completed_below_watermark s hr r hmem
  have hh : hidden s.va ts = false := by
    cases hh : hidden s.va ts with
    | false => rfl
    | true => simp [visible, he, hh] at hv
  exact ConcV.vaLe_trans h1 (ConcV.vaLe_of_not_hidden hh)

/-- The temporal form of `ConcV_invalidation_permanent`.  Repaired code: once an `invalidate_all`
with reading `r` has returned (`r ∈ s.completed`), then after ANY continuation by any number of
threads every entry written strictly before `r` is hidden (the call is still logged, too).  In
particular an entry present and discarded at `s` stays invisible for as long as its key is not
inserted again. -/
theorem ConcV_invalidation_permanent_later (s : State) (hr : Reach true s) (r : Nat)
    (hmem : r ∈ s.completed) (evs : List Ev) (s' : State) (h : runEvs true s evs = some s') :
    r ∈ s'.completed ∧
    ∀ k v ts, entry s' k = some (v, ts) → ts < r → visible s' k = none := by
  obtain ⟨hr', hsub⟩ := ConcV.runEvs_rel (R := fun a b => ∀ r ∈ a.completed, r ∈ b.completed)
    (fun _ _ h => h) (fun h1 h2 r h => h2 r (h1 r h)) (fun _ hs => ConcV.step_completed_sub hs)
    evs s s' hr h
  have hm' := hsub r hmem
  refine ⟨hm', fun k v ts he hlt => ?_⟩
  cases hv : visible s' k with
  | none => rfl
  | some v' =>
    have hvv : v' = v := by
      simp only [visible, he] at hv
      cases hh : hidden s'.va ts with
      | false => rw [hh] at hv; simp at hv; exact hv.symm
      | true => rw [hh] at hv; simp at hv
    rw [hvv] at hv
    have := ConcV_invalidation_permanent s' hr' k v ts he hv r hm'
    omega

/-- T1 reads the clock (1000); T3 inserts key 2 at 1001; T2 runs a whole `invalidate_all` at 1002
(reads, stores, returns); T1 stores its stale reading. -/
def d12Evs : List Ev :=
  [.tick 1000, .invRead 1, .tick 1, .insert 3 2 7, .tick 1, .invRead 2, .invStore 2, .invStore 1]

/-- `(watermark, completed log, entry of key 2, what get(2) returns)` at the end of a path. -/
def d12Summary (mono : Bool) (evs : List Ev) :
    Option (Option Nat × List Nat × Option (Nat × Nat) × Option Nat) :=
  (runEvs mono {} evs).map fun s => (s.va, s.completed, entry s 2, visible s 2)

theorem ConcV.d12_run : runEvs false {} d12Evs
    = some ⟨1002, some 1000, [(2, 7, 1001)], [], [1000, 1002]⟩ := by decide

/-- The unrepaired code (`mono = false`): the interleaving is enabled, the `invalidate_all`
that read 1002 has returned (`1002 ∈ completed`) and had hidden key 2 when it returned — yet at
the end the watermark is back at 1000 and `get(2)` returns the value 7 written at 1001 `< 1002`.
On the repaired code (`mono = true`) the same events end with the watermark at 1002 and key 2
hidden. -/
theorem ConcV_counterexample_D12 :
    -- the plain store: key 2 (written at 1001) is visible although 1002 ∈ completed
    d12Summary false d12Evs = some (some 1000, [1000, 1002], some (7, 1001), some 7) ∧
    (∃ s, runEvs false {} d12Evs = some s ∧ Reach false s ∧ visible s 2 = some 7 ∧
      entry s 2 = some (7, 1001) ∧ 1002 ∈ s.completed) ∧
    -- right after T2's call returned (before T1's store) the key was hidden
    d12Summary false (d12Evs.take 7) = some (some 1002, [1002], some (7, 1001), none) ∧
    -- the watermark moved backwards in the last step
    (∃ s s', runEvs false {} (d12Evs.take 7) = some s ∧ step false s (.invStore 1) = some s' ∧
      ¬ vaLe s.va s'.va) ∧
    -- the monotone store: the same events end with key 2 hidden
    d12Summary true d12Evs = some (some 1002, [1000, 1002], some (7, 1001), none) := by
  refine ⟨by decide, ⟨_, ConcV.d12_run, ConcV.reach_of_runEvs _ _ _ Reach.init ConcV.d12_run, by decide,
    by decide, by decide⟩, by decide, ?_, by decide⟩
  exact ⟨⟨1002, some 1002, [(2, 7, 1001)], [(1, 1000)], [1002]⟩,
    ⟨1002, some 1000, [(2, 7, 1001)], [], [1000, 1002]⟩, by decide, by decide, by decide⟩

/-- `ConcV_completed_below_watermark` and `ConcV_invalidation_permanent` fail for the plain store:
a reachable state of the unrepaired code with a completed reading above the watermark and a
visible entry older than a completed call.  (That the watermark moves backwards is the fourth
clause of `ConcV_counterexample_D12`.) -/
theorem ConcV_plain_store_violates :
    ∃ s, Reach false s ∧ (∃ r ∈ s.completed, ¬ vaLe (some r) s.va) ∧
      (∃ k v ts, entry s k = some (v, ts) ∧ visible s k = some v ∧
        ∃ r ∈ s.completed, ts < r) := by
  exact ⟨_, ConcV.reach_of_runEvs _ _ _ Reach.init ConcV.d12_run, ⟨1002, by decide, by decide⟩,
    2, 7, 1001, by decide, by decide, 1002, by decide, by decide⟩

/-- `invRead t ; invStore t` back to back, from any state whose watermark is not in the future
and in which `t` is not already inside `invalidate_all`, for BOTH stores: both steps are enabled
and together they are exactly the atomic step of `Sync.invalidateAll` — `va := some now`, nothing
else changes (the call is logged). -/
theorem ConcV_invRead_invStore_atomic (mono : Bool) (s : State) (t : Tid)
    (hva : ∀ w, s.va = some w → w ≤ s.now) (ht : AL.get? s.held t = none) :
    runEvs mono s [.invRead t, .invStore t]
      = some { s with va := some s.now, completed := s.now :: s.completed } := by
  simp only [runEvs, step, ht, AL.get?_put_self, AL.erase_put_of_none _ ht,
    ConcV.storeVa_now mono s.va s.now hva]

/-- `ConcV_invRead_invStore_atomic` in every reachable state of this model, whichever store is used
and whatever the other threads hold at that moment. -/
theorem ConcV_invalidateAll_uninterrupted (mono : Bool) (s : State) (hr : Reach mono s) (t : Tid)
    (ht : AL.get? s.held t = none) :
    ∃ s', runEvs mono s [.invRead t, .invStore t] = some s' ∧ s'.va = some s.now ∧
      s'.now = s.now ∧ s'.entries = s.entries ∧ s'.held = s.held := by
  refine ⟨_, ConcV_invRead_invStore_atomic mono s t (ConcV_valid_after_le_now mono s hr) ht,
    rfl, rfl, rfl, rfl⟩

/-- The atomic step of the detailed models is justified as the case without interference.
`Sync.invalidateAll` sets `va := some now` in one step, and `ConcS` takes that step as its
`invAll t` event.  By `ConcS_valid_after_le_now` every reachable state `cs` of the many-thread
system `ConcS` has `va ≤ now`; so for any V-state with the same clock and watermark, the two
memory accesses of the real `invalidate_all` run without another thread in between produce exactly
the watermark `Sync.invalidateAll` produces — under the repaired store and under the plain one. -/
theorem ConcV_justifies_Sync_invalidateAll (p : Params) (hq : Sync.NoQuirks p)
    (cs : ConcS.CState) (hr : ConcS.Reach p cs) (mono : Bool) (s : State) (t : Tid)
    (hnow : s.now = cs.s.now) (hva : s.va = cs.s.va) (ht : AL.get? s.held t = none) :
    (runEvs mono s [.invRead t, .invStore t]).map (fun s' => (s'.va, s'.now))
      = some ((Sync.invalidateAll cs.s).va, (Sync.invalidateAll cs.s).now) := by
  have h := ConcS_valid_after_le_now p hq cs hr
  rw [ConcV_invRead_invStore_atomic mono s t (by rw [hnow, hva]; exact h) ht]
  simp only [Option.map_some, Sync.invalidateAll, hnow]

/-- The visibility filter of V is the `valid_after` part of the expiry predicate of `Sync`
(`Sync.expiredTs` without deadlines). -/
theorem ConcV_hidden_eq_expiredTs (va : Option Nat) (ts now : Nat) :
    hidden va ts = Sync.expiredTs none va ts now := by
  cases va <;> simp [hidden, Sync.expiredTs]

end Props
end MiniMoka

namespace MiniMoka.Props
#print axioms ConcV_valid_after_le_now
#print axioms ConcV_watermark_monotone
#print axioms ConcV_watermark_monotone_path
#print axioms ConcV_completed_below_watermark
#print axioms ConcV_invalidation_permanent
#print axioms ConcV_invalidation_permanent_later
#print axioms ConcV_counterexample_D12
#print axioms ConcV_plain_store_violates
#print axioms ConcV_invRead_invStore_atomic
#print axioms ConcV_invalidateAll_uninterrupted
#print axioms ConcV_justifies_Sync_invalidateAll
#print axioms ConcV_hidden_eq_expiredTs
end MiniMoka.Props
