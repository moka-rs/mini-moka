/-
  C01 — lookups return only the latest live value for a key, never stale or phantom data.
-/
import MiniMoka.Lemmas.UnsyncLookup
import MiniMoka.Lemmas.SketchLaws
import MiniMoka.Lemmas.SyncLookup

namespace MiniMoka
namespace Props

open Unsync Spec

/-! Along every trace each yielded key passes the three checks of C01, C05 and C06 together
(`allChecks`, `lookupOracle_of_coupled`); so the lookup oracle holds with any check they imply. -/

theorem lookup_unsync (p : Params) (hq : NoQuirks p) (hsm : SmallSketch p)
    (check : Ghost → Nat × Option Nat → Bool)
    (himp : ∀ g kv, Unsync.allChecks p g kv = true → check g kv = true) (h : List Op) :
    lookupOracle .unsync check {} (Unsync.trace p h) = true :=
  lookupOracle_of_coupled sketchLaws hq hsm check himp h {} {} (init_inv sketchLaws p)
    (init_coupled p)

theorem lookup_sync (p : Params) (hq : Sync.NoQuirks p) (check : Ghost → Nat × Option Nat → Bool)
    (himp : ∀ g kv, Sync.allChecks p g kv = true → check g kv = true) (h : List Op) :
    lookupOracle .sync check {} (Sync.trace p h) = true :=
  Sync.lookupOracle_of_coupled hq check himp h {} {} (Sync.init_coupled p)

theorem unsync_allChecks_iff {p : Params} {g : Ghost} {kv : Nat × Option Nat} :
    Unsync.allChecks p g kv = true ↔
      checkC01 g kv = true ∧ checkC05 p.ttl g kv = true ∧ checkC06 p.tti g kv = true := by
  simp only [Unsync.allChecks, Bool.and_eq_true, and_assoc]

/-- C01 on the single-threaded cache, for every configuration (capacity none/0/1/…, any
weigher incl. weights 0 and above capacity, any ttl/tti, any hash function incl. colliding
ones) and every history over insert, get, contains_key, iter, invalidate, invalidate_all,
invalidate_entries_if and clock advances: every key a lookup yields has a most recent insert
that has not been invalidated (by key, by predicate or by invalidate_all) since, and a
yielded value is exactly the value of that insert. -/
theorem C01_unsync (p : Params) (hq : NoQuirks p)
    (hsm : SmallSketch p) (h : List Op) :
    oracleC01 .unsync (Unsync.trace p h) = true :=
  lookup_unsync p hq hsm _ (fun _ _ hkv => (unsync_allChecks_iff.mp hkv).1) h

/-- Non-vacuity: a history with updates, invalidations of all three kinds, eviction and a
re-insert passes; the oracle is not trivially true — it rejects a trace with a stale value and
one with a phantom key. -/
example : oracleC01 .unsync (Unsync.trace { cap := some 2 }
    [.ins 1 10, .ins 1 11, .get 1, .ins 2 20, .ins 3 30, .iter, .inv 2, .get 2, .has 1,
     .invIf (.vlt 12), .get 1, .ins 1 12, .get 1, .invAll, .iter, .ins 4 40, .get 4]) = true := by
  decide +kernel

example : oracleC01 .unsync [(.ins 1 10, .ok), (.ins 1 11, .ok), (.get 1, .val (some 10))] = false := by
  decide

example : oracleC01 .unsync [(.ins 1 10, .ok), (.inv 1, .ok), (.has 1, .bool true)] = false := by
  decide

/-- C01 on the concurrent cache driven by one thread, for every configuration and every
history over insert, get, contains_key, iter, invalidate, invalidate_all, clock advances and
`sync` calls placed anywhere (so with any number of operations still queued, and with the
maintenance runs that insert/get/invalidate perform on their own): a yielded key has a most
recent insert that has not been invalidated by key, nor by an invalidate_all issued at a
strictly later clock reading; a yielded value is the value of that insert. The trace is judged
up to the first internal panic, if any (absence of panics is C08). -/
theorem C01_sync (p : Params) (hq : Sync.NoQuirks p) (h : List Op) :
    oracleC01 .sync (Sync.trace p h) = true :=
  lookup_sync p hq _ (Sync.checkC01_of_allChecks p) h

/-- Non-vacuity on the concurrent cache: un-synced burst, invalidate while the insert is
still queued, re-insert, invalidate_all at the same and at a later clock reading. -/
example : oracleC01 .sync (Sync.trace { cap := some 2 }
    [.ins 1 10, .ins 2 20, .get 1, .inv 1, .get 1, .ins 1 11, .get 1, .adv Gen.PAST_SYNC_INTERVAL_NS, .ins 3 30,
     .ins 4 40, .iter, .invAll, .get 3, .adv 1, .ins 3 31, .invAll, .get 3, .has 4, .sync, .iter])
    = true := by
  decide +kernel

-- Note: the defects repaired on the concurrent cache (D6, D7) lose or hide values; a lost
-- value is "nothing" for C01, so they are witnessed under C03/C08/C10, not here.

end Props
end MiniMoka
