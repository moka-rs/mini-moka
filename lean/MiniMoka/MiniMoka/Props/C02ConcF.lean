/-
  C02 for every interleaving of the finest many-thread model: **every execution of `ConcF`
  (`MiniMoka/ConcF.lean`, current code `Variant.good`: other threads' per-key map steps and
  enqueues interleave between any two map accesses of a maintenance run, including between the
  admission scan and the removal of each victim) projects to an execution that model R
  (`MiniMoka/ConcR.lean`) accepts**, so the C02 theorems of `Props/C02.lean`, proved for all
  executions of R, hold for every interleaving of ConcF.

  The projection (`projEvsF p evs`; the id of an operation is the position of its map-step
  event in `evs`):
    .other e        ↦ as `ConcSR.projEv` for the ConcS step `e` of a thread:
                      insMap / invMap / getMap ↦ invoke, mapStep (+ respond for an `invMap`
                      that finds nothing); enq ↦ respond with the result decided at the map
                      step; tick / invAll ↦ nothing
    .mBegin, .mStep ↦ `daemon d` for exactly the keys `d` that the micro-step deletes
                      (`SyncR.delKeys` of the maps before / after): nothing for most
                      micro-steps, one key for a victim's / a rejected candidate's `remove_if`
                      and for an iteration of an expiry / LRU loop that evicts.
  Beyond `ConcS_refines_R` one fact is needed: a maintenance micro-step only deletes.  It is a
  frame (`ConcF.FStep.frame`) as long as the run is at a program counter of the current code, which
  is carried along the path with the distinctness of the keys; no invariant of the reachable states
  enters, and the hypothesis `SmallSketch p` of the theorems below is not used by their proofs.
-/
import MiniMoka.Lemmas.ConcFRefinesR

namespace MiniMoka
namespace Props

open ConcR (Tid Oid Key Val lookup)
open SyncR ConcSR ProjR ConcFR

/-- The R execution of an interleaving of ConcF (current code) from the empty cache. -/
def projEvsF (p : Params) (evs : List ConcM.Ev) : List ConcR.Ev := (sysF p).projFrom {} {} evs

/-- Its calls in response order, and what its map steps decided (`ConcSR.respCalls`,
`ConcSR.decidedEv` on the `.other` steps). -/
def callsF (p : Params) (evs : List ConcM.Ev) : List Call := (sysF p).callsFrom {} {} evs

def decidedF (p : Params) (evs : List ConcM.Ev) : List Call := (sysF p).decidedFrom {} 0 evs

/-- **ConcF refines R.**  For every path `evs` of ConcF (current code) from the empty cache: the
projected event list is accepted by R from `State.init` (it is `ConcR.WF`), ends in a map with
the lookups of `absMap` of the final state, and its calls (`SyncR.callsOf`) are the calls of the
path, each of which returns exactly what its map step
decided (`(ConcS.lookup p c.s k).2` in the state `c` of the `getMap`, wherever that falls
inside a maintenance run; `none` for `insMap` / `invMap`). -/
theorem ConcF_refines_R (p : Params) (hq : Sync.NoQuirks p) (hsm : SmallSketch p)
    {evs : List ConcM.Ev} {c : ConcF.FState}
    (hrun : ConcF.runEvs p .good {} evs = some c) :
    ∃ a', ConcR.run (projEvsF p evs) = some a' ∧
      KVEq a'.map (absMap c.s) ∧
      ConcR.WF (projEvsF p evs) ∧
      callsOf (projEvsF p evs) = callsF p evs ∧
      (∀ y ∈ callsF p evs, y ∈ decidedF p evs) := by
  obtain ⟨a', _, h1, h2, h3⟩ := (sysF p).refines_R
    (R := fun a c g => Rel a (cs c) g ∧ Sync.KN c.s ∧
      ∀ r pc, c.run = some r → r.w = some pc → ConcF.goodPc pc = true) (stepF_rel hq)
    (c0 := {}) ⟨rel_init, List.nodup_nil, fun _ _ h => by cases h⟩ (sysF_run p ▸ hrun)
  exact ⟨a', h1, h2.1.map, h3⟩

theorem ConcF_projection_WF (p : Params) (hq : Sync.NoQuirks p) (hsm : SmallSketch p)
    {evs : List ConcM.Ev} {c : ConcF.FState}
    (hrun : ConcF.runEvs p .good {} evs = some c) : ConcR.WF (projEvsF p evs) := by
  obtain ⟨_, _, _, h, _⟩ := ConcF_refines_R p hq hsm hrun
  exact h

theorem bind_mopF {evs : List ConcM.Ev} {m : Nat} {x : Tid × ConcR.Op}
    (h : (evs[m]?).bind mopF = some x) : ∃ e', evs[m]? = some (.other e') ∧ mapEvOp e' = some x := by
  obtain ⟨e, he, hm⟩ := Option.bind_eq_some_iff.1 h
  cases e with
  | other e' => exact ⟨e', he, hm⟩
  | mBegin t' ex => cases hm
  | mStep t' => cases hm

theorem bind_mopF_ins {evs : List ConcM.Ev} {m : Nat} {t k v : Nat}
    (h : (evs[m]?).bind mopF = some (t, .ins k v)) : evs[m]? = some (.other (.insMap t k v)) := by
  obtain ⟨e', he, hm⟩ := bind_mopF h
  rw [he, mapEvOp_ins hm]

theorem bind_mopF_get {evs : List ConcM.Ev} {m : Nat} {t k : Nat}
    (h : (evs[m]?).bind mopF = some (t, .get k)) : evs[m]? = some (.other (.getMap t k)) := by
  obtain ⟨e', he, hm⟩ := bind_mopF h
  rw [he, mapEvOp_get hm]

/-- Instance `o` of the projection is the per-key map step at position `o` of the path. -/
theorem ConcF_opOf (p : Params) {evs : List ConcM.Ev} {c : ConcF.FState}
    (hrun : ConcF.runEvs p .good {} evs = some c) (o : Nat) :
    ConcR.opOf (projEvsF p evs) o = (evs[o]?).bind mopF :=
  (sysF p).opOf_proj (sysF_run p ▸ hrun) o

/-- **C02 (read-from) for every interleaving of ConcF.**  If the `get k` whose map step is
event `g` (thread `t`) returned `some v`, then event `g` is `.other (getMap t k)` and there is
an earlier event `w < g`, `.other (insMap tw k v)`, such that no event strictly between `w` and
`g` is an `insMap _ k _` or an `invMap _ k`, and in the projected execution no write of `k` at
all — in particular no `daemon k`: no maintenance micro-step (victim removal, rejection,
expiry, LRU eviction) deleted `k` — lies strictly between the two map steps. -/
theorem C02_for_ConcF_read_from (p : Params) (hq : Sync.NoQuirks p) (hsm : SmallSketch p)
    {evs : List ConcM.Ev} {c : ConcF.FState} (hrun : ConcF.runEvs p .good {} evs = some c)
    {g : Nat} {t : Tid} {k : Key} {v : Val}
    (hret : (g, t, ConcR.Op.get k, some v) ∈ callsF p evs) :
    evs[g]? = some (.other (.getMap t k)) ∧
    ∃ w tw, w < g ∧ evs[w]? = some (.other (.insMap tw k v)) ∧
      (∀ m, w < m → m < g → ∀ t', (∀ v', evs[m]? ≠ some (.other (.insMap t' k v'))) ∧
        evs[m]? ≠ some (.other (.invMap t' k))) ∧
      ∃ i j, i < j ∧ (projEvsF p evs)[i]? = some (.mapStep w) ∧
        (projEvsF p evs)[j]? = some (.mapStep g) ∧
        ConcR.NoWriteIn (projEvsF p evs) k (i + 1) j := by
  obtain ⟨a', hr, _⟩ := ConcF_refines_R p hq hsm hrun
  have hrun' : (sysF p).run {} evs = some c := sysF_run p ▸ hrun
  obtain ⟨hg, w, tw, hwg, hw, hbetween, hpos⟩ := (sysF p).read_from hrun' hr hret
  refine ⟨bind_mopF_get hg, w, tw, hwg, bind_mopF_ins hw, ?_, hpos⟩
  intro m hwm hmg t'
  constructor
  · intro v' he
    exact hbetween m hwm hmg t' (.ins k v') (by rw [he]; rfl) (Or.inl ⟨v', rfl⟩)
  · intro he
    exact hbetween m hwm hmg t' (.del k) (by rw [he]; rfl) (Or.inr rfl)

/-- **C02 (not superseded) for every interleaving of ConcF.**  If moreover an
`insMap _ k _` / `invMap _ k` (event `u`) returned — its response is at position `a` of the
projected execution — before the `get` was invoked (position `b > a`), then `u` is not after
the write `w` the `get` read from: `u ≤ w`. -/
theorem C02_for_ConcF_not_superseded (p : Params) (hq : Sync.NoQuirks p) (hsm : SmallSketch p)
    {evs : List ConcM.Ev} {c : ConcF.FState} (hrun : ConcF.runEvs p .good {} evs = some c)
    {g : Nat} {t : Tid} {k : Key} {v : Val}
    (hret : (g, t, ConcR.Op.get k, some v) ∈ callsF p evs)
    {u : Nat} {tu : Tid} {a b : Nat} {x : Option Val}
    (hu : (∃ v', evs[u]? = some (.other (.insMap tu k v'))) ∨
      evs[u]? = some (.other (.invMap tu k)))
    (hures : (projEvsF p evs)[a]? = some (.respond u x))
    (hginv : (projEvsF p evs)[b]? = some (.invoke t g (.get k))) (hab : a < b) :
    ∃ w tw, w < g ∧ evs[w]? = some (.other (.insMap tw k v)) ∧ u ≤ w := by
  obtain ⟨a', hr, _⟩ := ConcF_refines_R p hq hsm hrun
  have hrun' : (sysF p).run {} evs = some c := sysF_run p ▸ hrun
  obtain ⟨opu, hopu, hk⟩ : ∃ opu, (evs[u]?).bind (sysF p).mop = some (tu, opu) ∧
      ((∃ v', opu = .ins k v') ∨ opu = .del k) := by
    rcases hu with ⟨v', he⟩ | he
    · exact ⟨.ins k v', by rw [he]; rfl, Or.inl ⟨v', rfl⟩⟩
    · exact ⟨.del k, by rw [he]; rfl, Or.inr rfl⟩
  obtain ⟨w, tw, hwg, hw, hle⟩ :=
    (sysF p).not_superseded hrun' hr hret hopu hk hures hginv hab
  exact ⟨w, tw, hwg, bind_mopF_ins hw, hle⟩

/-- **C02 (final state) for every interleaving of ConcF.**  At the end of a path — possibly in
the middle of a maintenance run, between two of its map accesses — for each key `k`: (1) if
the map holds `v` for `k`, then `v` was written by an `insMap _ k v` (event `w`) after whose
map step the projected execution has no write of `k`; (2) if a deletion of `k` (`daemon k`, or
the map step of an `invMap _ k`) is followed by no `ins k _` map step, the map does not hold
`k`. -/
theorem C02_for_ConcF_final (p : Params) (hq : Sync.NoQuirks p) (hsm : SmallSketch p)
    {evs : List ConcM.Ev} {c : ConcF.FState} (hrun : ConcF.runEvs p .good {} evs = some c)
    (k : Key) :
    (∀ v, lookup (absMap c.s) k = some v →
      ∃ i w tw, (projEvsF p evs)[i]? = some (.mapStep w) ∧
        evs[w]? = some (.other (.insMap tw k v)) ∧
        ConcR.NoWriteIn (projEvsF p evs) k (i + 1) (projEvsF p evs).length) ∧
    (∀ (m : Nat) (e : ConcR.Ev), (projEvsF p evs)[m]? = some e →
      (e = .daemon k ∨ ∃ d td, e = .mapStep d ∧ evs[d]? = some (.other (.invMap td k))) →
      (∀ (m' : Nat) w tw v, m < m' → (projEvsF p evs)[m']? = some (.mapStep w) →
        evs[w]? ≠ some (.other (.insMap tw k v))) →
      lookup (absMap c.s) k = none) := by
  obtain ⟨a', hr, hm, _⟩ := ConcF_refines_R p hq hsm hrun
  have hrun' : (sysF p).run {} evs = some c := sysF_run p ▸ hrun
  obtain ⟨h1, h2⟩ := (sysF p).final hrun' hr k
  constructor
  · intro v hv
    rw [← hm k] at hv
    obtain ⟨i, w, tw, hi, hw, hnw⟩ := h1 v hv
    exact ⟨i, w, tw, hi, bind_mopF_ins hw, hnw⟩
  · intro m e hme hdel hlast
    rw [← hm k]
    refine h2 m e hme ?_ ?_
    · rcases hdel with h | ⟨d, td, h, hd⟩
      · exact Or.inl h
      · exact Or.inr ⟨d, td, h, by rw [hd]; rfl⟩
    · intro m' w tw v hmm' hw hopw
      exact hlast m' w tw v hmm' hw (bind_mopF_ins hopw)

def rSteps (n : Nat) : List ConcM.Ev := List.replicate n (.mStep 9)

def rParams : Params := { cap := some 2, hasWeigher := true, w := fun _ v => v % 3 }

theorem rParams_small : SmallSketch rParams :=
  .of_default_capF rfl fun _ hcap => Option.some.inj hcap ▸ by decide +kernel

/-- Keys 1 and 2 (weight 1 each) fill the cache; key 3 is made popular and inserted with
weight 2.  The second run applies its `Upsert`: after 9 micro-steps the admission scan has
selected the nodes of keys 1 and 2 as victims and has not removed anything yet.  *There*
thread 4 does the map step of `get 1` (it reads 1).  The next two micro-steps remove the
victims (keys 1, then 2) from the map; thread 4's call returns `some 1`; its second `get 1`
reads nothing; the run finishes; that call returns `none`. -/
def evictRaceEvs : List ConcM.Ev :=
  [.other (.insMap 1 1 1), .other (.enq 1), .other (.insMap 1 2 1), .other (.enq 1),
   .mBegin 9 true] ++ rSteps 12 ++
  [.other (.getMap 3 3), .other (.enq 3), .other (.insMap 1 3 2), .other (.enq 1),
   .mBegin 9 true] ++ rSteps 9 ++
  [.other (.getMap 4 1)] ++ rSteps 2 ++
  [.other (.enq 4), .other (.getMap 4 1)] ++ rSteps 4 ++ [.other (.enq 4)]

/-- The map around the racing get: all three keys at its map step (event 31), keys 1 and 2
gone two micro-steps later. -/
example : (ConcF.runEvs rParams .good {} (evictRaceEvs.take 32)).map (fun c => absMap c.s) =
      some [(1, 1), (2, 1), (3, 2)] ∧
    (ConcF.runEvs rParams .good {} (evictRaceEvs.take 34)).map (fun c => absMap c.s) =
      some [(3, 2)] := by
  decide +kernel

/-- The path is enabled; its projection: the get's map step, then the two deletions as
`daemon`s, then its response with the value read; R accepts it and ends with the map of the
final ConcF state. -/
example : (ConcF.runEvs rParams .good {} evictRaceEvs).isSome = true ∧
    projEvsF rParams evictRaceEvs =
      [.invoke 1 0 (.ins 1 1), .mapStep 0, .respond 0 none,
       .invoke 1 2 (.ins 2 1), .mapStep 2, .respond 2 none,
       .invoke 3 17 (.get 3), .mapStep 17, .respond 17 none,
       .invoke 1 19 (.ins 3 2), .mapStep 19, .respond 19 none,
       .invoke 4 31 (.get 1), .mapStep 31, .daemon 1, .daemon 2, .respond 31 (some 1),
       .invoke 4 35 (.get 1), .mapStep 35, .respond 35 none] ∧
    ConcR.WF (projEvsF rParams evictRaceEvs) ∧
    (ConcR.run (projEvsF rParams evictRaceEvs)).map (·.map) =
      (ConcF.runEvs rParams .good {} evictRaceEvs).map (fun c => absMap c.s) ∧
    callsF rParams evictRaceEvs =
      [(0, 1, .ins 1 1, none), (2, 1, .ins 2 1, none), (17, 3, .get 3, none),
       (19, 1, .ins 3 2, none), (31, 4, .get 1, some 1), (35, 4, .get 1, none)] := by
  decide +kernel

/-- The theorems apply: the racing get read thread 1's `insert(1, 1)` (event 0), and nothing
wrote or deleted key 1 between the two map steps (the eviction came after). -/
example : ∃ w tw, w < 31 ∧ evictRaceEvs[w]? = some (.other (.insMap tw 1 1)) := by
  obtain ⟨c, hc⟩ := Option.isSome_iff_exists.1
    (show (ConcF.runEvs rParams .good {} evictRaceEvs).isSome = true by decide +kernel)
  obtain ⟨_, w, tw, h1, h2, _⟩ := C02_for_ConcF_read_from rParams rfl rParams_small hc
    (g := 31) (t := 4) (k := 1) (v := 1) (by decide +kernel)
  exact ⟨w, tw, h1, h2⟩

#print axioms ConcF_refines_R
#print axioms ConcF_projection_WF
#print axioms ConcF_opOf
#print axioms C02_for_ConcF_read_from
#print axioms C02_for_ConcF_not_superseded
#print axioms C02_for_ConcF_final

end Props
end MiniMoka
