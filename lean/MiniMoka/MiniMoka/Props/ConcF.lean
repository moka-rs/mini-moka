/-
  C08 / C10 / C11 / C04 (count) and "maintenance only deletes" for `sync::Cache` under all
  interleavings of any number of threads at the finest granularity (`MiniMoka/ConcF.lean`): every
  access of a maintenance run to the concurrent map while it applies a queued `Upsert`
  (`Inner::handle_upsert`, `Inner::admit`) is its own atomic step, and other threads' `insert` /
  `invalidate` / `get` map steps and sends interleave between any two of them.

  All for every configuration of the current code (`NoQuirks`, `SmallSketch`) and every state
  reachable by any finite sequence of steps (`ConcF.Reach p c`).
   * `ConcF_no_fault` covers in particular a victim node selected by the admission scan whose
     entry another thread invalidates or replaces before its eviction: the `remove_if` fails,
     nothing is freed, the node joins the skipped list.
   * `ConcF_inv`.  Outside a run: the invariant of `ConcS`.  Between micro-steps of a run:
     that of `ConcM`.  Between two steps of one `Upsert`: `Safe` (node ownership, run-local
     count), `MapOK`, `CInv` for the logical queue `the operation being applied :: write queue
     ++ operations held`, and the program counter's local facts `WLocal`: the run-local victim
     / skipped lists are distinct nodes of the access-order list (other threads never touch the
     deques); the weight read by the lookup of the current entry is the weigher applied to the
     value the map holds, *or* a newer value has its own `Upsert` pending; the dirty flag
     cleared before that lookup, if set again, is covered by a pending `Upsert`; an entry that
     was current at the lookup is still in the map or awaits a `Remove`.
   * `ConcF_maintenance_only_deletes`: values are only ever written by `insert` map steps.
     (This is what the seeded change `putBack` violates.)
  No interleaving at this granularity breaks an invariant on the current code.  The two seeded
  concurrency-only changes are refuted by machine-checked interleavings of the *variant* step
  functions: `ConcF_counterexample_dirty_order` (inexact `weighted_size` at quiescence) and
  `ConcF_counterexample_put_back` (a stale value in the map at quiescence).
  The letters (a) to (i) in the comments below are those by which the head comment of
  `MiniMoka/ConcF.lean` lists the steps of the application of one `Upsert`.
-/
import MiniMoka.Lemmas.ConcF

namespace MiniMoka
namespace Props

open Sync Sync.Nodes Sync.Counters ConcS ConcM ConcF

/-- The steps of one queued write operation, executed back to back by the run of thread `t`,
are `Sync.applyWrite`: the run ends up where the one micro-step of `ConcM` (phase `writes`)
takes it. -/
theorem ConcF_write_is_applyWrite (p : Params) (s : SState) (t : Tid) (ex : Bool)
    (pd : List (Tid × Pend)) (f n : Nat) (op : WOp) (rest : List WOp)
    (hq : s.writeQ = op :: rest) :
    ∃ evs, ConcF.runEvs p .good ⟨s, pd, some ⟨t, ex, .writes f (n + 1), none⟩⟩ evs =
      some ⟨applyWrite p { s with writeQ := rest } op, pd, some ⟨t, ex, .writes f n, none⟩⟩ := by
  obtain ⟨evs, he⟩ := runEvs_of_fpath (fpath_of_micro p ex s (.writes f (n + 1))) t pd
  refine ⟨evs, ?_⟩
  have hm : micro p ex s (.writes f (n + 1)) =
      (applyWrite p { s with writeQ := rest } op, some (.writes f n)) := by
    simp only [micro, hq]
  rw [hm] at he
  exact he

/-- Every step of `ConcM` is a path of `ConcF`; every state reachable in `ConcM` is reachable
in `ConcF`. -/
theorem ConcF_refines_ConcM (p : Params) :
    (∀ (c c' : MState) (e : ConcM.Ev), ConcM.step p c e = some c' →
      ∃ evs, ConcF.runEvs p .good (embedM c) evs = some (embedM c')) ∧
    (∀ c : MState, ConcM.Reach p c → ConcF.Reach p (embedM c)) :=
  ⟨fun _ _ e hs => path_of_concM_step p e hs, fun _ h => reach_embedM h⟩

/-- C08 at the finest granularity: no reachable state is faulty. -/
theorem ConcF_no_fault (p : Params) (hq : Sync.NoQuirks p) (hsm : SmallSketch p) (c : FState)
    (hr : ConcF.Reach p c) : c.s.fault = none :=
  finv_nofault (reach_finv hq hsm hr)

theorem ConcF_no_fault_step (p : Params) (hq : Sync.NoQuirks p) (hsm : SmallSketch p)
    (c c' : FState) (hr : ConcF.Reach p c) (e : ConcM.Ev)
    (hs : ConcF.step p .good c e = some c') : c'.s.fault = none :=
  ConcF_no_fault p hq hsm c' (ConcF.Reach.step e hr hs)

/-- The invariant of the reachable states, in terms of the one-thread invariants, by the three
kinds of state. -/
theorem ConcF_inv (p : Params) (hq : Sync.NoQuirks p) (hsm : SmallSketch p) (c : FState)
    (hr : ConcF.Reach p c) :
    -- no run in progress
    (c.run = none → NodesInvTop c.s ∧ MapOK c.s ∧ c.s.running = false ∧
      CTop p c.s (c.s.writeQ ++ pendWrites c.pending)) ∧
    -- between micro-steps of a run, no `Upsert` half applied
    (∀ r, c.run = some r → r.w = none → Safe c.s ∧ NodesInv c.s ∧ MapOK c.s ∧
      CInv p c.s (c.s.writeQ ++ pendWrites c.pending)) ∧
    -- between two steps of one `Upsert`
    (∀ r pc, c.run = some r → r.w = some pc → Safe c.s ∧ NodesInv c.s ∧ MapOK c.s ∧
      CInv p c.s (wop (opOf pc) :: (c.s.writeQ ++ pendWrites c.pending)) ∧
      WLocal p c.s (c.s.writeQ ++ pendWrites c.pending) pc) := by
  have h := reach_finv hq hsm hr
  refine ⟨fun hrun => ?_, fun r hrun hw => ?_, fun r pc hrun hw => ?_⟩
  · have h1 := (h.of_idle hrun).1
    exact ⟨h1.top.nodes, h1.top.map, h1.running, h1.cinv⟩
  · have hri := (h.of_run hrun hw).1
    exact ⟨hri.run.safe, hri.run.safe.toNodesInv, hri.run.map, hri.cinv⟩
  · obtain ⟨hb, hl⟩ := h.of_mid hrun hw
    exact ⟨hb.run.safe, hb.run.safe.toNodesInv, hb.run.map, hb.cinv, hl⟩

/-- Why the racing update is harmless with `set_dirty(false)` *before* the lookup: while an
`Upsert` of info `i` is being applied, after the lookup (b) the run holds a weight `nw`; for the
entry of info `i` the map holds under the key, either `nw` is the weigher applied to its value,
or that entry is newer than the lookup and its own `Upsert` is pending (queued or held); and if
the dirty flag is set (again), an `Upsert` of this info is pending.  So whatever weight the run
accounts at (c) / (e), a later operation re-weighs the newer value. -/
theorem ConcF_racing_update_covered (p : Params) (hq : Sync.NoQuirks p) (hsm : SmallSketch p)
    (c : FState) (hr : ConcF.Reach p c) (r : FRun) (u : UOp) (nw : Nat) (cur : Bool)
    (hrun : c.run = some r) (hw : r.w = some (.dispatch u nw cur)) :
    (∀ ve, AL.get? c.s.map u.key = some ve → ve.info = u.ve.info →
      nw = p.weigh u.key ve.val ∨
        ∃ h o w, WOp.upsert u.key h ve o w ∈ c.s.writeQ ++ pendWrites c.pending) ∧
    ((getInfo c.s u.ve.info).dirty = true →
      ∃ k' h v o w, WOp.upsert k' h v o w ∈ c.s.writeQ ++ pendWrites c.pending ∧
        v.info = u.ve.info) := by
  have h := (ConcF_inv p hq hsm c hr).2.2 r _ hrun hw
  have hl : WF p c.s (c.s.writeQ ++ pendWrites c.pending) u nw cur := h.2.2.2.2
  exact ⟨hl.wcur, hl.dirty⟩

/-- Maintenance only deletes: a micro-step of a run (including every step of the application
of an `Upsert`: victims' `remove_if`, the rejection's `remove_if`) leaves each binding of the
map unchanged or removes it.  Values are written by `insert` map steps only. -/
theorem ConcF_maintenance_only_deletes (p : Params) (hq : Sync.NoQuirks p) (hsm : SmallSketch p)
    (c c' : FState) (hr : ConcF.Reach p c) (t : Tid)
    (hs : ConcF.step p .good c (.mStep t) = some c') (k : Nat) (ve : VE)
    (hk : AL.get? c'.s.map k = some ve) : AL.get? c.s.map k = some ve :=
  finv_mstep_mapsub hq (reach_finv hq hsm hr) t hs k ve hk

/-- C10 at the finest granularity: in a reachable state in which no run is in progress, no
thread holds an operation and the write queue is empty, the counters are exact. -/
theorem ConcF_C10_quiescent (p : Params) (hq : Sync.NoQuirks p) (hsm : SmallSketch p)
    (c : FState) (hr : ConcF.Reach p c) (hrun : c.run = none) (hp : c.pending = [])
    (hw : c.s.writeQ = []) : Spec.snapCountersOk p.weigh (Sync.snapshot p c.s) = true := by
  have h := ((reach_finv hq hsm hr).of_idle hrun).1
  rw [snapCountersOk_readQ]
  exact snapshot_counters (csinv_quiescent_tinv (c := ⟨c.s, c.pending⟩) h hp hw) hw

/-- C11 at the finest granularity: when no run is in progress and no thread holds an operation,
`liveOk` holds. -/
theorem ConcF_C11_quiescent (p : Params) (hq : Sync.NoQuirks p) (hsm : SmallSketch p)
    (c : FState) (hr : ConcF.Reach p c) (hrun : c.run = none) (hp : c.pending = []) :
    Spec.liveOk (Sync.snapshot p c.s) = true :=
  csinv_liveOk (c := ⟨c.s, c.pending⟩) ((reach_finv hq hsm hr).of_idle hrun).1 hp

/-- C04 (count) at the finest granularity: the map never holds more entries than the
access-order list (= the entry counter: the published one outside a run, the run-local one
inside) plus the queued writes, plus one per thread holding a write operation, plus one while
an `Upsert` is half applied. -/
theorem ConcF_C04_overshoot (p : Params) (hq : Sync.NoQuirks p) (hsm : SmallSketch p)
    (c : FState) (hr : ConcF.Reach p c) :
    c.s.map.length ≤ c.s.prob.length + c.s.writeQ.length + (pendWrites c.pending).length +
      (match c.run with
       | some r => (match r.w with | some _ => 1 | none => 0)
       | none => 0) := by
  have hl := (reach_finv hq hsm hr).core.map_length_le
  unfold viewF heldF at hl
  cases hrun : c.run with
  | none => rw [hrun] at hl; exact hl
  | some r =>
    rw [hrun] at hl
    dsimp only at hl ⊢
    cases hw : r.w with
    | none => rw [hw] at hl; exact hl
    | some pc => rw [hw] at hl; exact hl

def fSteps (n : Nat) : List ConcM.Ev := List.replicate n (.mStep 9)

/-- `(map as (key, value), keys of the access-order list,
[entry_count, weighted_size, |write queue|, threads holding something, faults])`. -/
def cfSummary (p : Params) (v : Variant) (evs : List ConcM.Ev) :
    Option (List (Nat × Nat) × List Nat × List Nat) :=
  (ConcF.runEvs p v {} evs).map fun c =>
    (c.s.map.map (fun (kv : Nat × VE) => (kv.1, kv.2.val)), c.s.prob.map (·.key),
     [c.s.ec, c.s.ws, c.s.writeQ.length, c.pending.length, if c.s.fault.isNone then 0 else 1])

/-- Is the end state quiescent, and does it satisfy `snapCountersOk`? -/
def cfQuiescentOk (p : Params) (v : Variant) (evs : List ConcM.Ev) : Option (Bool × Bool) :=
  (ConcF.runEvs p v {} evs).map fun c =>
    (c.run.isNone && c.pending.isEmpty && c.s.writeQ.isEmpty,
     Spec.snapCountersOk p.weigh (Sync.snapshot p c.s))

def cfParams : Params := { hasWeigher := true, w := fun _ v => v }

/-- The seeded change `dirtyOrder` (C10c).  Key 1 is resident with value 1.  It is updated to
2; a run starts applying that `Upsert`: it looks the current entry up and determines the weight
(2) — and *then*, before the run clears the dirty flag, thread 2 updates the key to 5 (its
map step sets the dirty flag; it holds its `Upsert`).  The run clears the flag and accounts 2.
Thread 2 sends its `Upsert`; the next run finds the entry admitted and not dirty and reuses
the accounted weight. -/
def dirtyOrderInterleaving : List ConcM.Ev :=
  [.other (.insMap 1 1 1), .other (.enq 1), .mBegin 9 true] ++ fSteps 8 ++
  [.other (.insMap 1 1 2), .other (.enq 1), .mBegin 9 true] ++ fSteps 3 ++
  [.other (.insMap 2 1 5)] ++ fSteps 5 ++
  [.other (.enq 2), .mBegin 9 true] ++ fSteps 8

/-- With the seeded change the quiescent end state has `weighted_size = 2` for a resident of
weight 5: `snapCountersOk` fails. -/
theorem ConcF_counterexample_dirty_order :
    cfSummary cfParams .dirtyOrder dirtyOrderInterleaving = some ([(1, 5)], [1], [1, 2, 0, 0, 0]) ∧
    cfQuiescentOk cfParams .dirtyOrder dirtyOrderInterleaving = some (true, false) := by
  decide +kernel

/-- The current code, same interleaving (here the racing update falls between `set_dirty(false)`
(a) and the lookup (b)): the lookup already sees the new value, the run accounts 5, and the update's
own `Upsert` re-weighs to the same: exact. -/
example :
    cfSummary cfParams .good dirtyOrderInterleaving = some ([(1, 5)], [1], [1, 5, 0, 0, 0]) ∧
    cfQuiescentOk cfParams .good dirtyOrderInterleaving = some (true, true) := by
  decide +kernel

def cfParams2 : Params := { cap := some 2, hasWeigher := true, w := fun _ v => v % 3 }

/-- Keys 1 and 2 (weight 1 each) fill the cache; key 3 is made popular and inserted with
weight 2.  The admission scan of its `Upsert` selects the nodes of keys 1 and 2 as victims.  The
run removes key 1 from the map; *then* thread 2 inserts a new value 4 for key 1 and thread 3
invalidates key 2; the removal of victim 2 fails. -/
def victimInterleaving : List ConcM.Ev :=
  [.other (.insMap 1 1 1), .other (.enq 1), .other (.insMap 1 2 1), .other (.enq 1),
   .mBegin 9 true] ++ fSteps 12 ++
  [.other (.getMap 3 3), .other (.enq 3), .other (.insMap 1 3 2), .other (.enq 1),
   .mBegin 9 true] ++ fSteps 10 ++
  [.other (.insMap 2 1 4), .other (.invMap 3 2)] ++ fSteps 7 ++
  [.other (.enq 2), .other (.enq 3), .mBegin 9 true] ++ fSteps 9

/-- The seeded change `putBack` (C01c): the victim already taken out is given back with an
unconditional `cache.insert`, overwriting the value 4 that thread 2's `insert(1, 4)` wrote
meanwhile; that insert's own `Upsert` is then dropped as not current.  At quiescence the map
holds the *stale* value 1 for key 1 (with consistent counters: lookups return it for good). -/
theorem ConcF_counterexample_put_back :
    cfSummary cfParams2 .putBack victimInterleaving = some ([(1, 1)], [1], [1, 1, 0, 0, 0]) ∧
    cfQuiescentOk cfParams2 .putBack victimInterleaving = some (true, true) ∧
    -- right after thread 2's `insert(1, 4)` the map did hold the new value
    (cfSummary cfParams2 .putBack (victimInterleaving.take 33)).map (·.1)
      = some [(2, 1), (3, 2), (1, 4)] := by
  decide +kernel

/-- The current code on the same interleaving (an invalidate of a selected victim between the
scan (g) and its eviction (h), and an insert of the key of the victim already evicted): the
failed removal only moves the node to the skipped list, nothing is put back, the candidate is
admitted and — the cache being over capacity by the victim that was not evicted — evicted again
by the LRU pass; key 1 holds the value thread 2 inserted.  Exact at quiescence. -/
example :
    cfSummary cfParams2 .good victimInterleaving = some ([(1, 4)], [1], [1, 1, 0, 0, 0]) ∧
    cfQuiescentOk cfParams2 .good victimInterleaving = some (true, true) := by
  decide +kernel

/-- An update of the candidate's key between the lookup (b) and `handle_admit` (e): key 1 is
inserted; the run has read the current entry (weight 1) when thread 2 updates the key to 5; the
run admits the entry with the weight 1 it read; the update's `Upsert` (held, then queued)
re-weighs it in the next run. -/
def admitRaceInterleaving : List ConcM.Ev :=
  [.other (.insMap 1 1 1), .other (.enq 1), .mBegin 9 true] ++ fSteps 4 ++
  [.other (.insMap 2 1 5)] ++ fSteps 4 ++
  [.other (.enq 2), .mBegin 9 true] ++ fSteps 8

example :
    -- after the run that raced with the update: admitted with the weight read at (b)
    cfSummary cfParams .good (admitRaceInterleaving.take 12) = some ([(1, 5)], [1], [1, 1, 0, 1, 0]) ∧
    cfSummary cfParams .good admitRaceInterleaving = some ([(1, 5)], [1], [1, 5, 0, 0, 0]) ∧
    cfQuiescentOk cfParams .good admitRaceInterleaving = some (true, true) := by
  decide +kernel

/-- The theorems apply to these paths. -/
example : ∀ c, ConcF.runEvs cfParams2 .good {} victimInterleaving = some c → c.s.fault = none := by
  intro c hc
  exact ConcF_no_fault cfParams2 rfl
    (.of_default_capF rfl fun _ hcap => Option.some.inj hcap ▸ by decide +kernel) c
    (ConcF.reach_of_runEvs _ _ _ ConcF.Reach.init hc)

end Props
end MiniMoka

namespace MiniMoka.Props
#print axioms ConcF_write_is_applyWrite
#print axioms ConcF_refines_ConcM
#print axioms ConcF_no_fault
#print axioms ConcF_no_fault_step
#print axioms ConcF_inv
#print axioms ConcF_racing_update_covered
#print axioms ConcF_maintenance_only_deletes
#print axioms ConcF_C10_quiescent
#print axioms ConcF_C11_quiescent
#print axioms ConcF_C04_overshoot
#print axioms ConcF_counterexample_dirty_order
#print axioms ConcF_counterexample_put_back
end MiniMoka.Props
