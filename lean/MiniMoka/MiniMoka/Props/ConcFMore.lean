/-
  `ConcS_no_spurious_removal` (`Props/ConcSNoLoss.lean`, C03 / C17) and `ConcS_no_stuck_state`
  (`Props/ConcSProgress.lean`, C09) at the finest many-thread granularity (`MiniMoka/ConcF.lean`).
  No spurious removal is stated for `max_capacity = none` only: then `has_enough_capacity` always
  holds, the too-big path, the admission scan, the rejection and the LRU loop are unreachable
  (`reach_simple`), and only the iterations of the expiry loops remove.  Progress is in existence
  form: no bound on the number of micro-steps is stated.
-/
import MiniMoka.Lemmas.ConcF

namespace MiniMoka
namespace Props

open Sync Sync.Nodes Sync.Counters ConcS ConcM ConcF

/-- C03 / C17 at the finest granularity, without `max_capacity`: no step of any thread removes or
changes a map entry except the `insert` / `invalidate` of its own key and the removal of an
expired or invalidated entry by a micro-step of a maintenance run. -/
theorem ConcF_no_spurious_removal (p : Params) (hq : Sync.NoQuirks p) (hsm : SmallSketch p)
    (hcap : p.cap = none) (c c' : FState) (hr : ConcF.Reach p c) (ev : ConcM.Ev)
    (hs : ConcF.step p .good c ev = some c') (k : Nat) (ve : VE)
    (hk : AL.get? c.s.map k = some ve) :
    AL.get? c'.s.map k = some ve ∨
    (∃ t v, ev = .other (.insMap t k v) ∧
      ∃ ve', AL.get? c'.s.map k = some ve' ∧ ve'.info = ve.info ∧ ve'.val = v) ∨
    (∃ t, ev = .other (.invMap t k)) ∨
    ((∃ t, ev = .mStep t) ∧ isExpiredInfo p c'.s (getInfo c'.s ve.info) c'.s.now = true) := by
  cases ev with
  | other e0 =>
    obtain ⟨hpl, c1, h0, rfl⟩ := ConcF.step_other hs
    rcases ConcS.step_no_spurious p e0 h0 k ve hk with a | ⟨t, v, a, b⟩ | ⟨t, a⟩ | ⟨t, a | a⟩
    · exact Or.inl a
    · exact Or.inr (Or.inl ⟨t, v, by rw [a], b⟩)
    · exact Or.inr (Or.inr (Or.inl ⟨t, by rw [a]⟩))
    · rw [a] at hpl
      cases hpl
    · rw [a] at hpl
      cases hpl
  | mBegin t ex =>
    refine Or.inl ?_
    cases FStep.of_eq hs with
    | busy => exact hk
    | begin =>
      show AL.get? (beginRun c.s ex).map k = some ve
      rw [(beginRun_fields c.s ex).1]
      exact hk
  | mStep t =>
    rcases mstep_kept_none hq hcap (reach_finv hq hsm hr) (reach_simple hcap hr) t hs k ve hk
      with a | a
    · exact Or.inl a
    · exact Or.inr (Or.inr (Or.inr ⟨⟨t, rfl⟩, a⟩))

/-- Every run ends: from a reachable state with a run in progress, finitely many micro-steps of
the running thread (and nothing else) lead to a state with no run in progress; what threads
hold is untouched. -/
theorem ConcF_run_terminates (p : Params) (hq : Sync.NoQuirks p) (hsm : SmallSketch p)
    (c : FState) (hr : ConcF.Reach p c) (r : FRun) (hrun : c.run = some r) :
    ∃ n c', ConcF.runEvs p .good c (List.replicate n (.mStep r.tid)) = some c' ∧
      c'.run = none ∧ c'.pending = c.pending := by
  obtain ⟨n, s', h⟩ := run_terminates (reach_finv hq hsm hr) r hrun
  exact ⟨n, _, h, rfl, rfl⟩

theorem run_then_enq (p : Params) {c : FState} (hrun : c.run = none)
    (hnr : c.s.running = false) {t : Tid} {pd : Pend} (hp : pendOf c.pending t = some pd) :
    ∃ evs c', ConcF.runEvs p .good c evs = some c' ∧ c'.run = none ∧
      c'.pending = dropPend c.pending t := by
  have hc : c = ⟨c.s, c.pending, none⟩ := by cases c; simp only at hrun; rw [hrun]
  obtain ⟨n, he⟩ := runEvs_of_fpath' (fpath_of_mpath (run_is_trySync p c.s hnr)) t c.pending
  have hw := (trySync_spec p c.s hnr).writeQ
  obtain ⟨c2, h2, h3⟩ := ConcS.step_enq_enabled p (c := ⟨trySync p c.s, c.pending⟩) (t := t) hp
    (fun op _ => by
      show (trySync p c.s).writeQ.length < _
      rw [hw]; decide)
  refine ⟨.mBegin t false :: (List.replicate n (.mStep t) ++ [.other (.enq t)]),
    ⟨c2.s, c2.pending, none⟩, ?_, rfl, h3⟩
  rw [hc]
  simp only [ConcF.runEvs, ConcF.step]
  rw [ConcF.runEvs_append, he]
  simp only [Option.map_none, ConcF.runEvs, ConcF.step, isPlain, if_true, h2, Option.map_some]

theorem drainF {p : Params} (hq : Sync.NoQuirks p) (hsm : SmallSketch p) : ∀ (n : Nat)
    (c : FState), ConcF.Reach p c → c.run = none → c.pending.length ≤ n →
    ∃ evs c', ConcF.runEvs p .good c evs = some c' ∧ c'.run = none ∧ c'.pending = [] := by
  intro n
  induction n with
  | zero =>
    intro c _ hrun hn
    exact ⟨[], c, rfl, hrun, List.eq_nil_of_length_eq_zero (Nat.le_zero.mp hn)⟩
  | succ n ih =>
    intro c hr hrun hn
    cases hp : c.pending with
    | nil => exact ⟨[], c, rfl, hrun, hp⟩
    | cons x rest =>
      obtain ⟨t, pd⟩ := x
      have hnr := ((reach_finv hq hsm hr).of_idle hrun).1.running
      have hpo : pendOf c.pending t = some pd := by rw [hp]; exact ConcS.pendOf_head t pd rest
      obtain ⟨evs1, c1, e1, r1, p1⟩ := run_then_enq p hrun hnr hpo
      have hlen : c1.pending.length ≤ n := by
        rw [p1, hp]
        have := ConcS.dropPend_head_length t pd rest
        rw [hp, List.length_cons] at hn
        omega
      obtain ⟨evs2, c2, e2, r2, p2⟩ := ih c1 (ConcF.reach_of_runEvs evs1 c c1 hr e1) r1 hlen
      refine ⟨evs1 ++ evs2, c2, ?_, r2, p2⟩
      rw [ConcF.runEvs_append, e1]
      exact e2

/-- No reachable state is stuck: some finite event list leads to a state with no run in
progress and no thread holding an operation.  (The run in progress, if any, ends; then every
holder runs maintenance itself, which makes room in the write queue, and sends.) -/
theorem ConcF_no_stuck_state (p : Params) (hq : Sync.NoQuirks p) (hsm : SmallSketch p)
    (c : FState) (hr : ConcF.Reach p c) :
    ∃ evs c', ConcF.runEvs p .good c evs = some c' ∧ c'.run = none ∧ c'.pending = [] ∧
      ConcF.Reach p c' := by
  have hfin : ∃ evs0 c0, ConcF.runEvs p .good c evs0 = some c0 ∧ c0.run = none := by
    cases hrun : c.run with
    | none => exact ⟨[], c, rfl, hrun⟩
    | some r =>
      obtain ⟨n, c0, h1, h2, _⟩ := ConcF_run_terminates p hq hsm c hr r hrun
      exact ⟨_, c0, h1, h2⟩
  obtain ⟨evs0, c0, h1, h2⟩ := hfin
  have hr0 := ConcF.reach_of_runEvs evs0 c c0 hr h1
  obtain ⟨evs1, c1, g1, g2, g3⟩ := drainF hq hsm c0.pending.length c0 hr0 h2 (Nat.le_refl _)
  refine ⟨evs0 ++ evs1, c1, ?_, g2, g3, ConcF.reach_of_runEvs evs1 c0 c1 hr0 g1⟩
  rw [ConcF.runEvs_append, h1]
  exact g1

/-- One thread fills the write channel: `n` inserts of distinct keys, each sent, no
maintenance. -/
def fillF (n : Nat) : List ConcM.Ev :=
  ((List.range n).map (fun k => [ConcM.Ev.other (.insMap 0 k 1), .other (.enq 0)])).flatten

/-- `(run over, |write queue|, entry_count, weighted_size, |map|)` after `fillF n`, the start of a
housekeeping run by thread 1 and `m` of its micro-steps. -/
def runOverQueue (n m : Nat) : Option (Bool × Nat × Nat × Nat × Nat) :=
  (ConcF.runEvs {} .good {} (fillF n ++ [.mBegin 1 false] ++ List.replicate m (.mStep 1))).map
    fun c => (c.run.isNone, c.s.writeQ.length, c.s.ec, c.s.ws, c.s.map.length)

theorem runOverQueue_succ (n m : Nat) :
    runOverQueue n (m + 1) =
      ((ConcF.runEvs {} .good {}
          (fillF n ++ [.mBegin 1 false] ++ List.replicate m (.mStep 1))).bind
        fun c => ConcF.step {} .good c (.mStep 1)).map
        fun c => (c.run.isNone, c.s.writeQ.length, c.s.ec, c.s.ws, c.s.map.length) := by
  unfold runOverQueue
  rw [List.replicate_succ', ← List.append_assoc, ConcF.runEvs_append]
  cases ConcF.runEvs {} .good {} (fillF n ++ [.mBegin 1 false] ++ List.replicate m (.mStep 1)) with
  | none => rfl
  | some c =>
    simp only [ConcF.runEvs, Option.bind_some]
    cases ConcF.step {} .good c (.mStep 1) <;> rfl

/-- 70 queued operations (more than the flush point 64): the run needs exactly
`1 + 70 · 4 + 3 = 284` micro-steps (1: the `reads` phase with nothing to read; 4 per operation:
receive, `clearDirty`, `readCurrent`, `dispatch`; 3: the exhausted `writes` phase, `enable`,
`finish`), not one less.  For the full channel (`WRITE_LOG_SIZE` = 384 operations, 1540
micro-steps) `#eval runOverQueue 384 1540` gives `some (true, 0, 384, 384, 384)`. -/
example : runOverQueue 70 284 = some (true, 0, 70, 70, 70) ∧
    runOverQueue 70 283 = some (false, 0, 0, 0, 70) := by
  -- both sides speak of the same 283 micro-steps, which the kernel then evaluates once
  show runOverQueue 70 (283 + 1) = _ ∧ _
  rw [runOverQueue_succ]
  unfold runOverQueue
  decide +kernel

end Props
end MiniMoka

namespace MiniMoka.Props
#print axioms ConcF_no_spurious_removal
#print axioms ConcF_run_terminates
#print axioms ConcF_no_stuck_state
end MiniMoka.Props
