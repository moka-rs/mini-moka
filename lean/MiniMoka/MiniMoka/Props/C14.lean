/-
  C14 (popularity estimator): the 4-bit count-min sketch `common/frequency_sketch.rs`.

  Model: `MiniMoka/Sketch.lean`.  The vocabulary of the statements (`init`, `incrStep`, `bump`,
  `hits`, `cntAt`, `Ghost`, `ghostStep`, `runG`) is defined in `MiniMoka/Lemmas/Sketch.lean`.  All
  run theorems are of the form "`runG (init cap, ghost0) hs = .ok (s, g)` implies …" with `hs`
  arbitrary.  That runs never fault is `C08_sketch_no_overflow` (`Props/C08Sketch.lean`).
  The numbers (1)–(4b) follow the sentences of the property: (1) at most 15, (2) at least the ghost
  count, (3) equal to it without collision, (4a) recording never lowers an estimate, (4b) except
  through an aging step, which halves all.
-/
import MiniMoka.Lemmas.Sketch

namespace MiniMoka
namespace Sketch

/-- (1) The estimate is at most 15 — in every state whatsoever. -/
theorem C14_bounds (s : Sketch) (h : UInt64) : s.frequency h ≤ 15 :=
  frequency_le s h

/-- (2) The estimate never underestimates: after any sequence `hs` of recorded hashes (colliding
ones included, aging steps included), for every hash `h`, `c h ≤ frequency h` (and `c h ≤ 15`). -/
theorem C14_never_underestimates (cap : Nat) (hs : List UInt64) {s : Sketch} {g : Ghost}
    (hrun : runG (init cap, ghost0) hs = .ok (s, g)) (h : UInt64) :
    g h ≤ s.frequency h ∧ s.frequency h ≤ 15 ∧ g h ≤ 15 :=
  ⟨ghost_le_frequency (rinv_of_run hrun) h, frequency_le s h, (rinv_of_run hrun).gle h⟩

/-- (3) If one of the four counter positions of `h` (the `i`-th) is used by no other recorded
hash, the estimate is exact. -/
theorem C14_exact_without_collision (cap : Nat) (hs : List UInt64) {s : Sketch} {g : Ghost}
    (hrun : runG (init cap, ghost0) hs = .ok (s, g)) (h : UInt64) (i : Nat) (hi : i < 4)
    (hfree : ∀ h', h' ∈ hs → h' ≠ h →
      ¬ hits (init cap) h' ((init cap).indexOf h i) (start h + i)) :
    s.frequency h = g h :=
  frequency_eq_ghost (rinv_of_run hrun) h i hi hfree

/-- (4a) In any reachable state, recording any hash `h'` (equal to `h` or not) does not lower the
estimate of `h`, unless that very increment ran the aging step. -/
theorem C14_others_never_lower (cap : Nat) (hs : List UInt64) {s : Sketch} {g : Ghost}
    (hrun : runG (init cap, ghost0) hs = .ok (s, g)) (h' : UInt64) {s' : Sketch}
    (hstep : incrStep s h' = .ok (s', false)) (h : UInt64) :
    increment false s h' = .ok s' ∧ s.frequency h ≤ s'.frequency h :=
  ⟨increment_of_incrStep hstep, frequency_step_mono (rinv_of_run hrun).wf hstep h⟩

/-- (4b) An increment that ages: the result is `reset false` of the bumped state, in which no
estimate is lower than before; the aging step floor-halves every counter, hence every estimate,
and the ghost of every hash. -/
theorem C14_aging_halves_all (cap : Nat) (hs : List UInt64) {s : Sketch} {g : Ghost}
    (hrun : runG (init cap, ghost0) hs = .ok (s, g)) (h' : UInt64) {s' : Sketch}
    (hstep : incrStep s h' = .ok (s', true)) :
    increment false s h' = .ok s' ∧
    reset false (bump s h') = .ok s' ∧
    (∀ x y, y < 16 → cntAt s'.table x y = cntAt (bump s h').table x y / 2) ∧
    (∀ h, s'.frequency h = (bump s h').frequency h / 2) ∧
    (∀ h, s.frequency h ≤ (bump s h').frequency h) ∧
    (∀ h, ghostStep g h' true h = (if h = h' then satInc (g h) else g h) / 2) :=
  ⟨increment_of_incrStep hstep, step_aged hstep,
    fun x y hy => reset_cnt (step_aged hstep) x y hy,
    fun h => reset_frequency (step_aged hstep) h,
    fun h => frequency_bump_mono (rinv_of_run hrun).wf (rinv_of_run hrun).ne h' h,
    fun _ => rfl⟩

/-- (4b), the aging step by itself, on any state: every estimate is floor-halved. -/
theorem C14_aging_halves_all_reset {s s' : Sketch} (h : reset false s = .ok s') (x : UInt64) :
    s'.frequency x = s.frequency x / 2 :=
  reset_frequency h x

/-- Capacity 0: one word, `sampleSize = 10`.  Nine recordings of hash 0 and one of hash 1
(different nibbles, no collision): the tenth increment ages.  Counters 9 and 1 become 4 and 0,
so do the ghosts; `size = (10 - 8/4) / 2 = 4`. -/
example : ∃ s g, runG (init 0, ghost0) [0, 0, 0, 0, 0, 0, 0, 0, 0, 1] = .ok (s, g) ∧
    (s.frequency 0 = 4 ∧ g 0 = 4 ∧ s.frequency 1 = 0 ∧ g 1 = 0 ∧ s.size = 4 ∧
      s.table = #[0x4444]) :=
  exists_of_checkRun (by decide +kernel)

/-- … and the tenth increment is indeed one that reports an aging step. -/
example : ∃ s g, runG (init 0, ghost0) [0, 0, 0, 0, 0, 0, 0, 0, 0] = .ok (s, g) ∧
    (s.frequency 0 = 9 ∧ g 0 = 9 ∧
      (incrStep s 1).toOption.map (fun p => (p.2, p.1.size)) = some (true, 4)) :=
  exists_of_checkRun (by decide +kernel)

/-- The hypothesis of `C14_exact_without_collision` is satisfiable: in that run, position 0 of
hash 0 is used by no other recorded hash. -/
example : ∀ h', h' ∈ ([0, 0, 0, 0, 0, 0, 0, 0, 0, 1] : List UInt64) → h' ≠ 0 →
    ¬ hits (init 0) h' ((init 0).indexOf 0 0) (start 0 + 0) := by decide +kernel

/-- Collision: with one word, hashes 0 and 4 share all four counters; recording 4 alone makes
the estimate of 0 strictly larger than its count. -/
example : ∃ s g, runG (init 0, ghost0) [4, 4, 4] = .ok (s, g) ∧
    (g 0 = 0 ∧ s.frequency 0 = 3 ∧ g 4 = 3) :=
  exists_of_checkRun (by decide +kernel)

/-- Saturation: twenty recordings at capacity 512 (no aging: `sampleSize = 5120`). -/
example : ∃ s g, runG (init 512, ghost0) (List.replicate 20 77) = .ok (s, g) ∧
    (g 77 = 15 ∧ s.frequency 77 = 15 ∧ s.size = 15 ∧ s.table.size = 512) :=
  exists_of_checkRun (by decide +kernel)

/-- A capacity that is not a power of two: 100 → 128 words. -/
example : (init 100).table.size = 128 ∧ (init 100).mask = 127 ∧ (init 100).sampleSize = 1000 := by
  decide +kernel

end Sketch
end MiniMoka
