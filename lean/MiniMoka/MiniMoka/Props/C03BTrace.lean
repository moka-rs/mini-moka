/-
  C03 part B on traces of the single-threaded cache, and the whole C03 oracle.
-/
import MiniMoka.Props.C03A
import MiniMoka.Props.NoFreqTrace

namespace MiniMoka
namespace Props

open Unsync

/-- C03 part B, the trace oracle: for every configuration with `max_capacity = c` and every
history, on every `snapshot, [freq,] insert(k, v), snapshot` window of the trace: if `k` is not
resident and its weight fits beside the residents (`Σ weights + w(k, v) ≤ c`), then afterwards
`(k, v)` is resident and so is every former resident that is unexpired at that clock reading
(the purge at the start of `insert` removes only expired entries, and nothing is evicted for
size).  No guard for `ttl = 0` / `tti = 0` is needed: the call never looks at the expiry of the
entry it inserts, so it is in the map at the closing snapshot. -/
theorem C03B_unsync_trace (p : Params) (hq : NoQuirks p) (hsm : SmallSketch p) (c : Nat)
    (hcap : p.cap = some c) (h : List Op) :
    Spec.fitsC03 c p.ttl p.tti p.weigh (Unsync.trace p h) = true :=
  fitsC03_run sketchLaws hq hsm hcap h (init_inv sketchLaws p) (init_coupled p)

/-- C03 on the single-threaded cache, the whole oracle (part A: exactly a map with expiry
while the capacity is not reached; part B: an insert that fits loses nothing), for every
configuration and every history. -/
theorem C03_unsync_oracle (p : Params) (hq : NoQuirks p) (hsm : SmallSketch p) (h : List Op) :
    Spec.oracleC03 .unsync p.cap p.ttl p.tti p.weigh (Unsync.trace p h) = true :=
  Spec.oracleC03_of (C03A_unsync_oracle p hq hsm h)
    (fun c hcap => C03B_unsync_trace p hq hsm c hcap h)

/-- What the driver judges: the oracle on the trace without the hook reads `freq k`. -/
theorem C03_unsync_oracle_noFreq (p : Params) (hq : NoQuirks p) (hsm : SmallSketch p)
    (h : List Op) :
    Spec.oracleC03 .unsync p.cap p.ttl p.tti p.weigh (Spec.noFreq (Unsync.trace p h)) = true := by
  rw [noFreq_unsync_trace]; exact C03_unsync_oracle p hq hsm _

/-- A model history with both kinds of window (with and without the `freq` read), inserts that
fit, an insert that does not (key 4: admission, the clause does not apply), residents that expire
before an insert (exempted) and an update. -/
example : Spec.fitsC03 3 (some 5) none (fun _ _ => 1) (Unsync.trace
    { cap := some 3, ttl := some 5 }
    [.snap, .ins 1 10, .snap, .freq 2, .ins 2 20, .snap, .adv 2, .ins 3 30, .snap, .ins 4 40, .snap,
     .adv 3, .snap, .ins 5 50, .snap, .ins 5 51, .snap, .inv 5, .snap, .ins 6 60, .snap]) = true := by
  decide +kernel

/-- In that history the windows are not trivially satisfied: the second insert really finds one
resident, keeps it and adds its own entry. -/
example : (Unsync.trace { cap := some 3, ttl := some 5 }
    [.snap, .ins 1 10, .snap, .freq 2, .ins 2 20, .snap]).map
      (fun oo => match oo.2 with
        | .snap sn => Spec.residentKeys sn
        | _ => []) = [[], [], [(1, 10)], [], [], [(1, 10), (2, 20)]] := by
  decide +kernel

/-- The corner `ttl = 0`: the fresh entry is expired the moment it is inserted, but it is in the
map at the closing snapshot, as the oracle (which has no "lives" guard here) demands. -/
example : Spec.oracleC03 .unsync (some 3) (some 0) none (fun _ _ => 1) (Unsync.trace
    { cap := some 3, ttl := some 0 }
    [.snap, .ins 1 10, .snap, .ins 2 20, .snap, .get 1, .snap, .ins 3 30, .snap]) = true := by
  decide +kernel

/-- The whole oracle on a history with a weigher, tti and hits. -/
example : Spec.oracleC03 .unsync (some 6) none (some 4) (fun _ v => v % 4) (Unsync.trace
    { cap := some 6, tti := some 4, hasWeigher := true, w := fun _ v => v % 4 }
    [.snap, .ins 1 1, .snap, .ins 2 2, .snap, .adv 3, .get 1, .snap, .freq 3, .ins 3 3, .snap,
     .adv 2, .snap, .ins 4 1, .snap, .iter]) = true := by
  decide +kernel

/-- The oracle is not vacuous: it rejects a trace in which an insert that fits is not retained,
and one in which such an insert costs an unexpired resident. -/
example :
    let sn0 : Snap := { ec := 0, ws := 0, entries := [], prob := [], wo := [], skOn := false,
                        skSize := 0, skSample := 0, skLen := 0, skCrc := 0, freqs := [] }
    let ev (k v : Nat) : EntryView :=
      { key := k, val := v, weight := 1, la := none, lm := none, aoOk := true, woOk := true }
    let sn1 : Snap := { sn0 with ec := 1, ws := 1, entries := [ev 1 10] }
    let sn2 : Snap := { sn0 with ec := 1, ws := 1, entries := [ev 2 20] }
    Spec.fitsC03 3 none none (fun _ _ => 1)
      [(.snap, .snap sn0), (.ins 1 10, .ok), (.snap, .snap sn0)] = false ∧
    Spec.fitsC03 3 none none (fun _ _ => 1)
      [(.snap, .snap sn1), (.freq 2, .freq 0), (.ins 2 20, .ok), (.snap, .snap sn2)] = false ∧
    Spec.fitsC03 3 none none (fun _ _ => 1)
      [(.snap, .snap sn0), (.ins 1 10, .ok), (.snap, .snap sn1)] = true := by
  decide +kernel

end Props
end MiniMoka

#print axioms MiniMoka.Props.C03B_unsync_trace
#print axioms MiniMoka.Props.C03_unsync_oracle
#print axioms MiniMoka.Props.C03_unsync_oracle_noFreq
