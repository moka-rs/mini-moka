/-
  C12 — LRU victims on the single-threaded cache: whenever residents leave for size (to
  make room for an admitted candidate, or to work off an excess over the capacity) they are
  a prefix of the recency order, the shortest one that is heavy enough; and the recency
  order is maintained by hits, updates and admissions as the property says.
-/
import MiniMoka.Lemmas.UnsyncAdmit
import MiniMoka.Lemmas.UnsyncRecency
import MiniMoka.Lemmas.SketchLaws

namespace MiniMoka
namespace Props

open Unsync Unsync.Admit

/-- **C12, victims of an admission.** For a new key `k` that finds no room and is not
oversized (`s1 := maintain p s` is the state after the operation's own maintenance,
`s1.prob` its recency order, front = least recently used): there is a length `n` such that
the residents evicted by `insert p s k v` (resident in `s1`, absent afterwards) are exactly
the keys of the first `n` nodes of `s1.prob`; if the candidate was admitted, `n` is the
length of the *shortest* prefix whose weights reach the candidate's weight; if it was
rejected, `n = 0` (nothing was evicted). -/
theorem C12_unsync_admission_victims {p : Params} (hq : NoQuirks p) {s : UState}
    (hi : Inv Sketch.Good p s) (k v : Nat)
    (hnew : AL.get? (maintain p s).map k = none)
    (hroom : hasEnoughCapacity p (p.weigh k v) (maintain p s).ws = false)
    (hbig : tooBig p (p.weigh k v) = false) :
    ∃ n, n ≤ (maintain p s).prob.length ∧
      (∀ k', ((∃ e, AL.get? (maintain p s).map k' = some e) ∧
                AL.get? (insert p s k v).map k' = none) ↔
              k' ∈ ((maintain p s).prob.take n).map (·.key)) ∧
      ((∃ e, AL.get? (insert p s k v).map k = some e) →
        p.weigh k v ≤ ((probWeights (maintain p s)).take n).sum ∧
        ∀ m, m < n → ((probWeights (maintain p s)).take m).sum < p.weigh k v) ∧
      (AL.get? (insert p s k v).map k = none → n = 0) := by
  obtain ⟨hadm, hrej⟩ := insert_noroom hq hi.inv k v hnew hroom hbig
  obtain ⟨h1, _, _⟩ := maintain_spec hq hi.inv
  by_cases hdec : ∃ n, shortestPre (p.weigh k v) (probWeights (maintain p s)) = some n ∧
      (maintain p s).sk.frequency (p.hash k) > ((probFreqs (maintain p s)).take n).sum
  · obtain ⟨n, hn1, hn2⟩ := hdec
    obtain ⟨⟨e, he, _, _⟩, hmap, _⟩ := hadm n hn1 hn2
    obtain ⟨s1, s2, s3⟩ := (shortestPre_eq_some_iff _ _ _).mp hn1
    exact ⟨n, by simpa [probWeights] using s1, evicted_iff_prefix h1.struct hnew hmap,
      fun _ => ⟨s2, s3⟩, fun h => by rw [he] at h; cases h⟩
  · have heq := hrej hdec
    refine ⟨0, Nat.zero_le _, evicted_iff_prefix h1.struct hnew fun k' _ => by rw [heq]; rfl, ?_,
      fun _ => rfl⟩
    rintro ⟨e, he⟩
    rw [heq, hnew] at he; cases he

/-- Meaning of `prefLen need ws`: the length of the shortest prefix of `ws` whose sum reaches
`need`, or the length of the whole list when even that does not suffice. -/
theorem C12_prefLen_meaning (need : Nat) (ws : List Nat) :
    (need ≤ ws.sum →
      prefLen need ws ≤ ws.length ∧ need ≤ (ws.take (prefLen need ws)).sum ∧
      ∀ m, m < prefLen need ws → (ws.take m).sum < need) ∧
    (ws.sum < need → prefLen need ws = ws.length) := by
  unfold prefLen
  constructor
  · intro h
    cases hs : shortestPre need ws with
    | none => exact absurd ((shortestPre_eq_none_iff ws need).mp hs) (by omega)
    | some n => exact (shortestPre_eq_some_iff ws need n).mp hs
  · intro h
    rw [(shortestPre_eq_none_iff ws need).mpr h]; rfl

/-- **C12, growth eviction.** `evict_lru_entries` on a reachable state of a cache with
`max_capacity = cap`: with `excess := weighted_size - cap`, the call removes exactly the
residents of the first `m` nodes of the recency order, `m` = the length of the shortest
prefix whose weights reach `excess` (the whole list if none does), capped by the batch size;
every other key holds exactly the entry it held before, and the recency order of the
survivors is unchanged. -/
theorem C12_unsync_growth_eviction {p : Params} {s : UState} (hi : Inv Sketch.Good p s)
    (cap : Nat) (hcap : p.cap = some cap) :
    (∀ k', AL.get? (evictLru p s).map k' =
      if k' ∈ (s.prob.take (min (prefLen (s.ws - cap) (probWeights s)) EVICTION_BATCH_SIZE)).map
          (·.key)
      then none else AL.get? s.map k') ∧
    (∀ k' ∈ (s.prob.take (min (prefLen (s.ws - cap) (probWeights s)) EVICTION_BATCH_SIZE)).map
        (·.key), ∃ e, AL.get? s.map k' = some e) ∧
    (evictLru p s).prob =
      s.prob.drop (min (prefLen (s.ws - cap) (probWeights s)) EVICTION_BATCH_SIZE) := by
  obtain ⟨h1, h2⟩ := evictLru_exact hi.inv
  have hcut : lruCut p s = min (prefLen (s.ws - cap) (probWeights s)) EVICTION_BATCH_SIZE := by
    simp [lruCut, weightsToEvict, hcap]
  rw [hcut] at h1 h2
  exact ⟨fun k' => by rw [h2, get?_eraseKeys hi.inv.struct.keysNodup],
    fun k' hk' => prefix_resident hi.inv.struct hk', h1⟩

/-- Without an excess (or without `max_capacity`) `evict_lru_entries` removes nothing. -/
theorem C12_unsync_no_growth_eviction {p : Params} {s : UState} (hi : Inv Sketch.Good p s)
    (hfit : ∀ cap, p.cap = some cap → s.ws ≤ cap) :
    (evictLru p s).map = s.map ∧ (evictLru p s).prob = s.prob := by
  obtain ⟨h1, h2⟩ := evictLru_exact hi.inv
  have hcut : lruCut p s = 0 := by
    unfold lruCut weightsToEvict
    cases hc : p.cap with
    | none => simp
    | some cap =>
      have := hfit cap hc
      have h0 : s.ws - cap = 0 := by omega
      simp [h0]
  rw [hcut] at h1 h2
  exact ⟨by simpa [eraseKeys] using h2, by simpa using h1⟩

/-- Without expiry the maintenance at the start of `get`, `contains_key`, `insert` and
`invalidate` is exactly this growth eviction. -/
theorem C12_unsync_maintain_is_growth_eviction {p : Params} (s : UState)
    (hx : p.hasExpiry = false) : maintain p s = evictLru p s := by
  simp [maintain, evictExpiredIfNeeded, hx]

/-- Under the structural invariant the nodes of the recency order carry distinct keys, and
these are exactly the resident keys. -/
theorem C12_recency_keys {p : Params} {s : UState} (hi : Inv Sketch.Good p s) :
    (s.prob.map (·.key)).Nodup ∧
    ∀ k, k ∈ s.prob.map (·.key) ↔ ∃ e, AL.get? s.map k = some e :=
  ⟨prob_keys_nodup hi.inv.struct, mem_prob_keys_iff hi.inv.struct⟩

/-- **C12, the recency order.** With `s1 := maintain p s` the state after the operation's own
maintenance and the recency order read as the list of keys of `s1.prob` (front = least
recently used):
* a successful `get k` moves `k` to the back and keeps the relative order of the others;
* an `insert` that updates a resident key does the same;
* an `insert` of a new key that ends up resident puts it at the back, behind the survivors
  (a suffix of the old order: the victims were a prefix). -/
theorem C12_recency_order {p : Params} (hq : NoQuirks p) {s : UState}
    (hi : Inv Sketch.Good p s) (k : Nat) :
    (∀ v, (get p s k).2 = some v →
      (get p s k).1.prob.map (·.key) = ((maintain p s).prob.map (·.key)).erase k ++ [k]) ∧
    (∀ v old, AL.get? (maintain p s).map k = some old →
      (insert p s k v).prob.map (·.key) = ((maintain p s).prob.map (·.key)).erase k ++ [k]) ∧
    (∀ v, AL.get? (maintain p s).map k = none →
      (∃ e, AL.get? (insert p s k v).map k = some e) →
      ∃ n, (insert p s k v).prob.map (·.key) = ((maintain p s).prob.map (·.key)).drop n ++ [k] ∧
        ∀ k', ((∃ e, AL.get? (maintain p s).map k' = some e) ∧
                AL.get? (insert p s k v).map k' = none) ↔
              k' ∈ ((maintain p s).prob.map (·.key)).take n) := by
  obtain ⟨h1, _, _⟩ := maintain_spec hq hi.inv
  refine ⟨fun v hhit => get_hit_prob hq hi.inv k v hhit,
    fun v old hold => insert_update_prob hq hi.inv k v hold, ?_⟩
  intro v hnew ⟨e, he⟩
  cases hroom : hasEnoughCapacity p (p.weigh k v) (maintain p s).ws with
  | true =>
    obtain ⟨_, hmap, hprob⟩ := insert_hasroom hq hi.inv k v hnew hroom
    refine ⟨0, by rw [hprob]; simp [candNode], fun k' => ?_⟩
    rw [← List.map_take]
    exact evicted_iff_prefix h1.struct hnew (fun k' hne => by rw [hmap k' hne]; rfl) k'
  | false =>
    cases hbig : tooBig p (p.weigh k v) with
    | true =>
      rw [insert_toobig hnew hbig, hnew] at he; cases he
    | false =>
      obtain ⟨hadm, hrej⟩ := insert_noroom hq hi.inv k v hnew hroom hbig
      by_cases hdec : ∃ n, shortestPre (p.weigh k v) (probWeights (maintain p s)) = some n ∧
          (maintain p s).sk.frequency (p.hash k) > ((probFreqs (maintain p s)).take n).sum
      · obtain ⟨n, hn1, hn2⟩ := hdec
        obtain ⟨_, hmap, hprob⟩ := hadm n hn1 hn2
        refine ⟨n, by rw [hprob]; simp [candNode], fun k' => ?_⟩
        rw [← List.map_take]
        exact evicted_iff_prefix h1.struct hnew hmap k'
      · rw [hrej hdec, hnew] at he; cases he

/-- **C12, "recency is order of use", on traces.** For every configuration of the current code
(any capacity incl. none, any weigher, hasher, ttl/tti) and every history — with any number of
operations between two snapshots — the recency walk accepts the model's trace: at every
snapshot (all model snapshots are quiescent) the recency order is the one of the previous
snapshot restricted to the keys still resident and not used since, followed by the keys used
since (every `insert`, every `get` that returned a value) that are still resident, in order
of last use. -/
theorem C12_unsync_recency (p : Params) (hq : NoQuirks p) (hsm : SmallSketch p) (h : List Op) :
    Spec.recencyC12 .unsync (Unsync.trace p h) = true :=
  recencyC12_trace sketchLaws hq hsm h

/-- The segment invariant behind `C12_unsync_recency`, on states: if the recency order of `s`
is `expOrd L0 · M` (survivors of `L0` not in `M`, then the resident keys of `M`), it stays so
over maintenance and every operation that is not a use, and an `insert k` / a `get k` that
returns a value replaces `M` by `M` with `k` moved to its end. -/
theorem C12_recency_segment {p : Params} (hq : NoQuirks p) {s : UState}
    (hi : Inv Sketch.Good p s) (L0 M : List Nat) (hr : Rec L0 M s) (k v : Nat) :
    Rec L0 M (maintain p s) ∧ Rec L0 M (invalidate p s k) ∧
    Rec L0 (useKey M k) (insert p s k v) ∧
    (∀ v', (get p s k).2 = some v' → Rec L0 (useKey M k) (get p s k).1) ∧
    ((get p s k).2 = none → Rec L0 M (get p s k).1) :=
  ⟨hr.maintain hi.inv.struct, hr.of_sublist hi.inv.struct (invalidate_prob_sublist p s k),
    hr.insert hq hi.inv k v, (hr.get hq hi.inv k).1, (hr.get hq hi.inv k).2⟩

/-- **C12 on traces.** For every configuration of the current code and every history, the C12
oracle (batch = the code's `EVICTION_BATCH_SIZE`) accepts the model's trace: the recency walk
(`C12_unsync_recency`; with no `max_capacity` this is the whole oracle), and with a capacity
also the admission windows of C13 and every window `snap, get/contains_key, snap` taken over
capacity with nothing expired and at most one batch of residents, which loses exactly the
shortest prefix of the recency order that covers the excess (everything, if even that does
not suffice). -/
theorem C12_unsync_oracle (p : Params) (hq : NoQuirks p) (hsm : SmallSketch p) (h : List Op) :
    Spec.oracleC12 .unsync p.cap p.ttl p.tti p.weigh Gen.UNSYNC_EVICTION_BATCH_SIZE
      (Unsync.trace p h) = true :=
  oracleC12_trace sketchLaws hq hsm h

open Unsync.Admit.Ex

/-- Victims of an admission on a weighted cache (capacity 3, weight = value; residents 1 of
weight 2 (LRU) and 2 of weight 1; key 5 looked up three times, residents never): the
candidate of weight 3 needs the prefix of length 2, and both residents leave; the candidate of
weight 2 needs only the LRU resident. -/
theorem fullW_facts :
    AL.get? (maintain cfgW fullW).map 5 = none ∧
    hasEnoughCapacity cfgW (cfgW.weigh 5 3) (maintain cfgW fullW).ws = false ∧
    tooBig cfgW (cfgW.weigh 5 3) = false ∧
    (maintain cfgW fullW).prob.map (·.key) = [1, 2] ∧
    probWeights (maintain cfgW fullW) = [2, 1] ∧
    AL.keys (insert cfgW fullW 5 3).map = [5] ∧
    (insert cfgW fullW 5 3).prob.map (·.key) = [5] ∧
    AL.keys (insert cfgW fullW 5 2).map = [2, 5] ∧
    (insert cfgW fullW 5 2).prob.map (·.key) = [2, 5] := by
  decide +kernel

example :
    AL.get? (maintain cfgW fullW).map 5 = none ∧
    hasEnoughCapacity cfgW (cfgW.weigh 5 3) (maintain cfgW fullW).ws = false ∧
    tooBig cfgW (cfgW.weigh 5 3) = false ∧
    (maintain cfgW fullW).prob.map (·.key) = [1, 2] ∧
    probWeights (maintain cfgW fullW) = [2, 1] ∧
    AL.keys (insert cfgW fullW 5 3).map = [5] ∧
    (insert cfgW fullW 5 3).prob.map (·.key) = [5] ∧
    AL.keys (insert cfgW fullW 5 2).map = [2, 5] ∧
    (insert cfgW fullW 5 2).prob.map (·.key) = [2, 5] :=
  fullW_facts

/-- `C12_unsync_admission_victims` applied to that state (its hypotheses are the first three
of the facts above). -/
example : ∃ n, n ≤ (maintain cfgW fullW).prob.length ∧
    (∀ k', ((∃ e, AL.get? (maintain cfgW fullW).map k' = some e) ∧
              AL.get? (insert cfgW fullW 5 3).map k' = none) ↔
            k' ∈ ((maintain cfgW fullW).prob.take n).map (·.key)) ∧
    ((∃ e, AL.get? (insert cfgW fullW 5 3).map 5 = some e) →
      cfgW.weigh 5 3 ≤ ((probWeights (maintain cfgW fullW)).take n).sum ∧
      ∀ m, m < n → ((probWeights (maintain cfgW fullW)).take m).sum < cfgW.weigh 5 3) ∧
    (AL.get? (insert cfgW fullW 5 3).map 5 = none → n = 0) :=
  C12_unsync_admission_victims (p := cfgW) (s := fullW) nq_cfgW
    (reachable_inv sketchLaws nq_cfgW small_cfgW _)
    5 3 fullW_facts.1 fullW_facts.2.1 fullW_facts.2.2.1

/-- Growth eviction: after an update made resident 1 heavier the weighted size is 5 against a
capacity of 3; the recency order is 2, 3, 1 with weights 1, 1, 3; the shortest prefix covering
the excess 2 has length 2: residents 2 and 3 leave, 1 stays. -/
example :
    overW.ws = 5 ∧ overW.prob.map (·.key) = [2, 3, 1] ∧ probWeights overW = [1, 1, 3] ∧
    min (prefLen (overW.ws - 3) (probWeights overW)) EVICTION_BATCH_SIZE = 2 ∧
    AL.keys (evictLru cfgW overW).map = [1] ∧ (evictLru cfgW overW).prob.map (·.key) = [1] ∧
    (get cfgW overW 1).2 = some 3 ∧ AL.keys (get cfgW overW 1).1.map = [1] := by
  decide +kernel

/-- `C12_unsync_growth_eviction` applied to that state. -/
example : (evictLru cfgW overW).prob =
    overW.prob.drop (min (prefLen (overW.ws - 3) (probWeights overW)) EVICTION_BATCH_SIZE) :=
  (C12_unsync_growth_eviction (p := cfgW) (reachable_inv sketchLaws nq_cfgW small_cfgW _) 3 rfl).2.2

/-- Recency order: a hit on the LRU resident 1 of `full2` moves it behind 2; an update of 1
does the same; an admitted insert puts the new key last. -/
example :
    (maintain cfg2 full2).prob.map (·.key) = [1, 2] ∧
    (get cfg2 full2 1).2 = some 10 ∧ (get cfg2 full2 1).1.prob.map (·.key) = [2, 1] ∧
    (insert cfg2 full2 1 11).prob.map (·.key) = [2, 1] ∧
    (insert cfg2 full2 3 30).prob.map (·.key) = [2, 3] := by
  decide +kernel

/-- The trace oracle of C12 accepts the model's trace of a history with an admission (victim:
the LRU resident), a rejection, and a growth eviction after a weight-increasing update. -/
example : Spec.oracleC12 .unsync (some 3) none none (fun _ v => v) EVICTION_BATCH_SIZE
    (Unsync.trace cfgW
      [.ins 1 2, .ins 2 1, .get 5, .get 5, .get 5, .snap, .freq 5, .ins 5 2, .snap, .freq 6,
       .ins 6 1, .snap, .ins 2 3, .snap, .get 9, .snap]) = true := by
  decide +kernel

/-- The oracle is not vacuous: it rejects a trace whose growth eviction spares the LRU
resident and takes a more recently used one. -/
example : Spec.oracleC12 .unsync (some 3) none none (fun _ v => v) EVICTION_BATCH_SIZE
    [(.snap, .snap (snapshot cfgW overW)), (.get 9, .val none),
     (.snap, .snap (snapshot cfgW (runState cfgW {} [.ins 2 1])))] = false := by
  decide +kernel

/-- Recency walk, several uses between two snapshots: hits, an update, a rejected insert (key 7,
never looked up), an admitted insert (key 5) that evicts the then-LRU resident, an
invalidation, a miss and a last hit on key 1 — the model's trace is accepted; the second
snapshot shows the order `[5, 1]`: no survivor of `[1, 2, 3]` is unused, then the used keys
still resident in order of last use (uses: 2, 1, 3, 7, 5, 1). -/
example :
    Spec.recencyC12 .unsync (Unsync.trace { cap := some 3 }
      [.ins 1 1, .ins 2 2, .ins 3 3, .get 5, .get 5, .snap,
       .get 2, .ins 1 11, .get 3, .ins 7 7, .ins 5 5, .inv 3, .get 9, .get 1, .snap,
       .get 5, .snap]) = true ∧
    (runState { cap := some 3 } {}
      [.ins 1 1, .ins 2 2, .ins 3 3, .get 5, .get 5, .snap,
       .get 2, .ins 1 11, .get 3, .ins 7 7, .ins 5 5, .inv 3, .get 9, .get 1]).prob.map (·.key)
      = [5, 1] := by
  decide +kernel

/-- The recency walk is not vacuous: a hand-made trace in which a hit on key 1 is followed by a
snapshot that still shows 1 as the least recently used resident is rejected. -/
example : Spec.recencyC12 .unsync
    [(.snap, .snap (snapshot cfg2 full2)), (.get 1, .val (some 10)),
     (.snap, .snap (snapshot cfg2 full2))] = false := by
  decide +kernel

/-- The model's own trace of the same operations is accepted. -/
example : Spec.recencyC12 .unsync (Unsync.run cfg2 full2 [.snap, .get 1, .snap]) = true := by
  decide +kernel

end Props
end MiniMoka
