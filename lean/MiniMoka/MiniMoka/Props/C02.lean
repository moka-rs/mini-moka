/-
  C02 — per-key coherence of the concurrent cache under every interleaving — and the
  concurrent clause of C07 (an invalidation is immediately visible to later readers),
  as theorems about model R (`MiniMoka/ConcR.lean`), for every well-formed execution, any
  number of threads and operations, and the acceptor `acceptR` for recorded histories.  Each
  theorem restates a lemma of `MiniMoka/Lemmas/ConcR.lean` (there about `run evs = some s`, here
  mostly about `WF evs`); the proofs are there.

  Reading guide.  An execution `evs : List Ev` is well formed (`WF evs`) iff the fold `run`
  accepts it.  Positions are indices into `evs`.  `opOf evs o = some (t, op)`: instance `o`
  was invoked by thread `t` as `op`.  `NoWriteIn evs k lo hi`: no position in `[lo, hi)`
  writes key `k`, where (`writesKey_iff`) an event writes `k` iff it is `daemon k` or the
  map step of an `ins k _` / `del k`.

  Trusted, not proved here: that the DashMap operations `entry/get/remove/remove_if` are
  atomic per key (that is the definition of a step of R) and that the Rust code performs
  exactly one such step per public call and otherwise only removes keys (source audit +
  `Sync_step_refines_R`, `Sync_history_refines_R` of `Props/C02Refines.lean`, the many-thread
  refinements of `Props/C02ConcS.lean` and `Props/C02ConcF.lean` + the `conc` test
  component, which feeds recorded histories to `acceptR`).  `invalidate_all` is outside R
  (watermark only).
-/
import MiniMoka.Lemmas.ConcR

namespace MiniMoka
namespace ConcR

/-- **C02 (read-from).** If `get k` (instance `g`, map step at position `j`) returns
`some v`, then some `ins k v` (instance `w`) has its map step at a position `i < j`, and no
`ins k _` / `del k` map step and no `daemon k` lies strictly between `i` and `j`.
(A `get` returning `none` is always allowed: maintenance may have removed the key, or the
lookup filtered an expired entry; R lets every get respond `none`.) -/
theorem C02_read_from {evs : List Ev} (hwf : WF evs)
    {j : Nat} {g : Oid} {t : Tid} {k : Key} {v : Val}
    (hstep : evs[j]? = some (.mapStep g)) (hop : opOf evs g = some (t, .get k))
    (hret : Ev.respond g (some v) ∈ evs) :
    ∃ i w tw, i < j ∧ evs[i]? = some (.mapStep w) ∧ opOf evs w = some (tw, .ins k v) ∧
      NoWriteIn evs k (i + 1) j := by
  obtain ⟨s, h⟩ := WF_iff.1 hwf
  exact read_from h hstep hop hret

/-- **C02 (not superseded).** If moreover an `ins k _` / `del k` instance `u` responded
(position `a`) before `g` was invoked (position `b`), then `u`'s map step (position `pu`) is
not after the map step `i` of the write `g` read from: `pu ≤ i`.  So `g` never returns a
value superseded by an operation that completed before `g` began. -/
theorem C02_not_superseded {evs : List Ev} (hwf : WF evs)
    {j : Nat} {g : Oid} {t : Tid} {k : Key} {v : Val}
    (hstep : evs[j]? = some (.mapStep g)) (hop : opOf evs g = some (t, .get k))
    (hret : Ev.respond g (some v) ∈ evs)
    {u : Oid} {tu : Tid} {opu : Op} {a b pu : Nat} {x : Option Val} {tg : Tid} {opg : Op}
    (hu : opOf evs u = some (tu, opu)) (hk : (∃ v', opu = .ins k v') ∨ opu = .del k)
    (hures : evs[a]? = some (.respond u x)) (hginv : evs[b]? = some (.invoke tg g opg))
    (hab : a < b) (hustep : evs[pu]? = some (.mapStep u)) :
    ∃ i w tw, i < j ∧ evs[i]? = some (.mapStep w) ∧ opOf evs w = some (tw, .ins k v) ∧
      NoWriteIn evs k (i + 1) j ∧ pu ≤ i := by
  obtain ⟨s, h⟩ := WF_iff.1 hwf
  exact not_superseded h hstep hop hret hu hk hures hginv hab hustep

/-- **C02 (monotone).** Suppose all `ins k _` are issued by one thread `writer` and carry
pairwise distinct values.  If gets `g1`, `g2` on `k` return `some v1`, `some v2` and `g1`'s
map step precedes `g2`'s (in particular if `g1` responded before `g2` was invoked, see
`C02_monotone_realtime`), then the write of `v1` is not after the write of `v2` in the
writer's program order: `w1` is invoked no later than `w2`. -/
theorem C02_monotone {evs : List Ev} (hwf : WF evs) {k : Key} {writer : Tid}
    (hsingle : ∀ o t v, opOf evs o = some (t, .ins k v) → t = writer)
    (hdistinct : ∀ o o' t t' v, opOf evs o = some (t, .ins k v) →
      opOf evs o' = some (t', .ins k v) → o = o')
    {g1 g2 : Oid} {t1 t2 : Tid} {j1 j2 : Nat} {v1 v2 : Val}
    (hstep1 : evs[j1]? = some (.mapStep g1)) (hop1 : opOf evs g1 = some (t1, .get k))
    (hret1 : Ev.respond g1 (some v1) ∈ evs)
    (hstep2 : evs[j2]? = some (.mapStep g2)) (hop2 : opOf evs g2 = some (t2, .get k))
    (hret2 : Ev.respond g2 (some v2) ∈ evs)
    (hlt : j1 < j2)
    {w1 w2 : Oid} {tw1 tw2 : Tid} {q1 q2 : Nat}
    (hw1 : evs[q1]? = some (.invoke tw1 w1 (.ins k v1)))
    (hw2 : evs[q2]? = some (.invoke tw2 w2 (.ins k v2))) :
    q1 ≤ q2 := by
  obtain ⟨s, h⟩ := WF_iff.1 hwf
  exact monotone h hsingle hdistinct hstep1 hop1 hret1 hstep2 hop2 hret2 hlt hw1 hw2

/-- Real-time form of the premise of `C02_monotone`: if `g1` responded before `g2` was
invoked (e.g. both issued by one reader thread, `g1` first), `g1`'s map step precedes `g2`'s. -/
theorem C02_monotone_realtime {evs : List Ev} (hwf : WF evs)
    {g1 g2 : Oid} {a b j1 j2 : Nat} {x : Option Val} {t2 : Tid} {op2 : Op}
    (hres1 : evs[a]? = some (.respond g1 x)) (hinv2 : evs[b]? = some (.invoke t2 g2 op2))
    (hab : a < b)
    (hstep1 : evs[j1]? = some (.mapStep g1)) (hstep2 : evs[j2]? = some (.mapStep g2)) :
    j1 < j2 := by
  obtain ⟨s, h⟩ := WF_iff.1 hwf
  exact mapStep_lt_of_resp_before_inv h hres1 hinv2 hab hstep1 hstep2

/-- **C02 (final state).** At the end of an execution (in particular of a complete one,
`complete evs = true`: every invoked operation has responded), for each key `k`:
(1) if the map holds `some v`, then `v` is the value of the last `ins k _` map step and no
`del k` / `daemon k` step follows it; (2) if a `del k` / `daemon k` step is followed by no
`ins k _` map step, the map holds `none`.  Hence the map holds `none` or the value of the
last insert, and `none` if a deletion came after that last insert. -/
theorem C02_final {evs : List Ev} {s : State} (h : run evs = some s) (k : Key) :
    (∀ v, lookup s.map k = some v →
      ∃ i w tw, evs[i]? = some (.mapStep w) ∧ opOf evs w = some (tw, .ins k v) ∧
        NoWriteIn evs k (i + 1) evs.length) ∧
    (∀ (m : Nat) (e : Ev), evs[m]? = some e →
      (e = .daemon k ∨ ∃ d td, e = .mapStep d ∧ opOf evs d = some (td, .del k)) →
      (∀ (m' : Nat) w tw v, m < m' → evs[m']? = some (Ev.mapStep w) →
        opOf evs w ≠ some (tw, .ins k v)) →
      lookup s.map k = none) :=
  ⟨fun _ hv => final_state_some h hv,
   fun _ _ hm he hlast => final_state_none h hm (effect_of_delete he) hlast⟩

/-- **C07 (reader side).** If `del k` (instance `d`) responded before `get k` (instance `g`)
was invoked, and no `ins k _` has its map step after `d`'s and before `g`'s, then `g`
returns `none`: an invalidation is immediately visible to later readers. -/
theorem C07_reader {evs : List Ev} (hwf : WF evs)
    {d g : Oid} {td tg : Tid} {k : Key} {a b pd j : Nat} {x y : Option Val}
    (hd : opOf evs d = some (td, .del k))
    (hdres : evs[a]? = some (.respond d y))
    (hginv : evs[b]? = some (.invoke tg g (.get k))) (hab : a < b)
    (hdstep : evs[pd]? = some (.mapStep d)) (hgstep : evs[j]? = some (.mapStep g))
    (hno : ∀ m w tw v, pd < m → m < j → evs[m]? = some (.mapStep w) →
      opOf evs w ≠ some (tw, .ins k v))
    (hret : Ev.respond g x ∈ evs) : x = none := by
  obtain ⟨s, h⟩ := WF_iff.1 hwf
  exact reader_after_del h hd hdres hginv hab hdstep hgstep hno hret

/-- **Acceptor soundness.** If `acceptR h = true` then every `get k` in `h` that returned
`some v` has an `ins k v` in `h` invoked before the get responded, and no `ins`/`del` on `k`
lies strictly between them in real time: acceptance implies the observable coherence
property of C02 on the recorded history. -/
theorem acceptR_sound {h : List HOp} (hacc : acceptR h = true)
    {g : HOp} {k : Key} {v : Val} (hg : g ∈ h) (hop : g.op = .get k)
    (hres : g.result = some v) :
    ∃ w ∈ h, w.op = .ins k v ∧ w.invStamp < g.resStamp ∧
      ∀ u ∈ h, u.op.key = k → u.op.isWrite = true →
        ¬ (w.resStamp < u.invStamp ∧ u.resStamp < g.invStamp) :=
  acceptR_sound_aux hacc hg hop hres

/-- **Search completeness.** The per-key search never misses a certificate: a key's
operations are accepted iff *some* linear order of them passes the independent checker
`checkLin` (a permutation of the operations that respects real time and replays). -/
theorem acceptKey_complete (ops : List HOp) :
    acceptKey ops = true ↔ ∃ L, checkLin ops L = true :=
  acceptKey_iff ops

/-- **Acceptor completeness w.r.t. model R.** The history recorded from any complete
(`complete evs`: every invoked operation responded) well-formed execution of R — stamps =
positions of the invoke / respond events — is accepted.  So a rejected recorded history is
not producible by R: the implementation left the model. -/
theorem acceptR_complete {evs : List Ev} (hwf : WF evs) (hc : complete evs = true) :
    acceptR (historyOf evs) = true :=
  acceptR_complete_aux hwf hc

/-! ## Non-vacuity: a concrete interleaved execution (3 threads, key 7)

Thread 1 writes 100 then 101, thread 2 reads concurrently (its gets overlap the inserts),
maintenance removes an unrelated key, thread 3 invalidates, thread 2 reads again. -/

def exR : List Ev :=
  [ .invoke 1 10 (.ins 7 100),   --  0
    .invoke 2 20 (.get 7),       --  1
    .mapStep 10,                 --  2
    .mapStep 20,                 --  3
    .respond 20 (some 100),      --  4
    .respond 10 none,            --  5
    .invoke 1 11 (.ins 7 101),   --  6
    .invoke 2 21 (.get 7),       --  7
    .mapStep 11,                 --  8
    .daemon 9,                   --  9
    .mapStep 21,                 -- 10
    .respond 11 none,            -- 11
    .respond 21 (some 101),      -- 12
    .invoke 3 30 (.del 7),       -- 13
    .invoke 1 12 (.ins 8 5),     -- 14
    .mapStep 30,                 -- 15
    .respond 30 none,            -- 16
    .invoke 2 22 (.get 7),       -- 17
    .mapStep 12,                 -- 18
    .mapStep 22,                 -- 19
    .respond 22 none,            -- 20
    .respond 12 none ]           -- 21

theorem exR_WF : WF exR := by decide

theorem exR_complete : complete exR = true := by decide

example : WF exR ∧ complete exR = true := ⟨exR_WF, exR_complete⟩

/-- `C02_read_from` applies to get 21 (returned 101). -/
example : ∃ i w tw, i < 10 ∧ exR[i]? = some (.mapStep w) ∧
    opOf exR w = some (tw, .ins 7 101) ∧ NoWriteIn exR 7 (i + 1) 10 :=
  C02_read_from (evs := exR) (j := 10) (g := 21) (t := 2) exR_WF (by decide) (by decide)
    (by decide)

/-- `none` after a maintenance removal is a legal outcome, -/
example : WF [.invoke 1 1 (.ins 7 5), .mapStep 1, .invoke 2 2 (.get 7), .daemon 7, .mapStep 2,
    .respond 2 none, .respond 1 none] := by decide

/-- so is `none` from a filtered lookup while the map holds the value, -/
example : WF [.invoke 1 1 (.ins 7 5), .mapStep 1, .invoke 2 2 (.get 7), .mapStep 2,
    .respond 2 none, .respond 1 none, .invoke 2 3 (.get 7), .mapStep 3,
    .respond 3 (some 5)] := by decide

/-- while returning the removed value is not. -/
example : ¬ WF [.invoke 1 1 (.ins 7 5), .mapStep 1, .invoke 2 2 (.get 7), .daemon 7, .mapStep 2,
    .respond 2 (some 5), .respond 1 none] := by decide

/-- `C02_not_superseded`: insert 10 (value 100) responded at 5, before get 21 was invoked
at 7; the write get 21 read from is not before insert 10's map step (position 2). -/
example : ∃ i w tw, i < 10 ∧ exR[i]? = some (.mapStep w) ∧
    opOf exR w = some (tw, .ins 7 101) ∧ NoWriteIn exR 7 (i + 1) 10 ∧ 2 ≤ i :=
  C02_not_superseded (evs := exR) (j := 10) (g := 21) (t := 2) (u := 10) (a := 5) (b := 7)
    exR_WF (by decide) (by decide) (by decide)
    rfl (Or.inl ⟨100, rfl⟩) rfl rfl (by decide) (by decide)

/-- `C02_monotone`: thread 1 is the only writer of key 7, values distinct; reader gets 20
then 21 see 100 then 101, written in that program order (invocations at 0 ≤ 6).  Here and in the
next two examples the conclusion is immediate; the point is that `exR` meets the hypotheses. -/
example : (0 : Nat) ≤ 6 :=
  C02_monotone (evs := exR) (k := 7) (writer := 1) exR_WF
    (singleWriterB_spec (by decide)) (distinctValsB_spec (by decide))
    (g1 := 20) (g2 := 21) (j1 := 3) (j2 := 10) (v1 := 100) (v2 := 101)
    (by decide) rfl (by decide) (by decide) rfl (by decide) (by decide)
    (w1 := 10) (w2 := 11) rfl rfl

/-- `C02_monotone_realtime`: get 20 responded (4) before get 21 was invoked (7), so the
premise `j1 < j2` of `C02_monotone` follows. -/
example : (3 : Nat) < 10 :=
  C02_monotone_realtime (evs := exR) (g1 := 20) (g2 := 21) (a := 4) (b := 7) exR_WF
    rfl rfl (by decide) (by decide) (by decide)

/-- The final state that `C02_final` speaks of: key 7 was deleted after its last insert, key 8
holds its last inserted value. -/
example : (run exR).map (fun s => (lookup s.map 7, lookup s.map 8)) = some (none, some 5) := by
  decide

/-- `C07_reader`: del 30 responded (16) before get 22 was invoked (17), no insert of key 7
took effect in between (an insert of key 8 did): get 22 returns `none`. -/
example : (none : Option Val) = none :=
  C07_reader (evs := exR) (d := 30) (g := 22) (k := 7) (a := 16) (b := 17) (pd := 15) (j := 19)
    exR_WF rfl rfl rfl (by decide) (by decide) (by decide)
    (by
      intro m w tw v h1 h2
      have : m = 16 ∨ m = 17 ∨ m = 18 := by omega
      rcases this with rfl | rfl | rfl <;> simp [exR, opOf] <;> grind)
    (by decide)

/-! ## Non-vacuity of the acceptor -/

/-- The recorded history of `exR` (stamps = positions of the invoke / respond events). -/
def hR : List HOp := historyOf exR

example : hR =
  [ ⟨2, 1, 4, .get 7, some 100⟩, ⟨1, 0, 5, .ins 7 100, none⟩,
    ⟨1, 6, 11, .ins 7 101, none⟩, ⟨2, 7, 12, .get 7, some 101⟩,
    ⟨3, 13, 16, .del 7, none⟩, ⟨2, 17, 20, .get 7, none⟩, ⟨1, 14, 21, .ins 8 5, none⟩ ] := by
  decide

theorem hR_accepted : acceptR hR = true := by decide

example : acceptR hR = true := hR_accepted

/-- The same from `acceptR_complete`. -/
example : acceptR hR = true := acceptR_complete exR_WF exR_complete

/-- Stale read: insert 100 then insert 101 both completed before the get began. -/
example : acceptR [⟨1, 0, 1, .ins 7 100, none⟩, ⟨1, 2, 3, .ins 7 101, none⟩,
    ⟨2, 4, 5, .get 7, some 100⟩] = false := by decide

/-- `none` never constrains (filtered lookup), even between two hits. -/
example : acceptR [⟨1, 0, 1, .ins 7 100, none⟩, ⟨2, 2, 3, .get 7, none⟩,
    ⟨3, 4, 5, .get 7, some 100⟩] = true := by decide

/-- A value nobody inserted. -/
example : acceptR [⟨1, 0, 5, .ins 7 100, none⟩, ⟨2, 1, 2, .get 7, some 101⟩] = false := by
  decide

/-- A read that completed before the insert began. -/
example : acceptR [⟨2, 0, 1, .get 7, some 100⟩, ⟨1, 2, 3, .ins 7 100, none⟩] = false := by
  decide

/-- Overlapping threads are rejected as a malformed record. -/
example : acceptR [⟨1, 0, 3, .ins 7 100, none⟩, ⟨1, 2, 5, .get 7, some 100⟩] = false := by
  decide

/-- Read after a completed invalidation. -/
example : acceptR [⟨1, 0, 1, .ins 7 100, none⟩, ⟨2, 2, 3, .del 7, none⟩,
    ⟨3, 4, 5, .get 7, some 100⟩] = false := by decide

/-- `acceptR_sound` on `hR`, for the get that returned 101. -/
example : ∃ w ∈ hR, w.op = .ins 7 101 ∧ w.invStamp < 12 ∧
    ∀ u ∈ hR, u.op.key = 7 → u.op.isWrite = true → ¬ (w.resStamp < u.invStamp ∧ u.resStamp < 7) :=
  acceptR_sound (h := hR) (g := ⟨2, 7, 12, .get 7, some 101⟩) hR_accepted (by decide) rfl rfl

#print axioms C02_read_from
#print axioms C02_not_superseded
#print axioms C02_monotone
#print axioms C02_monotone_realtime
#print axioms C02_final
#print axioms C07_reader
#print axioms acceptR_sound
#print axioms acceptKey_complete
#print axioms acceptR_complete

end ConcR
end MiniMoka
