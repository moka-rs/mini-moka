/-
  C08 / C10 / C11 / C04 (count) for `sync::Cache` under all interleavings of any number of
  threads at the granularity of `MiniMoka/ConcM.lean`: maintenance runs are NOT atomic; the map
  steps and sends of other threads interleave between the application of two queued operations
  and between two iterations of the expiry / LRU eviction loops.  (What is still atomic: the
  map accesses of ONE queued operation inside `handle_upsert`, one iteration of an eviction
  loop; see the head of `ConcM.lean`.)

  All for every configuration of the current code (`NoQuirks`, `SmallSketch`) and every state
  reachable by any finite sequence of steps (`ConcM.Reach p c`).  The invariant (`ConcM_inv`):
  while a run is in progress the run-local form (`Safe`: node ownership with
  `cec = |access-order list|`, `MapOK`, and `CInv` for the logical queue
  `write queue ++ operations held by threads`), otherwise the invariant of `ConcS`
  (`NodesInvTop`, `CTop`, no run flag).  In `ConcM_C04_overshoot` the count is the published
  `entry_count` when no run is in progress and the run-local one otherwise (in both cases the
  length of the access-order list).  The invariant is not proved by induction over `ConcM` but
  read off the one of the finer model `ConcF` (`ConcM.reach_minv`), hence the import.
  No interleaving at this granularity breaks an invariant on the current code.  With the switch
  `d7` on, `ConcM_counterexample_D7` is an interleaving (an `invalidate` by another thread
  between the start of a run and the application of the key's queued `Upsert`) that ends in a
  use-after-free.
-/
import MiniMoka.Lemmas.ConcF

namespace MiniMoka
namespace Props

open Sync Sync.Nodes Sync.Counters ConcS ConcM

/-- The micro-steps of an explicit run, executed back to back, are `Sync.syncRun`. -/
theorem ConcM_run_is_syncRun (p : Params) (s : SState) (t : Tid) (pd : List (Tid × Pend)) :
    ∃ evs, ConcM.runEvs p ⟨s, pd, none⟩ (.mBegin t true :: evs) = some ⟨syncRun p s, pd, none⟩ := by
  obtain ⟨evs, he⟩ := runEvs_of_mpath (run_is_syncRun p s) t pd
  exact ⟨evs, by simp only [ConcM.runEvs, ConcM.step]; exact he⟩

/-- The micro-steps of a housekeeping run, executed back to back, are `Sync.trySync`. -/
theorem ConcM_run_is_trySync (p : Params) (s : SState) (hr : s.running = false) (t : Tid)
    (pd : List (Tid × Pend)) :
    ∃ evs, ConcM.runEvs p ⟨s, pd, none⟩ (.mBegin t false :: evs) = some ⟨trySync p s, pd, none⟩ := by
  obtain ⟨evs, he⟩ := runEvs_of_mpath (run_is_trySync p s hr) t pd
  exact ⟨evs, by simp only [ConcM.runEvs, ConcM.step]; exact he⟩

/-- Every step of `ConcS` is a path of `ConcM` (atomic maintenance = a run with nothing in
between), hence every execution of `ConcS` is an execution of `ConcM`. -/
theorem ConcM_refines_ConcS (p : Params) :
    (∀ (c c' : CState) (e : ConcS.Ev), ConcS.step p c e = some c' →
      ∃ evs, ConcM.runEvs p (embed c) evs = some (embed c')) ∧
    (∀ c : CState, ConcS.Reach p c → ConcM.Reach p (embed c)) :=
  ⟨fun _ _ e hs => path_of_concS_step p e hs, fun _ h => reach_embed h⟩

/-- C08 for all interleavings with non-atomic maintenance: no reachable state is faulty. -/
theorem ConcM_no_fault (p : Params) (hq : Sync.NoQuirks p) (hsm : SmallSketch p) (c : MState)
    (hr : ConcM.Reach p c) : c.s.fault = none := by
  have h := minv_csinv (reach_minv hq hsm hr)
  have hf : (viewOf c).fault = c.s.fault := by
    unfold viewOf; cases c.run <;> rfl
  rw [← hf]; exact h.top.nofault

/-- No step out of a reachable state raises a fault. -/
theorem ConcM_no_fault_step (p : Params) (hq : Sync.NoQuirks p) (hsm : SmallSketch p)
    (c c' : MState) (hr : ConcM.Reach p c) (e : ConcM.Ev) (hs : ConcM.step p c e = some c') :
    c'.s.fault = none :=
  ConcM_no_fault p hq hsm c' (ConcM.Reach.step e hr hs)

/-- The invariant of the reachable states: between the micro-steps of a run the run-local
form, otherwise the invariant of `ConcS`. -/
theorem ConcM_inv (p : Params) (hq : Sync.NoQuirks p) (hsm : SmallSketch p) (c : MState)
    (hr : ConcM.Reach p c) :
    (∀ r, c.run = some r →
      Safe c.s ∧ NodesInv c.s ∧ MapOK c.s ∧
      CInv p c.s (c.s.writeQ ++ pendWrites c.pending) ∧
      (r.explicit = true → c.s.running = false)) ∧
    (c.run = none →
      NodesInvTop c.s ∧ MapOK c.s ∧ c.s.running = false ∧
      CTop p c.s (c.s.writeQ ++ pendWrites c.pending) ∧ CSInv p ⟨c.s, c.pending⟩) ∧
    c.s.writeQ.length ≤ Gen.WRITE_LOG_SIZE ∧ c.s.readQ.length ≤ Gen.READ_LOG_SIZE := by
  have h := reach_minv hq hsm hr
  have hc := h.core
  unfold viewOf at hc
  cases hrun : c.run with
  | none =>
    rw [hrun] at hc
    exact ⟨fun r hx => (by cases hx),
      fun _ => ⟨hc.top.nodes, hc.top.map, hc.running, hc.cinv, hc⟩, hc.wq, hc.rq⟩
  | some r =>
    rw [hrun] at hc
    have hri := rinv_of_view hc
    refine ⟨fun r' hx => ?_, fun hx => (by cases hx), hri.wq, hri.rq⟩
    exact ⟨hri.run.safe, hri.run.safe.toNodesInv, hri.run.map, hri.cinv, h.flag r' (hrun.trans hx)⟩

/-- C10 with non-atomic maintenance: no run in progress, no thread holding an operation, empty
write queue: the published counters are exact. -/
theorem ConcM_C10_quiescent (p : Params) (hq : Sync.NoQuirks p) (hsm : SmallSketch p)
    (c : MState) (hr : ConcM.Reach p c) (hrun : c.run = none) (hp : c.pending = [])
    (hw : c.s.writeQ = []) : Spec.snapCountersOk p.weigh (Sync.snapshot p c.s) = true := by
  have h := (reach_minv hq hsm hr).core
  unfold viewOf at h
  rw [hrun] at h
  rw [snapCountersOk_readQ]
  exact snapshot_counters (csinv_quiescent_tinv (c := ⟨c.s, c.pending⟩) h hp hw) hw

/-- C11 with non-atomic maintenance: no run in progress and no thread holding an operation:
`liveOk` (with both queues empty, live keys = live values = entries). -/
theorem ConcM_C11_quiescent (p : Params) (hq : Sync.NoQuirks p) (hsm : SmallSketch p)
    (c : MState) (hr : ConcM.Reach p c) (hrun : c.run = none) (hp : c.pending = []) :
    Spec.liveOk (Sync.snapshot p c.s) = true := by
  have h := (reach_minv hq hsm hr).core
  unfold viewOf at h
  rw [hrun] at h
  exact csinv_liveOk (c := ⟨c.s, c.pending⟩) h hp

/-- C04 (count) with non-atomic maintenance: the map never holds more entries than the entry
counter (the run-local one while a run is in progress) plus the queued writes plus one per
thread holding a write operation. -/
theorem ConcM_C04_overshoot (p : Params) (hq : Sync.NoQuirks p) (hsm : SmallSketch p)
    (c : MState) (hr : ConcM.Reach p c) :
    c.s.map.length ≤ (match c.run with | none => c.s.ec | some _ => c.s.cec)
      + c.s.writeQ.length + (pendWrites c.pending).length ∧
    c.s.map.length ≤ c.s.prob.length + c.s.writeQ.length + (pendWrites c.pending).length := by
  have h := minv_csinv (reach_minv hq hsm hr)
  have h1 := csinv_map_length_le h
  have h2 := h.top.nodes.count
  unfold viewOf at h1 h2
  cases hrun : c.run with
  | none =>
    rw [hrun] at h1 h2
    dsimp only at h1 h2 ⊢
    exact ⟨h1, by rw [← h2]; exact h1⟩
  | some r =>
    rw [hrun] at h1 h2
    dsimp only at h1 h2 ⊢
    have e1 : (view c.s).ec = c.s.cec := rfl
    have e2 : (view c.s).map = c.s.map := rfl
    have e3 : (view c.s).writeQ = c.s.writeQ := rfl
    have e4 : (view c.s).prob = c.s.prob := rfl
    rw [e1, e2, e3] at h1
    rw [e1, e4] at h2
    exact ⟨h1, by rw [← h2]; exact h1⟩

def mSteps (n : Nat) : List ConcM.Ev := List.replicate n (.mStep 9)

/-- `(run phase, map as (key, value), [keys of the access-order list,
[entry_count, weighted_size, run-local count, run-local size], [|write queue|, faults]])`. -/
def cmSummary (p : Params) (evs : List ConcM.Ev) :
    Option (Option Phase × List (Nat × Nat) × List (List Nat)) :=
  (ConcM.runEvs p {} evs).map fun c =>
    (c.run.map (·.phase), c.s.map.map (fun (kv : Nat × VE) => (kv.1, kv.2.val)),
     [c.s.prob.map (·.key), [c.s.ec, c.s.ws, c.s.cec, c.s.cws],
      [c.s.writeQ.length, if c.s.fault.isNone then 0 else 1]])

def cmParams : Params := { hasWeigher := true, w := fun _ v => v }

/-- Key 1 is resident.  The queue holds an update of key 1 and the insert of key 2; a run starts
and applies the update; *before it applies the next operation* thread 2 invalidates key 1 and
sends the `Remove`, and thread 3 re-inserts key 1 (a new generation: fresh info) and sends its
`Upsert`.  The run applies the insert of key 2 and ends; the next run (an explicit `sync`)
applies the `Remove` (detaching the old generation's node) and admits the new generation. -/
def reinsertInterleaving : List ConcM.Ev :=
  [.other (.insMap 1 1 1), .other (.enq 1), .mBegin 9 false] ++ mSteps 5 ++
  [.other (.insMap 1 1 2), .other (.enq 1), .other (.insMap 1 2 3), .other (.enq 1),
   .mBegin 9 false, .mStep 9, .mStep 9,
   .other (.invMap 2 1), .other (.enq 2), .other (.insMap 3 1 5), .other (.enq 3)] ++ mSteps 4 ++
  [.mBegin 9 true] ++ mSteps 6

/-- Between the micro-steps that apply the two queued writes: the update has been applied to the
old generation (run-local size 2), the map already holds the new generation `(1, 5)`, the
access-order list still holds the old generation's node. -/
example : cmSummary cmParams (reinsertInterleaving.take 19)
    = some (some (.writes Gen.MAX_SYNC_REPEATS 1), [(2, 3), (1, 5)], [[1], [1, 1, 1, 2], [3, 0]]) := by
  decide +kernel

/-- At the end: both keys resident and admitted, counters exact. -/
example : cmSummary cmParams reinsertInterleaving
    = some (none, [(2, 3), (1, 5)], [[2, 1], [2, 8, 2, 8], [0, 0]]) ∧
    (ConcM.runEvs cmParams {} reinsertInterleaving).map (fun c =>
      Spec.snapCountersOk cmParams.weigh (Sync.snapshot cmParams c.s)) = some true := by
  decide +kernel

def cmParams3 : Params := { cap := some 3, hasWeigher := true, w := fun _ v => v }

/-- Keys 1, 2, 3 (weight 1 each) fill the cache; key 3 is updated to weight 4, so the next run
has to evict 3.  After the first iteration of the LRU loop (key 1 evicted) thread 2 updates
key 2 (its info becomes dirty); the second iteration skips key 2 (moved to the back), the third
evicts key 3.  The update of key 2 is applied by the following run. -/
def lruInterleaving : List ConcM.Ev :=
  [.other (.insMap 1 1 1), .other (.enq 1), .other (.insMap 1 2 1), .other (.enq 1),
   .other (.insMap 1 3 1), .other (.enq 1), .mBegin 9 false] ++ mSteps 7 ++
  [.other (.insMap 1 3 4), .other (.enq 1), .mBegin 9 false] ++ mSteps 5 ++
  [.other (.insMap 2 2 2)] ++ mSteps 4 ++ [.other (.enq 2), .mBegin 9 false] ++ mSteps 5

/-- In the middle of the LRU loop, right after thread 2's update: one iteration done (evicted
weight 1 of 3), key 2 holds its new value. -/
example : cmSummary cmParams3 (lruInterleaving.take 23)
    = some (some (.lru (Gen.SYNC_EVICTION_BATCH_SIZE - 1) 3 1), [(2, 2), (3, 4)],
        [[2, 3], [3, 3, 2, 5], [0, 0]]) := by
  decide +kernel

example : cmSummary cmParams3 lruInterleaving
    = some (none, [(2, 2)], [[2], [1, 2, 1, 2], [0, 0]]) ∧
    (ConcM.runEvs cmParams3 {} lruInterleaving).map (fun c =>
      Spec.snapCountersOk cmParams3.weigh (Sync.snapshot cmParams3 c.s)) = some true := by
  decide +kernel

def cmParams7 (q : Quirks) : Params :=
  { cap := some 2, hasWeigher := true, w := fun _ v => v, q := q }

/-- The `Upsert` of key 1 is queued and a run has started (it has read the queue length) when
thread 2 invalidates key 1 (and keeps holding the `Remove`).  With `d7` the run admits the
entry although it has left the map: a node for key 1 that no map entry owns.  Key 1 is inserted
again and admitted (second node for key 1), key 3 is made popular (one queued miss) and
inserted with weight 2: the admission scan selects both nodes of key 1 as victims; removing the
first *by key* frees the node of the second, which is dereferenced next. -/
def d7Interleaving : List ConcM.Ev :=
  [.other (.insMap 1 1 1), .other (.enq 1), .mBegin 9 false, .mStep 9, .other (.invMap 2 1)] ++
  mSteps 4 ++
  [.other (.insMap 1 1 1), .other (.enq 1), .other (.getMap 3 3), .other (.enq 3),
   .mBegin 9 false] ++ mSteps 6 ++
  [.other (.insMap 1 3 2), .other (.enq 1), .mBegin 9 false] ++ mSteps 2

/-- With the switch `d7` on, the interleaving ends in a use-after-free. -/
theorem ConcM_counterexample_D7 :
    (ConcM.runEvs (cmParams7 { d7 := true }) {} d7Interleaving).map (fun c => c.s.fault)
      = some (some .useAfterFree) ∧
    -- just before the faulting step: two nodes for key 1
    (ConcM.runEvs (cmParams7 { d7 := true }) {} (d7Interleaving.take 24)).map
      (fun c => (c.s.prob.map (·.key), c.s.fault)) = some ([1, 1], none) := by
  decide +kernel

/-- On the current code the same interleaving raises no fault: the run does not admit the
entry that has left the map (`isCurrentEntry`). -/
example : (ConcM.runEvs (cmParams7 {}) {} d7Interleaving).map
    (fun c => (c.s.prob.map (·.key), c.s.fault)) = some ([1], none) := by
  decide +kernel

/-- The theorems apply to these paths. -/
example : ∀ c, ConcM.runEvs cmParams3 {} lruInterleaving = some c → c.s.fault = none := by
  intro c hc
  exact ConcM_no_fault cmParams3 rfl
    (.of_default_capF rfl fun _ hcap => Option.some.inj hcap ▸ by decide +kernel) c
    (ConcM.reach_of_runEvs _ _ _ ConcM.Reach.init hc)

end Props
end MiniMoka

namespace MiniMoka.Props
#print axioms ConcM_run_is_syncRun
#print axioms ConcM_run_is_trySync
#print axioms ConcM_refines_ConcS
#print axioms ConcM_no_fault
#print axioms ConcM_no_fault_step
#print axioms ConcM_inv
#print axioms ConcM_C10_quiescent
#print axioms ConcM_C11_quiescent
#print axioms ConcM_C04_overshoot
#print axioms ConcM_counterexample_D7
end MiniMoka.Props
