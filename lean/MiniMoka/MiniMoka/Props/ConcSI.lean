/-
  C16 on the detailed many-thread model: iteration beside writers (`MiniMoka/ConcSI.lean`:
  `ConcS` plus iterators that visit the shards in order, one shard per atomic step, filtering
  with `is_expired_entry`).

  For every configuration of the current code (`NoQuirks`, `SmallSketch`: needed for "the keys
  of the map are distinct" in every reachable state), every shard function and every
  interleaving: no duplicates, every yielded value was current at its visit, a resident entry is
  yielded exactly once, no phantoms; and an iteration with no other step in between yields a
  permutation of `Sync.iter p s` (what `C16_sync_exact` speaks about).
  Paths are event lists run by `ConcSI.runEvs`; "every state of the path" is "the state after
  every prefix", as in `Props/C16Conc.lean`.
-/
import MiniMoka.Lemmas.ConcSI

namespace MiniMoka
namespace Props

open Sync ConcS ConcSI

/-- No duplicates: the keys an iterator has yielded are pairwise distinct and belong to
shards it has already visited. -/
theorem ConcSI_no_duplicates (p : Params) (cfg : Cfg) (hq : Sync.NoQuirks p) (hsm : SmallSketch p)
    (c : IState) (hr : ConcSI.Reach p cfg c) (t : Tid) (it : ItSt)
    (hi : iterOf c.iters t = some it) :
    (it.yielded.map (·.1)).Nodup ∧ ∀ kv, kv ∈ it.yielded → cfg.shardOf kv.1 < it.next :=
  reach_itOK hq hsm hr t it hi

/-- A yielded pair was yielded before the path, or was current at its visit. -/
theorem ConcSI_yielded_origin (p : Params) (cfg : Cfg) (hq : Sync.NoQuirks p)
    (hsm : SmallSketch p) (t : Tid) (evs : List ConcSI.Ev) (c0 c1 : IState)
    (hr : ConcSI.Reach p cfg c0) (hrun : ConcSI.runEvs p cfg c0 evs = some c1) (k v : Nat)
    (hm : (k, v) ∈ yOf c1 t) :
    (k, v) ∈ yOf c0 t ∨
    ∃ pre post cpre it ve, evs = pre ++ ConcSI.Ev.itShard t :: post ∧
      ConcSI.runEvs p cfg c0 pre = some cpre ∧ iterOf cpre.iters t = some it ∧
      cfg.shardOf k = it.next ∧ AL.get? cpre.c.s.map k = some ve ∧ ve.val = v ∧
      isExpiredInfo p cpre.c.s (getInfo cpre.c.s ve.info) cpre.c.s.now = false :=
  yielded_origin hq hsm t evs c0 c1 hr hrun k v hm

/-- Value was current: on a path that begins with the iterator's `itBegin`, every pair the
iterator holds at the end was the map's binding of its key, unexpired and not hidden, in the
state in which its shard was visited. -/
theorem ConcSI_value_was_current (p : Params) (cfg : Cfg) (hq : Sync.NoQuirks p)
    (hsm : SmallSketch p) (t : Tid) (evs : List ConcSI.Ev) (c0 c1 : IState)
    (hr : ConcSI.Reach p cfg c0)
    (hrun : ConcSI.runEvs p cfg c0 (.itBegin t :: evs) = some c1) (it1 : ItSt)
    (h1 : iterOf c1.iters t = some it1) (k v : Nat) (hm : (k, v) ∈ it1.yielded) :
    ∃ pre post cpre it ve, evs = pre ++ ConcSI.Ev.itShard t :: post ∧
      ConcSI.runEvs p cfg c0 (.itBegin t :: pre) = some cpre ∧ iterOf cpre.iters t = some it ∧
      cfg.shardOf k = it.next ∧ AL.get? cpre.c.s.map k = some ve ∧ ve.val = v ∧
      isExpiredInfo p cpre.c.s (getInfo cpre.c.s ve.info) cpre.c.s.now = false := by
  obtain ⟨c', hs, hrun⟩ := (ConcSI.isPath p cfg).cons_some hrun
  have hy : yOf c' t = [] := by
    rcases step_iter hs t with ⟨_, _, _, g⟩ | ⟨_, _, g⟩ | ⟨g, _⟩ | ⟨g, _⟩
    · exact absurd rfl g
    · rw [yOf_some g]
    · cases g
    · cases g
  rcases yielded_origin hq hsm t evs c' c1 (ConcSI.Reach.step _ hr hs) hrun k v
      (by rw [yOf_some h1]; exact hm) with h | ⟨pre, post, cpre, it, ve, a1, a2, a3⟩
  · rw [hy] at h; cases h
  · exact ⟨pre, post, cpre, it, ve, a1, by simp only [ConcSI.runEvs, hs]; exact a2, a3⟩

/-- A resident entry is yielded exactly once: `k` is bound to the value entry `ve`, unexpired
and not hidden, in every state of the path in which the iterator has not yet passed the shard
of `k`; the path does not end the iteration; at its end the iterator has passed that shard.  Then
`(k, ve.val)` has been yielded, and `k` occurs exactly once among the yielded keys. -/
theorem ConcSI_resident_yielded_once (p : Params) (cfg : Cfg) (hq : Sync.NoQuirks p)
    (hsm : SmallSketch p) (t : Tid) (k : Nat) (ve : VE) (evs : List ConcSI.Ev) (c0 c1 : IState)
    (hr : ConcSI.Reach p cfg c0) (hrun : ConcSI.runEvs p cfg c0 evs = some c1)
    (hne : ConcSI.Ev.itEnd t ∉ evs) (it0 : ItSt) (h0 : iterOf c0.iters t = some it0)
    (hle : it0.next ≤ cfg.shardOf k)
    (hres : ∀ pre post cpre it, evs = pre ++ post → ConcSI.runEvs p cfg c0 pre = some cpre →
      iterOf cpre.iters t = some it → it.next ≤ cfg.shardOf k →
      AL.get? cpre.c.s.map k = some ve ∧
        isExpiredInfo p cpre.c.s (getInfo cpre.c.s ve.info) cpre.c.s.now = false)
    (it1 : ItSt) (h1 : iterOf c1.iters t = some it1) (hlt : cfg.shardOf k < it1.next) :
    (k, ve.val) ∈ it1.yielded ∧ (it1.yielded.map (·.1)).count k = 1 := by
  obtain ⟨it1', g1, g2⟩ := resident_inv hq hsm t k ve evs c0 c1 hr hrun hne it0 h0 (Or.inr hle) hres
  rw [h1] at g1
  have e := Option.some.inj g1
  subst e
  have hmem : (k, ve.val) ∈ it1.yielded := by
    rcases g2 with g | g
    · exact g
    · exact absurd hlt (Nat.not_lt.mpr g)
  refine ⟨hmem, ?_⟩
  have hnd := (ConcSI_no_duplicates p cfg hq hsm c1 (ConcSI.reach_of_runEvs evs c0 c1 hr hrun) t it1 h1).1
  rw [hnd.count, if_pos (List.mem_map.mpr ⟨(k, ve.val), hmem, rfl⟩)]

/-- No phantom: a key that is bound in no state of a path beginning with the iterator's
`itBegin` is not among the keys the iterator holds at the end. -/
theorem ConcSI_no_phantom (p : Params) (cfg : Cfg) (hq : Sync.NoQuirks p) (hsm : SmallSketch p)
    (t : Tid) (k : Nat) (evs : List ConcSI.Ev) (c0 c1 : IState) (hr : ConcSI.Reach p cfg c0)
    (hrun : ConcSI.runEvs p cfg c0 (.itBegin t :: evs) = some c1)
    (habs : ∀ pre post cpre, evs = pre ++ post →
      ConcSI.runEvs p cfg c0 (.itBegin t :: pre) = some cpre → AL.get? cpre.c.s.map k = none)
    (it1 : ItSt) (h1 : iterOf c1.iters t = some it1) : k ∉ it1.yielded.map (·.1) := by
  intro hk
  obtain ⟨⟨k', v⟩, hm, e⟩ := List.mem_map.mp hk
  simp only at e
  subst e
  obtain ⟨pre, post, cpre, it, ve, a1, a2, _, _, a5, _⟩ :=
    ConcSI_value_was_current p cfg hq hsm t evs c0 c1 hr hrun it1 h1 k' v hm
  have := habs pre (ConcSI.Ev.itShard t :: post) cpre a1 a2
  rw [this] at a5; cases a5

/-- Sequential iteration: `itBegin` followed by the visits of all shards, no other step in
between.  The cache state is untouched and the result is a permutation of `Sync.iter` (the
unexpired, not hidden entries as `(key, value)` pairs), provided the shard of every key is below
`nshards`. -/
theorem ConcSI_sequential (p : Params) (cfg : Cfg) (c0 : IState) (t : Tid)
    (hi : iterOf c0.iters t = none) (hp : pendOf c0.c.pending t = none)
    (hsh : ∀ k, cfg.shardOf k < cfg.nshards) :
    ∃ c1 it, ConcSI.runEvs p cfg c0
        (.itBegin t :: List.replicate cfg.nshards (ConcSI.Ev.itShard t)) = some c1 ∧
      c1.c = c0.c ∧ iterOf c1.iters t = some it ∧ it.next = cfg.nshards ∧
      it.yielded.Perm (Sync.iter p c0.c.s) ∧
      ∃ c2, ConcSI.step p cfg c1 (.itEnd t) = some c2 ∧ c2.done = c0.done ++ [(t, it.yielded)] := by
  have hs : ConcSI.step p cfg c0 (.itBegin t) = some ⟨c0.c, setIter c0.iters t {}, c0.done⟩ := by
    simp only [ConcSI.step, hi, hp]
  obtain ⟨c1, r1, r2, r3, r4⟩ := run_visits (p := p) (cfg := cfg) t cfg.nshards
    ⟨c0.c, setIter c0.iters t {}, c0.done⟩ 0 [] (by simp only [iterOf_setIter, if_true])
    (by omega)
  refine ⟨c1, _, by simp only [ConcSI.runEvs, hs]; exact r1, r2, r4, by simp, ?_, ?_⟩
  · simp only [List.nil_append, ← List.range_eq_range']
    have h1 : ((List.range cfg.nshards).flatMap (shardEntries cfg p c0.c.s)) =
        ((List.range cfg.nshards).flatMap fun i => c0.c.s.map.filter fun kv =>
          cfg.shardOf kv.1 == i &&
            !isExpiredInfo p c0.c.s (getInfo c0.c.s kv.2.info) c0.c.s.now).map
          fun kv => (kv.1, kv.2.val) := by
      rw [List.map_flatMap]; rfl
    rw [h1]
    unfold Sync.iter
    refine List.Perm.map _ ?_
    refine (shards_perm (fun kv : Nat × VE => cfg.shardOf kv.1)
      (fun kv => !isExpiredInfo p c0.c.s (getInfo c0.c.s kv.2.info) c0.c.s.now) c0.c.s.map
      cfg.nshards).trans ?_
    have : (fun kv : Nat × VE => decide (cfg.shardOf kv.1 < cfg.nshards) &&
        !isExpiredInfo p c0.c.s (getInfo c0.c.s kv.2.info) c0.c.s.now) =
        fun kv => !isExpiredInfo p c0.c.s (getInfo c0.c.s kv.2.info) c0.c.s.now := by
      funext kv
      simp [hsh kv.1]
    rw [this]
  · refine ⟨⟨c1.c, dropIter c1.iters t, c1.done ++ [(t, _)]⟩, ?_, by rw [r3]⟩
    simp only [ConcSI.step, r4]
    simp

def siCfg : Cfg := { nshards := 2, shardOf := fun k => k % 2 }

/-- Threads 10–13 put keys 0–3 (values 100–103).  Thread 5 starts iterating and visits shard 0
(keys 0 and 2).  Then a writer inserts key 4 into shard 0, already visited: not seen; updates
key 1 in shard 1, not yet visited: the new value is seen; and invalidates key 3 in shard 1:
not yielded.  Thread 5 visits shard 1 and ends. -/
def siInterleaving : List ConcSI.Ev :=
  [.cs (.insMap 10 0 100), .cs (.insMap 11 1 101), .cs (.insMap 12 2 102), .cs (.insMap 13 3 103),
   .itBegin 5, .itShard 5,
   .cs (.insMap 14 4 104), .cs (.insMap 15 1 111), .cs (.invMap 16 3),
   .itShard 5, .itEnd 5]

example : (ConcSI.runEvs {} siCfg {} siInterleaving).map (fun c => (c.done, c.iters.length,
    c.c.s.map.map (fun (kv : Nat × VE) => (kv.1, kv.2.val)))) =
    some ([(5, [(0, 100), (2, 102), (1, 111)])], 0, [(0, 100), (1, 111), (2, 102), (4, 104)]) := by
  decide +kernel

/-- A thread that is iterating takes no other step, and an iteration cannot end before all
shards have been visited. -/
example : ConcSI.runEvs {} siCfg {} [.itBegin 5, .cs (.insMap 5 0 1)] = none := by decide +kernel
example : ConcSI.runEvs {} siCfg {} [.itBegin 5, .itShard 5, .itEnd 5] = none := by decide +kernel

/-- With a time-to-live, an expired entry is filtered at the visit of its shard. -/
example : (ConcSI.runEvs { ttl := some 5 } siCfg {}
    [.cs (.insMap 10 0 100), .cs (.tick 3), .cs (.insMap 11 2 102), .itBegin 5, .cs (.tick 2),
     .itShard 5, .itShard 5, .itEnd 5]).map (·.done) = some [(5, [(2, 102)])] := by
  decide +kernel

end Props
end MiniMoka

namespace MiniMoka.Props
#print axioms ConcSI_no_duplicates
#print axioms ConcSI_yielded_origin
#print axioms ConcSI_value_was_current
#print axioms ConcSI_resident_yielded_once
#print axioms ConcSI_no_phantom
#print axioms ConcSI_sequential
end MiniMoka.Props
