/-
  C12 on the concurrent cache driven by one thread (`sync::Cache`, model `Sync`): growth
  eviction.  In a quiescent calm cache, an insert that makes a RESIDENT entry heavier is applied
  by the next maintenance run as an update (the entry becomes the most recently used one, the
  weighted size changes by `- old + new`), and `evict_lru_entries` then removes exactly the
  shortest prefix of the recency order whose weights cover the excess over the capacity —
  nothing if there is none — and nothing else.
-/
import MiniMoka.Lemmas.SyncGrowth
import MiniMoka.Props.C13Sync

namespace MiniMoka
namespace Props

open Sync Sync.Admit Sync.Nodes Sync.Growth

/-- **C12 on the concurrent cache, growth eviction, state level.**  For every configuration of
the current code (`NoQuirks`; any weigher, hasher, non-zero ttl/tti) with capacity `cap`, every
reachable (`RInv`, see `C12_sync_reachable`) quiescent calm state `s` (`CalmS`) with at most one
eviction batch of nodes, and every key `k` that is resident (map entry `old`, access-order node
`n`): let `s' := syncRun p (insert p s k v)` be the state after `insert(k, v)` and the next
maintenance run (the insert may itself run housekeeping before it queues its write — both
regimes of `shouldApply` are covered).  The access order of `s'` is that of `s` with `n` moved
to the most recently used end, minus its first `growCount` nodes; exactly the keys of these
nodes have left the map, `k` holds the new value entry (unless it is among them) and every
other key holds the entry it held.  `growCount` is the length of the shortest prefix of that
order whose weights — `k` counted with its NEW weight `p.weigh k v` — reach the excess
`s.ws - old weight + new weight - cap` (`0` if there is no excess; the whole list if even that
does not suffice). -/
theorem C12_sync_growth_state {p : Params} (hq : Sync.NoQuirks p) (hsm : SmallSketch p) {cap : Nat}
    (hcap : p.cap = some cap) {s : SState} (hr : RInv p s) (hc : CalmS p cap s) (k v : Nat)
    {old : VE} {n : AoNode} (hold : AL.get? s.map k = some old) (hn : n ∈ s.prob)
    (hni : n.info = old.info) (httl : p.ttl ≠ some 0) (htti : p.tti ≠ some 0)
    (hlen : s.prob.length ≤ Gen.SYNC_EVICTION_BATCH_SIZE) :
    (syncRun p (Sync.insert p s k v)).map =
      eraseKeys (AL.put s.map k (updVE s old v))
        (((eraseAo s.prob n.id ++ [n]).take (growCount p cap s k v old n)).map (·.key)) ∧
    (syncRun p (Sync.insert p s k v)).prob =
      (eraseAo s.prob n.id ++ [n]).drop (growCount p cap s k v old n) :=
  insert_sync_grow hq hsm hcap hr hc k v hold hn hni httl htti hlen

/-- **C12 on traces, concurrent cache, growth eviction.**  For every configuration of the
current code with a capacity `c` (any weigher, hasher, ttl/tti; `SmallSketch` is the documented
sketch-size limit) and every history of one thread, the growth oracle accepts the model's trace:
in every window `sync, snap(before), [freq _,] ins k v, [snap,] sync, snap(after)` whose outer
snapshots show empty queues, in which `k` is resident in a calm `before` with at most one
eviction batch of entries and the new weight does not exceed the capacity, the keys resident in
`after` are exactly those of `before` minus the shortest prefix of the recency order (old order
without `k`, then `k`) whose weights — `k` counted with its new weight — cover the excess
`ws - old + new - cap` (nothing leaves if there is no excess). -/
theorem C12_sync_growth (p : Params) (hq : Sync.NoQuirks p) (hsm : SmallSketch p) (c : Nat)
    (hcap : p.cap = some c) (h : List Op) :
    Spec.growthC12Sync c p.ttl p.tti p.weigh Gen.SYNC_EVICTION_BATCH_SIZE (Sync.trace p h) = true :=
  growthC12Sync_trace hq hsm hcap h

/-! ### non-vacuity -/

namespace C12SyncGrowthEx

def cfg : Params := { cap := some 10, hasWeigher := true, w := fun _ v => v }

theorem nq_cfg : Sync.NoQuirks cfg := by unfold Sync.NoQuirks; rfl

theorem small_cfg : SmallSketch cfg :=
  .of_default_capF rfl (fun c h => by cases h; decide)

/-- Residents 1 (weight 4), 2 (weight 3), 3 (weight 3) fill the cache; key 1 is looked up, so the
recency order is `[2, 3, 1]`. -/
def fill : List Op :=
  [.ins 1 4, .sync, .ins 2 3, .sync, .ins 3 3, .sync, .get 1, .sync]

/-- Then key 3 grows from weight 3 to weight 5: the order becomes `[2, 1, 3]`, the weighted size
`10 - 3 + 5 = 12`, the excess 2; the LRU entry 2 (weight 3) covers it and leaves. -/
def hist : List Op := fill ++ [.snap, .ins 3 5, .sync, .snap]

def full : SState := Sync.stateAfter cfg {} fill

theorem getD_mem {α : Type} (l : List α) (i : Nat) (d : α) (h : i < l.length) :
    l.getD i d ∈ l := by
  rw [List.getD_eq_getElem?_getD, List.getElem?_eq_getElem h]
  exact List.getElem_mem h

/-- What the last example below needs to know about `full`, evaluated once. -/
theorem full_facts :
    Spec.calm 10 cfg.ttl cfg.tti (Sync.snapshot cfg full) = true ∧
    (Sync.snapshot cfg full).rq = 0 ∧ (Sync.snapshot cfg full).wq = 0 ∧
    AL.get? full.map 3 = some ((AL.get? full.map 3).getD default) ∧
    1 < full.prob.length ∧
    (full.prob.getD 1 default).info = ((AL.get? full.map 3).getD default).info ∧
    full.prob.length ≤ Gen.SYNC_EVICTION_BATCH_SIZE := by
  decide +kernel

end C12SyncGrowthEx

open C12SyncGrowthEx

/-- The state after `fill` is quiescent and calm, full, with recency order `[2, 3, 1]`. -/
example :
    full.readQ.length = 0 ∧ full.writeQ.length = 0 ∧ full.ws = 10 ∧
    full.prob.map (·.key) = [2, 3, 1] ∧ probWeights full = [3, 3, 4] ∧
    Spec.calm 10 cfg.ttl cfg.tti (Sync.snapshot cfg full) = true := by
  decide +kernel

/-- The oracle accepts the model's trace of `hist`, whose last window applies with a real excess
and a victim: the keys in the two snapshots are `[1, 2, 3]` and `[1, 3]`, the recency order
after is `[1, 3]`, the weighted size 9. -/
example :
    Spec.growthC12Sync 10 none none cfg.weigh Gen.SYNC_EVICTION_BATCH_SIZE (Sync.trace cfg hist)
      = true ∧
    (Sync.trace cfg hist).filterMap (fun x => match x.2 with
      | .snap sn => some (Spec.keysOf sn, Spec.lruOrder sn, sn.ws, sn.wq)
      | _ => none) = [([1, 2, 3], [2, 3, 1], 10, 0), ([1, 3], [1, 3], 9, 0)] := by
  decide +kernel

/-- The same through the theorem (all hypotheses discharged). -/
example :
    Spec.growthC12Sync 10 cfg.ttl cfg.tti cfg.weigh Gen.SYNC_EVICTION_BATCH_SIZE
      (Sync.trace cfg hist) = true :=
  C12_sync_growth cfg nq_cfg small_cfg 10 rfl hist

/-- The window check itself applies there (it is not skipped by a guard): with the snapshot
after replaced by the unchanged snapshot before, it fails. -/
example :
    Spec.growthSyncOk 10 none none cfg.weigh Gen.SYNC_EVICTION_BATCH_SIZE
      (Sync.snapshot cfg full) 3 5 (Sync.snapshot cfg full) = false := by
  decide +kernel

/-- The oracle is not vacuous: it rejects a hand-made window in which the most recently used
resident (the updated key 3) was evicted instead of the least recently used one (key 2). -/
example : Spec.growthC12Sync 10 none none cfg.weigh Gen.SYNC_EVICTION_BATCH_SIZE
    [(.sync, .ok), (.snap, .snap (Sync.snapshot cfg full)), (.ins 3 5, .ok), (.sync, .ok),
     (.snap, .snap (Sync.snapshot cfg (Sync.stateAfter cfg {} [.ins 1 4, .sync, .ins 2 3, .sync])))]
    = false := by
  decide +kernel

/-- It also rejects one in which more than the shortest sufficient prefix left (2 and 1 instead of 2). -/
example : Spec.growthC12Sync 10 none none cfg.weigh Gen.SYNC_EVICTION_BATCH_SIZE
    [(.sync, .ok), (.snap, .snap (Sync.snapshot cfg full)), (.freq 3, .freq 0), (.ins 3 5, .ok),
     (.sync, .ok),
     (.snap, .snap (Sync.snapshot cfg (Sync.stateAfter cfg {} [.ins 3 5, .sync])))]
    = false := by
  decide +kernel

/-- `C12_sync_growth_state` applied to the reachable state `full` (hypotheses discharged) and
evaluated: one resident leaves (`growCount = 1`), the map holds 1 and 3, the order is `[1, 3]`. -/
example :
    growCount cfg 10 full 3 5 ((AL.get? full.map 3).getD default) (full.prob.getD 1 default) = 1 ∧
    AL.keys (syncRun cfg (Sync.insert cfg full 3 5)).map = [1, 3] ∧
    (syncRun cfg (Sync.insert cfg full 3 5)).prob.map (·.key) = [1, 3] ∧
    (syncRun cfg (Sync.insert cfg full 3 5)).ws = 9 := by
  decide +kernel

example :
    (syncRun cfg (Sync.insert cfg full 3 5)).prob =
      (eraseAo full.prob (full.prob.getD 1 default).id ++ [full.prob.getD 1 default]).drop
        (growCount cfg 10 full 3 5 ((AL.get? full.map 3).getD default) (full.prob.getD 1 default)) := by
  obtain ⟨hcalm, hrq, hwq, hold, hlt, hni, hlen⟩ := full_facts
  exact (C12_sync_growth_state nq_cfg small_cfg (cap := 10) (s := full) rfl
    (C12_sync_reachable cfg nq_cfg small_cfg fill) (calmS_of_snapshot hcalm hrq hwq) 3 5
    (old := (AL.get? full.map 3).getD default) (n := full.prob.getD 1 default) hold
    (getD_mem _ _ _ hlt) hni (by decide) (by decide) hlen).2

end Props
end MiniMoka

namespace MiniMoka.Props
#print axioms C12_sync_growth_state
#print axioms C12_sync_growth
end MiniMoka.Props
