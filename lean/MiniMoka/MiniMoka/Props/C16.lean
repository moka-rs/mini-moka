/-
  C16 — iteration yields every live entry exactly once (sequential part; the part beside
  concurrent writers is Props/C16Conc.lean).
-/
import MiniMoka.Lemmas.UnsyncLookup
import MiniMoka.Lemmas.SyncFrame
import MiniMoka.Lemmas.SketchLaws
import MiniMoka.Props.C01

namespace MiniMoka
namespace Props

open Spec

theorem iter_exact {β : Type} {m : List (Nat × β)} (hn : (AL.keys m).Nodup) (x : Nat × β → Bool)
    (f : β → Nat) :
    (((m.filter (fun kv => !x kv)).map (fun kv => (kv.1, f kv.2))).map (·.1)).Nodup ∧
    ∀ k v, (k, v) ∈ (m.filter (fun kv => !x kv)).map (fun kv => (kv.1, f kv.2)) ↔
      ∃ e, AL.get? m k = some e ∧ f e = v ∧ x (k, e) = false := by
  refine ⟨?_, fun k v => ?_⟩
  · rw [List.map_map]
    rw [AL.keys_eq_map] at hn
    exact List.Nodup.sublist (List.Sublist.map _ List.filter_sublist) hn
  · simp only [List.mem_map, List.mem_filter, Bool.not_eq_true']
    constructor
    · rintro ⟨⟨k', e⟩, ⟨hin, hne⟩, heq⟩
      obtain ⟨rfl, rfl⟩ := Prod.mk.inj heq
      exact ⟨e, AL.get?_of_mem hn hin, rfl, hne⟩
    · rintro ⟨e, hk, rfl, hne⟩
      exact ⟨(k, e), ⟨AL.mem_of_get? hk, hne⟩, rfl⟩

/-- Single-threaded cache, every reachable state: the keys iteration yields are pairwise
distinct, and `(k, v)` is yielded exactly when `k` is resident with current value `v` and
neither expiry deadline has passed. -/
theorem C16_unsync_exact {p : Params} {s : Unsync.UState} (hi : Unsync.Inv Sketch.Good p s) :
    ((Unsync.iter p s).map (·.1)).Nodup ∧
    ∀ k v, (k, v) ∈ Unsync.iter p s ↔
      ∃ e, AL.get? s.map k = some e ∧ e.val = v ∧ Unsync.isExpiredEntry p s e s.now = false :=
  iter_exact hi.inv.struct.keysNodup (fun kv => Unsync.isExpiredEntry p s kv.2 s.now) (·.val)

/-- Concurrent cache driven by one thread, every reachable state (any history, any `sync`
placement): no key twice, and `(k, v)` is yielded exactly when the map holds `v` for `k` and the
entry is neither expired nor hidden by an `invalidate_all` watermark. -/
theorem C16_sync_exact (p : Params) (hq : Sync.NoQuirks p) (h : List Op) :
    let s := Sync.runState p {} h
    ((Sync.iter p s).map (·.1)).Nodup ∧
    ∀ k v, (k, v) ∈ Sync.iter p s ↔
      ∃ ve, AL.get? s.map k = some ve ∧ ve.val = v ∧
        Sync.isExpiredInfo p s (Sync.getInfo s ve.info) s.now = false := by
  intro s
  exact iter_exact (Sync.kn_run hq h (s := {}) Sync.qinv_init (by simp [Sync.KN]))
    (fun kv => Sync.isExpiredInfo p s (Sync.getInfo s kv.2.info) s.now) (·.val)

/-- Every yielded pair also passes the lookup oracle (latest value, not invalidated, not
expired): both caches, all histories.  This is C01 again and the first conjunct of `oracleC16`;
the second, `exactC16`, is proved of the states (`C16_unsync_exact`, `C16_sync_exact`), not as an
oracle verdict on traces. -/
theorem C16_unsync_oracle (p : Params) (hq : Unsync.NoQuirks p) (hsm : SmallSketch p) (h : List Op) :
    lookupOracle .unsync checkC01 {} (Unsync.trace p h) = true :=
  C01_unsync p hq hsm h

theorem C16_sync_oracle (p : Params) (hq : Sync.NoQuirks p) (h : List Op) :
    lookupOracle .sync checkC01 {} (Sync.trace p h) = true :=
  C01_sync p hq h

example : oracleC16 .unsync (some 5) none (Unsync.trace { ttl := some 5, cap := some 3 }
    [.ins 1 1, .ins 2 2, .iter, .snap, .adv 5, .ins 3 3, .iter, .snap, .inv 3, .iter, .snap]) = true := by
  decide +kernel

example : oracleC16 .unsync none none [(.ins 1 1, .ok), (.iter, .iter [(1, 1), (1, 1)])] = false := by
  decide

end Props
end MiniMoka
