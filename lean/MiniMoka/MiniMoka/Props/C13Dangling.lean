/-
  C13 on the concurrent cache driven by one thread (`sync::Cache`, model `Sync`): an admission
  whose victim scan meets a dangling node.  In a quiescent calm cache without room for `k`, `insert(k, v)` of a
  new key followed by `invalidate(a)` of a resident and a maintenance run: the queued `Upsert k`
  is applied after `a` has left the map and before the queued `Remove a`, so `a`'s access-order
  node is still linked and `a`'s weight is still accounted (there is no room), but the scan skips
  the node: `k` is compared with the shortest LRU prefix of the residents OTHER than `a` whose
  weights reach its own, and `a`'s popularity does not count.
-/
import MiniMoka.Lemmas.SyncDangling

namespace MiniMoka
namespace Props

open Sync Sync.Admit Sync.Dangling

/-- **C13, dangling node, on traces.**  For every configuration of the current code with a
capacity and every history of one thread, the oracle accepts the model's trace: in every window
`sync, snap, freq k, ins k v, inv a, sync, snap` (or with a snapshot after `ins` and one after
`inv`: both or none) whose outer snapshots show empty
queues, in which `k` is new, `a` is resident, the first snapshot is calm and the candidate is not
oversized and finds no room, the keys resident afterwards are those of the first snapshot
without `a`, changed as the closed formula (`predictAdmission`) predicts from the residents
other than `a`. -/
theorem C13_sync_dangling (p : Params) (hq : Sync.NoQuirks p) (hsm : SmallSketch p) (c : Nat)
    (hcap : p.cap = some c) (h : List Op) :
    Spec.admitDanglingC13 c p.ttl p.tti p.weigh (Sync.trace p h) = true :=
  admitDanglingC13_trace hq hsm hcap h

/-- The state-level statement behind it (`Sync.Dangling.dangling_sync`): the map after
`insert k v; invalidate a; sync` from a reachable quiescent calm state. -/
theorem C13_sync_dangling_state {p : Params} (hq : Sync.NoQuirks p) (hsm : SmallSketch p)
    {cap : Nat} (hcap : p.cap = some cap) {s : SState} (hi : AInv p s) (hc : CalmS p cap s)
    (k v a : Nat) (hnew : AL.get? s.map k = none) {ea : VE} (hres : AL.get? s.map a = some ea)
    (hfit : p.weigh k v ≤ cap) (hroom : s.ws + p.weigh k v > cap) :
    (∀ n, Unsync.Admit.shortestPre (p.weigh k v)
        ((restProb s a).map (fun n => (getInfo s n.info).weight)) = some n →
      s.sk.frequency (p.hash k) >
        (((restProb s a).map (fun n => s.sk.frequency n.hash)).take n).sum →
      (syncRun p (Sync.invalidate p (Sync.insert p s k v) a)).map =
        eraseKeys (AL.erase (AL.put s.map k (candVE s v)) a) (((restProb s a).take n).map (·.key))) ∧
    ((¬ ∃ n, Unsync.Admit.shortestPre (p.weigh k v)
          ((restProb s a).map (fun n => (getInfo s n.info).weight)) = some n ∧
        s.sk.frequency (p.hash k) >
          (((restProb s a).map (fun n => s.sk.frequency n.hash)).take n).sum) →
      (syncRun p (Sync.invalidate p (Sync.insert p s k v) a)).map =
        AL.erase (AL.erase (AL.put s.map k (candVE s v)) a) k) :=
  dangling_sync hq hsm hcap hi hc k v a hnew hres hfit hroom

/-! ### non-vacuity -/

namespace C13DanglingEx

/-- Capacity 3, every entry weighs 1. -/
def cfg : Params := { cap := some 3 }

theorem nq_cfg : Sync.NoQuirks cfg := by unfold Sync.NoQuirks; rfl

/-- Residents 0, 1, 2 fill the cache; key 0 is looked up three times (estimate 3, and it moves
to the most recently used end), key 3 twice (estimate 2). -/
def fill : List Op :=
  [.ins 0 1, .sync, .ins 1 1, .sync, .ins 2 1, .sync, .get 0, .get 0, .get 0, .get 3, .get 3, .sync]

/-- Then key 3 is inserted and the more popular resident 0 invalidated before maintenance. -/
def hist : List Op := fill ++ [.snap, .freq 3, .ins 3 1, .inv 0, .sync, .snap]

/-- The same with white-box snapshots between the operations. -/
def hist' : List Op := fill ++ [.snap, .freq 3, .ins 3 1, .snap, .inv 0, .snap, .sync, .snap]

def full : SState := Sync.stateAfter cfg {} fill

end C13DanglingEx

open C13DanglingEx

/-- The window applies (quiescent, calm, full, `3` new, `0` resident and more popular than the
candidate: estimates 3 against 2) and the oracle accepts the model's trace: key 3 is admitted
although 0 is more popular, the LRU resident 1 (estimate 0) is the victim: 3 in, 1 out, 0 gone. -/
example :
    Spec.admitDanglingC13 3 none none cfg.weigh (Sync.trace cfg hist) = true ∧
    Spec.admitDanglingC13 3 none none cfg.weigh (Sync.trace cfg hist') = true ∧
    Spec.calm 3 none none (Sync.snapshot cfg full) = true ∧
    (Sync.snapshot cfg full).ws = 3 ∧ (Sync.snapshot cfg full).wq = 0 ∧
    (Sync.snapshot cfg full).freqs = [(0, 3), (1, 0), (2, 0)] ∧
    full.sk.frequency (cfg.hash 3) = 2 ∧
    Spec.lruOrder (Sync.snapshot cfg full) = [1, 2, 0] ∧
    Spec.predictAdmission (Spec.withoutKey (Sync.snapshot cfg full) 0) 1 2 = some [1] ∧
    (Sync.trace cfg hist).filterMap (fun x => match x.2 with
      | .snap sn => some (Spec.keysOf sn)
      | _ => none) = [[0, 1, 2], [2, 3]] := by
  decide +kernel

/-- The theorem applied to that configuration. -/
example (hsm : SmallSketch cfg) :
    Spec.admitDanglingC13 3 cfg.ttl cfg.tti cfg.weigh (Sync.trace cfg hist) = true :=
  C13_sync_dangling cfg nq_cfg hsm 3 rfl hist

/-- The oracle is not vacuous: it rejects a hand-made trace in which the candidate is dropped
(residents 1 and 2 stay) although its estimate exceeds that of the LRU resident other than `0`. -/
example : Spec.admitDanglingC13 3 none none cfg.weigh
    [(.sync, .ok), (.snap, .snap (Sync.snapshot cfg full)),
     (.freq 3, .freq 2), (.ins 3 1, .ok), (.inv 0, .ok), (.sync, .ok),
     (.snap, .snap (Sync.snapshot cfg (Sync.stateAfter cfg {} [.ins 1 1, .sync, .ins 2 1, .sync])))]
    = false := by
  decide +kernel

/-- It also rejects one in which the invalidated key is still resident afterwards. -/
example : Spec.admitDanglingC13 3 none none cfg.weigh
    [(.sync, .ok), (.snap, .snap (Sync.snapshot cfg full)),
     (.freq 3, .freq 2), (.ins 3 1, .ok), (.inv 0, .ok), (.sync, .ok),
     (.snap, .snap (Sync.snapshot cfg (Sync.stateAfter cfg {}
        [.ins 0 1, .sync, .ins 2 1, .sync, .ins 3 1, .sync])))]
    = false := by
  decide +kernel

end Props
end MiniMoka

namespace MiniMoka.Props
#print axioms C13_sync_dangling
#print axioms C13_sync_dangling_state
end MiniMoka.Props
