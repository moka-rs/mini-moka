/-
  C03 part B on the concurrent cache with the room computed from what the residents weigh:
  `Spec.fitsC03SyncW` (`Spec/OraclesC03W.lean`) is `fitsC03Sync` with the configured weigher
  applied to the residents of `before` in the place of their stored weights.  Both use that number
  only when `before` has empty queues, and `before` always directly follows a `sync`; for exactly
  those snapshots `oracleC10 .sync` demands `ws = Σ stored weights = Σ w key val`.  So the two forms
  agree on every trace that passes the C10 oracle, and `C03B_sync` carries over through `C10_sync`.
-/
import MiniMoka.Spec.OraclesC03W
import MiniMoka.Props.C03BSync
import MiniMoka.Props.C10Sync
import MiniMoka.Props.NoFreqTrace

namespace MiniMoka
namespace Props

open Spec

theorem oracleC10_go_snap_cons (w : Nat → Nat → Nat) (o : Obs) (rest : Trace) :
    oracleC10.go w ((Op.snap, o) :: rest) = oracleC10.go w rest := by
  rw [oracleC10.go]
  intro o' sn rest' h
  cases h

theorem oracleC10_go_tail (w : Nat → Nat → Nat) (x : Op × Obs) (rest : Trace)
    (h : oracleC10.go w (x :: rest) = true) : oracleC10.go w rest = true := by
  generalize hx : x :: rest = t at h
  revert h
  fun_cases oracleC10.go w t with
  | case1 o sn rest' =>
    cases hx
    intro h
    rw [oracleC10_go_snap_cons]
    rw [Bool.and_eq_true] at h
    exact h.2
  | case2 y rest' hne =>
    cases hx
    exact id
  | case3 => cases hx

theorem snapWeightW_eq (w : Nat → Nat → Nat) (sn : Snap) (h : snapCountersOk w sn = true) :
    snapWeightW w sn = snapWeight sn := by
  unfold snapCountersOk at h
  simp only [Bool.and_eq_true, beq_iff_eq] at h
  unfold snapWeightW snapWeight
  rw [← h.2, ← h.1.2]

theorem fitsC03SyncW_of_go (cap : Nat) (ttl tti : Option Nat) (w : Nat → Nat → Nat) (t : Trace)
    (h10 : oracleC10.go w t = true) (hB : fitsC03Sync cap ttl tti w t = true) :
    fitsC03SyncW cap ttl tti w t = true := by
  fun_induction fitsC03Sync cap ttl tti w t with
  | case1 => rfl
  | case2 before rest ih =>
    rw [fitsC03SyncW]
    rw [Bool.and_eq_true] at hB ⊢
    rw [oracleC10.go, Bool.and_eq_true] at h10
    refine ⟨?_, ih (by rw [oracleC10_go_snap_cons]; exact h10.2) hB.2⟩
    have hB1 := hB.1
    by_cases hq : (before.rq == 0 && before.wq == 0) = true
    · have := h10.1
      rw [if_pos hq] at this
      rw [snapWeightW_eq w before this]
      exact hB1
    · rw [Bool.not_eq_true] at hq
      split <;> simp [hq]
  | case3 x rest hne ih =>
    rw [fitsC03SyncW]
    · exact ih (oracleC10_go_tail w _ _ h10) hB
    · intro b r h; exact hne b r h

/-- On any trace on which the C10 oracle holds, the two forms of part B agree. -/
theorem fitsC03SyncW_of_C10 (cap : Nat) (ttl tti : Option Nat) (w : Nat → Nat → Nat) (t : Trace)
    (h10 : oracleC10 .sync w t = true) (hB : fitsC03Sync cap ttl tti w t = true) :
    fitsC03SyncW cap ttl tti w t = true :=
  fitsC03SyncW_of_go cap ttl tti w t h10 hB

/-- C03 part B on the concurrent cache driven by one thread, with the room the residents leave
computed by the configured weigher. -/
theorem C03B_sync_W (p : Params) (hq : Sync.NoQuirks p) (hsm : SmallSketch p) (c : Nat)
    (hcap : p.cap = some c) (h : List Op) :
    fitsC03SyncW c p.ttl p.tti p.weigh (Sync.trace p h) = true :=
  fitsC03SyncW_of_C10 _ _ _ _ _ (C10_sync p hq hsm h) (C03B_sync p hq hsm c hcap h)

/-- The variant is stronger where the stored weights are wrong: key 1 holds value 2 (weight 2 by
the weigher `fun _ v => v`) but is accounted with weight 7; capacity 8; the fresh key 5 with
value 2 fits beside the real resident (2 + 2 ≤ 8) and is missing after the next `sync`.
`fitsC03Sync` trusts the stored weight (7 + 2 > 8, "does not fit") and accepts; `fitsC03SyncW`
rejects; the C10 oracle rejects the trace as well (which is why the two may differ here). -/
example :
    let e : EntryView :=
      { key := 1, val := 2, weight := 7, la := none, lm := none, aoOk := true, woOk := true }
    let sn : Snap := { ec := 1, ws := 7, entries := [e], prob := [], wo := [], skOn := false,
                       skSize := 0, skSample := 0, skLen := 0, skCrc := 0, freqs := [] }
    let t : Trace := [(.sync, .ok), (.snap, .snap sn), (.ins 5 2, .ok), (.sync, .ok), (.snap, .snap sn)]
    fitsC03Sync 8 none none (fun _ v => v) t = true ∧
      fitsC03SyncW 8 none none (fun _ v => v) t = false ∧
      oracleC10 .sync (fun _ v => v) t = false := by
  decide

/-- The form the driver evaluates: on the trace without the hook reads `freq k`. -/
theorem C03B_sync_W_noFreq (p : Params) (hq : Sync.NoQuirks p) (hsm : SmallSketch p) (c : Nat)
    (hcap : p.cap = some c) (h : List Op) :
    Spec.fitsC03SyncW c p.ttl p.tti p.weigh (Spec.noFreq (Sync.trace p h)) = true := by
  rw [noFreq_sync_trace]; exact C03B_sync_W p hq hsm c hcap _

end Props
end MiniMoka

#print axioms MiniMoka.Props.fitsC03SyncW_of_C10
#print axioms MiniMoka.Props.C03B_sync_W
#print axioms MiniMoka.Props.C03B_sync_W_noFreq
