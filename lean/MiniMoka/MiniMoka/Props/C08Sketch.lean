/-
  C08 (absence of internal panics), sketch layer: the arithmetic of
  `common/frequency_sketch.rs` never overflows.

  Model: `MiniMoka/Sketch.lean` — every overflow-checked operation of the code is a
  `Fault.overflow` of the model: `size + 1` (u32), `count += count_ones` (u32, checked once at
  the end, the sum is monotone), `size - (count >> 2)` (and, for the unrepaired formula,
  `(size >> 1) - (count >> 2)`); table indexing is `getD`/`setIfInBounds` in the model and
  in bounds by `WF` and `indexOf_lt`; an increment of a counter below 15 stays inside its
  word (`add_pow_lt`) and leaves the other counters alone (`nib_add_pow_ne`).  The definitions
  used in the statements (`WF`, `CInv`, `tableSum`, `oddTotal`, `bump`, `runG`) are in
  `MiniMoka/Lemmas/Sketch.lean`.

  The boundary.  `count : u32` is bounded by the number of counters, `16 * table.size`, and this
  is attained by tables (`C08_sketch_count_bound_tight`); so `count ≤ u32::MAX` is guaranteed
  exactly for `table.size < 2^28`, i.e. for `ensure_capacity(cap)` with `cap ≤ 2^27`
  (`cap = 2^27 + 1` allocates `2^28` words = 2 GiB; the maximal table, `2^30` words, is 8 GiB).
  The other bound, `count ≤ Σcounters ≤ 4 * sample_size + 3 < 2^33`, does not help for larger
  capacities (`sample_size = min(10 * cap, i32::MAX) > 2^30` there).  `C08_sketch_only_count_overflow` states that for *every*
  capacity this `u32` counter is the only operation that can overflow.
-/
import MiniMoka.Lemmas.Sketch

namespace MiniMoka
namespace Sketch

theorem C08_sketch_wf_default : WF ({} : Sketch) := wf_default

theorem C08_sketch_wf_ensureCapacity (s : Sketch) (cap : Nat) (h : WF s) :
    WF (s.ensureCapacity cap) := wf_ensureCapacity s cap h

theorem C08_sketch_wf_increment {s s' : Sketch} (hash : UInt64) (hwf : WF s)
    (h : increment false s hash = .ok s') : WF s' := wf_increment hash hwf h

/-- Table indices are in bounds in every well-formed state with a table. -/
theorem C08_sketch_index_in_bounds {s : Sketch} (h : WF s) (hne : s.table.size ≠ 0)
    (hash : UInt64) (i : Nat) (hi : i < 4) :
    s.indexOf hash i < s.table.size ∧ start hash + i < 16 := by
  have := start_le hash
  exact ⟨indexOf_lt h hne hash i, by omega⟩

/-- `ensure_capacity` from the default sketch: never an empty table, `10 ≤ sample_size ≤ i32::MAX`,
at most `2^30` words, and at most `2^k` words when `cap ≤ 2^k`. -/
theorem C08_sketch_init (cap : Nat) :
    (init cap).table.size ≠ 0 ∧ (init cap).table.size ≤ 2 ^ 30 ∧
    10 ≤ (init cap).sampleSize ∧ (init cap).sampleSize ≤ 2147483647 ∧
    (∀ k, cap ≤ 2 ^ k → (init cap).table.size ≤ 2 ^ k) :=
  ⟨init_table_ne cap, (wf_init cap).2.2.2, (init_sampleSize cap).1, (init_sampleSize cap).2,
    fun k hk => by rw [init_table_size]; exact tableSizeFor_le cap k hk⟩

/-- No overflow.  For every capacity `cap ≤ 2^27` (tables below `2^28` words) and every sequence
of recorded hashes the run completes without fault, and its final state (hence the state after
every prefix) is well-formed and satisfies `Σcounters ≤ 4·size + 3`,
`size < sample_size ≤ i32::MAX`. -/
theorem C08_sketch_no_overflow (cap : Nat) (hcap : cap ≤ 2 ^ 27) (hs : List UInt64) :
    ∃ s g, runG (init cap, ghost0) hs = .ok (s, g) ∧
      hs.foldlM (increment false) (init cap) = .ok s ∧
      WF s ∧ s.table.size < 2 ^ 28 ∧
      tableSum s.table ≤ 4 * s.size + 3 ∧ s.size < s.sampleSize ∧ s.sampleSize ≤ 2147483647 := by
  obtain ⟨⟨s, g⟩, hrun⟩ :=
    run_ok_of_rinv (st := (init cap, ghost0)) (rinv_init cap) (init_small hcap) hs
  have inv := rinv_of_run hrun
  refine ⟨s, g, hrun, ?_, inv.wf, by rw [inv.tsize]; exact init_small hcap, inv.cinv⟩
  rw [← run_eq_foldlM, run_of_runG (init cap) ghost0 hs, hrun]

/-- The individual checks of one increment in a reachable state (tables below `2^28` words),
spelled out: `size + 1` fits `u32`, and the aging step — were it to run now — has
`count ≤ u32::MAX` and `count >> 2 ≤ size`. (`hadded`, "a counter was incremented", is the case in
which the code makes the first check; the bounds hold without it.) -/
theorem C08_sketch_checks (cap : Nat) (hcap : cap ≤ 2 ^ 27) (hs : List UInt64) {s : Sketch}
    {g : Ghost} (hrun : runG (init cap, ghost0) hs = .ok (s, g)) (hash : UInt64)
    (hadded : (bumpTable s hash).2 = true) :
    s.size + 1 ≤ U32_MAX ∧ oddTotal (bump s hash).table ≤ U32_MAX ∧
      oddTotal (bump s hash).table / 4 ≤ (bump s hash).size := by
  have _ := hadded
  have inv := rinv_of_run hrun
  exact ⟨(bump_checks inv.cinv hash).1,
    oddTotal_bump_le (by rw [inv.tsize]; exact init_small hcap) hash,
    (bump_checks inv.cinv hash).2⟩

/-- For every capacity whatsoever: in a reachable state an increment either succeeds or faults
because `count` (the number of odd counters, a `u32` in the code) exceeds `u32::MAX` — which needs
a table of at least `2^28` words.  The invariants hold in every reachable state. -/
theorem C08_sketch_only_count_overflow (cap : Nat) (hs : List UInt64) {s : Sketch} {g : Ghost}
    (hrun : runG (init cap, ghost0) hs = .ok (s, g)) (hash : UInt64) :
    (WF s ∧ tableSum s.table ≤ 4 * s.size + 3 ∧ s.size < s.sampleSize ∧
      s.sampleSize ≤ 2147483647) ∧
    ((∃ s' r, incrStep s hash = .ok (s', r)) ∨
     (incrStep s hash = .error .overflow ∧ U32_MAX < oddTotal (bump s hash).table ∧
       2 ^ 28 ≤ s.table.size)) := by
  have inv := rinv_of_run hrun
  refine ⟨⟨inv.wf, inv.cinv⟩, ?_⟩
  rcases step_total inv.cinv hash with h | ⟨h1, h2, _⟩
  · exact Or.inl h
  · exact Or.inr ⟨h1, h2, Nat.le_of_not_lt fun hlt =>
      absurd (oddTotal_bump_le hlt hash) (Nat.not_le.2 h2)⟩

/-- `count ≤ 16 * table.size`, and the bound is attained by tables: `count ≤ u32::MAX` follows
from the table size exactly when `table.size < 2^28`. -/
theorem C08_sketch_count_bound_tight :
    (∀ t : Array Nat, oddTotal t ≤ 16 * t.size) ∧
    (∀ n, oddTotal (Array.replicate n 0x1111111111111111) = 16 * n) ∧
    (∀ n, 16 * n ≤ U32_MAX ↔ n < 2 ^ 28) :=
  ⟨oddTotal_le_size, oddTotal_all_ones, fun n => by unfold U32_MAX; omega⟩

/-- The defect that motivated the repair (D5): with the old formula `(size >> 1) - (count >> 2)`
a reachable state faults.  Capacity 3 (table of 4 words, `sample_size = 30`): after the 29
recordings `legacyHs` (sixteen hashes covering the 64 counters once each, then seven of them
twice more, minus one) every counter is 1 or 3 but the four of the last hash, which the thirtieth
increment makes 3: it ages with `count = 64`:
`30/2 - 64/4` underflows, `(30 - 64/4) / 2 = 7` does not.  The state is reached by both
formulas (no aging step before). -/
theorem C08_sketch_legacy_counterexample :
    ∃ (hs : List UInt64) (s : Sketch) (h : UInt64),
      hs.foldlM (increment false) (init 3) = .ok s ∧
      hs.foldlM (increment true) (init 3) = .ok s ∧
      WF s ∧ CInv s ∧
      increment true s h = .error .overflow ∧
      ∃ s', increment false s h = .ok s' ∧ s'.size = 7 :=
  ⟨legacyHs, legacyState, 121,
    by decide +kernel, by decide +kernel, by decide +kernel, by decide +kernel, by decide +kernel,
    { legacyState with
      table := #[286331153, 17830161, 286331153, 268505361], size := 7 },
    by decide +kernel, rfl⟩

/-- The hypothesis of `C08_sketch_no_overflow` covers capacities that are not powers of two and
runs with aging steps (capacity 3: the thirtieth increment of `legacyHs ++ [121]` ages). -/
example : ∃ s g, runG (init 3, ghost0) (legacyHs ++ [121]) = .ok (s, g) ∧
    (s.size = 7 ∧ tableSum s.table = 28 ∧ s.sampleSize = 30) :=
  exists_of_checkRun (by decide +kernel)

/-- `Σcounters = 4·size` is reached (every increment of `legacyHs` adds 4): `Σ = 116 = 4·29`. -/
example : tableSum legacyState.table = 4 * legacyState.size := by decide +kernel

end Sketch
end MiniMoka
