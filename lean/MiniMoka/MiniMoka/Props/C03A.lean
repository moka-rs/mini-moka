/-
  C03 part A — no spurious loss: without `max_capacity` (or as long as it is never reached)
  the single-threaded cache is exactly a map with expiry.
-/
import MiniMoka.Lemmas.UnsyncExact
import MiniMoka.Lemmas.SketchLaws
import MiniMoka.Lemmas.OracleParts

namespace MiniMoka
namespace Props

open Unsync

/-- C03 part A on the single-threaded cache without `max_capacity`: for every ttl/tti, weigher
and hash function and every history, every `get` / `contains_key` / `iter` returns everything
the reference map-with-expiry says must be live (inserted, not invalidated since, neither
deadline reached), `get` and `iter` with the latest value. -/
theorem C03A_unsync (p : Params) (hq : NoQuirks p) (hsm : SmallSketch p) (hcap : p.cap = none)
    (h : List Op) :
    Spec.exactC03 .unsync p.ttl p.tti {} (Unsync.trace p h) = true :=
  exactC03_run sketchLaws hq hsm h {} {} (init_inv sketchLaws p) (coupledR_init p)
    (fun c hc => by rw [hcap] at hc; cases hc)

/-- The bounded variant: with `max_capacity = c`, the same holds for every history whose
inserts weigh at most `c` in total (the capacity is never reached, so nothing is ever evicted
or rejected for size). -/
theorem C03A_unsync_large_capacity (p : Params) (hq : NoQuirks p) (hsm : SmallSketch p)
    {c : Nat} (hcap : p.cap = some c) (h : List Op)
    (hle : Spec.totalInserted p.weigh (Unsync.trace p h) ≤ c) :
    Spec.exactC03 .unsync p.ttl p.tti {} (Unsync.trace p h) = true := by
  refine exactC03_run sketchLaws hq hsm h {} {} (init_inv sketchLaws p) (coupledR_init p) ?_
  intro c' hc'
  rw [hcap] at hc'
  cases hc'
  unfold Unsync.trace at hle
  rw [totalInserted_run] at hle
  simpa using hle

/-- Both together: the part-A conjunct of the C03 oracle (`Spec.oracleC03`), for every
configuration and every history. -/
theorem C03A_unsync_oracle (p : Params) (hq : NoQuirks p) (hsm : SmallSketch p) (h : List Op) :
    (match p.cap with
     | none => Spec.exactC03 .unsync p.ttl p.tti {} (Unsync.trace p h)
     | some c =>
       if Spec.totalInserted p.weigh (Unsync.trace p h) ≤ c then
         Spec.exactC03 .unsync p.ttl p.tti {} (Unsync.trace p h)
       else true) = true :=
  Spec.partA_of (fun hcap => C03A_unsync p hq hsm hcap h)
    (fun _ hcap hle => C03A_unsync_large_capacity p hq hsm hcap h hle)

/-- A history with ttl and tti, reads that extend the idle timer (key 1 outlives key 2),
expiry by both deadlines, invalidations of all three kinds and re-insertion. -/
example : Spec.exactC03 .unsync (some 7) (some 3) {} (Unsync.trace
    { ttl := some 7, tti := some 3 }
    [.ins 1 10, .ins 2 20, .adv 2, .get 1, .has 2, .iter, .adv 2, .get 1, .has 2, .iter, .adv 2,
     .get 1, .adv 2, .get 1, .iter, .ins 3 30, .ins 4 40, .ins 5 50, .ins 3 31, .get 3, .inv 3,
     .get 3, .invIf (.kmod 2 0), .iter, .has 5, .invAll, .iter, .ins 6 60, .adv 1, .get 6]) = true := by
  decide +kernel

/-- With a capacity that the inserted weight never reaches. -/
example : Spec.oracleC03 .unsync (some 10) (some 7) none (fun _ v => v % 4) (Unsync.trace
    { cap := some 10, ttl := some 7, hasWeigher := true, w := fun _ v => v % 4 }
    [.ins 1 1, .ins 2 2, .adv 3, .get 1, .ins 1 3, .iter, .adv 4, .has 2, .get 1, .inv 1,
     .ins 3 2, .iter, .get 3]) = true := by
  decide +kernel

/-- The lookups of such a history do return what was inserted (the check is not satisfied by
empty answers). -/
example : (Unsync.trace { ttl := some 7, tti := some 3 }
    [.ins 1 10, .ins 2 20, .adv 2, .get 1, .adv 2, .has 1, .has 2]).map
      (fun oo => match oo.2 with
        | .val v => v
        | .bool true => some 1
        | _ => none) =
    [none, none, none, some 10, none, some 1, none] := by
  decide +kernel

/-- The oracle is not vacuous: it rejects traces that lose a live entry, return a stale value,
or omit a live entry from an iteration. -/
example : Spec.exactC03 .unsync (some 5) none {}
    [(.ins 1 10, .ok), (.adv 4, .ok), (.get 1, .val none)] = false := by decide

example : Spec.exactC03 .unsync none none {}
    [(.ins 1 10, .ok), (.ins 1 11, .ok), (.get 1, .val (some 10))] = false := by decide

example : Spec.exactC03 .unsync none (some 3) {}
    [(.ins 1 10, .ok), (.ins 2 20, .ok), (.adv 2, .ok), (.get 1, .val (some 10)), (.adv 2, .ok),
     (.iter, .iter [])] = false := by decide

end Props
end MiniMoka

#print axioms MiniMoka.Props.C03A_unsync
#print axioms MiniMoka.Props.C03A_unsync_large_capacity
#print axioms MiniMoka.Props.C03A_unsync_oracle
