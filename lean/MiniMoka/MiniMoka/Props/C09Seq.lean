/-
  C09 (sequential part): every operation of `sync::Cache` driven by one thread returns.

  In the model (`MiniMoka/Sync.lean`) the only way not to return is the sticky fault
  `Fault.hang`, raised by `scheduleWriteOp` (the retry loop of `schedule_write_op`) when the
  write queue is still full after a maintenance attempt.  The theorems hold for all parameters
  including all quirk switches.  The only facts about the regenerated constants that the proofs use
  are `0 < WRITE_LOG_FLUSH_POINT < WRITE_LOG_SIZE` and `0 < READ_LOG_FLUSH_POINT < READ_LOG_SIZE`
  (by `decide`), and `syncLoop` being called with fuel `MAX_SYNC_REPEATS + 1 ≥ 1`.
  NOT covered here: several threads (another thread may hold `is_sync_running` while the
  queue is full; then `schedule_write_op` spins until that run ends: `Props/C09Conc.lean`).
-/
import MiniMoka.Lemmas.SyncQueues

namespace MiniMoka
namespace Sync

/-- No operation of a single-threaded history hangs: whatever the configuration (quirks
included) and the history, `Fault.hang` is never observed. -/
theorem C09_sync_no_hang (p : Params) (h : List Op) :
    ∀ oo ∈ Sync.trace p h, oo.2 ≠ Obs.panic Fault.hang :=
  run_no_hang p h qinv_init (by intro x; cases x)

/-- In every reachable state (faulted or not) no maintenance run is in progress and the
queues are at most at their flush points. -/
theorem C09_sync_queues_bounded (p : Params) (h : List Op) :
    (stateAfter p {} h).running = false ∧
    (stateAfter p {} h).writeQ.length ≤ Gen.WRITE_LOG_FLUSH_POINT ∧
    (stateAfter p {} h).readQ.length ≤ Gen.READ_LOG_FLUSH_POINT :=
  have hi := stateAfter_qinv p h qinv_init
  ⟨hi.running, hi.writeQ, hi.readQ⟩

/-- The same bound on the white-box snapshots of a trace. -/
theorem C09_sync_snap_queues_bounded (p : Params) (h : List Op) (op : Op) (sn : Snap)
    (hm : (op, Obs.snap sn) ∈ Sync.trace p h) :
    sn.hkRunning = false ∧ sn.wq ≤ Gen.WRITE_LOG_FLUSH_POINT ∧
    sn.rq ≤ Gen.READ_LOG_FLUSH_POINT := by
  obtain ⟨s', hs', rfl⟩ :=
    run_snap_state (I := QInv) (fun _ op hs => (step_qinv p hs op).1) h qinv_init hm
  exact ⟨hs'.running, hs'.writeQ, hs'.readQ⟩

/-- In every reachable state, `schedule_write_op` (fuel 3 as in `insert` / `invalidate`; any
positive fuel) performs the pending maintenance if it is due and then sends at once. -/
theorem C09_sync_insert_first_try (p : Params) (h : List Op) (fuel : Nat) (op : WOp) :
    scheduleWriteOp p (fuel + 1) (stateAfter p {} h) op =
      { housekeepW p (stateAfter p {} h) with
        writeQ := (housekeepW p (stateAfter p {} h)).writeQ ++ [op] } :=
  scheduleWriteOp_enqueues p fuel (stateAfter_qinv p h qinv_init) op

/-- In every reachable state, `record_read_op` queues its operation (it is never dropped). -/
theorem C09_sync_read_never_dropped (p : Params) (h : List Op) (op : ROp) :
    recordReadOp p (stateAfter p {} h) op =
      { housekeepR p (stateAfter p {} h) with
        readQ := (housekeepR p (stateAfter p {} h)).readQ ++ [op] } :=
  recordReadOp_enqueues p (stateAfter_qinv p h qinv_init) op

/-- `Inner::sync` empties both queues and leaves the housekeeper's flag alone, in any state;
`Housekeeper::try_sync` entered with the flag clear returns with the flag clear. -/
theorem C09_sync_maintenance_empties (p : Params) (s : SState) :
    (syncRun p s).writeQ = [] ∧ (syncRun p s).readQ = [] ∧ (syncRun p s).running = s.running ∧
    (s.running = false →
      (trySync p s).writeQ = [] ∧ (trySync p s).readQ = [] ∧ (trySync p s).running = false) :=
  ⟨syncRun_writeQ p s, syncRun_readQ p s, syncRun_running p s,
   fun hr => ⟨(trySync_spec p s hr).writeQ, (trySync_spec p s hr).readQ,
     (trySync_spec p s hr).running⟩⟩

/-- `applyWrites p n` pops exactly `min n len` operations and leaves the flag alone. -/
theorem C09_sync_applyWrites_pops (p : Params) (n : Nat) (s : SState) :
    (applyWrites p n s).writeQ = s.writeQ.drop n ∧ (applyWrites p n s).running = s.running :=
  ⟨applyWrites_writeQ p n s, applyWrites_running p n s⟩

def isOk : Obs → Bool
  | .ok => true
  | _ => false

def isHang : Obs → Bool
  | .panic .hang => true
  | _ => false

/-- `n` inserts (new keys and updates: sixteen keys in turn, which keeps the kernel
evaluation of the examples short). -/
def burst (n : Nat) : List Op := (List.range n).map (fun i => Op.ins (i % 16) i)

/-- Outside the periodic-sync interval (`sync_after < now`): a burst that fills the write
queue to the flush point, one insert that runs the maintenance itself, a stretch inside the
interval where every insert runs it; then the same again.  No `sync` call anywhere. -/
def burstHistory : List Op :=
  [.adv Gen.PAST_SYNC_INTERVAL_NS] ++ burst 100 ++ [.adv Gen.PAST_SYNC_INTERVAL_NS] ++ burst 100

/-- Every one of the 200 inserts returns `ok`. -/
example : ((Sync.trace {} burstHistory).filter
    (fun oo => match oo.1 with | .ins _ _ => isOk oo.2 | _ => false)).length = 200 := by
  decide +kernel

/-- The bound of `C09_sync_queues_bounded` is attained: after the first `WRITE_LOG_FLUSH_POINT`
inserts outside the interval the write queue is exactly at the flush point, and after the next
one (which performs the maintenance) it holds that insert only. (Stated with the generated
constants, so that a retuning of the flush points re-evaluates the example instead of
breaking it.) -/
example : (stateAfter {} {} ([.adv Gen.PAST_SYNC_INTERVAL_NS] ++ burst Gen.WRITE_LOG_FLUSH_POINT)).writeQ.length
      = Gen.WRITE_LOG_FLUSH_POINT ∧
    (stateAfter {} {} ([.adv Gen.PAST_SYNC_INTERVAL_NS] ++ burst (Gen.WRITE_LOG_FLUSH_POINT + 1))).writeQ.length = 1 ∧
    (stateAfter {} {} burstHistory).writeQ.length ≤ Gen.WRITE_LOG_FLUSH_POINT ∧
    (stateAfter {} {} burstHistory).map.length = 16 := by
  decide +kernel

/-- Reads: 200 `get`s outside the interval never overflow the read queue either. -/
example : (stateAfter {} {} ([.adv Gen.PAST_SYNC_INTERVAL_NS] ++ (List.range 200).map Op.get)).readQ.length
      ≤ Gen.READ_LOG_FLUSH_POINT ∧
    (stateAfter {} {} ([.adv Gen.PAST_SYNC_INTERVAL_NS] ++ (List.range Gen.READ_LOG_FLUSH_POINT).map Op.get)).readQ.length
      = Gen.READ_LOG_FLUSH_POINT := by
  decide +kernel

/-- The fault is live: with a maintenance run in progress elsewhere (`running`) and a full
write queue, which single-threaded use never reaches, an insert does not return. -/
example : isHang (Sync.step {}
    { running := true, writeQ := List.replicate Gen.WRITE_LOG_SIZE (.remove 0 default) }
    (.ins 1 1)).2 = true := by
  decide +kernel

/-- Without the `running` flag the same full queue is drained by the insert itself. -/
example : isOk (Sync.step {}
    { writeQ := List.replicate Gen.WRITE_LOG_SIZE (.remove 0 default) } (.ins 1 1)).2 = true ∧
    (Sync.step {}
    { writeQ := List.replicate Gen.WRITE_LOG_SIZE (.remove 0 default) } (.ins 1 1)).1.writeQ.length
      = 1 := by
  decide +kernel

end Sync
end MiniMoka

section
open MiniMoka.Sync
#print axioms C09_sync_no_hang
#print axioms C09_sync_queues_bounded
#print axioms C09_sync_snap_queues_bounded
#print axioms C09_sync_insert_first_try
#print axioms C09_sync_read_never_dropped
#print axioms C09_sync_maintenance_empties
#print axioms C09_sync_applyWrites_pops
end
