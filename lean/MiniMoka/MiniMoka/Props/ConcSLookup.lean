/-
  C01 / C05 / C06 / C07 (lookup soundness) for `sync::Cache` under ALL interleavings of any
  number of threads, at the granularity of `MiniMoka/ConcS.lean`: per-key map step / atomic
  maintenance run / enqueue.  (What that granularity leaves out is listed at the head of that
  file: above all, map steps of other threads *inside* a maintenance run.)

  The operations of an execution are ordered by their MAP STEPS (`ConcS.lin`, the linearised
  trace): `insMap t k v ↦ (.ins k v, .ok)`, `invMap t k ↦ (.inv k, .ok)`,
  `getMap t k ↦ (.get k, .val r)` with `r` the result `ConcS.lookup` decides in the state at
  that step, `tick d ↦ (.adv d, .ok)`, `invAll t ↦ (.invAll, .ok)`, `sync t ↦ (.sync, .ok)`
  (neutral for the lookup oracles); `maint t` and `enq t` — the maintenance runs inside calls
  and the queued halves of the calls — contribute nothing, whenever they happen.

  All for every configuration of the current code (`NoQuirks`) and every finite event list of any
  number of threads.  The hypothesis `runEvs … = some c`, "every step is enabled", is kept in the
  statements as the reading "for every execution"; the proofs do not need it: `lin` ends at the
  first step that is not enabled.

  For C05 and C06, "read" means the clock reading of the get's own map step.  A read operation is
  held by its thread for any length of time (clock ticks, updates, `invalidate`,
  `invalidate_all` of its key in between) and the held reads reach the queue in any order;
  `maint` applies them in queue order.  None of that extends an idle deadline beyond the get's
  own clock reading: the invariant `ConcS.CoupledC` (Lemmas/ConcSLookup.lean; the one-thread
  coupling `Sync.CoupledS` with its clauses about queued hits extended to the hits threads hold)
  does not bound a queued timestamp by "now at enqueue time" or relate a queued hit to the
  *current* map entry of its key; it only says that the reference entry of the key of the hit's
  info has `ts ≤ tAcc`, which every reference step preserves.  So a late enqueue is harmless.
-/
import MiniMoka.Lemmas.ConcSLookup

namespace MiniMoka
namespace Props

open Sync ConcS Spec

/-- All interleavings, all three checks at once; holds for every event list (the linearised
trace ends at the first step that is not enabled). -/
theorem ConcS_lookup_all (p : Params) (hq : Sync.NoQuirks p) (evs : List Ev) :
    lookupOracle .sync (Sync.allChecks p) {} (lin p ⟨{}, []⟩ evs) = true :=
  lookupOracle_lin hq _ (fun _ _ h => h) evs _ _ (coupledC_init p)

/-- C01 for all interleavings: every get returns nothing or the value of the most recent insert
of its key, in the order of the map steps, that has not been invalidated since. -/
theorem ConcS_C01 (p : Params) (hq : Sync.NoQuirks p) (evs : List Ev) (c : CState)
    (_hr : ConcS.runEvs p ⟨{}, []⟩ evs = some c) :
    Spec.oracleC01 .sync (lin p ⟨{}, []⟩ evs) = true :=
  lookupOracle_lin hq _ (checkC01_of_allChecks p) evs _ _ (coupledC_init p)

/-- C05 for all interleavings: a yielded key was inserted or updated (map step) less than
`time_to_live` ago. -/
theorem ConcS_C05 (p : Params) (hq : Sync.NoQuirks p) (evs : List Ev) (c : CState)
    (_hr : ConcS.runEvs p ⟨{}, []⟩ evs = some c) :
    Spec.oracleC05 .sync p.ttl (lin p ⟨{}, []⟩ evs) = true :=
  lookupOracle_lin hq _ (checkC05_of_allChecks p) evs _ _ (coupledC_init p)

/-- C06 for all interleavings: a yielded key was inserted, updated or successfully read (map
steps; for a read, the clock reading of the get itself) less than `time_to_idle` ago — however
late and in whatever order the threads enqueue the read operations they hold. -/
theorem ConcS_C06 (p : Params) (hq : Sync.NoQuirks p) (evs : List Ev) (c : CState)
    (_hr : ConcS.runEvs p ⟨{}, []⟩ evs = some c) :
    Spec.oracleC06 .sync p.tti (lin p ⟨{}, []⟩ evs) = true :=
  lookupOracle_lin hq _ (checkC06_of_allChecks p) evs _ _ (coupledC_init p)

/-- C07 (immediate and permanent) for all interleavings: once the map step of `invalidate(k)`
or `invalidate_all()` has happened, no get yields a targeted entry until its key is inserted
again.  (Stated with `lookupOracle`: `Spec.oracleC07 .sync` is this conjunct and `true`.) -/
theorem ConcS_C07 (p : Params) (hq : Sync.NoQuirks p) (evs : List Ev) (c : CState)
    (_hr : ConcS.runEvs p ⟨{}, []⟩ evs = some c) :
    lookupOracle .sync checkC07 {} (lin p ⟨{}, []⟩ evs) = true :=
  lookupOracle_lin hq _ (checkC07_of_allChecks p) evs _ _ (coupledC_init p)

theorem ConcS_lookup_from (p : Params) (hq : Sync.NoQuirks p) (c : CState) (g : Ghost)
    (hc : CoupledC p c g) (evs : List Ev) :
    lookupOracle .sync (Sync.allChecks p) g (lin p c evs) = true :=
  lookupOracle_lin hq _ (fun _ _ h => h) evs c g hc

def clParams (q : Quirks) : Params := { tti := some 3, ttl := some 100, q := q }

def getResults (t : Trace) : List (Nat × Option Nat) :=
  t.filterMap fun oo => match oo with
    | (.get k, .val r) => some (k, r)
    | _ => none

/-- Thread 2 inserts key 1 (value 10) at reading 0 and maintenance links it; thread 1 looks it up at
reading 0 and HOLDS the hit; the clock passes time-to-idle (reading 5); thread 2 updates key 1
to 11; thread 1 enqueues its stale hit (before thread 2's upsert, even); maintenance applies
both; at reading 7 thread 3 gets 11 (its hit is applied by the next run); at reading 8 thread 1
gets 11 (idle deadline 7 + 3); at reading 10 nothing (thread 1 still holds its hit of reading 8:
a held read does not prolong the lifetime before it is applied, which the properties, being
upper bounds, permit). -/
def lateReadInterleaving : List Ev :=
  [.insMap 2 1 10, .enq 2, .maint 0, .getMap 1 1, .tick 5, .insMap 2 1 11, .enq 1, .enq 2, .maint 0,
   .tick 2, .getMap 3 1, .enq 3, .maint 0, .tick 1, .getMap 1 1, .tick 2, .getMap 4 1]

example : (runEvs (clParams {}) ⟨{}, []⟩ lateReadInterleaving).isSome = true := by decide +kernel

example : getResults (lin (clParams {}) ⟨{}, []⟩ lateReadInterleaving)
    = [(1, some 10), (1, some 11), (1, some 11), (1, none)] := by decide +kernel

example : oracleC06 .sync (some 3) (lin (clParams {}) ⟨{}, []⟩ lateReadInterleaving) = true := by
  decide +kernel

/-- The theorems apply to it (`NoQuirks` holds by `rfl`, the path is enabled). -/
example : ∀ c, runEvs (clParams {}) ⟨{}, []⟩ lateReadInterleaving = some c →
    oracleC06 .sync (some 3) (lin (clParams {}) ⟨{}, []⟩ lateReadInterleaving) = true :=
  fun c hc => ConcS_C06 (clParams {}) rfl lateReadInterleaving c hc

/-- With the switch `d6` on (defect D6), the late-applied stale hit (timestamp 0) moves
`last_accessed` of the updated entry from 5 back to 0, and the gets at readings 7 and 8 find
nothing: the interleaving semantics does produce that defect (a shortened lifetime, judged by
C03; it is not a lookup-soundness violation, so the oracle still accepts). -/
example : getResults (lin (clParams { d6 := true }) ⟨{}, []⟩ lateReadInterleaving)
    = [(1, some 10), (1, none), (1, none), (1, none)] := by decide +kernel

example : oracleC06 .sync (some 3) (lin (clParams { d6 := true }) ⟨{}, []⟩ lateReadInterleaving)
    = true := by decide +kernel

/-- A read held across `invalidate_all` and a re-insert: thread 1 hits key 1 at reading 1 and
holds the hit; `invalidate_all` at reading 2; gets find nothing; thread 1 enqueues, maintenance
applies the hit to the invalidated entry's info (and evicts the entry); key 1 is inserted again
(12) and found. -/
def heldAcrossInvalidateAll : List Ev :=
  [.insMap 2 1 10, .enq 2, .tick 1, .getMap 1 1, .tick 1, .invAll 2, .getMap 3 1, .enq 3, .enq 1,
   .maint 0, .getMap 3 1, .insMap 2 1 12, .getMap 4 1, .enq 2, .maint 0, .enq 3, .enq 4, .sync 0,
   .getMap 3 1]

example : (runEvs (clParams {}) ⟨{}, []⟩ heldAcrossInvalidateAll).isSome = true := by decide +kernel

example : getResults (lin (clParams {}) ⟨{}, []⟩ heldAcrossInvalidateAll)
    = [(1, some 10), (1, none), (1, none), (1, some 12), (1, some 12)] := by decide +kernel

example : lookupOracle .sync checkC07 {} (lin (clParams {}) ⟨{}, []⟩ heldAcrossInvalidateAll)
    = true := by decide +kernel

/-- A read held across `invalidate` and a re-insert of its key (a new `EntryInfo` under the same
key): thread 1 hits key 1 (value 10) at reading 0 and holds the hit; thread 2 invalidates key 1
at reading 2 and inserts it again (20); at reading 4 thread 1 enqueues the hit, which refers to
the OLD entry's info; maintenance; the new entry still expires on its own access time. -/
def heldAcrossInvalidate : List Ev :=
  [.insMap 2 1 10, .enq 2, .maint 0, .getMap 1 1, .tick 2, .invMap 2 1, .getMap 3 1, .enq 2,
   .insMap 2 1 20, .tick 2, .enq 1, .maint 0, .enq 2, .maint 0, .getMap 4 1, .tick 1, .getMap 5 1]

example : (runEvs (clParams {}) ⟨{}, []⟩ heldAcrossInvalidate).isSome = true := by decide +kernel

example : getResults (lin (clParams {}) ⟨{}, []⟩ heldAcrossInvalidate)
    = [(1, some 10), (1, none), (1, some 20), (1, none)] := by decide +kernel

example : oracleC01 .sync (lin (clParams {}) ⟨{}, []⟩ heldAcrossInvalidate) = true ∧
    oracleC06 .sync (some 3) (lin (clParams {}) ⟨{}, []⟩ heldAcrossInvalidate) = true ∧
    lookupOracle .sync checkC07 {} (lin (clParams {}) ⟨{}, []⟩ heldAcrossInvalidate) = true := by
  decide +kernel

/-- A step that is not enabled ends the linearised trace. -/
example : getResults (lin (clParams {}) ⟨{}, []⟩ [.insMap 1 1 1, .getMap 2 1, .getMap 1 1, .getMap 3 1])
    = [(1, some 1)] := by decide +kernel

/-! The oracles reject hand-made linearised traces of the behaviours the theorems exclude. -/

/-- A stale value: the get after the update still returns the old value. -/
example : oracleC01 .sync
    [(.ins 1 10, .ok), (.get 1, .val (some 10)), (.adv 5, .ok), (.ins 1 11, .ok),
     (.get 1, .val (some 10))] = false := by decide

/-- A read after `invalidate`. -/
example : lookupOracle .sync checkC07 {}
    [(.ins 1 10, .ok), (.inv 1, .ok), (.get 1, .val (some 10))] = false := by decide

/-- A read after `invalidate_all` of an entry inserted at an earlier clock reading. -/
example : lookupOracle .sync checkC07 {}
    [(.ins 1 10, .ok), (.adv 1, .ok), (.invAll, .ok), (.get 1, .val (some 10))] = false := by decide

/-- A late-applied read credited with the time of its enqueue instead of its own clock reading:
hit at 0, (enqueued and applied at 2,) still yielded at 4 with time-to-idle 3. -/
example : oracleC06 .sync (some 3)
    [(.ins 1 10, .ok), (.get 1, .val (some 10)), (.adv 2, .ok), (.sync, .ok), (.adv 2, .ok),
     (.get 1, .val (some 10))] = false := by decide

/-- Yielded after time-to-live. -/
example : oracleC05 .sync (some 100)
    [(.ins 1 10, .ok), (.adv 60, .ok), (.get 1, .val (some 10)), (.adv 40, .ok),
     (.get 1, .val (some 10))] = false := by decide

end Props
end MiniMoka

namespace MiniMoka.Props
#print axioms ConcS_lookup_all
#print axioms ConcS_C01
#print axioms ConcS_C05
#print axioms ConcS_C06
#print axioms ConcS_C07
#print axioms ConcS_lookup_from
end MiniMoka.Props
