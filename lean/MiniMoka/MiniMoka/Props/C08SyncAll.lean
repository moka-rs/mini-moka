/-
  C08 for the concurrent cache driven by one thread: no panic of any kind.
  Combines the node/counter invariant (`C08_sync_no_uaf_no_overflow`) with the queue
  invariant (`C09_sync_no_hang`).
-/
import MiniMoka.Props.C08Sync
import MiniMoka.Props.C09Seq
import MiniMoka.Spec.Oracles

namespace MiniMoka
namespace Props

open Sync.Nodes in
/-- For every configuration of the current code, every hash function, weigher and history
of public API calls (any placement of `sync()`, any clock steps), no operation of the sync
model panics: no use of a freed deque node, no counter or sketch overflow, no failed
`expect`, no `unreachable!`, no spin on a full channel. -/
theorem C08_sync (p : Params) (hq : Sync.NoQuirks p) (hsm : SmallSketch p) (h : List Op) :
    Spec.noPanic (Sync.trace p h) = true := by
  unfold Spec.noPanic
  rw [List.all_eq_true]
  rintro ⟨op, ob⟩ hoo
  cases ob with
  | panic f =>
    exact absurd hoo (C08_sync_no_panic_of_no_hang p hq hsm h
      (fun op hin => Sync.C09_sync_no_hang p h _ hin rfl) op f)
  | _ => rfl

end Props
end MiniMoka
