/-
  C03 ("nothing is dropped for any other reason") for the many-thread system of
  `MiniMoka/ConcS.lean`, without a capacity limit.

  For every configuration of the current code with `max_capacity = none`, every reachable state
  and every enabled step of any thread.  In `ConcS_no_spurious_removal` the entry removed by a
  maintenance run is judged expired or hidden on the state AFTER the run, in which every queued
  hit has been applied to the idle timers (`C17_no_capacity_never_evicts_sync`).
  Out of scope here: `max_capacity = some c` (size eviction and admission; see
  `Props/C03ASync.lean`, `C03BSync.lean` for the one-thread statements).
-/
import MiniMoka.Props.C03ASync

namespace MiniMoka
namespace Props

open Sync ConcS

/-- Without `max_capacity`, no step of any thread removes or changes a map entry except the
`insert` / `invalidate` of its own key and the removal of an expired or invalidated entry by a
maintenance run. -/
theorem ConcS_no_spurious_removal (p : Params) (hq : Sync.NoQuirks p) (hsm : SmallSketch p)
    (hcap : p.cap = none) (c c' : CState) (hr : Reach p c) (ev : Ev)
    (hs : ConcS.step p c ev = some c') (k : Nat) (ve : VE) (hk : AL.get? c.s.map k = some ve) :
    AL.get? c'.s.map k = some ve ∨
    (∃ t v, ev = .insMap t k v ∧
      ∃ ve', AL.get? c'.s.map k = some ve' ∧ ve'.info = ve.info ∧ ve'.val = v) ∨
    (∃ t, ev = .invMap t k) ∨
    ((∃ t, ev = .maint t ∨ ev = .sync t) ∧
      isExpiredInfo p c'.s (getInfo c'.s ve.info) c'.s.now = true) := by
  have hi := reach_csinv hq hsm hr
  have hkn := hi.top.map.kn
  rcases step_no_spurious p ev hs k ve hk with a | a | a | ⟨t, rfl | rfl⟩
  · exact Or.inl a
  · exact Or.inr (Or.inl a)
  · exact Or.inr (Or.inr (Or.inl a))
  · cases Step.of_eq hs
    rcases (C17_no_capacity_never_evicts_sync p hq hcap c.s hkn).2.2 k ve hk with h1 | h1
    · exact Or.inl h1
    · exact Or.inr (Or.inr (Or.inr ⟨⟨t, Or.inl rfl⟩, h1⟩))
  · cases Step.of_eq hs
    rcases (C17_no_capacity_never_evicts_sync p hq hcap c.s hkn).1 k ve hk with h1 | h1
    · exact Or.inl h1
    · exact Or.inr (Or.inr (Or.inr ⟨⟨t, Or.inr rfl⟩, h1⟩))

/-- The steps that may take the entry of `k` with info `i` away: `invalidate` / `insert` of `k`,
and a maintenance run after which the entry counts as expired or invalidated. -/
def Disturbs (p : Params) (k i : Nat) (ev : Ev) (c' : CState) : Prop :=
  (∃ t, ev = .invMap t k) ∨ (∃ t v, ev = .insMap t k v) ∨
  ((∃ t, ev = .maint t ∨ ev = .sync t) ∧
    isExpiredInfo p c'.s (getInfo c'.s i) c'.s.now = true)

/-- One step that does not disturb the entry keeps it. -/
theorem ConcS_entry_kept (p : Params) (hq : Sync.NoQuirks p) (hsm : SmallSketch p)
    (hcap : p.cap = none) (c c' : CState) (hr : Reach p c) (ev : Ev)
    (hs : ConcS.step p c ev = some c') (k : Nat) (ve : VE) (hk : AL.get? c.s.map k = some ve)
    (hnd : ¬ Disturbs p k ve.info ev c') : AL.get? c'.s.map k = some ve := by
  rcases ConcS_no_spurious_removal p hq hsm hcap c c' hr ev hs k ve hk with
    h1 | ⟨t, v, e, _⟩ | ⟨t, e⟩ | ⟨e, hx⟩
  · exact h1
  · exact absurd (Or.inr (Or.inl ⟨t, v, e⟩)) hnd
  · exact absurd (Or.inl ⟨t, e⟩) hnd
  · exact absurd (Or.inr (Or.inr ⟨e, hx⟩)) hnd

/-- After the map step of `insert k v` by thread `t` the entry `(k, v)` is resident, and any one
following step of any thread keeps it unless that step disturbs it; it does not matter whether
`t` has enqueued its operation yet.  Along a path: `ConcS_insert_retained_path`. -/
theorem ConcS_insert_retained (p : Params) (hq : Sync.NoQuirks p) (hsm : SmallSketch p)
    (hcap : p.cap = none) (c c1 : CState) (hr : Reach p c) (t : Tid) (k v : Nat)
    (hs1 : ConcS.step p c (.insMap t k v) = some c1) :
    ∃ ve, AL.get? c1.s.map k = some ve ∧ ve.val = v ∧
      ∀ ev c2, ConcS.step p c1 ev = some c2 → ¬ Disturbs p k ve.info ev c2 →
        AL.get? c2.s.map k = some ve := by
  have hr1 : Reach p c1 := Reach.step _ hr hs1
  have hget : ∃ ve, AL.get? c1.s.map k = some ve ∧ ve.val = v := by
    cases Step.of_eq hs1
    obtain ⟨ve, hm, hv, _⟩ := insertMap_map p c.s k v
    exact ⟨ve, by show AL.get? (insertMap p c.s k v).1.map k = _; rw [hm, AL.get?_put_self], hv⟩
  obtain ⟨ve, h1, h2⟩ := hget
  exact ⟨ve, h1, h2, fun ev c2 hs2 hnd =>
    ConcS_entry_kept p hq hsm hcap c1 c2 hr1 ev hs2 k ve h1 hnd⟩

def Undisturbed (p : Params) (k i : Nat) : CState → List Ev → Prop
  | _, [] => True
  | c, ev :: rest =>
    ∃ c', ConcS.step p c ev = some c' ∧ ¬ Disturbs p k i ev c' ∧ Undisturbed p k i c' rest

/-- The entry survives any undisturbed path. -/
theorem ConcS_insert_retained_path (p : Params) (hq : Sync.NoQuirks p) (hsm : SmallSketch p)
    (hcap : p.cap = none) (k : Nat) (ve : VE) : ∀ (evs : List Ev) (c cN : CState), Reach p c →
      AL.get? c.s.map k = some ve → Undisturbed p k ve.info c evs → runEvs p c evs = some cN →
      AL.get? cN.s.map k = some ve := by
  intro evs
  induction evs with
  | nil =>
    intro c cN _ hk _ hrun
    simp only [runEvs] at hrun
    rw [← Option.some.inj hrun]; exact hk
  | cons ev rest ih =>
    intro c cN hr hk hu hrun
    obtain ⟨c', hs, hnd, hu'⟩ := hu
    simp only [runEvs, hs] at hrun
    exact ih c' cN (Reach.step _ hr hs)
      (ConcS_entry_kept p hq hsm hcap c c' hr ev hs k ve hk hnd) hu' hrun

def noLossParams : Params := { ttl := some 5 }

/-- Thread 1 inserts key 1 (clock 0) and enqueues; maintenance admits it.  At clock 3 thread 2
performs the map step of `insert 2 20` and keeps holding its operation.  At clock 5 key 1 has
expired: the next maintenance run removes it.  Key 2 survives that run and two more while its
operation is still held; at clock 15 it has expired too, but an entry that was never admitted
owns no node, so maintenance cannot find it (lookups hide it); once thread 2 has enqueued, the
next run admits it and removes it as expired. -/
def noLossInterleaving : List Ev :=
  [.insMap 1 1 10, .enq 1, .maint 0, .tick 3, .insMap 2 2 20, .tick 2, .maint 0, .maint 1, .sync 0,
   .tick 10, .maint 0, .enq 2, .maint 0]

/-- `(map as (key, value), entry_count, threads holding something)` after the first `n`
events. -/
def noLossAfter (n : Nat) : Option (List (Nat × Nat) × Nat × Nat) :=
  (runEvs noLossParams {} (noLossInterleaving.take n)).map fun c =>
    (c.s.map.map (fun (kv : Nat × VE) => (kv.1, kv.2.val)), c.s.ec, c.pending.length)

example : [3, 6, 7, 8, 9, 11, 12, 13].map noLossAfter =
    [some ([(1, 10)], 1, 0),                -- key 1 admitted
     some ([(1, 10), (2, 20)], 1, 1),       -- clock 5: key 1 expired, key 2 held by thread 2
     some ([(2, 20)], 0, 1),                -- `maint`: key 1 removed, key 2 kept
     some ([(2, 20)], 0, 1),                -- another `maint`
     some ([(2, 20)], 0, 1),                -- `sync`
     some ([(2, 20)], 0, 1),                -- clock 15, `maint`: still there (owns no node)
     some ([(2, 20)], 0, 0),                -- thread 2 enqueues
     some ([], 0, 0)] := by                 -- admitted and removed as expired
  decide +kernel

/-- The removal of key 1 falls under the last alternative of `ConcS_no_spurious_removal`: key 1 is
gone after the run (first 7 events).  It counts as expired before the run (first 6); with a
time-to-live only, a run changes nothing expiry depends on, so it counts as expired on the state
after the run too, which is where the theorem judges it. -/
example : (runEvs noLossParams {} (noLossInterleaving.take 7)).map (fun c =>
    c.s.map.map (fun (kv : Nat × VE) => (kv.1, isExpiredInfo noLossParams c.s (getInfo c.s kv.2.info) c.s.now)))
    = some [(2, false)] ∧
    (runEvs noLossParams {} (noLossInterleaving.take 6)).map (fun c =>
    c.s.map.map (fun (kv : Nat × VE) => (kv.1, isExpiredInfo noLossParams c.s (getInfo c.s kv.2.info) c.s.now)))
    = some [(1, true), (2, false)] := by
  decide +kernel

end Props
end MiniMoka

namespace MiniMoka.Props
#print axioms ConcS_no_spurious_removal
#print axioms ConcS_entry_kept
#print axioms ConcS_insert_retained
#print axioms ConcS_insert_retained_path
end MiniMoka.Props
