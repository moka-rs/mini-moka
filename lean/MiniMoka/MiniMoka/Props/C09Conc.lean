/-
  C09 (concurrent part): no deadlock / livelock from locks in `sync::Cache`.
  Final theorems only; model in `MiniMoka/ConcL.lean`, proofs in `Lemmas/ConcL.lean`.

  PROVED here (machine-checked):
   * generic, for any lock type with ranks, any number `n` of threads, all interleavings:
     `C09_no_deadlock_generic`, `C09_runs_bounded_generic`, `C09_all_return_generic`;
   * the checker accepts the table (`C09_table_ok`, by `decide` row by row, `check_table`) and is sound
     (`check_sound`, `Lemmas/ConcL.lean`), hence the instances `C09_no_deadlock`,
     `C09_runs_bounded`, `C09_all_return` for systems of threads running any sequences of
     the table's operations with any lock instances;
   * `C09_flag_released`.
  TRUSTED (transcribed by reading the Rust source; the audit of lock sites, DESIGN.md §5 C09,
  compares the sites listed row by row in `ConcL.lean` with the source): the table `ConcL.table` itself, and the
  simplifications stated at the top of `ConcL.lean` (RwLock as exclusive lock; channel
  operations and atomics never block; user callbacks — `Clone`/`Hash`/`Eq`/`Drop` of
  keys and values, the weigher — do not call back into the cache; no thread holds an
  `Iter` while calling other cache operations).
  NOT covered: termination of the `schedule_write_op` retry loop as a matter of channel
  capacity (that is `Sync.C09_sync_no_hang` of `Props/C09Seq.lean`, on the sequential model); here that loop is a
  finite but arbitrary number of rounds, each of which holds no lock at its end.
-/
import MiniMoka.Lemmas.ConcL

namespace MiniMoka.ConcL

/-- Generic no-deadlock theorem. `n` threads (any `n`) run code trees that respect the
discipline `CodeWf` for an arbitrary rank function on locks: (i) a blocking acquire is of
a lock of rank strictly greater than every lock held, (ii) try-acquires never block,
(iii) releases are of held locks and a finished thread holds nothing. Then in every
reachable state (all interleavings) in which some thread has not finished, some thread
can take a step. -/
theorem C09_no_deadlock_generic {L : Type} [DecidableEq L] (rank : L → Nat) (n : Nat)
    (s0 s : State L)
    (hinit : ∀ i, (s0 i).held = [] ∧ CodeWf rank [] (s0 i).code)
    (hidle : ∀ i, n ≤ i → (s0 i).code = .done)
    (hr : Reach s0 s) (hun : ∃ i, (s i).code ≠ .done) :
    ∃ s', Step s s' :=
  no_deadlock_of_inv (inv_reach (inv_init hinit hidle) hr) hun

/-- No livelock from lock events: every run from the initial state has at most
`measure n s0` (= total size of the threads' code trees) steps. -/
theorem C09_runs_bounded_generic {L : Type} [DecidableEq L] (rank : L → Nat) (n : Nat)
    (s0 s : State L)
    (hinit : ∀ i, (s0 i).held = [] ∧ CodeWf rank [] (s0 i).code)
    (hidle : ∀ i, n ≤ i → (s0 i).code = .done)
    (m : Nat) (hr : ReachN m s0 s) : m ≤ measure n s0 := by
  have := run_length_le (inv_init hinit hidle) hr
  omega

/-- Every reachable state can be completed: all threads finish, and then no lock is held.
(Together with the bound above: every maximal run is finite and ends with all calls
returned.) -/
theorem C09_all_return_generic {L : Type} [DecidableEq L] (rank : L → Nat) (n : Nat)
    (s0 s : State L)
    (hinit : ∀ i, (s0 i).held = [] ∧ CodeWf rank [] (s0 i).code)
    (hidle : ∀ i, n ≤ i → (s0 i).code = .done)
    (hr : Reach s0 s) :
    ∃ s', Reach s s' ∧ (∀ i, (s' i).code = .done) ∧ ∀ l, ¬ Holds s' l :=
  all_return (inv_reach (inv_init hinit hidle) hr)

/-- The decidable check of the transcribed table: from an empty set of held locks, on
every path of every public operation (insert, get, invalidate, invalidate_all, sync,
contains_key) blocking acquisitions respect  F < D < S < M < {N,T,C} < K, everything
acquired is released (LIFO), and `sleep` happens with no lock held. -/
theorem C09_table_ok : tableOk = true := tableOk_true

/-- Instance for `sync::Cache`: any number of threads, each running any sequence of the
table's operations, any lock instances, all interleavings: never a deadlock. -/
theorem C09_no_deadlock (n : Nat) (s0 s : State Lock)
    (hth : ∀ i, i < n → IsCacheThread (s0 i))
    (hidle : ∀ i, n ≤ i → s0 i = ⟨[], .done⟩)
    (hr : Reach s0 s) (hun : ∃ i, (s i).code ≠ .done) :
    ∃ s', Step s s' :=
  C09_no_deadlock_generic Lock.rank n s0 s (cache_init hth hidle).1 (cache_init hth hidle).2 hr hun

theorem C09_runs_bounded (n : Nat) (s0 s : State Lock)
    (hth : ∀ i, i < n → IsCacheThread (s0 i))
    (hidle : ∀ i, n ≤ i → s0 i = ⟨[], .done⟩)
    (m : Nat) (hr : ReachN m s0 s) : m ≤ measure n s0 :=
  C09_runs_bounded_generic Lock.rank n s0 s (cache_init hth hidle).1 (cache_init hth hidle).2 m hr

/-- Every call returns (at the level of lock events): from every reachable state the
system can run to a state where all threads have finished and no lock — in particular
not the maintenance flag `F` — is held. -/
theorem C09_all_return (n : Nat) (s0 s : State Lock)
    (hth : ∀ i, i < n → IsCacheThread (s0 i))
    (hidle : ∀ i, n ≤ i → s0 i = ⟨[], .done⟩)
    (hr : Reach s0 s) :
    ∃ s', Reach s s' ∧ (∀ i, (s' i).code = .done) ∧ ∀ l, ¬ Holds s' l :=
  C09_all_return_generic Lock.rank n s0 s (cache_init hth hidle).1 (cache_init hth hidle).2 hr

/-- The maintenance flag is released on every path of `Housekeeper::try_sync` (at the
level of the event table): the checker accepts `trySync` from the empty stack with the
empty stack as result — on the success arm the last event is `rel F`, the failure arm
never set it — and therefore in every unfolding of `trySync` (all branches, loop counts,
instances) the continuation starts with no lock held: the calling thread does not hold
`F` when `try_sync` returns. Combined with `C09_all_return`: the flag can never stay set,
so maintenance keeps being possible for the lifetime of the cache. -/
theorem C09_flag_released :
    check Cls.rank trySync [] = some [] ∧
    ∀ (h' : List Lock) (k c : Code Lock), Unfolds Lock.cls [] trySync h' k c → h' = [] := by
  refine ⟨check_trySync, ?_⟩
  intro h' k c hu
  have := (check_sound Cls.rank Lock.cls hu [] (by simpa using check_trySync)).1
  simpa using this

/-! ## Non-vacuity -/

open Prog Cls

/-- The checker is not trivially accepting. Holding a shard guard across `record_read_op`
(what the explicit `drop(entry)` in `get_with_hash` avoids) is rejected: `try_sync` would
block on `D` while holding `M`. -/
example : check Cls.rank (withL M recordReadOp) [] = none := by decide
/-- Acquiring against the order is rejected. -/
example : check Cls.rank (seqs [.acq M, .acq D, .rel D, .rel M]) [] = none := by decide
/-- Two leaves held together are rejected. -/
example : check Cls.rank (seqs [.acq T, .acq N, .rel N, .rel T]) [] = none := by decide
/-- A `try_sync` that forgets to clear the flag on the success path is rejected. -/
example : check Cls.rank (.tryL F (seqs [clockNow, tAcc, innerSync]) .skip) [] = none := by
  decide
/-- Sleeping while holding a lock is rejected. -/
example : check Cls.rank (withL M .sleep) [] = none := by decide
/-- Requesting the sketch lock while it is held (e.g. enabling the sketch from inside
`apply_writes`) is rejected. -/
example : check Cls.rank (withL S enableSketch) [] = none := by decide

set_option maxRecDepth 8192 in
/-- `IsCacheThread` is inhabited by a thread that performs `get; insert; invalidate;
sync`, with code that is not `done` (the default unfolding `unf` of `Lemmas/ConcL.lean`: every
optional part taken, including `try_sync` with a full `Inner::sync`, loops left after
zero rounds; it has 100+ lock events). -/
example : ∃ t : Thread Lock, IsCacheThread t ∧ t.code ≠ .done := by
  obtain ⟨h', c, hu, hne⟩ :=
    unfolds_of_unfSize (p := opsProg [.get, .insert, .invalidate, .sync]) (by decide)
  exact ⟨⟨[], c⟩, ⟨rfl, _, h', hu⟩, hne⟩

set_option maxRecDepth 8192 in
example : unfSize (opsProg [.get, .insert, .invalidate, .sync]) > 100 := by decide

/-- The semantics can deadlock when the discipline is violated (so the theorems are not
true for trivial reasons): the classic two-lock inversion. -/
example : ∃ s : State Nat, (∃ i, (s i).code ≠ .done) ∧ ¬ ∃ s', Step s s' := by
  refine ⟨fun i => match i with
      | 0 => ⟨[0], .acq 1 (.rel 1 (.rel 0 .done))⟩
      | 1 => ⟨[1], .acq 0 (.rel 0 (.rel 1 .done))⟩
      | _ => ⟨[], .done⟩, ⟨0, by simp⟩, ?_⟩
  rintro ⟨s', hs⟩
  cases hs with
  | @mk i t' ht =>
    match i, ht with
    | 0, ht => cases ht with | acq hfree => exact hfree ⟨1, by simp⟩
    | 1, ht => cases ht with | acq hfree => exact hfree ⟨0, by simp⟩
    | (j + 2), ht => cases ht

end MiniMoka.ConcL

section Axioms
open MiniMoka.ConcL
#print axioms C09_no_deadlock_generic
#print axioms C09_runs_bounded_generic
#print axioms C09_all_return_generic
#print axioms C09_table_ok
#print axioms C09_no_deadlock
#print axioms C09_runs_bounded
#print axioms C09_all_return
#print axioms C09_flag_released
end Axioms
