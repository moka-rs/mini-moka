/-
  C11 — live key / value objects equal the resident entries (single-threaded cache).
-/
import MiniMoka.Lemmas.UnsyncTrace
import MiniMoka.Lemmas.SketchLaws
import MiniMoka.Wire
import MiniMoka.Lemmas.OracleParts

namespace MiniMoka
namespace Props

open Unsync

/-- In every state satisfying the structural invariant the live key objects are exactly the
keys of the map (each node of either list shares the key object of the entry that owns it),
and there is one value object per entry. -/
theorem snapshot_live {p : Params} {s : UState} (hs : Struct p s) :
    (snapshot p s).liveK = (snapshot p s).entries.length ∧
    (snapshot p s).liveV = (snapshot p s).entries.length := by
  have hlen : (snapshot p s).entries.length = s.map.length := by
    simp only [snapshot]; rw [length_sortBy, List.length_map]
  rw [hlen]
  refine ⟨?_, rfl⟩
  show countDistinct (AL.keys s.map ++ s.prob.map (·.key) ++ s.wo.map (·.key)) = s.map.length
  rw [← List.length_map (as := s.map) (·.1), ← AL.keys_eq_map]
  refine countDistinct_eq_length _ _ hs.keysNodup ?_ ?_
  · intro x hx
    simp only [List.mem_append, List.mem_map] at hx
    rcases hx with (hx | ⟨n, hn, rfl⟩) | ⟨n, hn, rfl⟩
    · exact hx
    · obtain ⟨e, he, _⟩ := hs.aoBack n hn
      exact AL.mem_keys_of_get? he
    · obtain ⟨e, he, _⟩ := hs.woBack n hn
      exact AL.mem_keys_of_get? he
  · intro x hx
    simp only [List.mem_append]
    exact Or.inl (Or.inl hx)

/-- C11 on the single-threaded cache: for every configuration, hash function, weigher and
history, every snapshot taken after any operation shows as many live key objects and as many
live value objects as the map has entries: objects of replaced, invalidated, evicted and
expired-and-purged entries have been released, none is released twice (an identity is
counted while any owner remains). What happens when the cache itself is dropped is Rust's
`Drop` of the map and of the two lists (trusted; checked on the implementation by the same
oracle through the `drop` observation). -/
theorem C11_unsync (p : Params) (hq : NoQuirks p) (hsm : SmallSketch p) (h : List Op) :
    Spec.oracleC11 (Unsync.trace p h) = true := by
  apply Spec.oracleC11_of_all
  unfold Unsync.trace
  apply run_all sketchLaws hq hsm _ _ h {} (init_inv sketchLaws p)
  intro s op hi
  rw [step_obs sketchLaws hq hsm hi op]
  cases op <;> simp only []
  obtain ⟨h1, h2⟩ := snapshot_live hi.inv.struct
  simp only [Spec.liveOk, Spec.liveBounded, h1, h2, Bool.and_eq_true,
    decide_eq_true_eq, beq_self_eq_true, Bool.and_self, Bool.or_true, true_and]
  constructor <;> omega

/-- Non-vacuity: eviction, rejection, update, invalidation of all kinds and expiry. -/
example : Spec.oracleC11 (Unsync.trace
    { cap := some 3, ttl := some 5, hasWeigher := true, w := fun _ v => v % 3 }
    [.ins 1 1, .snap, .ins 2 2, .snap, .get 1, .ins 3 5, .snap, .ins 1 2, .snap, .inv 2, .snap,
     .adv 5, .get 1, .snap, .ins 4 1, .invIf (.kmod 2 0), .snap, .invAll, .snap]) = true := by
  decide +kernel

/-- The oracle rejects a leaked key object (two live keys, one resident entry) and anything
left alive after the cache was dropped. -/
def leakedKey : Snap :=
  let e : EntryView := { key := 1, val := 1, weight := 1, la := none, lm := none, aoOk := true, woOk := true }
  { Wire.emptySnap with ec := 1, liveK := 2, liveV := 1, entries := [e] }

example : Spec.oracleC11 [(.snap, .snap leakedKey)] = false := by decide

example : Spec.oracleC11 [(.adv 0, .snap { Wire.emptySnap with liveK := 0, liveV := 1 })] = false := by
  decide

end Props
end MiniMoka
