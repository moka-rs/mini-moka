/-
  C03 — no spurious loss, on states: an insert that fits evicts nothing (part B), the purge at the
  start of an operation drops only expired entries, and the counterexample for defect D3.
  Part A (below capacity the cache is exactly a map with expiry) is `Props/C03A.lean`, part B on
  traces `Props/C03BTrace.lean`.
-/
import MiniMoka.Lemmas.UnsyncNoLoss
import MiniMoka.Lemmas.SketchLaws

namespace MiniMoka
namespace Props

open Unsync

/-- Part B on the single-threaded cache, for every configuration and every reachable state
(`Inv`): inserting a new key whose weight fits in the remaining capacity (computed from the
residents actually held after the operation's own expiry purge) succeeds, and no entry that
the purge left is evicted — each keeps its value. With no `max_capacity` every insert fits. -/
theorem C03B_unsync {p : Params} (hq : NoQuirks p)
    {s : UState} (hi : Inv Sketch.Good p s) (k v : Nat)
    (hnew : AL.get? (maintain p s).map k = none)
    (hfit : hasEnoughCapacity p (p.weigh k v) (maintain p s).ws = true) :
    (∃ e, AL.get? (insert p s k v).map k = some e ∧ e.val = v) ∧
    (∀ k' e', AL.get? (maintain p s).map k' = some e' →
      ∃ e'', AL.get? (insert p s k v).map k' = some e'' ∧ e''.val = e'.val) :=
  Unsync.insert_hasroom_keeps hq hi k v hnew hfit

/-- The purge at the start of an operation drops only entries whose ttl or tti deadline has
passed, as long as the cache is not over capacity (with no `max_capacity`: always). Together
with `C03B_unsync`: below capacity nothing is lost for any other reason. -/
theorem C03_unsync_purge_only_expired {p : Params} (hq : NoQuirks p)
    {s : UState} (hi : Inv Sketch.Good p s) (hfit : ∀ c, p.cap = some c → s.ws ≤ c) (k : Nat) (e : UEntry)
    (hwas : AL.get? s.map k = some e) (hgone : AL.get? (maintain p s).map k = none) :
    isExpiredEntry p s e s.now = true :=
  maintain_only_expired hq hi hfit k e ⟨hwas, hgone⟩

/-- The oracle of C03 (reference map with expiry run beside the trace) accepts a model history
with expiry, reads that extend the idle timer, and invalidations. -/
example : Spec.oracleC03 .unsync none (some 5) (some 3) (fun _ _ => 1) (Unsync.trace
    { ttl := some 5, tti := some 3 }
    [.ins 1 10, .ins 2 20, .adv 2, .get 1, .adv 2, .has 1, .has 2, .iter, .adv 1, .get 1, .ins 3 30,
     .inv 3, .get 3, .iter]) = true := by
  decide +kernel

/-- The oracle is not vacuous: it rejects a trace that loses a live entry. -/
example : Spec.oracleC03 .unsync none none none (fun _ _ => 1)
    [(.ins 1 10, .ok), (.ins 2 20, .ok), (.get 1, .val none)] = false := by
  decide

/-- On the unrepaired tree part B fails (defect D3): a cache emptied by
`invalidate_entries_if` refuses every new key. -/
theorem C03_unsync_counterexample_D3 :
    Spec.oracleC03 .unsync (some 2) none none (fun _ _ => 1)
      (Unsync.trace { cap := some 2, q := { d3 := true } }
        [.ins 1 1, .ins 2 2, .invIf .all, .snap, .ins 3 3, .snap]) = false := by
  decide +kernel

end Props
end MiniMoka
