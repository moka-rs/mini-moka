/-
  C03, the clause about threads: "for the concurrent cache, after every explored multi-threaded
  phase has quiesced, a sequential refill of max_capacity fresh unit-weight keys must be fully
  retained" — for ALL interleavings of any number of threads, at the granularity of
  `MiniMoka/ConcS.lean` (per-key map step / atomic maintenance run / enqueue).
-/
import MiniMoka.Lemmas.ConcSRefill

namespace MiniMoka
namespace Props

open Sync Sync.Nodes Sync.Counters ConcS

/-- C03 part B after ANY many-thread phase: from every state reachable by any interleaving of
any number of threads in which no thread holds an operation (both queues may still be non-empty,
and as long as the channels allow), every continuation by a single thread satisfies the C03
part-B oracle. -/
theorem ConcS_C03B_after_any_phase (p : Params) (hq : Sync.NoQuirks p) (hsm : SmallSketch p)
    (c : Nat) (hcap : p.cap = some c) (cs : ConcS.CState) (hr : ConcS.Reach p cs)
    (hp : cs.pending = []) (h : List Op) :
    Spec.fitsC03Sync c p.ttl p.tti p.weigh (Sync.run p cs.s h) = true := by
  have hr' : Reach p ⟨cs.s, []⟩ := by
    rw [← hp]; exact hr
  exact fitsC03Sync_run_reach hq hsm hcap h cs.s hr'

/-- The watermark of `invalidate_all` never lies in the future in any reachable state of the
many-thread system. -/
theorem ConcS_valid_after_le_now (p : Params) (hq : Sync.NoQuirks p) (cs : ConcS.CState)
    (hr : ConcS.Reach p cs) : ∀ v, cs.s.va = some v → v ≤ cs.s.now :=
  reach_vaLe hq hr

/-- Every one-thread continuation of a reachable state with nothing held stays among the
reachable states (without the one-thread queue bound `QInv`). -/
theorem ConcS_reach_continuation (p : Params) (hq : Sync.NoQuirks p) (hsm : SmallSketch p)
    (cs : ConcS.CState) (hr : ConcS.Reach p cs) (hp : cs.pending = []) (h : List Op) :
    ConcS.Reach p ⟨Sync.stateAfter p cs.s h, []⟩ := by
  have hr' : Reach p ⟨cs.s, []⟩ := by
    rw [← hp]; exact hr
  exact reach_stateAfter hq hsm h hr'

/-- The operations of the refill: (a) invalidate every key the map holds and `sync`, then
(b) `insert(k, 1); sync()` for every fresh key. -/
def refillOps (s : SState) (fresh : List Nat) : List Op :=
  (s.map.map (fun kv => Op.inv kv.1)) ++ [Op.sync] ++
    fresh.flatMap (fun k => [Op.ins k 1, Op.sync])

/-- C03, the clause about threads, for ALL interleavings.  Bounded cache (`max_capacity = c`)
without a weigher, no zero deadline.  Take any state reachable by any interleaving of any number
of threads in which no thread holds an operation (the queues need not be empty), and any list
`fresh` of at most `c` distinct keys.  Let a single thread invalidate every key the map holds and
call `sync`, then `insert(k, 1); sync()` for each `k ∈ fresh`.  In the final state every key of
`fresh` is in the map with value 1, `contains_key` answers `true` and `get` returns 1: no capacity
leaked during the racy phase.  (The keys of `fresh` need not even be absent from the map
beforehand: phase (a) removes them.) -/
theorem ConcS_C03_refill_retained (p : Params) (hq : Sync.NoQuirks p) (hsm : SmallSketch p)
    (c : Nat) (hcap : p.cap = some c) (hnw : p.hasWeigher = false) (httl : p.ttl ≠ some 0)
    (htti : p.tti ≠ some 0) (cs : ConcS.CState) (hr : ConcS.Reach p cs) (hp : cs.pending = [])
    (fresh : List Nat) (hnd : fresh.Nodup) (hlen : fresh.length ≤ c) :
    let s' := Sync.stateAfter p cs.s (refillOps cs.s fresh)
    ∀ k ∈ fresh, (AL.get? s'.map k).map (·.val) = some 1 ∧
      (Sync.step p s' (.has k)).2 = .bool true ∧ (Sync.step p s' (.get k)).2 = .val (some 1) := by
  intro s' k hk
  have hr' : Reach p ⟨cs.s, []⟩ := by
    rw [← hp]; exact hr
  have h1 := (refill_drain hq hsm hr').1
  have h2 := refill_fill hq hsm hcap hnw ⟨httl, htti⟩ fresh _ [] h1
    (by rw [List.nil_append]; exact hnd) (by rw [List.nil_append]; exact hlen)
  rw [← stateAfter_append, List.nil_append] at h2
  have h3 : Filled p s' fresh := h2
  obtain ⟨a, b⟩ := h3.resident hq hsm ⟨httl, htti⟩ hk
  exact ⟨a, b, h3.get_sees hq hsm ⟨httl, htti⟩ hk⟩

/-- The two halves of the refill, with the counters.  After phase (a) the cache is empty and
quiescent and `entry_count = weighted_size = 0` (no drifted counter, no phantom entry survives
the racy phase); after phase (b) the map holds exactly `|fresh|` entries, both queues are empty
and `entry_count = weighted_size = |fresh|`. -/
theorem ConcS_C03_refill_counters (p : Params) (hq : Sync.NoQuirks p) (hsm : SmallSketch p)
    (c : Nat) (hcap : p.cap = some c) (hnw : p.hasWeigher = false) (httl : p.ttl ≠ some 0)
    (htti : p.tti ≠ some 0) (cs : ConcS.CState) (hr : ConcS.Reach p cs) (hp : cs.pending = [])
    (fresh : List Nat) (hnd : fresh.Nodup) (hlen : fresh.length ≤ c) :
    let sa := Sync.stateAfter p cs.s (cs.s.map.map (fun kv => Op.inv kv.1) ++ [Op.sync])
    let s' := Sync.stateAfter p cs.s (refillOps cs.s fresh)
    (sa.map = [] ∧ sa.writeQ = [] ∧ sa.readQ = [] ∧ sa.ec = 0 ∧ sa.ws = 0) ∧
    (s'.map.length = fresh.length ∧ s'.writeQ = [] ∧ s'.readQ = [] ∧ s'.ec = fresh.length ∧
      s'.ws = fresh.length ∧ s'.fault = none) := by
  intro sa s'
  have hr' : Reach p ⟨cs.s, []⟩ := by
    rw [← hp]; exact hr
  obtain ⟨h1, hm⟩ := refill_drain hq hsm hr'
  have h2 := refill_fill hq hsm hcap hnw ⟨httl, htti⟩ fresh _ [] h1
    (by rw [List.nil_append]; exact hnd) (by rw [List.nil_append]; exact hlen)
  rw [← stateAfter_append, List.nil_append] at h2
  have h3 : Filled p s' fresh := h2
  have h1' : Filled p sa [] := h1
  obtain ⟨_, c1, c2⟩ := h1'.counters hq hsm hnw List.nodup_nil
  obtain ⟨d0, d1, d2⟩ := h3.counters hq hsm hnw hnd
  exact ⟨⟨hm, h1'.wq, h1'.rq, c1, c2⟩, d0, h3.wq, h3.rq, d1, d2,
    (reach_csinv hq hsm h3.r).top.nofault⟩

def rfParams : Params := { cap := some 3 }

/-- Threads 1, 2, 3 fill the cache with keys 7, 8, 9 (maintenance admits them).  Then thread 1
updates key 7 (holding the upsert) and thread 2 invalidates it (holding the remove); thread 2
enqueues FIRST, maintenance runs (thread 0) while thread 1 still holds its stale upsert, thread 3
looks key 8 up, and at the end everybody enqueues: nobody holds anything, but the write queue
holds the stale upsert and the read queue the hit. -/
def rfPhase : List Ev :=
  [.insMap 1 7 1, .enq 1, .insMap 2 8 1, .enq 2, .insMap 3 9 1, .enq 3, .maint 0,
   .insMap 1 7 5, .invMap 2 7, .enq 2, .maint 0, .getMap 3 8, .enq 1, .enq 3]

/-- What the refill of `fresh` ends in after the path `evs`: `([threads holding something,
|write queue|, |read queue|] before the refill ++ [entry_count, weighted_size, |map|] after it,
the map after it, [contains_key k, get k = Some(1)] for each fresh key)`. -/
def rfSummary (p : Params) (evs : List Ev) (fresh : List Nat) :
    Option (List Nat × List (Nat × Nat) × List Bool) :=
  (runEvs p {} evs).map fun cs =>
    let s' := Sync.stateAfter p cs.s (refillOps cs.s fresh)
    ([cs.pending.length, cs.s.writeQ.length, cs.s.readQ.length, s'.ec, s'.ws, s'.map.length],
     s'.map.map (fun (kv : Nat × VE) => (kv.1, kv.2.val)),
     fresh.flatMap fun k => [Sync.containsKey p s' k, (Sync.get p s' k).2 == some 1])

/-- The phase ends with nobody holding an operation, one stale upsert and one read queued, and
two residents (keys 8 and 9; `entry_count = weighted_size = 2`). -/
example : (runEvs rfParams {} rfPhase).map (fun cs =>
    ([cs.pending.length, cs.s.writeQ.length, cs.s.readQ.length, cs.s.ec, cs.s.ws],
      cs.s.map.map (fun (kv : Nat × VE) => (kv.1, kv.2.val))))
    = some ([0, 1, 1, 2, 2], [(8, 1), (9, 1)]) := by
  decide +kernel

/-- The refill of three fresh keys after that phase retains all three. -/
theorem ConcS_refill_example : rfSummary rfParams rfPhase [10, 11, 12]
    = some ([0, 1, 1, 3, 3, 3], [(10, 1), (11, 1), (12, 1)],
        [true, true, true, true, true, true]) := by
  decide +kernel

/-- The same past the periodic-sync deadline (the inserts of the refill do not run maintenance of
their own: as in the code, `Sync.shouldApply` asks for `syncAfter ≥ now`), refilling the key the
threads raced on, a key that was resident, and a new one. -/
example : rfSummary rfParams (rfPhase ++ [.tick Gen.PAST_SYNC_INTERVAL_NS]) [7, 8, 30]
    = some ([0, 1, 1, 3, 3, 3], [(7, 1), (8, 1), (30, 1)],
        [true, true, true, true, true, true]) := by
  decide +kernel

/-- The bound `|fresh| ≤ capacity` is needed: four keys are not retained together. -/
example : (rfSummary rfParams rfPhase [10, 11, 12, 13]).map (fun r => r.1) =
    some [0, 1, 1, 3, 3, 3] := by
  decide +kernel

/-- `ConcS_C03B_after_any_phase` on this path: the continuation `sync, snap, insert(10, 1), sync,
snap` from the end of the phase (stale upsert and read still queued) is a window of the part-B
oracle whose premises hold (key 10 is fresh, the queues are empty at both snapshots, the two
residents leave room for one more): the oracle accepts it, and the closing snapshot holds
`(10, 1)` next to the two residents. -/
example : (runEvs rfParams {} rfPhase).map (fun cs =>
    let t := Sync.run rfParams cs.s [.sync, .snap, .ins 10 1, .sync, .snap]
    (Spec.fitsC03Sync 3 none none rfParams.weigh t,
     (t.map (fun oo => match oo.2 with
        | .snap sn => sn.entries.map (fun e => (e.key, e.val))
        | _ => [])).getLast?))
    = some (true, some [(8, 1), (9, 1), (10, 1)]) := by
  decide +kernel

theorem rfParams_small : SmallSketch rfParams :=
  .of_default_capF rfl fun _ hcap => Option.some.inj hcap ▸ by decide +kernel

/-- The theorems apply to this path: its end state is reachable and nobody holds an operation,
so `ConcS_C03_refill_retained` yields the residency of the three fresh keys. -/
example : ∀ cs, runEvs rfParams {} rfPhase = some cs →
    let s' := Sync.stateAfter rfParams cs.s (refillOps cs.s [10, 11, 12])
    ∀ k ∈ [10, 11, 12], (AL.get? s'.map k).map (·.val) = some 1 ∧
      (Sync.step rfParams s' (.has k)).2 = .bool true ∧
      (Sync.step rfParams s' (.get k)).2 = .val (some 1) := by
  intro cs hc
  have hp : cs.pending = [] := by
    have h : (runEvs rfParams {} rfPhase).map (fun cs => cs.pending.length) = some 0 := by
      decide +kernel
    rw [hc] at h
    exact List.eq_nil_of_length_eq_zero (Option.some.inj h)
  exact ConcS_C03_refill_retained rfParams rfl rfParams_small 3 rfl rfl (by decide) (by decide) cs
    (reach_of_runEvs _ _ _ Reach.init hc) hp [10, 11, 12] (by decide) (by decide)

end Props
end MiniMoka

namespace MiniMoka.Props
#print axioms ConcS_C03B_after_any_phase
#print axioms ConcS_valid_after_le_now
#print axioms ConcS_reach_continuation
#print axioms ConcS_C03_refill_retained
#print axioms ConcS_C03_refill_counters
#print axioms ConcS_refill_example
#print axioms rfParams_small
end MiniMoka.Props
