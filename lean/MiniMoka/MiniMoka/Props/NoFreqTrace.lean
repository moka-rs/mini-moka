/-
  The hook reads `freq k` that white-box histories issue change no state, so `Spec.noFreq` of a
  model trace is the model trace of the history without them, for both caches and every
  configuration.  The driver judges the window oracles on `noFreq` of the recorded trace; the
  `…_noFreq` forms of C03, C04 and C14 follow from this.
-/
import MiniMoka.Lemmas.SyncPure
import MiniMoka.Lemmas.Purity
import MiniMoka.Lemmas.Walk

namespace MiniMoka
namespace Props

/-- Dropping the `freq` readings from a model trace gives the model trace of the history
without them (any configuration, faulted runs included: the reading never changes the
state). -/
theorem noFreq_unsync_trace (p : Params) (h : List Op) :
    Spec.noFreq (Unsync.trace p h) =
      Unsync.trace p (h.filter (fun op => match op with
        | .freq _ => false
        | _ => true)) :=
  Spec.noFreq_run (Unsync.isRun p) (fun s _ => Unsync.step_pureU p s _ rfl) h {}

theorem noFreq_sync_trace (p : Params) (h : List Op) :
    Spec.noFreq (Sync.trace p h) =
      Sync.trace p (h.filter (fun op => match op with
        | .freq _ => false
        | _ => true)) :=
  Spec.noFreq_run (Sync.isRun p) (fun s _ => Sync.step_pure p s _ rfl) h {}

end Props
end MiniMoka
