/-
  C14 (popularity estimator), bit level: the word-level model `MiniMoka/SketchBitsModel.lean`
  — machine words, every bit manipulation done by the functions generated from the Rust text
  (`Gen/Logic/SketchBits.lean`) — refines the arithmetic model `MiniMoka/Sketch.lean`, for
  every state, every hash, every 64-bit word; faults correspond.

  With this, "the code's bit tricks (`>> ((start+i) << 2) & 0xF`, `w & mask != mask`,
  `+= 1 << offset`, `(w & ONE_MASK).count_ones()`, `(w >> 1) & RESET_MASK`) mean what the
  arithmetic model says" is a theorem (`Lemmas/Agree/SketchBits.lean`), not an assumption, and
  every C14 / C08 statement about `Sketch` transfers to the word-level model through `abs`.
-/
import MiniMoka.Lemmas.SketchBits

namespace MiniMoka
namespace Props

open Gen.Logic SketchW

theorem SketchW_frequency_refines (s : SketchW) (h : UInt64) :
    frequencyW s h = Sketch.frequency (abs s) h := by
  by_cases hne : s.table.size = 0
  · unfold frequencyW Sketch.frequency
    rw [if_pos hne, if_pos (by rw [abs_table_size]; exact hne)]
  · rw [Sketch.frequency_eq _ _ (by rw [abs_table_size]; exact hne), frequencyW_eq s h hne]
    exact (min4_congr _ (fun i => Sketch.counterAt (abs s) h i)
      (fun i hi => counter_refines s h i hi)).trans
      (min4_eq _ (fun i => Sketch.counterAt_le (abs s) h i))

#print axioms SketchW_frequency_refines

theorem SketchW_increment_refines (s : SketchW) (h : UInt64) :
    (incrementW s h).map abs = Sketch.increment false (abs s) h := by
  rw [Sketch.increment_eq_bump]
  unfold incrementW
  simp only []
  have hb := incrementLoopW_refines s h
  generalize incrementLoopW s h = r at hb ⊢
  have hb2 : (Sketch.bumpTable (abs s) h).2 = r.2 := by rw [hb]
  by_cases hne : s.table.size = 0
  · have hne' : (abs s).table.size = 0 := by rw [abs_table_size]; exact hne
    rw [if_pos hne, if_pos hne']
    rfl
  · have hne' : ¬ (abs s).table.size = 0 := by rw [abs_table_size]; exact hne
    rw [if_neg hne, if_neg hne', hb2]
    by_cases ha : r.2 = true
    · have hbump : Sketch.bump (abs s) h
          = abs (SketchW.mk s.sampleSize s.mask r.1 (s.size + 1)) := by
        rw [abs_eta s] at hb
        rw [abs_eta s, abs_mk, Sketch.bump_mk _ _ _ _ h _ _ hb, if_pos ha]
      rw [if_pos ha, if_pos ha, abs_size, abs_sampleSize, hbump]
      by_cases hov : s.size + 1 > U32_MAX
      · rw [if_pos hov, if_pos hov]; rfl
      · rw [if_neg hov, if_neg hov]
        have hage' : age_now (s.size + 1) s.sampleSize = true ↔ s.size + 1 ≥ s.sampleSize := by
          rw [← Agree.age_now_agrees, decide_eq_true_eq]
        by_cases hage : s.size + 1 ≥ s.sampleSize
        · rw [if_pos hage, if_pos (hage'.2 hage)]
          exact resetW_refines _
        · rw [if_neg hage, if_neg (mt hage'.1 hage)]
          rfl
    · have hbump : Sketch.bump (abs s) h
          = abs (SketchW.mk s.sampleSize s.mask r.1 s.size) := by
        rw [abs_eta s] at hb
        rw [abs_eta s, abs_mk, Sketch.bump_mk _ _ _ _ h _ _ hb, if_neg ha]
      rw [if_neg ha, if_neg ha, hbump]
      rfl

#print axioms SketchW_increment_refines

theorem SketchW_ensureCapacity_refines (s : SketchW) (cap : Nat) :
    abs (ensureCapacityW s cap) = Sketch.ensureCapacity (abs s) cap := by
  have htable : table_size (min cap (2 ^ Gen.SKETCH_MAX_TABLE_POW)) = Sketch.tableSizeFor cap := by
    unfold table_size Sketch.tableSizeFor
    simp only [decide_eq_true_eq]
  rw [Sketch.ensureCapacity_eq]
  unfold ensureCapacityW
  simp only [htable, Agree.sample_size_agrees, abs_table_size]
  split
  · rfl
  · rw [abs_mk, Array.map_replicate]
    rfl

#print axioms SketchW_ensureCapacity_refines

/-- From related states, recording any sequence of hashes keeps the two models related; they
fault together (`Except.map` keeps the fault). -/
theorem SketchW_runFrom_refines (s : SketchW) (hs : List UInt64) :
    (runW s hs).map abs = hs.foldlM (Sketch.increment false) (abs s) := by
  unfold runW
  induction hs generalizing s with
  | nil => rfl
  | cons h hs ih =>
    rw [List.foldlM_cons, List.foldlM_cons, ← SketchW_increment_refines]
    cases incrementW s h with
    | error e => rfl
    | ok s' => exact ih s'

theorem abs_initW (cap : Nat) : abs (ensureCapacityW {} cap) = Sketch.init cap := by
  rw [SketchW_ensureCapacity_refines, abs_default]; rfl

/-- Runs from the initial state: folding `incrementW` from `ensureCapacityW {} cap` and folding
`Sketch.increment false` from `Sketch.ensureCapacity {} cap` stay related by `abs`, and fault
together. -/
theorem SketchW_run_refines (cap : Nat) (hs : List UInt64) :
    (hs.foldlM incrementW (ensureCapacityW {} cap)).map abs
      = hs.foldlM (Sketch.increment false) (Sketch.ensureCapacity {} cap) := by
  have := SketchW_runFrom_refines (ensureCapacityW {} cap) hs
  rw [abs_initW] at this
  exact this

#print axioms SketchW_run_refines

/-- The same with `Sketch.run` / `Sketch.init`, the vocabulary of `Lemmas/Sketch.lean` (`run` is
`runG` without the ghost, `run_of_runG`). -/
theorem SketchW_run_refines' (cap : Nat) (hs : List UInt64) :
    (runW (ensureCapacityW {} cap) hs).map abs = Sketch.run (Sketch.init cap) hs := by
  rw [Sketch.run_eq_foldlM]
  exact SketchW_run_refines cap hs

/-- A successful word-level run is a successful arithmetic run to the abstracted state, and every
frequency the word-level model reports is the arithmetic model's. -/
theorem SketchW_run_frequency (cap : Nat) (hs : List UInt64) {sW : SketchW}
    (hrun : runW (ensureCapacityW {} cap) hs = .ok sW) :
    Sketch.run (Sketch.init cap) hs = .ok (abs sW) ∧
    ∀ h, frequencyW sW h = Sketch.frequency (abs sW) h := by
  refine ⟨?_, fun h => SketchW_frequency_refines sW h⟩
  rw [← SketchW_run_refines', hrun]
  rfl

/-- Conversely, the arithmetic run determines the word-level run: a fault is the same fault, and
a final state is the abstraction of the word-level final state. -/
theorem SketchW_run_complete (cap : Nat) (hs : List UInt64) :
    (∀ e, Sketch.run (Sketch.init cap) hs = .error e →
      runW (ensureCapacityW {} cap) hs = .error e) ∧
    (∀ s, Sketch.run (Sketch.init cap) hs = .ok s →
      ∃ sW, runW (ensureCapacityW {} cap) hs = .ok sW ∧ abs sW = s ∧
        ∀ h, frequencyW sW h = Sketch.frequency s h) := by
  rw [← SketchW_run_refines']
  cases runW (ensureCapacityW {} cap) hs with
  | error e' =>
    refine ⟨fun e he => ?_, fun s hs' => ?_⟩
    · cases he; rfl
    · cases hs'
  | ok sW =>
    refine ⟨fun e he => ?_, fun s hs' => ?_⟩
    · cases he
    · cases hs'
      exact ⟨sW, rfl, rfl, fun h => SketchW_frequency_refines sW h⟩

#print axioms SketchW_run_frequency
#print axioms SketchW_run_complete

/-! ## Non-vacuity: the generated bit tricks on concrete words -/

example : halved_word 0xFEDCBA9876543210 = 0x7766554433221100 := by decide +kernel
example : Sketch.halveWord 0xFEDCBA9876543210 = 0x7766554433221100 := by decide +kernel
example : halved_word 0xFFFFFFFFFFFFFFFF = 0x7777777777777777 := by decide +kernel
example : odd_counters 0xFEDCBA9876543210 = 8 := by decide +kernel
example : odd_counters 0xFFFFFFFFFFFFFFFF = 16 := by decide +kernel
/-- Counter 15 of `0xFEDC…` is saturated, counter 14 is not. -/
example : inc_room 0xFEDCBA9876543210 (inc_mask (inc_offset 15)) = false := by decide +kernel
example : inc_room 0xFEDCBA9876543210 (inc_mask (inc_offset 14)) = true := by decide +kernel
example : 0xFEDCBA9876543210 + inc_delta (inc_offset 14) = 0xFFDCBA9876543210 := by decide +kernel
example : counter_of_word 0xFEDCBA9876543210 8 3 = 11 := by decide +kernel

end Props
end MiniMoka
