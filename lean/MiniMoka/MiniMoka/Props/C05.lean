/-
  C05 — time-to-live: no entry is observable at or after insert time + ttl.
-/
import MiniMoka.Lemmas.UnsyncLookup
import MiniMoka.Lemmas.SyncLookup
import MiniMoka.Props.C01

namespace MiniMoka
namespace Props

open Unsync Spec

/-- C05 on the single-threaded cache: with `time_to_live = d` (any d, including 0, alone or
combined with time_to_idle), for every configuration and history, a key yielded by get,
contains_key or iteration at clock reading `now` satisfies `now < t + d`, where `t` is the
reading of the most recent insert/update of that key — however often it was read and
wherever the clock steps land (exactly on `t + d` included). -/
theorem C05_unsync (p : Params) (hq : NoQuirks p)
    (hsm : SmallSketch p) (h : List Op) :
    oracleC05 .unsync p.ttl (Unsync.trace p h) = true :=
  lookup_unsync p hq hsm _ (fun _ _ hkv => (unsync_allChecks_iff.mp hkv).2.1) h

/-- Non-vacuity: boundary landing exactly on `t + d`, update restarting the interval, reads
not extending it. -/
example : oracleC05 .unsync (some 5) (Unsync.trace { ttl := some 5, tti := some 9 }
    [.ins 1 10, .adv 4, .get 1, .has 1, .adv 1, .get 1, .iter, .ins 1 11, .adv 4, .get 1, .adv 1,
     .has 1, .iter]) = true := by
  decide +kernel

example : oracleC05 .unsync (some 5) [(.ins 1 10, .ok), (.adv 5, .ok), (.get 1, .val (some 10))] = false := by
  decide

/-- C05 on the concurrent cache driven by one thread: for every configuration, every
history and every placement of `sync` (any queue state), a key yielded at reading `now`
satisfies `now < t + ttl` with `t` the reading of its most recent insert/update. -/
theorem C05_sync (p : Params) (hq : Sync.NoQuirks p) (h : List Op) :
    oracleC05 .sync p.ttl (Sync.trace p h) = true :=
  lookup_sync p hq _ (Sync.checkC05_of_allChecks p) h

example : oracleC05 .sync (some 5) (Sync.trace { ttl := some 5 }
    [.ins 1 10, .adv 4, .get 1, .has 1, .adv 1, .get 1, .iter, .ins 1 11, .adv 4, .get 1, .sync,
     .adv 1, .has 1, .iter]) = true := by
  decide +kernel

end Props
end MiniMoka
