/-
  C09, departure form (ConcS granularity): the calls that have started can all complete *using
  only steps of the threads that hold them*.  No step of an idle thread — in particular of a
  thread that ran a maintenance earlier and has since left — is needed, whatever state that thread
  left behind (full write channel included).  This is the model-level counterpart of the
  real-thread `stall` component (harness/src/conc.rs, `run_stall`), which parks a thread inside a
  maintenance run, lets writers fill the write channel, releases the thread, lets it leave, and
  demands that every writer finishes.
-/
import MiniMoka.Props.ConcSProgress

namespace MiniMoka
namespace Props

open Sync ConcS

/-- The events of the holding threads: a housekeeping attempt or the send of the held op. -/
def OwnStep (holders : List Tid) (e : Ev) : Prop :=
  ∃ t ∈ holders, e = .maint t ∨ e = .enq t

/-- **Departure.** From every reachable state of the many-thread system, the threads that hold
an operation can complete all started calls by themselves: a path of at most two events per
holding thread, each event a housekeeping attempt (`maint t`) or the send (`enq t`) of a thread
`t` that holds an operation in `c`, leads to a state in which nobody holds anything.  Threads
that hold nothing — e.g. one that ran the last maintenance and left — take no step in it. -/
theorem C09_ConcS_complete_without_idle_threads (p : Params) (hq : Sync.NoQuirks p)
    (hsm : SmallSketch p) (c : CState) (hr : Reach p c) :
    ∃ evs c', evs.length ≤ 2 * c.pending.length ∧ runEvs p c evs = some c' ∧ c'.pending = [] ∧
      Reach p c' ∧ ∀ e ∈ evs, OwnStep (c.pending.map Prod.fst) e :=
  drain_own hq hsm c.pending.length c hr (Nat.le_refl _)

/-- In particular the path needs no step of any given thread that holds nothing. -/
theorem C09_ConcS_departed_thread_not_needed (p : Params) (hq : Sync.NoQuirks p)
    (hsm : SmallSketch p) (c : CState) (hr : Reach p c) (gone : Tid)
    (hg : pendOf c.pending gone = none) :
    ∃ evs c', runEvs p c evs = some c' ∧ c'.pending = [] ∧
      ∀ e ∈ evs, e ≠ .maint gone ∧ e ≠ .enq gone ∧ e ≠ .sync gone := by
  obtain ⟨evs, c', _, h2, h3, _, h5⟩ := C09_ConcS_complete_without_idle_threads p hq hsm c hr
  refine ⟨evs, c', h2, h3, ?_⟩
  intro e he
  obtain ⟨t, ht, h⟩ := h5 e he
  have hne : t ≠ gone := fun e => pendOf_none hg (e ▸ ht)
  rcases h with rfl | rfl
  · refine ⟨?_, ?_, ?_⟩ <;> intro h <;> cases h <;> exact hne rfl
  · refine ⟨?_, ?_, ?_⟩ <;> intro h <;> cases h <;> exact hne rfl

/-- Non-vacuity: a state in which one thread filled the write channel completely and left, and
another thread holds a write it cannot send (the channel is full), is reachable; the path of the
theorem there is `[maint 1, enq 1]`. -/
example :
    (runEvs {} {} (fillEvs Gen.WRITE_LOG_SIZE ++ [Ev.insMap 1 1000 1])).map
        (fun c => (c.s.writeQ.length, c.pending.length)) = some (Gen.WRITE_LOG_SIZE, 1) ∧
    ((runEvs {} {} (fillEvs Gen.WRITE_LOG_SIZE ++ [Ev.insMap 1 1000 1, Ev.enq 1])).isNone) ∧
    ((runEvs {} {} (fillEvs Gen.WRITE_LOG_SIZE ++ [Ev.insMap 1 1000 1, Ev.maint 1, Ev.enq 1])).map
        (fun c => c.pending.length)) = some 0 := by
  obtain ⟨c, hc, hw, hp, hr⟩ := runEvs_fillEvs {} (Nat.le_refl Gen.WRITE_LOG_SIZE)
  obtain ⟨hwq, _, hrun, _, _⟩ := insertMap_fields {} c.s 1000 1
  have hins : ConcS.step {} c (.insMap 1 1000 1) = some
      ⟨(insertMap {} c.s 1000 1).1, [(1, .write (insertMap {} c.s 1000 1).2)]⟩ := by
    simp only [ConcS.step, hp, pendOf, List.nil_append]
  obtain ⟨c1, c2, h1, h2, h3⟩ := maint_then_enq {}
    (c := ⟨(insertMap {} c.s 1000 1).1, [(1, .write (insertMap {} c.s 1000 1).2)]⟩)
    (hrun.trans hr) (pendOf_single 1 _) 1
  simp only [runEvs_append, hc, runEvs, hins, h1, h2, Option.map_some]
  refine ⟨by rw [hwq, hw]; rfl, ?_, by rw [h3]; rfl⟩
  simp only [ConcS.step, pendOf, if_true, hwq, hw, Nat.lt_irrefl, if_false]
  rfl

end Props
end MiniMoka

#print axioms MiniMoka.Props.C09_ConcS_complete_without_idle_threads
#print axioms MiniMoka.Props.C09_ConcS_departed_thread_not_needed
