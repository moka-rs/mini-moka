/-
  C04 — the capacity bound on the single-threaded cache.
-/
import MiniMoka.Lemmas.UnsyncCapacity
import MiniMoka.Lemmas.SketchLaws

namespace MiniMoka
namespace Props

open Unsync

/-- C04 (a), one operation, every configuration with `max_capacity = c` and every state
satisfying the invariant (in particular every reachable one): an operation that is not a
*growing update* — `insert(k, v)` of a key that is resident after the operation's own
maintenance, with a new weight above the old one (`Unsync.GrowingUpdate`) — never takes
`weighted_size` (= the total weight of the residents, by `Inv`) from within the capacity to
above it. -/
theorem C04_unsync_bound_preserved {p : Params} (hq : NoQuirks p) (hsm : SmallSketch p)
    {s : UState} (hi : Inv Sketch.Good p s) {c : Nat} (hcap : p.cap = some c) (op : Op)
    (hng : ¬ GrowingUpdate p s op) (hle : s.ws ≤ c) : (Unsync.step p s op).1.ws ≤ c :=
  -- `hsm` is not needed for one step; the statement has the hypotheses of the trace theorem
  have _ := hsm
  step_ws_le hq hi hcap op hng hle

/-- The same in terms of the residents: their total weight stays within the capacity. -/
theorem C04_unsync_bound_preserved_residents {p : Params} (hq : NoQuirks p) (hsm : SmallSketch p)
    {s : UState} (hi : Inv Sketch.Good p s) {c : Nat} (hcap : p.cap = some c) (op : Op)
    (hng : ¬ GrowingUpdate p s op) (hle : totalW s.map ≤ c) :
    totalW (Unsync.step p s op).1.map ≤ c := by
  rw [← (step_inv sketchLaws hq hsm hi op).inv.counted.ws]
  exact C04_unsync_bound_preserved hq hsm hi hcap op hng (by rw [hi.inv.counted.ws]; exact hle)

/-- C04 (b): a key that is not resident (after the maintenance that starts the call) and whose
weight exceeds the whole capacity is never retained: the call amounts to the maintenance alone.
Holds in every state, even one that violates the invariant. -/
theorem C04_unsync_oversized_never_retained {p : Params} {s : UState} {c : Nat}
    (hcap : p.cap = some c) (k v : Nat) (hfresh : AL.get? (maintain p s).map k = none)
    (hbig : c < p.weigh k v) :
    Unsync.insert p s k v = maintain p s ∧ AL.get? (Unsync.insert p s k v).map k = none := by
  have h := insert_oversized hcap k v hfresh hbig
  exact ⟨h, by rw [h]; exact hfresh⟩

/-- C04 (c): when the cache is over capacity (after a growing update), the maintenance that
starts every `get`, `contains_key`, `insert` and `invalidate` brings it back within the
capacity or removes a full batch (`EVICTION_BATCH_SIZE`) of entries.  An emptied map weighs
0, so that case falls under the first alternative. -/
theorem C04_unsync_excess_worked_off {p : Params} (hq : NoQuirks p) {s : UState}
    (hi : Inv Sketch.Good p s) {c : Nat} (hcap : p.cap = some c) :
    (maintain p s).ws ≤ c ∨
      (maintain p s).map.length + EVICTION_BATCH_SIZE ≤ s.map.length :=
  maintain_works_off hq hi.inv hcap

/-- Hence any excess spread over `n` residents is gone after `⌈n / batch⌉` lookups
(`get` / `contains_key`), and stays gone. -/
theorem C04_unsync_excess_gone_after {p : Params} (hq : NoQuirks p) (hsm : SmallSketch p)
    {c : Nat} (hcap : p.cap = some c) (ops : List Op) (s : UState) (hi : Inv Sketch.Good p s)
    (hall : ∀ op ∈ ops, isLookup op = true)
    (hn : s.map.length ≤ ops.length * EVICTION_BATCH_SIZE) : (runState p s ops).ws ≤ c :=
  lookups_work_off sketchLaws hq hsm hcap ops s hi hall hn

/-- C04 (c) on traces: on every `snapshot, get/contains_key, snapshot` triple of every history,
if the residents weighed more than `max_capacity` before the lookup, then afterwards they are
within the capacity or a full eviction batch of entries has left. -/
theorem C04_unsync_worked_off (p : Params) (hq : NoQuirks p) (hsm : SmallSketch p) (c : Nat)
    (hcap : p.cap = some c) (h : List Op) :
    Spec.workedOffC04 c Gen.UNSYNC_EVICTION_BATCH_SIZE (Unsync.trace p h) = true :=
  workedOffC04_run sketchLaws hq hsm hcap h (init_inv sketchLaws p)

/-- C04 (a), (b) on traces: on every `snapshot, op, snapshot` triple the residents weigh at most
`max_capacity` after the operation if they did before, unless the operation is an in-place
update that made its entry heavier; and a fresh key heavier than `max_capacity` is never
resident afterwards. -/
theorem C04_unsync_bound (p : Params) (hq : NoQuirks p) (hsm : SmallSketch p) (c : Nat)
    (hcap : p.cap = some c) (h : List Op) :
    Spec.boundC04 c (Unsync.trace p h) = true :=
  boundC04_run sketchLaws hq hsm hcap h (init_inv sketchLaws p) (init_coupled p)

/-- C04, the trace oracle (both conjuncts: the bound and the working-off of an excess), for
every configuration and every history. -/
theorem C04_unsync (p : Params) (hq : NoQuirks p) (hsm : SmallSketch p) (h : List Op) :
    Spec.oracleC04 .unsync p.cap (Unsync.trace p h) = true := by
  unfold Spec.oracleC04
  cases hcap : p.cap with
  | none => rfl
  | some c =>
    dsimp only
    rw [C04_unsync_bound p hq hsm c hcap h, C04_unsync_worked_off p hq hsm c hcap h]
    rfl

/-- A history with eviction at admission, a rejected oversized key, a growing update that takes
the cache over capacity (weight 1 → 5 with capacity 3) and the lookups that work the excess
off, with snapshots around every call. -/
example : Spec.oracleC04 .unsync (some 3) (Unsync.trace
    { cap := some 3, ttl := some 10, hasWeigher := true, w := fun _ v => v % 10 }
    [.snap, .ins 1 1, .snap, .ins 2 1, .snap, .ins 3 1, .snap, .get 1, .snap, .ins 4 2, .snap,
     .ins 5 7, .snap, .ins 1 5, .snap, .has 9, .snap, .get 2, .snap, .ins 6 1, .snap,
     .adv 10, .snap, .ins 7 3, .snap, .invAll, .snap]) = true := by
  decide +kernel

/-- The growing update of that history really exceeds the capacity, and one lookup later the
excess is gone. -/
example :
    let p : Params := { cap := some 3, hasWeigher := true, w := fun _ v => v % 10 }
    (runState p {} [.ins 1 1, .ins 2 1, .ins 1 5]).ws = 6 ∧
    (runState p {} [.ins 1 1, .ins 2 1, .ins 1 5, .has 9]).ws ≤ 3 := by
  decide +kernel

/-- The working-off clause bites: over capacity before a `get`, still over capacity after it,
and no entry gone — rejected (by `workedOffC04`; `boundC04` alone accepts this trace). -/
example :
    let sn : Snap :=
      { ec := 2, ws := 6,
        entries := [{ key := 1, val := 5, weight := 5, la := none, lm := none, aoOk := true, woOk := true },
                    { key := 2, val := 1, weight := 1, la := none, lm := none, aoOk := true, woOk := true }],
        prob := [], wo := [], skOn := false, skSize := 0, skSample := 0, skLen := 0, skCrc := 0,
        freqs := [] }
    let t : Spec.Trace := [(.snap, .snap sn), (.get 2, .val (some 1)), (.snap, .snap sn)]
    Spec.boundC04 3 t = true ∧ Spec.workedOffC04 3 Gen.UNSYNC_EVICTION_BATCH_SIZE t = false ∧
      Spec.oracleC04 .unsync (some 3) t = false := by
  decide +kernel

/-- A model trace with a growing update (weight 1 → 5, capacity 3) followed by lookups: the
excess is there at the snapshot before the lookup (weight 6) and gone after it (the LRU
resident of weight 1 does not cover the excess of 3, so the heavy one leaves too); accepted. -/
example : Spec.workedOffC04 3 Gen.UNSYNC_EVICTION_BATCH_SIZE (Unsync.trace
    { cap := some 3, hasWeigher := true, w := fun _ v => v % 10 }
    [.ins 1 1, .ins 2 1, .ins 1 5, .snap, .get 2, .snap, .has 1, .snap]) = true ∧
    (Unsync.trace { cap := some 3, hasWeigher := true, w := fun _ v => v % 10 }
      [.ins 1 1, .ins 2 1, .ins 1 5, .snap, .get 2, .snap]).map
      (fun oo => match oo.2 with
        | .snap sn => Spec.snapWeight sn
        | _ => 0) = [0, 0, 0, 6, 0, 0] := by
  decide +kernel

/-- The oracle is not vacuous: it rejects a trace in which a fresh insert takes the residents
above the capacity. -/
example : Spec.oracleC04 .unsync (some 3)
    [(.snap, .snap { ec := 0, ws := 0, entries := [], prob := [], wo := [], skOn := false,
                     skSize := 0, skSample := 0, skLen := 0, skCrc := 0, freqs := [] }),
     (.ins 1 5, .ok),
     (.snap, .snap { ec := 1, ws := 5,
                     entries := [{ key := 1, val := 5, weight := 5, la := none, lm := none,
                                   aoOk := true, woOk := true }],
                     prob := [], wo := [], skOn := false,
                     skSize := 0, skSample := 0, skLen := 0, skCrc := 0, freqs := [] })] = false := by
  decide

end Props
end MiniMoka

#print axioms MiniMoka.Props.C04_unsync_bound_preserved
#print axioms MiniMoka.Props.C04_unsync_bound_preserved_residents
#print axioms MiniMoka.Props.C04_unsync_oversized_never_retained
#print axioms MiniMoka.Props.C04_unsync_excess_worked_off
#print axioms MiniMoka.Props.C04_unsync_excess_gone_after
#print axioms MiniMoka.Props.C04_unsync_worked_off
#print axioms MiniMoka.Props.C04_unsync_bound
#print axioms MiniMoka.Props.C04_unsync
