/-
  Model of `unsync::Cache` (src/unsync/cache.rs, src/unsync/deques.rs, src/unsync.rs).

  One function per Rust method.  The two intrusive lists are lists of nodes with
  identities (`id`), entries hold node ids exactly like the `Option<NonNull<..>>`
  fields of `EntryInfo`; a node that is in neither list has been freed.  `expect`,
  `unwrap`, `unreachable!`, the "not a member" panics and overflow-checked counter
  arithmetic set the sticky `fault` field.
-/
import MiniMoka.Types

namespace MiniMoka
namespace Unsync

structure AoNode where
  id : Nat
  key : Nat
  hash : UInt64
  ts : Option Nat
  deriving Repr, Inhabited

structure WoNode where
  id : Nat
  key : Nat
  ts : Option Nat
  deriving Repr, Inhabited

structure UEntry where
  val : Nat
  weight : Nat
  ao : Option Nat := none
  wo : Option Nat := none
  deriving Repr, Inhabited

structure UState where
  map : List (Nat × UEntry) := []
  prob : List AoNode := []
  wo : List WoNode := []
  ec : Nat := 0
  ws : Nat := 0
  sk : Sketch := {}
  skOn : Bool := false
  now : Nat := 0
  nextId : Nat := 0
  fault : Option Fault := none
  deriving Repr, Inhabited

def UState.fail (s : UState) (f : Fault) : UState :=
  if s.fault.isSome then s else { s with fault := some f }

/-! ### list helpers (nodes addressed by id) -/

def findAo : List AoNode → Nat → Option AoNode
  | [], _ => none
  | n :: rest, id => if n.id = id then some n else findAo rest id

def eraseAo : List AoNode → Nat → List AoNode
  | [], _ => []
  | n :: rest, id => if n.id = id then rest else n :: eraseAo rest id

def findWo : List WoNode → Nat → Option WoNode
  | [], _ => none
  | n :: rest, id => if n.id = id then some n else findWo rest id

def eraseWo : List WoNode → Nat → List WoNode
  | [], _ => []
  | n :: rest, id => if n.id = id then rest else n :: eraseWo rest id

def setTsAo : List AoNode → Nat → Nat → List AoNode
  | [], _, _ => []
  | n :: rest, id, t => if n.id = id then { n with ts := some t } :: rest else n :: setTsAo rest id t

def setTsWo : List WoNode → Nat → Nat → List WoNode
  | [], _, _ => []
  | n :: rest, id, t => if n.id = id then { n with ts := some t } :: rest else n :: setTsWo rest id t

/-- `Deque::move_to_back` for a node that is in the list. -/
def moveToBackAo (l : List AoNode) (id : Nat) : List AoNode :=
  match findAo l id with
  | none => l
  | some n => eraseAo l id ++ [n]

def moveToBackWo (l : List WoNode) (id : Nat) : List WoNode :=
  match findWo l id with
  | none => l
  | some n => eraseWo l id ++ [n]

/-! ### deques.rs -/

/-- `Deques::unlink_ao(&mut entry)` for an entry already taken out of the map:
`unlink_node_ao_from_deque` frees the node, or panics if it is not a member. -/
def unlinkAo (s : UState) (e : UEntry) : UState :=
  match e.ao with
  | none => s
  | some id =>
    match findAo s.prob id with
    | some _ => { s with prob := eraseAo s.prob id }
    | none => s.fail .notMember

/-- `Deques::unlink_wo(deq, &mut entry)`. -/
def unlinkWo (s : UState) (e : UEntry) : UState :=
  match e.wo with
  | none => s
  | some id =>
    match findWo s.wo id with
    | some _ => { s with wo := eraseWo s.wo id }
    | none => s.fail .notMember

/-- `Deques::move_to_back_ao(&entry)`: `unreachable!()` when the node is not in its list. -/
def moveToBackAoE (s : UState) (e : UEntry) : UState :=
  match e.ao with
  | none => s
  | some id =>
    match findAo s.prob id with
    | some _ => { s with prob := moveToBackAo s.prob id }
    | none => s.fail .unreachable

/-- `Deques::move_to_back_wo(&entry)`: `unwrap()` on the node pointer. -/
def moveToBackWoE (s : UState) (e : UEntry) : UState :=
  match e.wo with
  | none => s.fail .expect
  | some id =>
    match findWo s.wo id with
    | some _ => { s with wo := moveToBackWo s.wo id }
    | none => s

/-! ### AccessTime of an entry: the timestamps live in the entry's list nodes -/

def entryLa (s : UState) (e : UEntry) : Option Nat :=
  match e.ao with
  | none => none
  | some id => (findAo s.prob id).bind (·.ts)

def entryLm (s : UState) (e : UEntry) : Option Nat :=
  match e.wo with
  | none => none
  | some id => (findWo s.wo id).bind (·.ts)

def isExpiredEntry (p : Params) (s : UState) (e : UEntry) (now : Nat) : Bool :=
  expiredAt p.ttl (entryLm s e) now || expiredAt p.tti (entryLa s e) now

/-- Take the entry `e` of key `k` out of the cache: `cache.remove(k)` followed by
`unlink_ao` and `unlink_wo` on the removed entry. -/
def takeOut (s : UState) (k : Nat) (e : UEntry) : UState :=
  unlinkWo (unlinkAo { s with map := AL.erase s.map k } e) e

/-! ### counters -/

/-- `self.entry_count -= n` (overflow-checked in a debug build). -/
def subEc (s : UState) (n : Nat) : UState :=
  if s.ec < n then s.fail .overflow else { s with ec := s.ec - n }

/-! ### eviction -/

/-- `remove_expired_wo(batch, now)`; returns the state and `(count, weight)`. -/
def removeExpiredWo (p : Params) : Nat → UState → Nat → Nat → UState × Nat × Nat
  | 0, s, c, w => (s, c, w)
  | fuel + 1, s, c, w =>
    match s.wo with
    | [] => (s, c, w)
    | n :: rest =>
      if expiredAt p.ttl n.ts s.now then
        match AL.get? s.map n.key with
        | some e =>
          removeExpiredWo p fuel (takeOut s n.key e) (c + 1) (if p.q.d4 then w - e.weight else w + e.weight)
        | none => removeExpiredWo p fuel { s with wo := rest } c w
      else (s, c, w)

/-- `remove_expired_ao("probation", …)`. -/
def removeExpiredAo (p : Params) : Nat → UState → Nat → Nat → UState × Nat × Nat
  | 0, s, c, w => (s, c, w)
  | fuel + 1, s, c, w =>
    match s.prob with
    | [] => (s, c, w)
    | n :: rest =>
      if expiredAt p.tti n.ts s.now then
        match AL.get? s.map n.key with
        | some e =>
          removeExpiredAo p fuel (takeOut s n.key e) (c + 1) (w + e.weight)
        | none => removeExpiredAo p fuel { s with prob := rest } c w
      else (s, c, w)

def EVICTION_BATCH_SIZE : Nat := Gen.UNSYNC_EVICTION_BATCH_SIZE

/-- `evict_expired(now)`. -/
def evictExpired (p : Params) (s : UState) : UState :=
  let s :=
    if p.ttl.isSome then
      let (s1, c, w) := removeExpiredWo p EVICTION_BATCH_SIZE s 0 0
      let s2 := subEc s1 c
      { s2 with ws := s2.ws - w }
    else s
  if p.tti.isSome then
    let (s1, c, w) := removeExpiredAo p EVICTION_BATCH_SIZE s 0 0
    let s2 := subEc s1 c
    { s2 with ws := s2.ws - w }
  else s

/-- `evict_expired_if_needed()`, state only; the `Option<Instant>` it returns (the clock reading
taken when an expiry is configured) is `opTs` below. -/
def evictExpiredIfNeeded (p : Params) (s : UState) : UState :=
  if p.hasExpiry then evictExpired p s else s

def weightsToEvict (p : Params) (s : UState) : Nat :=
  match p.cap with
  | some limit => s.ws - limit
  | none => 0

def evictLruLoop : Nat → UState → Nat → Nat → Nat → UState × Nat × Nat
  | 0, s, _, c, w => (s, c, w)
  | fuel + 1, s, wte, c, w =>
    if w ≥ wte then (s, c, w)
    else
      match s.prob with
      | [] => (s, c, w)
      | n :: rest =>
        match AL.get? s.map n.key with
        | some e =>
          evictLruLoop fuel (takeOut s n.key e) wte (c + 1) (w + e.weight)
        | none => evictLruLoop fuel { s with prob := rest } wte c w

/-- `evict_lru_entries()`. -/
def evictLru (p : Params) (s : UState) : UState :=
  let (s1, c, w) := evictLruLoop EVICTION_BATCH_SIZE s (weightsToEvict p s) 0 0
  let s2 := subEc s1 c
  { s2 with ws := s2.ws - w }

/-- Maintenance performed at the start of `get`, `contains_key`, `insert`, `invalidate`. -/
def maintain (p : Params) (s : UState) : UState :=
  evictLru p (evictExpiredIfNeeded p s)

/-! ### sketch enabling -/

def shouldEnableSketch (p : Params) (s : UState) : Bool :=
  if s.skOn then false
  else match p.cap with
    | some maxCap => s.ws ≥ maxCap / 2
    | none => false

def enableSketch (p : Params) (s : UState) : UState :=
  match p.cap with
  | some maxCap =>
    let cap := if !p.hasWeigher then maxCap else p.capF s.ec s.ws maxCap
    { s with sk := s.sk.ensureCapacity (Sketch.sketchCapacity cap), skOn := true }
  | none => s

def maybeEnableSketch (p : Params) (s : UState) : UState :=
  if shouldEnableSketch p s then enableSketch p s else s

/-! ### insert -/

def hasEnoughCapacity (p : Params) (weight ws : Nat) : Bool :=
  match p.cap with
  | some limit => ws + weight ≤ limit
  | none => true

/-- Push the freshly inserted entry `k` at the back of the deque(s). `ts` is the
timestamp taken by the operation (`None` without expiry). -/
def pushCandidate (p : Params) (s : UState) (k : Nat) (hash : UInt64) (ts : Option Nat) : UState :=
  match AL.get? s.map k with
  | none => s.fail .expect
  | some e =>
    let aoId := s.nextId
    let e : UEntry := { e with ao := some aoId }
    let node : AoNode := { id := aoId, key := k, hash := hash, ts := ts }
    let s : UState := { s with prob := s.prob ++ [node], nextId := s.nextId + 1 }
    if p.ttl.isSome then
      let woId := s.nextId
      let wnode : WoNode := { id := woId, key := k, ts := ts }
      { s with wo := s.wo ++ [wnode], nextId := s.nextId + 1,
               map := AL.put s.map k { e with wo := some woId } }
    else { s with map := AL.put s.map k e }

structure Admission where
  fault : Bool := false
  vw : Nat := 0
  vf : Nat := 0
  victims : List AoNode := []
  deriving Repr, Inhabited

/-- The victim-aggregation loop of `admit`, walking the probation list from the LRU end. -/
def admitLoop (p : Params) (s : UState) (cw cf : Nat) : List AoNode → Admission → Admission
  | [], a => a
  | n :: rest, a =>
    if a.vw < cw ∧ ¬ cf < a.vf then
      match AL.get? s.map n.key with
      | none => { a with fault := true }
      | some e =>
        admitLoop p s cw cf rest
          { a with vw := a.vw + p.weigh n.key e.val,
                   vf := a.vf + s.sk.frequency n.hash,
                   victims := a.victims ++ [n] }
    else a

def removeVictims : List AoNode → UState → UState
  | [], s => s
  | v :: rest, s =>
    match AL.get? s.map v.key with
    | none => removeVictims rest (s.fail .expect)
    | some e =>
      removeVictims rest (subEc (takeOut s v.key e) 1)

/-- "The candidate is too big to fit in the cache." -/
def tooBig (p : Params) (weight : Nat) : Bool :=
  match p.cap with
  | some maxCap => decide (weight > maxCap)
  | none => false

/-- The `match Self::admit(..)` part of `handle_insert`: TinyLFU admission against the
LRU victims, or rejection of the candidate. -/
def admitOrReject (p : Params) (s : UState) (k : Nat) (hash : UInt64) (weight : Nat)
    (ts : Option Nat) : UState :=
  let cf := s.sk.frequency hash
  let a := admitLoop p s weight cf s.prob {}
  if a.fault then s.fail .expect
  else if a.vw ≥ weight ∧ cf > a.vf then
    let s := removeVictims a.victims s
    let s := pushCandidate p s k hash ts
    let s := { s with ec := s.ec + 1 }
    let s := { s with ws := s.ws - a.vw }
    let s := { s with ws := s.ws + weight }
    maybeEnableSketch p s
  else { s with map := AL.erase s.map k }

/-- `handle_insert(key, hash, policy_weight, timestamp)`. -/
def handleInsert (p : Params) (s : UState) (k : Nat) (hash : UInt64) (weight : Nat)
    (ts : Option Nat) : UState :=
  if hasEnoughCapacity p weight s.ws then
    let s := pushCandidate p s k hash ts
    let s := { s with ec := s.ec + 1, ws := s.ws + weight }
    maybeEnableSketch p s
  else if tooBig p weight then { s with map := AL.erase s.map k }
  else admitOrReject p s k hash weight ts

/-- `handle_update(key, timestamp, policy_weight, old_entry)`; the new entry is already
in the map. -/
def handleUpdate (p : Params) (s : UState) (k : Nat) (ts : Option Nat) (weight : Nat)
    (old : UEntry) : UState :=
  match AL.get? s.map k with
  | none => s.fail .expect
  | some e =>
    let e := { e with ao := old.ao, wo := old.wo, weight := weight }
    let s := { s with map := AL.put s.map k e }
    let s := match ts with
      | none => s
      | some t =>
        let s := match e.ao with
          | some id => { s with prob := setTsAo s.prob id t }
          | none => s
        match e.wo with
          | some id => { s with wo := setTsWo s.wo id t }
          | none => s
    let s := moveToBackAoE s e
    let s := if p.ttl.isSome then moveToBackWoE s e else s
    let s := { s with ws := s.ws - old.weight }
    { s with ws := s.ws + weight }

def opTs (p : Params) (s : UState) : Option Nat := if p.hasExpiry then some s.now else none

def insert (p : Params) (s : UState) (k v : Nat) : UState :=
  let s := maintain p s
  let ts := opTs p s
  let weight := p.weigh k v
  let entry : UEntry := { val := v, weight := weight }
  match AL.get? s.map k with
  | some old =>
    handleUpdate p { s with map := AL.put s.map k entry } k ts weight old
  | none =>
    handleInsert p { s with map := AL.put s.map k entry } k (p.hash k) weight ts

/-! ### lookups -/

def sketchIncrement (p : Params) (s : UState) (h : UInt64) : UState :=
  match s.sk.increment p.q.d5 h with
  | .ok sk => { s with sk := sk }
  | .error f => s.fail f

/-- `record_hit(deques, entry, ts)`. -/
def recordHit (s : UState) (e : UEntry) (ts : Option Nat) : UState :=
  let s := match ts, e.ao with
    | some t, some id => { s with prob := setTsAo s.prob id t }
    | _, _ => s
  moveToBackAoE s e

def get (p : Params) (s : UState) (k : Nat) : UState × Option Nat :=
  let s := maintain p s
  let ts := opTs p s
  let s := sketchIncrement p s (p.hash k)
  match AL.get? s.map k with
  | none => (s, none)
  | some e =>
    match ts with
    | none => (recordHit s e none, some e.val)
    | some t =>
      if isExpiredEntry p s e t then (s, none)
      else (recordHit s e ts, some e.val)

def containsKey (p : Params) (s : UState) (k : Nat) : UState × Bool :=
  let s := maintain p s
  match AL.get? s.map k with
  | none => (s, false)
  | some e =>
    if p.hasExpiry then (s, !isExpiredEntry p s e s.now) else (s, true)

/-- `iter()` (`&self`): every map entry that `is_expired_entry` does not filter out. -/
def iter (p : Params) (s : UState) : List (Nat × Nat) :=
  (s.map.filter (fun kv => !isExpiredEntry p s kv.2 s.now)).map (fun kv => (kv.1, kv.2.val))

/-! ### invalidation -/

def invalidate (p : Params) (s : UState) (k : Nat) : UState :=
  let s := maintain p s
  match AL.get? s.map k with
  | none => s
  | some e =>
    let s := takeOut s k e
    let s := if p.q.d1 then s else subEc s 1
    { s with ws := s.ws - e.weight }

def invalidateAll (p : Params) (s : UState) : UState :=
  { s with map := [], prob := [], wo := [], ws := 0, ec := if p.q.d2 then s.ec else 0 }

def invalidateKeys (p : Params) : List Nat → UState → Nat → Nat → UState × Nat × Nat
  | [], s, c, w => (s, c, w)
  | k :: rest, s, c, w =>
    match AL.get? s.map k with
    | none => invalidateKeys p rest s c w
    | some e =>
      invalidateKeys p rest (takeOut s k e) (c + 1) (if p.q.d3 then w - e.weight else w + e.weight)

def invalidateEntriesIf (p : Params) (s : UState) (pr : Pred) : UState :=
  let keys := (s.map.filter (fun kv => pr.eval kv.1 kv.2.val)).map (·.1)
  let (s, c, w) := invalidateKeys p keys s 0 0
  let s := if p.q.d3 then s else subEc s c
  { s with ws := s.ws - w }

/-! ### snapshot and step -/

def entryView (s : UState) (kv : Nat × UEntry) : EntryView :=
  let e := kv.2
  { key := kv.1, val := e.val, weight := e.weight,
    la := entryLa s e, lm := entryLm s e,
    aoOk := match e.ao with
      | some id => (match findAo s.prob id with | some n => n.key == kv.1 | none => false)
      | none => false,
    woOk := match e.wo with
      | some id => (match findWo s.wo id with | some n => n.key == kv.1 | none => false)
      | none => true }

def snapshot (p : Params) (s : UState) : Snap :=
  { ec := s.ec, ws := s.ws,
    entries := sortBy (·.key) (s.map.map (entryView s)),
    prob := s.prob.map (fun n =>
      { key := n.key, ts := n.ts,
        current := match AL.get? s.map n.key with
          | some e => e.ao == some n.id
          | none => false }),
    wo := s.wo.map (fun n =>
      { key := n.key, ts := n.ts,
        current := match AL.get? s.map n.key with
          | some e => e.wo == some n.id
          | none => false }),
    skOn := s.skOn, skSize := s.sk.size, skSample := s.sk.sampleSize,
    skLen := s.sk.table.size, skCrc := s.sk.crc,
    freqs := sortBy (·.1) (s.map.map (fun kv => (kv.1, s.sk.frequency (p.hash kv.1)))),
    now := s.now,
    -- one key object per key in use (the `Rc<K>` shared by the map key and both nodes), one
    -- value object per map entry
    liveK := countDistinct (AL.keys s.map ++ s.prob.map (·.key) ++ s.wo.map (·.key)),
    liveV := s.map.length }

def step (p : Params) (s : UState) (op : Op) : UState × Obs :=
  if s.fault.isSome then (s, .badOp)
  else
    let r : UState × Obs := match op with
      | .ins k v => (insert p s k v, .ok)
      | .get k => let (s', v) := get p s k; (s', .val v)
      | .has k => let (s', b) := containsKey p s k; (s', .bool b)
      | .iter => (s, .iter (sortBy (·.1) (iter p s)))
      | .inv k => (invalidate p s k, .ok)
      | .invAll => (invalidateAll p s, .ok)
      | .invIf pr => (invalidateEntriesIf p s pr, .ok)
      | .sync => (s, .badOp)
      | .adv d => ({ s with now := s.now + d }, .ok)
      | .snap => (s, .snap (snapshot p s))
      | .freq k => (s, .freq (s.sk.frequency (p.hash k)))
    match r.1.fault with
    | some f => (r.1, .panic f)
    | none => r

/-- Run a history from a state, collecting `(op, observation)` pairs. -/
def run (p : Params) : UState → List Op → List (Op × Obs)
  | _, [] => []
  | s, op :: rest =>
    let (s', o) := step p s op
    (op, o) :: run p s' rest

def trace (p : Params) (h : List Op) : List (Op × Obs) := run p {} h

end Unsync
end MiniMoka
