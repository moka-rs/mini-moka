/-
  Model **R**: per-key coherence of the concurrent cache (`mini_moka::sync::Cache`)
  under every interleaving, any number of threads and operations.

  What is modelled.  Every public call touches the central `DashMap` in exactly one
  atomic per-key step:
    * `insert`      : `cache.entry(k).and_modify(..).or_insert_with(..)`  (writes the value)
    * `invalidate`  : `cache.remove(k)`
    * `get`         : `cache.get(k)`                                        (reads)
  and everything else a call does (queueing read/write ops, running maintenance) happens
  before or after that step.  Maintenance (`handle_upsert` rejection, `evict_lru_entries`,
  `remove_expired_ao/wo`), which any thread may run at any time, only ever *removes* keys
  (`remove` / `remove_if`) and never writes a value: it is the `daemon k` event.
  That DashMap's per-key operations are atomic is the trusted assumption; here it is the
  definition of a step.

  Remarks.
  * `invalidate_all` is outside R: it only moves a watermark that makes lookups ignore
    older entries (treated with C07 on the sequential models).
  * Filtered lookups.  `get_with_hash` reads the entry in its map step and then returns
    `None` if the entry is expired or older than the `invalidate_all` watermark, without
    touching the map.  With time-to-idle such an entry can become visible again (a queued
    read that is applied later moves `last_accessed` forward), so this is *not* a deletion.
    R therefore lets a `get` respond `none` whatever its map step read: `respond g none` is
    always allowed.  This makes R strictly more permissive than "respond with the value
    read"; every theorem below holds for the larger set of executions.

  This file is import-free (core Lean) apart from `MiniMoka.Basic`; it is linked into the
  native driver.  It contains (1) the model, (2) the trace vocabulary used by the theorems
  of `Props/C02.lean`, (3) the executable acceptor `acceptR` for recorded histories, (4) the
  history recorded from an execution, `historyOf`.
-/
import MiniMoka.Basic

namespace MiniMoka
namespace ConcR

abbrev Key := Nat
abbrev Val := Nat
abbrev Tid := Nat
abbrev Oid := Nat

/-! ## 1. The model -/

/-- Public operations of R. -/
inductive Op where
  | ins (k : Key) (v : Val)
  | del (k : Key)
  | get (k : Key)
  deriving DecidableEq, Repr, Inhabited

def Op.key : Op → Key
  | .ins k _ => k
  | .del k => k
  | .get k => k

/-- `ins` and `del` write the map, `get` only reads. -/
def Op.isWrite : Op → Bool
  | .get _ => false
  | _ => true

/-- Events of an execution.  `respond o r` carries the returned value `r` so that a trace
is self-describing; `step` rejects a response whose value is neither the one fixed at the
operation's map step (`none` for `ins`/`del`) nor `none` (see the remark on filtered
lookups at the top of this file). -/
inductive Ev where
  | invoke (t : Tid) (o : Oid) (op : Op)
  | mapStep (o : Oid)
  | respond (o : Oid) (r : Option Val)
  | daemon (k : Key)
  deriving DecidableEq, Repr, Inhabited

inductive Phase where
  | invoked | stepped | done
  deriving DecidableEq, Repr, Inhabited

/-- Bookkeeping for one operation instance. -/
structure OpRec where
  tid : Tid
  op : Op
  phase : Phase
  ret : Option Val
  deriving DecidableEq, Repr, Inhabited

/-- Shared map as an association list with at most one binding per key. -/
abbrev KV := List (Nat × Val)

def lookup (m : KV) (k : Key) : Option Val := AL.get? m k

def remove (m : KV) (k : Key) : KV := m.filter (fun p => p.1 ≠ k)

def store (m : KV) (k : Key) (v : Val) : KV := (k, v) :: remove m k

structure State where
  map : KV
  ops : List (Nat × OpRec)
  deriving Repr, Inhabited

def State.init : State := ⟨[], []⟩

/-- Thread `t` has no operation in flight. -/
def threadIdle (s : State) (t : Tid) : Bool :=
  s.ops.all (fun p => decide (p.2.tid ≠ t ∨ p.2.phase = Phase.done))

/-- One event.  `none` = the event is not allowed here (ill-formed execution). -/
def step (s : State) : Ev → Option State
  | .invoke t o op =>
    if (AL.get? s.ops o).isNone ∧ threadIdle s t = true then
      some { s with ops := AL.put s.ops o ⟨t, op, .invoked, none⟩ }
    else none
  | .mapStep o =>
    match AL.get? s.ops o with
    | none => none
    | some r =>
      if r.phase = .invoked then
        match r.op with
        | .ins k v =>
          some { map := store s.map k v, ops := AL.put s.ops o { r with phase := .stepped } }
        | .del k =>
          some { map := remove s.map k, ops := AL.put s.ops o { r with phase := .stepped } }
        | .get k =>
          some { map := s.map,
                 ops := AL.put s.ops o { r with phase := .stepped, ret := lookup s.map k } }
      else none
  | .respond o x =>
    match AL.get? s.ops o with
    | none => none
    | some r =>
      if r.phase = .stepped ∧ (x = r.ret ∨ x = none) then
        some { s with ops := AL.put s.ops o { r with phase := .done } }
      else none
  | .daemon k => some { s with map := remove s.map k }

/-- The semantics: a fold of `step` over the event list. -/
def runFrom (s : State) : List Ev → Option State
  | [] => some s
  | e :: es =>
    match step s e with
    | some s' => runFrom s' es
    | none => none

def run (evs : List Ev) : Option State := runFrom State.init evs

/-- Well-formed executions: per operation `invoke < mapStep < respond`, each at most once,
a thread has at most one operation in flight, responses carry the fixed value (or `none`). -/
def WF (evs : List Ev) : Prop := (run evs).isSome = true

instance (evs : List Ev) : Decidable (WF evs) := by unfold WF; infer_instance

/-! ## 2. Trace vocabulary (pure functions of the event list) -/

/-- Owner and operation of instance `o`: its (first) invocation in the trace. -/
def opOf : List Ev → Oid → Option (Tid × Op)
  | [], _ => none
  | .invoke t o' op :: es, o => if o' = o then some (t, op) else opOf es o
  | _ :: es, o => opOf es o

/-- The write an event performs on the map: `(k, some v)` stores, `(k, none)` deletes. -/
def effect (evs : List Ev) : Ev → Option (Key × Option Val)
  | .daemon k => some (k, none)
  | .mapStep o =>
    match opOf evs o with
    | some (_, .ins k v) => some (k, some v)
    | some (_, .del k) => some (k, none)
    | _ => none
  | _ => none

/-- Event `e` writes key `k` (map step of an `ins k _` / `del k`, or `daemon k`). -/
def writesKey (evs : List Ev) (e : Ev) (k : Key) : Bool :=
  match effect evs e with
  | some (k', _) => k' == k
  | none => false

/-- No event at a position in `[lo, hi)` writes key `k`. -/
def NoWriteIn (evs : List Ev) (k : Key) (lo hi : Nat) : Prop :=
  ∀ m, lo ≤ m → m < hi → ∀ e, evs[m]? = some e → writesKey evs e k = false

/-- Every invoked operation has responded (quiescence). -/
def complete (evs : List Ev) : Bool :=
  evs.all fun e =>
    match e with
    | .invoke _ o _ =>
      evs.any fun e' => match e' with
        | .respond o' _ => o' == o
        | _ => false
    | _ => true

/-! ## 3. Executable acceptor for recorded concurrent histories

A recorded history is a list of *completed* operations.  The two stamps of an operation are
values of one global counter that is incremented at every reading, taken at invocation and
at response, so `a.resStamp < b.invStamp` means "`a` completed before `b` began".

`acceptR h` decides whether some well-formed R-execution explains `h`: whether the map
step of every operation can be placed between its stamps (plus `daemon` steps anywhere) so
that every `get` returning a value returns what the map holds at its step.  Keys are
independent, so the question is decided per key.  For one key, a placement exists iff there
is a linear order `L` of that key's operations such that
  * `L` respects real time: if `a` is before `b` in `L` then `a.invStamp < b.resStamp`;
  * replaying `L` on a single cell (`ins` stores, `del` clears), every `get` returning
    `some v` finds `some v`.
A `get` returning `none` imposes no constraint and does not change the cell (filtered
lookup: R lets any get respond `none`); `daemon` steps only ever remove values and so
never help to explain a history, hence the replay uses none.

Soundness does not depend on the search: `acceptR` re-checks the order found by the search
with the independent checker `checkLin`. -/

/-- One completed operation of a recorded history. -/
structure HOp where
  thread : Tid
  invStamp : Nat
  resStamp : Nat
  op : Op
  /-- value returned by a `get`; ignored for `ins`/`del` -/
  result : Option Val
  deriving DecidableEq, Repr, Inhabited

/-- Effect of linearizing `a` on the single cell of its key: `none` = not allowed here. -/
def applyOp (cur : Option Val) (a : HOp) : Option (Option Val) :=
  match a.op, a.result with
  | .ins _ v, _ => some (some v)
  | .del _, _ => some none
  | .get _, none => some cur
  | .get _, some v => if cur = some v then some cur else none

/-- Replay a linear order of one key's operations on the cell. -/
def replay (cur : Option Val) : List HOp → Bool
  | [] => true
  | a :: l =>
    match applyOp cur a with
    | some c => replay c l
    | none => false

/-- `L` respects real time: whoever comes first was invoked before the other responded. -/
def orderOk : List HOp → Bool
  | [] => true
  | a :: l => l.all (fun b => decide (a.invStamp < b.resStamp)) && orderOk l

/-- Independent certificate checker: `L` is a linearization of `ops` (all on one key). -/
def checkLin (ops L : List HOp) : Bool :=
  L.isPerm ops && orderOk L && replay none L

/-- Search node: operations not yet linearized (a sublist of the key's operations, in the
original order, hence canonical), the cell, and the order chosen so far (reversed). -/
structure Node where
  rem : List HOp
  cur : Option Val
  path : List HOp
  deriving Repr

/-- Every way of picking one element, with the rest in the original order. -/
def picks {α : Type} : List α → List (α × List α)
  | [] => []
  | a :: r => (a, r) :: (picks r).map (fun p => (p.1, a :: p.2))

/-- `a` may be linearized next: everything still pending responds after `a`'s invocation. -/
def enabled (a : HOp) (rest : List HOp) : Bool :=
  rest.all (fun b => decide (a.invStamp < b.resStamp))

def expand (nd : Node) : List Node :=
  (picks nd.rem).filterMap fun p =>
    if enabled p.1 p.2 then
      (applyOp nd.cur p.1).map (fun c => ⟨p.2, c, p.1 :: nd.path⟩)
    else none

def sameState (x y : Node) : Bool := x.cur == y.cur && x.rem == y.rem

def insertNode (acc : List Node) (x : Node) : List Node :=
  if acc.any (sameState x) then acc else x :: acc

def dedupNodes (l : List Node) : List Node := l.foldl insertNode []

/-- Breadth-first, one linearized operation per level, states merged per level. -/
def levels : Nat → List Node → List Node
  | 0, l => l
  | d + 1, l => levels d (dedupNodes (l.flatMap expand))

def searchKey (ops : List HOp) : Option (List HOp) :=
  match levels ops.length [⟨ops, none, []⟩] with
  | nd :: _ => some nd.path.reverse
  | [] => none

def acceptKey (ops : List HOp) : Bool :=
  match searchKey ops with
  | some L => checkLin ops L
  | none => false

def dedupKeys : List Key → List Key
  | [] => []
  | k :: r => if r.contains k then dedupKeys r else k :: dedupKeys r

def keysOf (h : List HOp) : List Key := dedupKeys (h.map (fun a => a.op.key))

/-- Operations of one thread do not overlap. -/
def threadsOk : List HOp → Bool
  | [] => true
  | a :: r =>
    r.all (fun b => a.thread != b.thread || decide (a.resStamp < b.invStamp)
      || decide (b.resStamp < a.invStamp)) && threadsOk r

/-- Well-formed record: every operation is invoked before it responds; threads are
sequential. -/
def wfHistory (h : List HOp) : Bool :=
  h.all (fun a => decide (a.invStamp < a.resStamp)) && threadsOk h

/-- The acceptor. -/
def acceptR (h : List HOp) : Bool :=
  wfHistory h && (keysOf h).all (fun k => acceptKey (h.filter (fun a => a.op.key == k)))

/-! ## 4. The history recorded from an execution (used to state `acceptR_complete`)

Stamps are event positions: the global stamp counter of the recorder ticks once per
invocation / response, and positions are a strictly monotone image of it; `acceptR` only
compares stamps. -/

/-- First position at which `p` yields a value, with that value. -/
def firstPos {β : Type} (p : Ev → Option β) : List Ev → Option (Nat × β)
  | [] => none
  | e :: es =>
    match p e with
    | some b => some (0, b)
    | none => (firstPos p es).map (fun x => (x.1 + 1, x.2))

/-- Position, thread and operation of the invocation of `o`. -/
def invOf (evs : List Ev) (o : Oid) : Option (Nat × (Tid × Op)) :=
  firstPos (fun e => match e with
    | .invoke t o' op => if o' = o then some (t, op) else none
    | _ => none) evs

/-- Position and value of the response of `o`. -/
def resOf (evs : List Ev) (o : Oid) : Option (Nat × Option Val) :=
  firstPos (fun e => match e with
    | .respond o' r => if o' = o then some r else none
    | _ => none) evs

/-- The record of the completed operation `o`. -/
def hopOf (evs : List Ev) (o : Oid) : Option HOp :=
  match invOf evs o, resOf evs o with
  | some (q, t, op), some (a, r) => some ⟨t, q, a, op, r⟩
  | _, _ => none

/-- Instances in the order of their responses / of their map steps. -/
def respOids : List Ev → List Oid
  | [] => []
  | .respond o _ :: es => o :: respOids es
  | _ :: es => respOids es

def stepOids : List Ev → List Oid
  | [] => []
  | .mapStep o :: es => o :: stepOids es
  | _ :: es => stepOids es

/-- The recorded history of an execution: its completed operations, in response order. -/
def historyOf (evs : List Ev) : List HOp := (respOids evs).filterMap (hopOf evs)

end ConcR
end MiniMoka
