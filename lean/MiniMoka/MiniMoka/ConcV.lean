/-
  Model **V**: the `invalidate_all` watermark of `mini_moka::sync::Cache` used by any number
  of threads, with `invalidate_all` split into its two memory accesses.

  What is modelled.  `sync::Cache::invalidate_all()` is NOT one atomic step.  It
    (1) reads the clock                                   (`invRead t`),
    (2) stores the reading into the shared `valid_after`  (`invStore t`);
  a lookup hides every entry whose timestamp is `< valid_after`.  Between (1) and (2) a thread
  *holds* its reading (`held`), and every other thread may take any number of steps.

  The parameter `mono : Bool` selects the store of step (2):
    * `mono = true`  : the repaired code, `valid_after := max valid_after reading`;
    * `mono = false` : the code before the repair of defect D12, a plain store
                       `valid_after := reading`.
  (Opposite sense in model `ConcT`: there `mono = true` is the seeded fault.)
  With the plain store, of two racing calls the one that read the clock first can store last
  and move the watermark BACKWARDS, so that an entry hidden by a call that has already returned
  becomes readable again (`Props/ConcV.lean`, `ConcV_counterexample_D12`).

  State: the clock, the watermark, per key the value and the timestamp of its latest insert,
  the readings held by threads inside `invalidate_all`, and a ghost log `completed` of the
  readings of the calls that have returned (most recent first).

  Steps (`step mono s ev : Option State`, `none` = not enabled):
   * `tick d`       : the clock advances by `d`;
   * `insert t k v` : atomic, the entry of `k` becomes `(v, now)`;
   * `invRead t`    : thread `t` holds nothing: it holds `now`;
   * `invStore t`   : thread `t` holds `r`: the watermark is updated with `r` (see `mono`),
                      `r` is logged in `completed`, `t` holds nothing;
   * `get t k`      : no state change; what it returns is `visible s k`.

  NOT modelled: everything else of the cache (capacity, eviction, expiry, queues, maintenance):
  those are the subject of `Sync` / `ConcS`, where `invalidate_all` is one atomic step
  `va := some now`; `Props/ConcV.lean` shows that this atomic step is exactly `invRead t ;
  invStore t` run back to back.  Memory ordering: all steps are sequentially consistent.

  This file is import-free (core Lean) apart from `MiniMoka.Basic`.
-/
import MiniMoka.Basic

namespace MiniMoka
namespace ConcV

abbrev Tid := Nat

structure State where
  now : Nat := 0
  /-- the watermark `valid_after` (`none` = never set) -/
  va : Option Nat := none
  /-- key ↦ (value, write time); at most one binding per key (`AL.put`) -/
  entries : List (Nat × Nat × Nat) := []
  /-- thread ↦ the clock reading it took in `invalidate_all` and has not stored yet -/
  held : List (Tid × Nat) := []
  /-- ghost: the readings of the `invalidate_all` calls that have returned, latest first -/
  completed : List Nat := []
  deriving DecidableEq, Repr, Inhabited

inductive Ev where
  | tick (d : Nat)
  | insert (t : Tid) (k v : Nat)
  | invRead (t : Tid)
  | invStore (t : Tid)
  | get (t : Tid) (k : Nat)
  deriving DecidableEq, Repr, Inhabited

/-- The order on watermarks: `none` (never set) is the least element. -/
def vaLe : Option Nat → Option Nat → Prop
  | none, _ => True
  | some _, none => False
  | some a, some b => a ≤ b

instance : (a b : Option Nat) → Decidable (vaLe a b)
  | none, _ => isTrue trivial
  | some _, none => isFalse (fun h => h)
  | some a, some b => inferInstanceAs (Decidable (a ≤ b))

/-- The monotone store of the repaired code: `valid_after := max valid_after r`. -/
def maxVa (va : Option Nat) (r : Nat) : Option Nat :=
  match va with
  | none => some r
  | some w => some (max w r)

/-- Step (2) of `invalidate_all`. -/
def storeVa (mono : Bool) (va : Option Nat) (r : Nat) : Option Nat :=
  if mono then maxVa va r else some r

/-- A lookup ignores an entry written strictly before the watermark. -/
def hidden (va : Option Nat) (ts : Nat) : Bool :=
  match va with
  | none => false
  | some w => decide (ts < w)

/-- The entry of `k`: value and write time of its latest insert. -/
def entry (s : State) (k : Nat) : Option (Nat × Nat) := AL.get? s.entries k

/-- What `get k` returns. -/
def visible (s : State) (k : Nat) : Option Nat :=
  match entry s k with
  | none => none
  | some (v, ts) => if hidden s.va ts then none else some v

def step (mono : Bool) (s : State) : Ev → Option State
  | .tick d => some { s with now := s.now + d }
  | .insert _ k v => some { s with entries := AL.put s.entries k (v, s.now) }
  | .invRead t =>
    match AL.get? s.held t with
    | some _ => none
    | none => some { s with held := AL.put s.held t s.now }
  | .invStore t =>
    match AL.get? s.held t with
    | none => none
    | some r =>
      some { s with va := storeVa mono s.va r, completed := r :: s.completed,
                    held := AL.erase s.held t }
  | .get _ _ => some s

/-- A finite path; `none` if some step is not enabled. -/
def runEvs (mono : Bool) : State → List Ev → Option State
  | s, [] => some s
  | s, e :: rest =>
    match step mono s e with
    | some s' => runEvs mono s' rest
    | none => none

/-- The states reachable from the empty cache by any interleaving of any number of threads. -/
inductive Reach (mono : Bool) : State → Prop where
  | init : Reach mono {}
  | step {s s' : State} (e : Ev) : Reach mono s → step mono s e = some s' → Reach mono s'

end ConcV
end MiniMoka
