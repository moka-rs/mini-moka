/-
  Word-level executable model of `src/common/frequency_sketch.rs`.

  The table is an array of machine words (`UInt64`) and every bit manipulation is done by the
  functions *generated from the Rust text* (`Gen/Logic/SketchBits.lean`: `counter_of_word`,
  `inc_offset`, `inc_mask`, `inc_room`, `inc_delta`, `odd_counters`, `halved_word`;
  `Gen/Logic/SketchArith.lean`: `index_of`, `reset_size`, `age_now`, `table_size`,
  `sample_size`).  The functions below follow the Rust functions statement by statement.

  `abs : SketchW → Sketch` reads every word as a natural number; `Props/C14Bits.lean` proves
  that this model refines the arithmetic model `MiniMoka/Sketch.lean` (faults included).

  As in `Sketch.lean`: scalar fields are `Nat` (`u32` in the code; the overflow-checked
  additions/subtractions are explicit faults), `table[index]` is `getD index 0` (indices are in
  bounds for well-formed states, `Sketch.indexOf_lt`).
-/
import MiniMoka.Sketch
import MiniMoka.Gen.Logic.SketchArith
import MiniMoka.Gen.Logic.SketchBits

namespace MiniMoka

structure SketchW where
  sampleSize : Nat := 0
  mask : Nat := 0
  table : Array UInt64 := #[]
  size : Nat := 0
  deriving Repr, Inhabited

namespace SketchW

open Gen.Logic

/-- The abstraction: every machine word read as a natural number. -/
def abs (s : SketchW) : Sketch :=
  { sampleSize := s.sampleSize
    mask := s.mask
    table := s.table.map UInt64.toNat
    size := s.size }

/-- `ensure_capacity` (64-bit target). -/
def ensureCapacityW (s : SketchW) (cap : Nat) : SketchW :=
  let maximum := min cap (2 ^ Gen.SKETCH_MAX_TABLE_POW)
  let tableSize := table_size maximum
  if s.table.size ≥ tableSize then s
  else
    { s with
      table := Array.replicate tableSize 0
      mask := tableSize - 1
      sampleSize := sample_size cap maximum }

/-- `index_of(hash, depth)`: the generated wrapping `u64` expression, `as usize`. -/
def indexOfW (s : SketchW) (hash : UInt64) (depth : Nat) : Nat :=
  (index_of (Sketch.SEED depth) s.mask.toUInt64 hash).toNat

/-- `let start = ((hash & 3) << 2)`. -/
def startW (hash : UInt64) : UInt64 := (hash &&& 3) <<< 2

/-- `frequency(hash)`. -/
def frequencyW (s : SketchW) (hash : UInt64) : Nat :=
  if s.table.size = 0 then 0
  else
    let start := startW hash
    -- `let mut frequency = u8::MAX; for i in 0..4 { … frequency = frequency.min(count) }`
    [0, 1, 2, 3].foldl (fun (frequency : Nat) (i : Nat) =>
      let index := s.indexOfW hash i
      let count := counter_of_word (s.table.getD index 0) start i.toUInt64
      min frequency count.toNat) 255

/-- `increment_at(table_index, counter_index)`. -/
def incrementAtW (t : Array UInt64) (tableIndex : Nat) (counterIndex : UInt64) :
    Array UInt64 × Bool :=
  let offset := inc_offset counterIndex
  let mask := inc_mask offset
  if inc_room (t.getD tableIndex 0) mask then
    (t.setIfInBounds tableIndex (t.getD tableIndex 0 + inc_delta offset), true)
  else (t, false)

/-- The loop of `reset`: one pass that counts the odd counters and halves every word. -/
def resetLoopW (t : Array UInt64) : Nat × Array UInt64 :=
  t.foldl (fun (acc : Nat × Array UInt64) (entry : UInt64) =>
    (acc.1 + odd_counters entry, acc.2.push (halved_word entry))) (0, #[])

/-- `reset()`; faults as in `Sketch.reset false` (`count` leaves `u32`, `size - (count >> 2)`
underflows). -/
def resetW (s : SketchW) : Except Fault SketchW :=
  let r := resetLoopW s.table
  if r.1 > U32_MAX then .error .overflow
  else if s.size < r.1 / 4 then .error .overflow
  else .ok { s with table := r.2, size := reset_size s.size r.1 }

/-- The loop of `increment`: `for i in 0..4 { added |= self.increment_at(index_of(hash, i), start + i) }`. -/
def incrementLoopW (s : SketchW) (hash : UInt64) : Array UInt64 × Bool :=
  let start := startW hash
  [0, 1, 2, 3].foldl (fun (acc : Array UInt64 × Bool) (i : Nat) =>
    let index := s.indexOfW hash i
    let r := incrementAtW acc.1 index (start + i.toUInt64)
    (r.1, acc.2 || r.2)) (s.table, false)

/-- `increment(hash)`. -/
def incrementW (s : SketchW) (hash : UInt64) : Except Fault SketchW :=
  if s.table.size = 0 then .ok s
  else
    let r := incrementLoopW s hash
    if r.2 then
      if s.size + 1 > U32_MAX then .error .overflow
      else
        let s' := { s with table := r.1, size := s.size + 1 }
        if age_now s'.size s'.sampleSize then resetW s' else .ok s'
    else .ok { s with table := r.1 }

/-- Record a sequence of hashes. -/
def runW (s : SketchW) (hs : List UInt64) : Except Fault SketchW :=
  hs.foldlM incrementW s

end SketchW
end MiniMoka
