/-
  Basic definitions shared by all models: association lists with recursively
  defined operations, the fault enumeration, small list helpers.

  Model files import only each other (nothing outside this library, core Lean only) so
  that the driver links as a native executable.
-/

namespace MiniMoka

/-- Classes of internal failure. Each `expect`/`unwrap`/`unreachable!`/`panic!`,
each overflow-checked arithmetic operation and each dereference of a freed list
node in the Rust code maps to one of these. A fault is sticky in the model state. -/
inductive Fault where
  | overflow      -- "attempt to add/subtract with overflow" (debug build)
  | unreachable   -- `unreachable!()`
  | expect        -- `expect(..)` / `unwrap()` on `None`
  | notMember     -- "unlink_node - node is not a member of … deque"
  | useAfterFree  -- dereference of a list node that has been freed
  | hang          -- an operation that does not return (retry loop never leaves)
  | builderTtl    -- documented panic: time_to_live longer than 1000 years
  | builderTti    -- documented panic: time_to_idle longer than 1000 years
  deriving DecidableEq, Repr, Inhabited

def Fault.toString : Fault → String
  | .overflow => "overflow"
  | .unreachable => "unreachable"
  | .expect => "expect"
  | .notMember => "notmember"
  | .useAfterFree => "uaf"
  | .hang => "hang"
  | .builderTtl => "builder-ttl"
  | .builderTti => "builder-tti"

/-- Switches that reproduce, in the model, the behaviour of the unrepaired tree for
the defects D1–D8 and D10 of DESIGN.md §2. All `false` = the current (repaired) code. They
exist so that each defect keeps a machine-checked witness (`…_counterexample`). -/
structure Quirks where
  d1 : Bool := false  -- unsync invalidate does not decrement entry_count
  d2 : Bool := false  -- unsync invalidate_all does not reset entry_count
  d3 : Bool := false  -- unsync invalidate_entries_if frees no weight / count
  d4 : Bool := false  -- unsync TTL purge frees no weight
  d5 : Bool := false  -- sketch reset: (size>>1) - (count>>2)
  d6 : Bool := false  -- sync apply_reads moves last_accessed backwards
  d7 : Bool := false  -- sync maintenance addresses map entries by key only
  d8 : Bool := false  -- sync weight drift (policy_weight written at insert time)
  d10 : Bool := false -- sync: queued op's own weight accounted instead of the current value's
  deriving Repr, Inhabited, DecidableEq

/-! ## Association lists keyed by `Nat` -/

namespace AL

variable {β : Type}

def get? : List (Nat × β) → Nat → Option β
  | [], _ => none
  | (k, v) :: rest, x => if k = x then some v else get? rest x

def erase : List (Nat × β) → Nat → List (Nat × β)
  | [], _ => []
  | (k, v) :: rest, x => if k = x then rest else (k, v) :: erase rest x

/-- Replace the binding of `x` in place if present, otherwise append at the end. -/
def put : List (Nat × β) → Nat → β → List (Nat × β)
  | [], x, b => [(x, b)]
  | (k, v) :: rest, x, b => if k = x then (k, b) :: rest else (k, v) :: put rest x b

def keys : List (Nat × β) → List Nat
  | [] => []
  | (k, _) :: rest => k :: keys rest

def contains (m : List (Nat × β)) (x : Nat) : Bool := (get? m x).isSome

end AL

/-- Insertion sort on naturals-keyed items (used only to canonicalise output). -/
def insertSorted {α : Type} (key : α → Nat) (a : α) : List α → List α
  | [] => [a]
  | b :: rest => if key a ≤ key b then a :: b :: rest else b :: insertSorted key a rest

def sortBy {α : Type} (key : α → Nat) (l : List α) : List α :=
  l.foldr (insertSorted key) []

/-- Number of distinct naturals in a list (object identities). -/
def countDistinct : List Nat → Nat
  | [] => 0
  | a :: rest => if rest.contains a then countDistinct rest else countDistinct rest + 1

/-- Saturating subtraction on `u64` counters is truncated subtraction on `Nat`. -/
abbrev satSub (a b : Nat) : Nat := a - b

def U64_MAX : Nat := 18446744073709551615
def U32_MAX : Nat := 4294967295

/-- Saturating addition on `u64`. -/
def satAdd64 (a b : Nat) : Nat := if a + b > U64_MAX then U64_MAX else a + b

end MiniMoka
