/-
  `sync::Cache` used by any number of threads, with maintenance runs that are NOT atomic.

  `MiniMoka/ConcS.lean` treats a whole maintenance run (`Inner::sync`) as one step.  In the
  code the run holds the deques mutex, but the concurrent map and the two channels are shared:
  other threads' `insert` / `invalidate` / `get` map operations and their sends interleave
  *inside* a run: between the application of two queued operations, between two iterations
  of the expiry and LRU eviction loops.  This is where the repaired D7 defects lived
  (maintenance addressing map entries by key only).

  Here a run by thread `t` is a sequence of atomic micro-steps driven by a small program
  counter (`Phase`), and between any two of them every other thread may take its `ConcS`
  steps (`insMap`, `invMap`, `getMap`, `enq`, `tick`, `invAll`):

   * `mBegin t explicit`: the run starts.  Housekeeping run (`explicit = false`,
     `Housekeeper::try_sync`): the flag is taken (`running := true`) and the deadline set, as
     `Sync.trySync` does; explicit run (`ConcurrentCacheExt::sync`): neither.  Both copy the
     published counters into the run-local ones (`cec := ec`, `cws := ws`) and enter the first
     pass of the `while should_sync` loop, reading `read_op_ch.len()`.
     While a run is in progress: another thread's `try_sync` finds the flag taken and returns
     (step enabled, nothing happens) if the run is a housekeeping run, and blocks (not
     enabled) if it is an explicit one (it would take the flag and then wait for the deques
     mutex); an explicit `sync` blocks on the mutex (not enabled).
   * `mStep t`: the next micro-step of `t`'s run, by phase:
       `reads f n`   apply ONE queued read (`Sync.applyRead`); when `n` reads have
                     been applied (or the queue is empty) read `write_op_ch.len()`;
       `writes f n`  apply ONE queued write (`Sync.applyWrite`: the whole
                     `handle_upsert` / `handle_remove` of that operation);
       `enable f`    the sketch-enable check, then the loop condition: another pass
                     (`f` passes left, as `MAX_SYNC_REPEATS` allows) or on to eviction;
       `expireWo n`  ONE iteration of `remove_expired_wo` (`expireWoBody`);
       `expireAo n`  ONE iteration of `remove_expired_ao` (`expireAoBody`);
       `lru n wte ev` ONE iteration of `evict_lru_entries` (`lruBody`);
       `finish`      publish `ec := cec`, `ws := cws`, release the flag.
     Run back to back with nothing in between, the micro-steps compose to `Sync.trySync` /
     `Sync.syncRun` (`Lemmas/ConcM.lean`: `run_is_trySync`, `run_is_syncRun`), so every `ConcS`
     execution is a `ConcM` execution.

  Still NOT modelled: the several map accesses of ONE operation inside `handle_upsert`
  (`cache.get(key)` for the current entry, `remove_if` of the candidate, `remove_if` of each
  victim of the admission scan) and inside one iteration of an eviction loop are one atomic
  step; memory ordering (all steps sequentially consistent); the internals of DashMap and of
  the crossbeam channels; a `try_sync` that has taken the flag but is still waiting for the
  deques mutex held by an explicit `sync`.
-/
import MiniMoka.Sync
import MiniMoka.ConcS

namespace MiniMoka
namespace ConcM

open Sync ConcS

/-- Program counter of a maintenance run. -/
inductive Phase where
  | reads (fuel n : Nat)
  | writes (fuel n : Nat)
  | enable (fuel : Nat)
  | expireWo (n : Nat)
  | expireAo (n : Nat)
  | lru (n wte ev : Nat)
  | finish
  deriving Repr, DecidableEq, Inhabited

structure Run where
  tid : Tid
  explicit : Bool
  phase : Phase
  deriving Repr, Inhabited

structure MState where
  s : SState := {}
  pending : List (Tid × Pend) := []
  run : Option Run := none
  deriving Repr, Inhabited

inductive Ev where
  /-- a step of `ConcS` other than `maint` / `sync` -/
  | other (e : ConcS.Ev)
  | mBegin (t : Tid) (explicit : Bool)
  | mStep (t : Tid)
  deriving Repr, Inhabited

/-! ### one iteration of each eviction loop -/

/-- One iteration of `Sync.removeExpiredAo`; the Boolean says whether the loop goes on. -/
def expireAoBody (p : Params) (s : SState) : SState × Bool :=
  match s.prob with
  | [] => (s, false)
  | n :: _ =>
    if expiredTs p.tti s.va (getInfo s n.info).la s.now then
      let victim := match entryOfNode p s n.key n.info with
        | some ve => if expiredTs p.tti s.va (getInfo s ve.info).la s.now then some ve else none
        | none => none
      match victim with
      | some ve => (handleRemove { s with map := AL.erase s.map n.key } ve, true)
      | none => trySkipUpdated s n.key
    else (s, false)

/-- One iteration of `Sync.removeExpiredWo`. -/
def expireWoBody (p : Params) (s : SState) : SState × Bool :=
  match s.wo with
  | [] => (s, false)
  | n :: _ =>
    if expiredTs p.ttl s.va (getInfo s n.info).lm s.now then
      let victim := match entryOfNode p s n.key n.info with
        | some ve => if expiredTs p.ttl s.va (getInfo s ve.info).lm s.now then some ve else none
        | none => none
      match victim with
      | some ve => (handleRemove { s with map := AL.erase s.map n.key } ve, true)
      | none =>
        match AL.get? s.map n.key with
        | some ve =>
          if (getInfo s ve.info).dirty then
            (moveToBackWoE (moveToBackAoE s ve.info) ve.info, true)
          else (s, false)
        | none => (moveNodeToBackWo s n.id, true)
    else (s, false)

/-- One iteration of `Sync.evictLruLoop`: new state, evicted weight so far, whether the loop
goes on. -/
def lruBody (p : Params) (s : SState) (wte evicted : Nat) : SState × Nat × Bool :=
  if evicted ≥ wte then (s, evicted, false)
  else
    match s.prob with
    | [] => (s, evicted, false)
    | n :: _ =>
      let ni := getInfo s n.info
      if ni.dirty then
        ((trySkipUpdated s n.key).1, evicted, (trySkipUpdated s n.key).2)
      else
        let victim := match entryOfNode p s n.key n.info with
          | some ve => if (getInfo s ve.info).lm == ni.lm then some ve else none
          | none => none
        match victim with
        | some ve =>
          (handleRemove { s with map := AL.erase s.map n.key } ve,
           evicted + (getInfo s ve.info).weight, true)
        | none => ((trySkipUpdated s n.key).1, evicted, (trySkipUpdated s n.key).2)

/-! ### the program of a run -/

def lruStart (p : Params) (s : SState) : Phase :=
  if weightsToEvict p s > 0 then .lru Gen.SYNC_EVICTION_BATCH_SIZE (weightsToEvict p s) 0
  else .finish

def aoStart (p : Params) (s : SState) : Phase :=
  if p.tti.isSome || s.va.isSome then .expireAo Gen.SYNC_EVICTION_BATCH_SIZE else lruStart p s

/-- Where the run goes when the `while should_sync` loop is over. -/
def afterLoop (p : Params) (s : SState) : Phase :=
  if p.hasExpiry || s.va.isSome then
    (if p.ttl.isSome then .expireWo Gen.SYNC_EVICTION_BATCH_SIZE else aoStart p s)
  else lruStart p s

/-- Start of a pass of the loop with `fuel` passes left. -/
def passStart (p : Params) (fuel : Nat) (s : SState) : Phase :=
  match fuel with
  | 0 => afterLoop p s
  | f + 1 => .reads f s.readQ.length

/-- The state in which a run starts. -/
def beginRun (s : SState) (explicit : Bool) : SState :=
  if explicit then { s with cec := s.ec, cws := s.ws }
  else
    let s : SState := { s with running := true,
                               syncAfter := s.now + Gen.PERIODICAL_SYNC_INTERVAL_MILLIS * 1000000 }
    { s with cec := s.ec, cws := s.ws }

/-- One micro-step: the new state and the next phase (`none`: the run is over). -/
def micro (p : Params) (explicit : Bool) (s : SState) : Phase → SState × Option Phase
  | .reads f 0 => (s, some (.writes f s.writeQ.length))
  | .reads f (n + 1) =>
    match s.readQ with
    | [] => (s, some (.writes f s.writeQ.length))
    | op :: rest => (applyRead p { s with readQ := rest } op, some (.reads f n))
  | .writes f 0 => (s, some (.enable f))
  | .writes f (n + 1) =>
    match s.writeQ with
    | [] => (s, some (.enable f))
    | op :: rest => (applyWrite p { s with writeQ := rest } op, some (.writes f n))
  | .enable f =>
    let s := if shouldEnableSketch p s then enableSketch p s else s
    if s.readQ.length ≥ Gen.READ_LOG_FLUSH_POINT || s.writeQ.length ≥ Gen.WRITE_LOG_FLUSH_POINT
    then (s, some (passStart p f s)) else (s, some (afterLoop p s))
  | .expireWo 0 => (s, some (aoStart p s))
  | .expireWo (n + 1) =>
    if (expireWoBody p s).2 then ((expireWoBody p s).1, some (.expireWo n))
    else ((expireWoBody p s).1, some (aoStart p (expireWoBody p s).1))
  | .expireAo 0 => (s, some (lruStart p s))
  | .expireAo (n + 1) =>
    if (expireAoBody p s).2 then ((expireAoBody p s).1, some (.expireAo n))
    else ((expireAoBody p s).1, some (lruStart p (expireAoBody p s).1))
  | .lru 0 _ _ => (s, some .finish)
  | .lru (n + 1) wte ev =>
    if (lruBody p s wte ev).2.2 then
      ((lruBody p s wte ev).1, some (.lru n wte (lruBody p s wte ev).2.1))
    else ((lruBody p s wte ev).1, some .finish)
  | .finish =>
    if explicit then ({ s with ec := s.cec, ws := s.cws }, none)
    else ({ ({ s with ec := s.cec, ws := s.cws } : SState) with running := false }, none)

/-- Is this a step of `ConcS` that `ConcM` takes over unchanged? -/
def isPlain : ConcS.Ev → Bool
  | .maint _ => false
  | .sync _ => false
  | _ => true

def step (p : Params) (c : MState) : Ev → Option MState
  | .other e =>
    if isPlain e then
      (ConcS.step p ⟨c.s, c.pending⟩ e).map fun c' => { c with s := c'.s, pending := c'.pending }
    else none
  | .mBegin t explicit =>
    match c.run with
    | some _ => if explicit then none else if c.s.running then some c else none
    | none =>
      some { c with s := beginRun c.s explicit,
                    run := some { tid := t, explicit := explicit,
                                  phase := passStart p (Gen.MAX_SYNC_REPEATS + 1)
                                    (beginRun c.s explicit) } }
  | .mStep t =>
    match c.run with
    | none => none
    | some r =>
      if r.tid = t then
        some { c with s := (micro p r.explicit c.s r.phase).1,
                      run := (micro p r.explicit c.s r.phase).2.map
                        fun ph => { r with phase := ph } }
      else none

def runEvs (p : Params) : MState → List Ev → Option MState
  | c, [] => some c
  | c, e :: rest =>
    match step p c e with
    | some c' => runEvs p c' rest
    | none => none

inductive Reach (p : Params) : MState → Prop where
  | init : Reach p {}
  | step {c c' : MState} (e : Ev) : Reach p c → step p c e = some c' → Reach p c'

end ConcM
end MiniMoka
