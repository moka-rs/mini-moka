/-
  Model L: the lock discipline of the concurrent cache (`mini_moka::sync::Cache`).

  WHAT IS MODELLED BY READING THE SOURCE (trusted transcription, tied to the source by
  the audit of lock sites, DESIGN.md §5 C09): the *table* at the end of this file. For each
  public operation it gives the lock events (blocking acquire / try-acquire /
  release) the operation can perform, as a small regular structure (`Prog`:
  sequence, branch, bounded loop, finite-but-unbounded retry loop, try-block).
  Every row names the source sites (file:function) it transcribes.

  WHAT IS PROVED (files `Lemmas/ConcL.lean`, `Props/C09Conc.lean`):
   * a generic theorem over any lock type with ranks, any number of threads and all
     interleavings: threads whose code respects the rank order, whose try-acquires
     never block and who release everything they acquire never deadlock, and every
     run ends after a bounded number of lock steps with all threads finished;
   * the executable checker `check` is sound for that discipline;
   * `check` accepts every row of the table (`by decide`).

  The generic part (`Code`, `Thread`, `Step`) is independent of the cache.

  Modelling simplifications, all sound for deadlock-freedom of this discipline:
   * `RwLock`s are modelled as exclusive locks. With the real shared/exclusive (and
     possibly writer-preferring) semantics a thread waits on a lock only while some
     *other* thread holds it (directly, or a queued writer in front of it waits for
     such a holder); the maximal-rank argument only uses "the lock I wait for is
     held by somebody who, if blocked, is blocked on a strictly greater lock", and
     the discipline checked here forbids re-acquiring a lock class already held
     (the only extra hazard of reader/writer locks: recursive read acquisition).
   * All DashMap shard locks form one class `M` with instances; likewise the
     per-entry `nodes` mutexes (`N`) and all `AtomicInstant` locks (`T`: per-entry
     `last_accessed`/`last_modified`, per-cache `valid_after`, housekeeper
     `sync_after`). At an acquisition the model may pick ANY instance of the class.
   * Channels (`try_send`, `try_recv`, `len`) and atomics are not lock events (they
     never block). `std::thread::sleep` in the retry loop is the marker `sleep`,
     checked to happen with no lock held.
   * Only panic-free paths are modelled. (`try_sync` clears the flag with a plain store,
     not a drop guard: a panic inside `sync` would leave it set. Outside this model.)
   * Out of scope, as in the statement of C09: a thread that keeps a `sync::Iter` /
     `EntryRef` (which keeps a shard read lock across user code) while calling other
     cache operations; user callbacks (`Clone`/`Eq`/`Hash`/`Drop` of keys and values run
     under shard locks, values may be dropped under `D`/`S`) calling back into the cache.
   * The verification hooks (`verif_snapshot`: D, then shard by shard M with N/T inside,
     then S; `verif_frequency`: S; `verif_set_clock`: C) also respect the order; they are
     not rows of the table.
-/
import MiniMoka.Basic

namespace MiniMoka.ConcL

/-! ## Generic part: code trees, threads, interleaving semantics -/

/-- The lock events a thread will perform, as a tree: the only branching that is
resolved by the *state* is the outcome of a try-acquire; all other choices
(data-dependent branches, loop counts) are resolved arbitrarily when the tree is
produced (see `Unfolds`), and the theorems quantify over all trees. -/
inductive Code (L : Type) where
  | done
  | acq (l : L) (k : Code L)            -- blocking acquire
  | rel (l : L) (k : Code L)            -- release
  | tryL (l : L) (ok fail : Code L)     -- try-acquire: never blocks
  deriving Repr

def Code.size {L : Type} : Code L → Nat
  | .done => 0
  | .acq _ k => k.size + 1
  | .rel _ k => k.size + 1
  | .tryL _ a b => a.size + b.size + 1

structure Thread (L : Type) where
  held : List L
  code : Code L

/-- A system state: thread `i` is `s i`. A system of `n` threads has `s i` idle
(`held = []`, `code = done`) for `i ≥ n`. -/
abbrev State (L : Type) := Nat → Thread L

def State.set {L : Type} (s : State L) (i : Nat) (t : Thread L) : State L :=
  fun j => if j = i then t else s j

/-- Lock `l` is held by some thread. -/
def Holds {L : Type} (s : State L) (l : L) : Prop := ∃ i, l ∈ (s i).held

/-- One step of one thread in the context of the whole state. Locks are exclusive. -/
inductive TStep {L : Type} [DecidableEq L] (s : State L) : Thread L → Thread L → Prop where
  | acq {h l k} : ¬ Holds s l → TStep s ⟨h, .acq l k⟩ ⟨l :: h, k⟩
  | rel {h l k} : TStep s ⟨h, .rel l k⟩ ⟨h.erase l, k⟩
  | tryOk {h l a b} : ¬ Holds s l → TStep s ⟨h, .tryL l a b⟩ ⟨l :: h, a⟩
  | tryFail {h l a b} : Holds s l → TStep s ⟨h, .tryL l a b⟩ ⟨h, b⟩

/-- Any thread may take the next step (all interleavings). -/
inductive Step {L : Type} [DecidableEq L] : State L → State L → Prop where
  | mk {s : State L} (i : Nat) {t' : Thread L} : TStep s (s i) t' → Step s (s.set i t')

inductive Reach {L : Type} [DecidableEq L] : State L → State L → Prop where
  | refl (s) : Reach s s
  | step {s s' s''} : Reach s s' → Step s' s'' → Reach s s''

/-- The discipline, on code trees. `h` is the list of locks the thread holds.
 (i)  a blocking acquire is of a lock whose rank is strictly greater than the rank
      of every lock held (however it was acquired) — hence two locks of the same
      rank ("two instances of one class") are never held together via blocking;
 (ii) a try-acquire is unconstrained (it never blocks);
 (iii) a release is of a held lock, and at the end nothing is held. -/
def CodeWf {L : Type} [DecidableEq L] (rank : L → Nat) : List L → Code L → Prop
  | h, .done => h = []
  | h, .acq l k => (∀ x ∈ h, rank x < rank l) ∧ CodeWf rank (l :: h) k
  | h, .rel l k => l ∈ h ∧ CodeWf rank (h.erase l) k
  | h, .tryL l a b => CodeWf rank (l :: h) a ∧ CodeWf rank h b

/-- Sum of the remaining code sizes of threads `0 … n-1`: every step decreases it. -/
def sumTo (f : Nat → Nat) : Nat → Nat
  | 0 => 0
  | n + 1 => sumTo f n + f n

def measure {L : Type} (n : Nat) (s : State L) : Nat := sumTo (fun i => (s i).code.size) n

/-! ## Regular structure of lock events over lock *classes* and its checker -/

/-- Lock events of an operation, over lock classes `κ`. -/
inductive Prog (κ : Type) where
  | skip
  | sleep                                  -- `std::thread::sleep`: must hold no lock
  | acq (c : κ)                            -- blocking acquire of some instance of class c
  | rel (c : κ)                            -- release the most recently acquired lock, of class c
  | seq (p q : Prog κ)
  | alt (p q : Prog κ)                     -- data-dependent branch
  | loop (n : Nat) (p : Prog κ)            -- at most n iterations (`check` ignores `n`)
  | star (p : Prog κ)                      -- any finite number of iterations
  | tryL (c : κ) (ok fail : Prog κ)        -- try-acquire; `ok` runs holding the lock
  deriving Repr

/-- The checker. `h` is the stack of classes currently held (most recent first).
`check p h = some h'` means: on every path of `p` started with `h`, every blocking
acquire is of a class of rank strictly greater than all held classes, releases are
LIFO, `sleep` happens with nothing held, both arms of every branch and every loop
body agree on the resulting stack, which is `h'`. -/
def check {κ : Type} [DecidableEq κ] (rank : κ → Nat) : Prog κ → List κ → Option (List κ)
  | .skip, h => some h
  | .sleep, h => if h = [] then some h else none
  | .acq c, h => if h.all (fun x => decide (rank x < rank c)) then some (c :: h) else none
  | .rel c, h =>
      match h with
      | x :: r => if x = c then some r else none
      | [] => none
  | .seq p q, h =>
      match check rank p h with
      | some h1 => check rank q h1
      | none => none
  | .alt p q, h =>
      match check rank p h, check rank q h with
      | some a, some b => if a = b then some a else none
      | _, _ => none
  | .loop _ p, h =>
      match check rank p h with
      | some a => if a = h then some h else none
      | none => none
  | .star p, h =>
      match check rank p h with
      | some a => if a = h then some h else none
      | none => none
  | .tryL c ok fail, h =>
      match check rank ok (c :: h), check rank fail h with
      | some a, some b => if a = b then some a else none
      | _, _ => none

/-- `Unfolds cls h p h' k c`: started holding the locks `h`, one way of running `p`
(choice of branches, loop counts and lock *instances*) followed by the code `k` is
the code tree `c`, and `k` starts holding `h'`. At a try-acquire both outcomes are
kept. A release releases the lock on top of the stack (Rust guards of this code are
dropped in LIFO order). -/
inductive Unfolds {L κ : Type} (cls : L → κ) :
    List L → Prog κ → List L → Code L → Code L → Prop where
  | skip {h k} : Unfolds cls h .skip h k k
  | sleep {h k} : Unfolds cls h .sleep h k k
  | acq {h k c} (l : L) : cls l = c → Unfolds cls h (.acq c) (l :: h) k (.acq l k)
  | rel {h k c} (l : L) : cls l = c → Unfolds cls (l :: h) (.rel c) h k (.rel l k)
  | seq {h h1 h2 p q k c1 c} :
      Unfolds cls h p h1 c1 c → Unfolds cls h1 q h2 k c1 → Unfolds cls h (.seq p q) h2 k c
  | altL {h h' p q k c} : Unfolds cls h p h' k c → Unfolds cls h (.alt p q) h' k c
  | altR {h h' p q k c} : Unfolds cls h q h' k c → Unfolds cls h (.alt p q) h' k c
  | loopZ {h n p k} : Unfolds cls h (.loop n p) h k k
  | loopS {h h1 h2 n p k c1 c} :
      Unfolds cls h p h1 c1 c → Unfolds cls h1 (.loop n p) h2 k c1 →
      Unfolds cls h (.loop (n + 1) p) h2 k c
  | starZ {h p k} : Unfolds cls h (.star p) h k k
  | starS {h h1 h2 p k c1 c} :
      Unfolds cls h p h1 c1 c → Unfolds cls h1 (.star p) h2 k c1 →
      Unfolds cls h (.star p) h2 k c
  | tryL {h h' cl ok fail k c1 c2} (l : L) : cls l = cl →
      Unfolds cls (l :: h) ok h' k c1 → Unfolds cls h fail h' k c2 →
      Unfolds cls h (.tryL cl ok fail) h' k (.tryL l c1 c2)

/-! ## The lock classes of `sync::Cache` and the table -/

/-- Lock classes.
 * `F`  `Housekeeper::is_sync_running` (AtomicBool used as a try-lock; housekeeper.rs)
 * `D`  `Inner::deques : Mutex<Deques<K>>` (base_cache.rs)
 * `S`  `Inner::frequency_sketch : RwLock<FrequencySketch>` (base_cache.rs)
 * `M`  DashMap shard `RwLock`s of `Inner::cache` (one instance per shard)
 * `N`  `EntryInfo::nodes : Mutex<DeqNodes<K>>` (entry_info.rs; one per entry)
 * `T`  `AtomicInstant::instant : RwLock<Option<Instant>>` (atomic_time.rs; per entry
        `last_accessed`, `last_modified`; per cache `valid_after`; housekeeper `sync_after`)
 * `C`  `Inner::expiration_clock : RwLock<Option<Clock>>` (base_cache.rs; only taken when
        `has_expiration_clock`, i.e. in tests / under the verification hooks)
 * `K`  `Mock::now : RwLock<Instant>` (common/time/clock.rs; read inside `Clock::now`
        while the `C` read guard is alive; mock clock only) -/
inductive Cls where
  | F | D | S | M | N | T | C | K
  deriving DecidableEq, Repr

/-- The strict order  F < D < S < M < {N, T, C} < K.  `N`, `T`, `C` share a rank:
no two of them are ever held together (`N`, `T` are leaves; under `C` only `K` is taken). (`F` is try-only; giving it the least
rank expresses that everything in `try_sync` happens while the flag is set.) -/
def Cls.rank : Cls → Nat
  | .F => 0 | .D => 1 | .S => 2 | .M => 3 | .N => 4 | .T => 4 | .C => 4 | .K => 5

/-- A concrete lock: class and instance (shard index, entry identity, …). -/
structure Lock where
  cls : Cls
  inst : Nat
  deriving DecidableEq, Repr

def Lock.rank (l : Lock) : Nat := l.cls.rank

open Prog Cls

def seqs {κ : Type} : List (Prog κ) → Prog κ
  | [] => .skip
  | p :: ps => .seq p (seqs ps)

/-- optional -/
def opt {κ : Type} (p : Prog κ) : Prog κ := .alt .skip p

/-- scoped lock: acquire, body, release -/
def withL {κ : Type} (c : κ) (body : Prog κ) : Prog κ := seqs [.acq c, body, .rel c]

/-- a leaf lock taken and released inside one accessor call -/
def leaf {κ : Type} (c : κ) : Prog κ := .seq (.acq c) (.rel c)

/-! ### Table rows. Each row lists the source sites it transcribes.
`src/` prefix omitted; bc = sync/base_cache.rs, ca = sync/cache.rs,
hk = common/concurrent/housekeeper.rs, ei = common/concurrent/entry_info.rs,
at = common/concurrent/atomic_time.rs, dq = common/concurrent/deques.rs,
ck = common/time/clock.rs. -/

/-- `AtomicInstant::{instant, set_instant, is_set}` (at): guard is a temporary of one
expression. Reached through `EntryInfo::{last_accessed, set_last_accessed, last_modified,
set_last_modified}` (ei), `Inner::{valid_after, set_valid_after, has_valid_after}` (bc),
`Housekeeper::should_apply`/`try_sync` (hk: `sync_after`). -/
def tAcc : Prog Cls := leaf T

/-- `EntryInfo::{access_order_q_node, set_…, take_…, write_order_q_node, set_…, take_…,
unset_q_nodes}` (ei): `nodes.lock()` guard is a temporary / local of the accessor. -/
def nAcc : Prog Cls := leaf N

/-- bc:`Inner::current_time_from_expiration_clock`: if `has_expiration_clock`,
`expiration_clock.read()` is held while ck:`Clock::now` reads `Mock::now`
(if the clock is a mock). -/
def clockNow : Prog Cls := opt (withL C (opt (leaf K)))

/-- bc:`is_expired_entry_wo` then bc:`is_expired_entry_ao` on an entry
(`last_modified()`, and — unless the first test already returned true at an `||` —
`last_accessed()`). -/
def expiredChecks : Prog Cls := seqs [opt tAcc, opt tAcc]

/-- bc:`Inner::handle_remove` and bc:`Inner::handle_remove_with_deques`:
admitted: dq:`unlink_ao`/`unlink_ao_from_deque` → `take_access_order_q_node` (N), then
dq:`unlink_wo` → `take_write_order_q_node` (N); else `unset_q_nodes` (N). -/
def handleRemove : Prog Cls := .alt (seqs [nAcc, nAcc]) nAcc

/-- bc:`Inner::handle_admit`: dq:`push_back_ao` → `set_access_order_q_node` (N); if the
write-order queue is enabled dq:`push_back_wo` → `set_write_order_q_node` (N). -/
def handleAdmit : Prog Cls := seqs [nAcc, opt nAcc]

/-- bc:`Inner::try_skip_updated_entry`: `cache.get(key)` (M; on `None` DashMap releases
the shard lock before returning); on `Some(entry)` the guard lives through the `if`:
dirty ⇒ dq:`move_to_back_ao_in_deque` → `access_order_q_node` (N) and
dq:`move_to_back_wo_in_deque` → `write_order_q_node` (N). -/
def trySkipUpdated : Prog Cls := withL M (opt (seqs [nAcc, nAcc]))

/-- The size-aware admission function of `Inner` in bc (the associated `fn` documented
"Performs size-aware admission"; called from `handle_upsert`): `while` over the
probation deque (finite, not constant-bounded):
`cache.get(vic_key)` (M) + `filter` (pointer comparison; no lock); the guard lives
through the `if let` body (`policy_weight` is an atomic; `freq` is the already held
`S` read guard passed by reference). -/
def victimScan : Prog Cls := .star (leaf M)

/-- bc:`Inner::handle_upsert`.
 * already admitted: dq:`move_to_back_ao` (N), dq:`move_to_back_wo` (N);
 * `cache.get(&kh.key).map_or(..ptr_eq..)` (M, no lock inside); not current ⇒ return;
 * enough capacity ⇒ `handle_admit`;
 * too big ⇒ `cache.remove_if` (M; closure is a pointer comparison);
 * the admission function (`victimScan`); result `Admitted` ⇒ for each victim
   `cache.remove_if` (M; pointer comparison) and, if removed, `handle_remove`; then
   `handle_admit`; result `Rejected` ⇒ `cache.remove_if` (M). -/
def handleUpsert : Prog Cls :=
  .alt (seqs [nAcc, nAcc])
    (seqs [leaf M,
      opt (.alt handleAdmit
        (.alt (leaf M)
          (seqs [victimScan,
            .alt (seqs [.star (seqs [leaf M, opt handleRemove]), handleAdmit])
                 (leaf M)])))])

/-- bc:`Inner::apply_reads`: `frequency_sketch.write()` (S) for the whole function;
per op (at most `READ_LOG_SIZE` = 384 of them; `try_recv` never blocks):
`entry.last_accessed()` (T), maybe `entry.set_last_accessed` (T), if admitted
dq:`move_to_back_ao` → `access_order_q_node` (N). -/
def applyReads : Prog Cls :=
  withL S (.loop 384 (opt (seqs [tAcc, opt tAcc, opt nAcc])))

/-- bc:`Inner::apply_writes`: `frequency_sketch.read()` (S) for the whole function; per
op (≤ `WRITE_LOG_SIZE` = 384): `handle_upsert` or `handle_remove`. -/
def applyWrites : Prog Cls :=
  withL S (.loop 384 (.alt handleUpsert handleRemove))

/-- bc:`Inner::enable_frequency_sketch` → bc:`do_enable_frequency_sketch`:
`frequency_sketch.write()` (S), a temporary of one statement. It runs after
`apply_writes` has returned (its `S` read guard is dropped), so `S` is never requested
while held. -/
def enableSketch : Prog Cls := leaf S

/-- bc:`Inner::remove_expired_wo`: `valid_after()` (T); ≤ 500 rounds: peek +
`is_expired_entry_wo(node)` (T); `cache.remove_if` (M) whose closure may call
`is_expired_entry_wo(v)` (T under M); removed ⇒ `handle_remove`; else `cache.get` (M),
dirty ⇒ dq:`move_to_back_ao`, dq:`move_to_back_wo` (N, N under M). -/
def removeExpiredWo : Prog Cls :=
  seqs [tAcc, .loop 500 (seqs [opt tAcc,
    opt (seqs [withL M (opt tAcc), .alt handleRemove trySkipUpdated])])]

/-- bc:`Inner::remove_expired_ao`: as above with `is_expired_entry_ao`,
`handle_remove_with_deques`, `try_skip_updated_entry`. -/
def removeExpiredAo : Prog Cls :=
  seqs [tAcc, .loop 500 (seqs [opt tAcc,
    opt (seqs [withL M (opt tAcc), .alt handleRemove trySkipUpdated])])]

/-- bc:`Inner::evict_expired`: `current_time_from_expiration_clock`; maybe
`remove_expired_wo`; `has_valid_after()` (T, may be short-circuited); maybe three times
`remove_expired_ao`. -/
def evictExpired : Prog Cls :=
  seqs [clockNow, opt removeExpiredWo, opt tAcc,
    opt (seqs [removeExpiredAo, removeExpiredAo, removeExpiredAo])]

/-- bc:`Inner::evict_lru_entries`: ≤ 500 rounds: peek (`is_dirty` atomic,
`last_modified()` T); either `try_skip_updated_entry`, or `cache.remove_if` (M) whose
closure calls `v.last_modified()` (T under M) then `handle_remove_with_deques` or
`try_skip_updated_entry`. -/
def evictLru : Prog Cls :=
  .loop 500 (opt (seqs [tAcc,
    .alt trySkipUpdated (seqs [withL M (opt tAcc), .alt handleRemove trySkipUpdated])]))

/-- bc:`<Inner as InnerSync>::sync`: `deques.lock()` (D) for the whole function;
≤ `MAX_SYNC_REPEATS + 1` = 5 rounds of maybe `apply_reads`, maybe `apply_writes`, maybe
`enable_frequency_sketch`; then `has_valid_after()` (T, may be short-circuited), maybe
`evict_expired`, maybe `evict_lru_entries`. Public entry: ca:`ConcurrentCacheExt::sync`
(called without the flag `F`). -/
def innerSync : Prog Cls :=
  withL D (seqs [.loop 5 (seqs [opt applyReads, opt applyWrites, opt enableSketch]),
    opt tAcc, opt evictExpired, opt evictLru])

/-- hk:`Housekeeper::try_sync`: `is_sync_running.compare_exchange(false, true)` (try F);
on success `cache.now()` (clock), `sync_after.set_instant` (T), `cache.sync(..)`,
`is_sync_running.store(false)` (release F); on failure nothing. -/
def trySync : Prog Cls :=
  .tryL F (seqs [clockNow, tAcc, innerSync, .rel F]) .skip

/-- bc:`BaseCache::record_read_op` → bc:`apply_reads_if_needed`:
hk:`should_apply_reads` (`sync_after.instant()` T, may be short-circuited), maybe
`try_sync`; then `try_send` (never blocks). -/
def recordReadOp : Prog Cls := seqs [opt tAcc, opt trySync]

/-- ca:`Cache::schedule_write_op`: retry loop; each round
bc:`apply_reads_writes_if_needed` (hk:`should_apply_writes`: T maybe; maybe `try_sync`),
`try_send`; if full, `std::thread::sleep` and retry. At least one round. -/
def scheduleWriteOp : Prog Cls :=
  seqs [.star (seqs [opt tAcc, opt trySync, .sleep]), opt tAcc, opt trySync]

/-- bc:`BaseCache::do_insert_with_hash`: clock; `cache.entry(key)` (M, write) — the
`RefMut` lives to the end of the statement; `and_modify` closure →
bc:`new_value_entry_from`: `set_last_accessed` (T), `set_last_modified` (T);
`or_insert_with` closure → bc:`new_value_entry` → `EntryInfo::new` → two
`AtomicInstant::new` → `set_instant` (T, T; fresh locks). -/
def doInsert : Prog Cls :=
  seqs [clockNow, withL M (.alt (seqs [tAcc, tAcc]) (seqs [tAcc, tAcc]))]

/-- The public operations. -/
inductive Op where
  | insert | get | invalidate | invalidateAll | sync | containsKey
  deriving DecidableEq, Repr

/-- THE TABLE.
 * `insert`: ca:`Cache::insert` → ca:`insert_with_hash` = `do_insert_with_hash`;
   `schedule_write_op`.
 * `get`: ca:`Cache::get` → bc:`get_with_hash`: clock; `cache.get(key)` (M); on
   `Some(entry)` under the guard: `valid_after()` (T), `is_expired_entry_wo/ao` (T, T),
   `value.clone()`; `drop(entry)` (release M) explicitly BEFORE `record_read_op`.
 * `invalidate`: ca:`Cache::invalidate`: bc:`remove_entry` → `cache.remove` (M); if
   something was removed: clock; `schedule_write_op`.
 * `invalidateAll`: bc:`BaseCache::invalidate_all`: clock; `set_valid_after` (T).
 * `sync`: ca:`ConcurrentCacheExt::sync` → `Inner::sync`.
 * `containsKey`: bc:`BaseCache::contains_key`: `cache.get` (M); under the guard
   `valid_after()` (T), clock (C, K), `is_expired_entry_wo/ao` (T, T). -/
def table : Op → Prog Cls
  | .insert => seqs [doInsert, scheduleWriteOp]
  | .get => seqs [clockNow, withL M (opt (seqs [tAcc, expiredChecks])), recordReadOp]
  | .invalidate => seqs [leaf M, opt (seqs [clockNow, scheduleWriteOp])]
  | .invalidateAll => seqs [clockNow, tAcc]
  | .sync => innerSync
  | .containsKey => withL M (opt (seqs [tAcc, clockNow, expiredChecks]))

def allOps : List Op := [.insert, .get, .invalidate, .invalidateAll, .sync, .containsKey]

/-- The lock events of a thread that performs the operations `ops` one after another. -/
def opsProg : List Op → Prog Cls
  | [] => .skip
  | o :: os => .seq (table o) (opsProg os)

/-- Decidable check of the table: started with no lock held, every path of every
operation respects  F < D < S < M < {N,T,C} < K  for blocking acquisitions, releases
everything it acquired (in LIFO order), and sleeps only with no lock held. -/
def tableOk : Bool := allOps.all (fun o => check Cls.rank (table o) [] == some [])

/-- A thread of the concrete system: it holds nothing and its code is an unfolding of a
sequence of table operations (any instances at every acquisition). -/
def IsCacheThread (t : Thread Lock) : Prop :=
  t.held = [] ∧ ∃ (ops : List Op) (h' : List Lock),
    Unfolds Lock.cls [] (opsProg ops) h' .done t.code

end MiniMoka.ConcL
