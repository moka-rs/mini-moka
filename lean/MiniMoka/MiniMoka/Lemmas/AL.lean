/-
  Lemmas about the association-list operations of `MiniMoka.Basic` (lookup and removal are
  `List.find?` and `List.eraseP` by the key, so `Lemmas/ById.lean` applies), and the list facts
  (`Nodup` under maps, sums, `contains`, `countDistinct`) that several modules need.
-/
import MiniMoka.Lemmas.ById

namespace MiniMoka
namespace AL

variable {β : Type}

@[simp] theorem get?_nil (x : Nat) : get? ([] : List (Nat × β)) x = none := rfl

@[simp] theorem keys_nil : keys ([] : List (Nat × β)) = [] := rfl

@[simp] theorem keys_cons (k : Nat) (v : β) (m : List (Nat × β)) :
    keys ((k, v) :: m) = k :: keys m := rfl

theorem get?_cons (k : Nat) (v : β) (m : List (Nat × β)) (x : Nat) :
    get? ((k, v) :: m) x = if k = x then some v else get? m x := rfl

theorem keys_eq_map (m : List (Nat × β)) : keys m = m.map (·.1) := by
  induction m with
  | nil => rfl
  | cons a m ih => obtain ⟨k, v⟩ := a; simp [ih]

theorem get?_eq_find? (m : List (Nat × β)) (x : Nat) :
    get? m x = (m.find? (·.1 == x)).map (·.2) := by
  induction m with
  | nil => rfl
  | cons a m ih =>
    obtain ⟨k, v⟩ := a
    by_cases h : k = x <;> simp [get?, h, ih]

theorem get?_eq_none_iff (m : List (Nat × β)) (x : Nat) : get? m x = none ↔ x ∉ keys m := by
  rw [get?_eq_find?, Option.map_eq_none_iff, List.find?_eq_none, keys_eq_map, List.mem_map]
  exact ⟨fun h ⟨a, ha, e⟩ => h a ha (by simpa using e), fun h a ha e => h ⟨a, ha, by simpa using e⟩⟩

theorem get?_isSome_iff (m : List (Nat × β)) (x : Nat) : (get? m x).isSome ↔ x ∈ keys m := by
  have := get?_eq_none_iff m x
  cases hg : get? m x with
  | none => simp [hg] at this; simp [this]
  | some v =>
    simp [hg] at this; simp [this]

theorem mem_keys_of_get? {m : List (Nat × β)} {x : Nat} {v : β} (h : get? m x = some v) :
    x ∈ keys m := by
  rw [← get?_isSome_iff, h]; rfl

theorem mem_keys_of_mem {m : List (Nat × β)} {k : Nat} {v : β} (h : (k, v) ∈ m) : k ∈ keys m := by
  rw [keys_eq_map]
  exact List.mem_map.2 ⟨(k, v), h, rfl⟩

theorem mem_of_get? {m : List (Nat × β)} {x : Nat} {v : β} (h : get? m x = some v) :
    (x, v) ∈ m := by
  rw [get?_eq_find?, Option.map_eq_some_iff] at h
  obtain ⟨a, ha, rfl⟩ := h
  have hk : a.1 = x := by simpa using List.find?_some ha
  exact hk ▸ List.mem_of_find?_eq_some ha

theorem get?_of_mem {m : List (Nat × β)} {x : Nat} {v : β} (hn : (keys m).Nodup)
    (h : (x, v) ∈ m) : get? m x = some v := by
  rw [keys_eq_map] at hn
  rw [get?_eq_find?, find?_of_mem_nodup (·.1) hn h]
  rfl

@[simp] theorem erase_nil (x : Nat) : erase ([] : List (Nat × β)) x = [] := rfl

theorem erase_cons (k : Nat) (v : β) (m : List (Nat × β)) (x : Nat) :
    erase ((k, v) :: m) x = if k = x then m else (k, v) :: erase m x := rfl

theorem erase_eq_eraseP (m : List (Nat × β)) (x : Nat) : erase m x = m.eraseP (·.1 == x) := by
  induction m with
  | nil => rfl
  | cons a m ih =>
    obtain ⟨k, v⟩ := a
    by_cases h : k = x <;> simp [erase, h, ih]

theorem mem_keys_erase_of_mem {m : List (Nat × β)} {x y : Nat} (h : y ∈ keys (erase m x)) :
    y ∈ keys m := by
  rw [keys_eq_map, erase_eq_eraseP] at h
  rw [keys_eq_map]
  exact (List.eraseP_sublist.map _).subset h

theorem nodup_erase {m : List (Nat × β)} (x : Nat) (h : (keys m).Nodup) :
    (keys (erase m x)).Nodup := by
  rw [keys_eq_map] at h ⊢
  rw [erase_eq_eraseP]
  exact (List.eraseP_sublist.map _).nodup h

theorem get?_erase_ne {m : List (Nat × β)} {x y : Nat} (h : x ≠ y) :
    get? (erase m x) y = get? m y := by
  rw [get?_eq_find?, get?_eq_find?, erase_eq_eraseP, find?_eraseP_of_ne (l := m) Prod.fst (Ne.symm h)]

theorem get?_erase_self {m : List (Nat × β)} (x : Nat) (h : (keys m).Nodup) :
    get? (erase m x) x = none := by
  rw [keys_eq_map] at h
  rw [get?_eq_find?, erase_eq_eraseP, find?_eraseP_self (l := m) Prod.fst x h]
  rfl

theorem get?_erase {m : List (Nat × β)} (x y : Nat) (h : (keys m).Nodup) :
    get? (erase m x) y = if x = y then none else get? m y := by
  by_cases hxy : x = y
  · subst hxy; simp [get?_erase_self x h]
  · simp [hxy, get?_erase_ne hxy]

theorem length_erase_of_get? {m : List (Nat × β)} {x : Nat} {v : β} (h : get? m x = some v) :
    (erase m x).length + 1 = m.length := by
  have hm := mem_of_get? h
  rw [erase_eq_eraseP, List.length_eraseP_of_mem hm (by simp)]
  exact Nat.sub_add_cancel (List.length_pos_of_mem hm)

theorem erase_of_get?_none {m : List (Nat × β)} {x : Nat} (h : get? m x = none) :
    erase m x = m := by
  rw [get?_eq_find?, Option.map_eq_none_iff, List.find?_eq_none] at h
  rw [erase_eq_eraseP, List.eraseP_of_forall_not h]

theorem get?_erase_some {m : List (Nat × β)} {x y : Nat} {v : β}
    (hn : (keys m).Nodup) :
    get? (erase m x) y = some v ↔ x ≠ y ∧ get? m y = some v := by
  rw [get?_erase x y hn]
  by_cases e : x = y
  · simp [e]
  · simp [e]

theorem mem_of_mem_erase {m : List (Nat × β)} {x : Nat} {p : Nat × β}
    (h : p ∈ erase m x) : p ∈ m :=
  List.mem_of_mem_eraseP (erase_eq_eraseP m x ▸ h)

theorem mem_keys_erase {m : List (Nat × β)} (hn : (keys m).Nodup) {a x : Nat} :
    x ∈ keys (erase m a) ↔ x ≠ a ∧ x ∈ keys m := by
  rw [← get?_isSome_iff, ← get?_isSome_iff, get?_erase a x hn]
  by_cases h : a = x
  · rw [if_pos h]; exact ⟨fun h' => (by cases h'), fun h' => absurd h.symm h'.1⟩
  · rw [if_neg h]; exact ⟨fun h' => ⟨fun e => h e.symm, h'⟩, fun h' => h'.2⟩

theorem get?_foldl_erase {m : List (Nat × β)} (hn : (keys m).Nodup) (ks : List Nat) (x : Nat) :
    get? (ks.foldl (fun m k => erase m k) m) x = if x ∈ ks then none else get? m x := by
  induction ks generalizing m with
  | nil => simp
  | cons k ks ih =>
    rw [List.foldl_cons, ih (m := erase m k) (nodup_erase k hn), get?_erase k x hn]
    by_cases h1 : x ∈ ks
    · simp [h1]
    · by_cases h2 : k = x
      · subst h2; simp
      · have : ¬ x = k := fun e => h2 e.symm
        simp [h1, h2, this]

theorem put_cons (k : Nat) (v : β) (m : List (Nat × β)) (x : Nat) (b : β) :
    put ((k, v) :: m) x b = if k = x then (k, b) :: m else (k, v) :: put m x b := rfl

theorem get?_put_self (m : List (Nat × β)) (x : Nat) (b : β) : get? (put m x b) x = some b := by
  induction m with
  | nil => simp [put, get?_cons]
  | cons a m ih =>
    obtain ⟨k, v⟩ := a
    rw [put_cons]
    by_cases hk : k = x
    · simp [hk, get?_cons]
    · simp [hk, get?_cons, ih]

theorem get?_put_ne {m : List (Nat × β)} {x y : Nat} (b : β) (h : x ≠ y) :
    get? (put m x b) y = get? m y := by
  induction m with
  | nil => simp [put, get?_cons, h]
  | cons a m ih =>
    obtain ⟨k, v⟩ := a
    rw [put_cons]
    by_cases hk : k = x
    · simp [hk, get?_cons, h]
    · simp only [hk, if_false, get?_cons, ih]

theorem get?_put (m : List (Nat × β)) (x y : Nat) (b : β) :
    get? (put m x b) y = if x = y then some b else get? m y := by
  by_cases hxy : x = y
  · subst hxy; simp [get?_put_self]
  · simp [hxy, get?_put_ne b hxy]

theorem get?_put_some {m : List (Nat × β)} {x y : Nat} {b v : β} :
    get? (put m x b) y = some v ↔ (x = y ∧ b = v) ∨ (x ≠ y ∧ get? m y = some v) := by
  rw [get?_put]
  by_cases e : x = y
  · rw [if_pos e]
    exact ⟨fun h => Or.inl ⟨e, Option.some.inj h⟩,
      fun h => h.elim (fun h => congrArg some h.2) (fun h => absurd e h.1)⟩
  · rw [if_neg e]
    exact ⟨fun h => Or.inr ⟨e, h⟩, fun h => h.elim (fun h => absurd h.1 e) (fun h => h.2)⟩

theorem keys_put_of_mem {m : List (Nat × β)} {x : Nat} (b : β) (h : x ∈ keys m) :
    keys (put m x b) = keys m := by
  induction m with
  | nil => simp at h
  | cons a m ih =>
    obtain ⟨k, v⟩ := a
    rw [put_cons]
    by_cases hk : k = x
    · simp [hk]
    · simp only [keys_cons, List.mem_cons] at h
      rcases h with h | h
      · exact absurd h.symm hk
      · simp [hk, ih h]

theorem keys_put_of_not_mem {m : List (Nat × β)} {x : Nat} (b : β) (h : x ∉ keys m) :
    keys (put m x b) = keys m ++ [x] := by
  induction m with
  | nil => simp [put]
  | cons a m ih =>
    obtain ⟨k, v⟩ := a
    rw [put_cons]
    simp only [keys_cons, List.mem_cons, not_or] at h
    have hk : k ≠ x := fun e => h.1 e.symm
    simp [hk, ih h.2]

theorem nodup_put {m : List (Nat × β)} (x : Nat) (b : β) (h : (keys m).Nodup) :
    (keys (put m x b)).Nodup := by
  by_cases hx : x ∈ keys m
  · rw [keys_put_of_mem b hx]; exact h
  · rw [keys_put_of_not_mem b hx]
    exact List.nodup_append.mpr ⟨h, by simp, by
      intro a ha b' hb'; simp at hb'; subst hb'; exact fun e => hx (e ▸ ha)⟩

theorem length_put_of_none {m : List (Nat × β)} {x : Nat} (b : β) (h : get? m x = none) :
    (put m x b).length = m.length + 1 := by
  induction m with
  | nil => simp [put]
  | cons a m ih =>
    obtain ⟨k, v⟩ := a
    rw [get?_cons] at h
    rw [put_cons]
    by_cases hk : k = x
    · simp [hk] at h
    · simp [hk] at h; simp [hk, ih h]

theorem length_put_of_some {m : List (Nat × β)} {x : Nat} {v : β} (b : β) (h : get? m x = some v) :
    (put m x b).length = m.length := by
  induction m with
  | nil => simp at h
  | cons a m ih =>
    obtain ⟨k, w⟩ := a
    rw [get?_cons] at h
    rw [put_cons]
    by_cases hk : k = x
    · simp [hk]
    · simp [hk] at h; simp [hk, ih h]

theorem put_put (m : List (Nat × β)) (k : Nat) (a b : β) : put (put m k a) k b = put m k b := by
  induction m with
  | nil => simp [put]
  | cons x m ih =>
    obtain ⟨k', v⟩ := x
    rw [put_cons]
    by_cases hk : k' = k
    · simp [hk, put_cons]
    · simp [hk, put_cons, ih]

theorem erase_put_of_none {m : List (Nat × β)} {k : Nat} (b : β) (h : get? m k = none) :
    erase (put m k b) k = m := by
  induction m with
  | nil => simp [put, erase]
  | cons x m ih =>
    obtain ⟨k', v⟩ := x
    rw [get?_cons] at h
    rw [put_cons]
    by_cases hk : k' = k
    · simp [hk] at h
    · simp [hk] at h; simp [hk, erase_cons, ih h]

theorem mem_or_eq_of_mem_put {m : List (Nat × β)} {x : Nat} {b : β} {p : Nat × β}
    (h : p ∈ put m x b) : p ∈ m ∨ p = (x, b) := by
  induction m with
  | nil => exact Or.inr (List.mem_singleton.1 h)
  | cons a m ih =>
    obtain ⟨k, v⟩ := a
    rw [put_cons] at h
    by_cases hk : k = x
    · rw [if_pos hk] at h
      rcases List.mem_cons.1 h with h | h
      · exact Or.inr (by rw [h, hk])
      · exact Or.inl (List.mem_cons_of_mem _ h)
    · rw [if_neg hk] at h
      rcases List.mem_cons.1 h with h | h
      · exact Or.inl (by rw [h]; exact List.mem_cons_self)
      · exact (ih h).imp_left (List.mem_cons_of_mem _)

theorem put_eq_append {m : List (Nat × β)} {x : Nat} (b : β) (h : get? m x = none) :
    put m x b = m ++ [(x, b)] := by
  induction m with
  | nil => rfl
  | cons a m ih =>
    obtain ⟨k, v⟩ := a
    rw [get?_cons] at h
    by_cases e : k = x
    · rw [if_pos e] at h; cases h
    · rw [if_neg e] at h
      rw [put_cons, if_neg e, ih h]; rfl

theorem mem_keys_put {m : List (Nat × β)} {k x : Nat} (b : β) :
    x ∈ keys (put m k b) ↔ x = k ∨ x ∈ keys m := by
  rw [← get?_isSome_iff, ← get?_isSome_iff, get?_put]
  by_cases h : k = x
  · rw [if_pos h]; exact ⟨fun _ => Or.inl h.symm, fun _ => rfl⟩
  · rw [if_neg h]; exact ⟨Or.inr, fun h' => h'.resolve_left (fun e => h e.symm)⟩

theorem get?_filter_ne (l : List (Nat × β)) (t t' : Nat) :
    get? (l.filter fun x => x.1 != t) t' = if t = t' then none else get? l t' := by
  induction l with
  | nil => simp
  | cons x l ih =>
    obtain ⟨k, v⟩ := x
    rw [get?_cons]
    by_cases e : k = t
    · rw [List.filter_cons_of_neg (by simp [e]), ih]
      by_cases e' : t = t'
      · rw [if_pos e', if_pos e']
      · rw [if_neg e', if_neg e', if_neg (fun h => e' (e ▸ h))]
    · rw [List.filter_cons_of_pos (by simpa using e), get?_cons, ih]
      by_cases e' : k = t'
      · rw [if_pos e', if_pos e', if_neg (fun h => e (e'.trans h.symm))]
      · rw [if_neg e', if_neg e']

theorem keys_filter_nodup {m : List (Nat × β)} (g : Nat × β → Bool)
    (hn : (keys m).Nodup) : (keys (m.filter g)).Nodup := by
  rw [keys_eq_map] at *
  exact List.Nodup.sublist (List.filter_sublist.map _) hn

theorem get?_filter {m : List (Nat × β)} (hn : (keys m).Nodup) (g : Nat × β → Bool)
    (k : Nat) (e : β) :
    get? (m.filter g) k = some e ↔ get? m k = some e ∧ g (k, e) = true := by
  constructor
  · intro h
    obtain ⟨h1, h2⟩ := List.mem_filter.mp (mem_of_get? h)
    exact ⟨get?_of_mem hn h1, h2⟩
  · rintro ⟨h1, h2⟩
    exact get?_of_mem (keys_filter_nodup g hn) (List.mem_filter.mpr ⟨mem_of_get? h1, h2⟩)

end AL

theorem nodup_map_of_inj {α β γ : Type} (f : α → β) (g : α → γ) :
    ∀ (l : List α), (l.map f).Nodup → (∀ a ∈ l, ∀ b ∈ l, g a = g b → f a = f b) →
      (l.map g).Nodup := by
  intro l
  induction l with
  | nil => intro _ _; simp
  | cons a l ih =>
    intro hn hinj
    simp only [List.map_cons, List.nodup_cons] at hn ⊢
    refine ⟨?_, ih hn.2 (fun x hx y hy => hinj x (List.mem_cons_of_mem _ hx) y (List.mem_cons_of_mem _ hy))⟩
    intro hm
    obtain ⟨b, hb, hgb⟩ := List.mem_map.mp hm
    have := hinj b (List.mem_cons_of_mem _ hb) a List.mem_cons_self hgb
    exact hn.1 (this ▸ List.mem_map.mpr ⟨b, hb, rfl⟩)

theorem sum_map_le {α : Type} (f g : α → Nat) : ∀ (l : List α), (∀ a ∈ l, f a ≤ g a) →
    (l.map f).sum ≤ (l.map g).sum := by
  intro l
  induction l with
  | nil => intro _; exact Nat.le_refl _
  | cons a l ih =>
    intro h
    simp only [List.map_cons, List.sum_cons]
    exact Nat.add_le_add (h a List.mem_cons_self) (ih (fun b hb => h b (List.mem_cons_of_mem _ hb)))

theorem contains_eq_false_iff {l : List Nat} {x : Nat} : l.contains x = false ↔ x ∉ l :=
  Bool.eq_false_iff.trans (not_congr List.contains_iff_mem)

theorem mem_filter_not_contains {l V : List Nat} {x : Nat} :
    x ∈ l.filter (fun y => !V.contains y) ↔ x ∈ l ∧ x ∉ V := by
  rw [List.mem_filter, Bool.not_eq_true', ← Bool.not_eq_true, List.contains_iff_mem]

theorem countDistinct_eq_length : ∀ (l a : List Nat), a.Nodup → (∀ x ∈ l, x ∈ a) →
    (∀ x ∈ a, x ∈ l) → countDistinct l = a.length := by
  intro l
  induction l with
  | nil =>
    intro a _ _ h2
    cases a with
    | nil => rfl
    | cons x a => exact absurd (h2 x (List.mem_cons_self)) (by simp)
  | cons x rest ih =>
    intro a hn h1 h2
    unfold countDistinct
    by_cases hx : rest.contains x = true
    · rw [if_pos hx]
      have hxm : x ∈ rest := by simpa using hx
      refine ih a hn (fun y hy => h1 y (List.mem_cons_of_mem _ hy)) ?_
      intro y hy
      rcases List.mem_cons.mp (h2 y hy) with rfl | h
      · exact hxm
      · exact h
    · rw [if_neg hx]
      have hxm : x ∉ rest := by simpa using hx
      have hxa : x ∈ a := h1 x List.mem_cons_self
      have := ih (a.erase x) (hn.erase x) ?_ ?_
      · rw [this, List.length_erase_of_mem hxa]
        have : 0 < a.length := List.length_pos_of_mem hxa
        omega
      · intro y hy
        have hne : y ≠ x := fun e => hxm (e ▸ hy)
        exact (List.mem_erase_of_ne hne).mpr (h1 y (List.mem_cons_of_mem _ hy))
      · intro y hy
        have hya : y ∈ a := List.mem_of_mem_erase hy
        have hne : y ≠ x := by
          rintro rfl
          exact (List.Nodup.not_mem_erase hn) hy
        rcases List.mem_cons.mp (h2 y hya) with h | h
        · exact absurd h hne
        · exact h

theorem countDistinct_le_length : ∀ (l : List Nat), countDistinct l ≤ l.length := by
  intro l
  induction l with
  | nil => exact Nat.le_refl _
  | cons a rest ih =>
    unfold countDistinct
    split
    · exact Nat.le_succ_of_le ih
    · exact Nat.succ_le_succ ih

theorem countDistinct_nodup (l : List Nat) (h : l.Nodup) : countDistinct l = l.length :=
  countDistinct_eq_length l l h (fun _ hx => hx) (fun _ hx => hx)

end MiniMoka
