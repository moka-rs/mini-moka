/-
  The word-level sketch `MiniMoka/SketchBitsModel.lean` against the arithmetic one, piece by piece:
  the abstraction `abs`, reading a counter, `increment_at` and the loop of `increment`, the loop of
  `reset`.  Each rests on the per-word agreement of one generated bit trick
  (`Lemmas/Agree/SketchBits.lean`).
-/
import MiniMoka.SketchBitsModel
import MiniMoka.Lemmas.Sketch
import MiniMoka.Lemmas.Agree.SketchArith
import MiniMoka.Lemmas.Agree.SketchBits

namespace MiniMoka
-- in `Props`, the namespace of the refinement theorems `SketchW_*_refines` these lemmas serve
namespace Props

open Gen.Logic SketchW

theorem abs_sampleSize (s : SketchW) : (abs s).sampleSize = s.sampleSize := rfl
theorem abs_mask (s : SketchW) : (abs s).mask = s.mask := rfl
theorem abs_table (s : SketchW) : (abs s).table = s.table.map UInt64.toNat := rfl
theorem abs_size (s : SketchW) : (abs s).size = s.size := rfl

theorem abs_mk (a b : Nat) (c : Array UInt64) (d : Nat) :
    abs (SketchW.mk a b c d) = Sketch.mk a b (c.map UInt64.toNat) d := rfl

theorem abs_eta (s : SketchW) :
    abs s = Sketch.mk s.sampleSize s.mask (s.table.map UInt64.toNat) s.size := rfl

theorem abs_table_size (s : SketchW) : (abs s).table.size = s.table.size := by
  rw [abs_table, Array.size_map]

theorem abs_default : abs ({} : SketchW) = ({} : Sketch) := by
  show Sketch.mk 0 0 (Array.map UInt64.toNat #[]) 0 = Sketch.mk 0 0 #[] 0
  rw [Array.map_empty]

theorem getD_map_toNat (t : Array UInt64) (i : Nat) :
    (t.map UInt64.toNat).getD i 0 = (t.getD i 0).toNat := by
  simp only [Array.getD_eq_getD_getElem?, Array.getElem?_map]
  cases t[i]? <;> rfl

theorem indexOfW_eq (s : SketchW) (hash : UInt64) (i : Nat) :
    indexOfW s hash i = Sketch.indexOf (abs s) hash i := rfl

theorem startW_toNat (hash : UInt64) : (startW hash).toNat = Sketch.start hash := by
  unfold startW Sketch.start
  rw [UInt64.toNat_shiftLeft, UInt64.toNat_and]
  have h2 : (2 : UInt64).toNat % 64 = 2 := by decide
  have h3 : (3 : UInt64).toNat = 2 ^ 2 - 1 := by decide
  rw [h2, h3, Nat.and_two_pow_sub_one_eq_mod, Nat.shiftLeft_eq]
  omega

theorem toUInt64_toNat_of_lt4 (i : Nat) (hi : i < 4) : i.toUInt64.toNat = i := by
  have : i = 0 ∨ i = 1 ∨ i = 2 ∨ i = 3 := by omega
  rcases this with rfl | rfl | rfl | rfl <;> decide

theorem startW_add_toNat (hash : UInt64) (i : Nat) (hi : i < 4) :
    (startW hash + i.toUInt64).toNat = Sketch.start hash + i := by
  have := Sketch.start_le hash
  rw [UInt64.toNat_add, startW_toNat, toUInt64_toNat_of_lt4 i hi]
  omega

theorem counter_refines (s : SketchW) (hash : UInt64) (i : Nat) (hi : i < 4) :
    (counter_of_word (s.table.getD (indexOfW s hash i) 0) (startW hash) i.toUInt64).toNat
      = Sketch.counterAt (abs s) hash i := by
  have hs := Sketch.start_le hash
  have e1 := startW_toNat hash
  have e2 := toUInt64_toNat_of_lt4 i hi
  rw [Agree.counter_of_word_agrees _ _ _ (by rw [e1, e2]; omega), e1, e2, indexOfW_eq]
  unfold Sketch.counterAt
  rw [abs_table, getD_map_toNat]

/-- The loop of `frequency`, unrolled (`u8::MAX = 255`); abstract counters, so that nothing is
unfolded while matching. -/
theorem foldl_min4 (c : Nat → Nat) :
    [0, 1, 2, 3].foldl (fun (fr : Nat) (i : Nat) => min fr (c i)) 255
      = min (min (min (min 255 (c 0)) (c 1)) (c 2)) (c 3) := rfl

theorem frequencyW_eq (s : SketchW) (h : UInt64) (hne : ¬ s.table.size = 0) :
    frequencyW s h =
      (fun (f : Nat → Nat) => min (min (min (min 255 (f 0)) (f 1)) (f 2)) (f 3))
        (fun i => (counter_of_word (s.table.getD (indexOfW s h i) 0) (startW h)
          i.toUInt64).toNat) := by
  unfold frequencyW
  rw [if_neg hne]
  exact foldl_min4 _

theorem min4_congr (f g : Nat → Nat) (hfg : ∀ i, i < 4 → f i = g i) :
    min (min (min (min 255 (f 0)) (f 1)) (f 2)) (f 3)
      = min (min (min (min 255 (g 0)) (g 1)) (g 2)) (g 3) := by
  rw [hfg 0 (by omega), hfg 1 (by omega), hfg 2 (by omega), hfg 3 (by omega)]

theorem min4_eq (g : Nat → Nat) (hg : ∀ i, g i ≤ 15) :
    min (min (min (min 255 (g 0)) (g 1)) (g 2)) (g 3)
      = min (min (g 0) (g 1)) (min (g 2) (g 3)) := by
  rw [Nat.min_eq_right (Nat.le_trans (hg 0) (by decide)), Nat.min_assoc]

theorem incrementAtW_refines (t : Array UInt64) (idx : Nat) (c : UInt64) (j : Nat)
    (hc : c.toNat = j) (hj : j < 16) :
    Sketch.incrementAt (t.map UInt64.toNat) idx j
      = ((incrementAtW t idx c).1.map UInt64.toNat, (incrementAtW t idx c).2) := by
  subst hc
  have hroom := Agree.inc_room_agrees (t.getD idx 0) c hj
  by_cases h : Sketch.nib (t.getD idx 0).toNat c.toNat = 15
  · have e : incrementAtW t idx c = (t, false) := by
      unfold incrementAtW
      simp only []
      rw [hroom, if_neg (by rw [decide_eq_true_eq]; exact fun hh => hh h)]
    rw [e, Sketch.incrementAt_neg _ _ _ (by rw [getD_map_toNat]; exact h)]
  · have e : incrementAtW t idx c
        = (t.setIfInBounds idx (t.getD idx 0 + inc_delta (inc_offset c)), true) := by
      unfold incrementAtW
      simp only []
      rw [hroom, if_pos (by rw [decide_eq_true_eq]; exact h)]
    rw [e, Sketch.incrementAt_pos _ _ _ (by rw [getD_map_toNat]; exact h), getD_map_toNat,
      Array.map_setIfInBounds, Agree.inc_delta_agrees _ _ hj h]

/-- The loop of `increment` against the projection-style `bumpTableGen`, for abstract
`increment_at` functions (so that nothing is unfolded while matching). -/
theorem loop_refines_gen (incW : Array UInt64 → Nat → UInt64 → Array UInt64 × Bool)
    (inc : Array Nat → Nat → Nat → Array Nat × Bool) (idxW idx : Nat → Nat) (cs : Nat → UInt64)
    (st : Nat) (t : Array UInt64)
    (hidx : ∀ i, idxW i = idx i)
    (hinc : ∀ (t : Array UInt64) (i : Nat), i < 4 →
      inc (t.map UInt64.toNat) (idx i) (st + i)
        = ((incW t (idx i) (cs i)).1.map UInt64.toNat, (incW t (idx i) (cs i)).2)) :
    Sketch.bumpTableGen inc idx st (t.map UInt64.toNat)
      = (([0, 1, 2, 3].foldl (fun (acc : Array UInt64 × Bool) (i : Nat) =>
            let index := idxW i
            let r := incW acc.1 index (cs i)
            (r.1, acc.2 || r.2)) (t, false)).1.map UInt64.toNat,
         ([0, 1, 2, 3].foldl (fun (acc : Array UInt64 × Bool) (i : Nat) =>
            let index := idxW i
            let r := incW acc.1 index (cs i)
            (r.1, acc.2 || r.2)) (t, false)).2) := by
  unfold Sketch.bumpTableGen
  simp only [List.foldl, Bool.false_or, hidx]
  rw [hinc t 0 (by omega)]
  simp only []
  rw [hinc _ 1 (by omega)]
  simp only []
  rw [hinc _ 2 (by omega)]
  simp only []
  rw [hinc _ 3 (by omega)]

theorem incrementLoopW_refines (s : SketchW) (hash : UInt64) :
    Sketch.bumpTable (abs s) hash
      = ((incrementLoopW s hash).1.map UInt64.toNat, (incrementLoopW s hash).2) := by
  have hs := Sketch.start_le hash
  exact loop_refines_gen incrementAtW Sketch.incrementAt (indexOfW s hash)
    (Sketch.indexOf (abs s) hash) (fun i => startW hash + i.toUInt64) (Sketch.start hash) s.table
    (fun i => indexOfW_eq s hash i)
    (fun t i hi => incrementAtW_refines t _ _ _ (startW_add_toNat hash i hi) (by omega))

theorem resetLoop_fst (l : List UInt64) (c : Nat) (acc : Array UInt64) :
    (l.foldl (fun (acc : Nat × Array UInt64) (entry : UInt64) =>
        (acc.1 + odd_counters entry, acc.2.push (halved_word entry))) (c, acc)).1
      = l.foldl (fun c w => c + odd_counters w) c := by
  induction l generalizing c acc with
  | nil => rfl
  | cons x xs ih => simp only [List.foldl]; exact ih _ _

theorem resetLoopW_count (t : Array UInt64) :
    (resetLoopW t).1 = Sketch.oddTotal (t.map UInt64.toNat) := by
  unfold resetLoopW Sketch.oddTotal
  rw [← Sketch.foldl_eq_sumBy, ← Array.foldl_toList, resetLoop_fst, ← Array.foldl_toList, Array.toList_map,
    List.foldl_map]
  simp only [Agree.odd_counters_agrees]

theorem map_toNat_map (f : UInt64 → UInt64) (g : Nat → Nat)
    (hfg : ∀ w, (f w).toNat = g w.toNat) (t : Array UInt64) :
    (t.map f).map UInt64.toNat = (t.map UInt64.toNat).map g := by
  rw [Array.map_map, Array.map_map]
  congr 1
  funext w
  exact hfg w

theorem resetLoop_snd_gen (f : UInt64 → UInt64) (k : UInt64 → Nat) (t : Array UInt64) :
    (t.foldl (fun (acc : Nat × Array UInt64) (entry : UInt64) =>
        (acc.1 + k entry, acc.2.push (f entry))) (0, #[])).2 = t.map f := by
  apply Array.toList_inj.1
  rw [← Array.foldl_toList]
  have : ∀ (l : List UInt64) (c : Nat) (acc : Array UInt64),
      (l.foldl (fun (acc : Nat × Array UInt64) (entry : UInt64) =>
        (acc.1 + k entry, acc.2.push (f entry))) (c, acc)).2.toList = acc.toList ++ l.map f := by
    intro l
    induction l with
    | nil => intro c acc; simp
    | cons x xs ih => intro c acc; simp only [List.foldl]; rw [ih]; simp
  rw [this]
  simp

theorem resetLoopW_table (t : Array UInt64) :
    (resetLoopW t).2.map UInt64.toNat = (t.map UInt64.toNat).map Sketch.halveWord := by
  unfold resetLoopW
  rw [resetLoop_snd_gen halved_word odd_counters t]
  exact map_toNat_map halved_word Sketch.halveWord Agree.halved_word_agrees t

theorem resetW_refines (s : SketchW) : (resetW s).map abs = Sketch.reset false (abs s) := by
  rw [Sketch.reset_false_eq, abs_table, ← resetLoopW_count, ← resetLoopW_table, abs_size,
    abs_sampleSize, abs_mask]
  unfold resetW
  generalize resetLoopW s.table = r
  by_cases h1 : r.1 > U32_MAX
  · rw [if_pos h1, if_pos h1]; rfl
  · rw [if_neg h1, if_neg h1]
    by_cases h2 : s.size < r.1 / 4
    · rw [if_pos h2, if_pos h2]; rfl
    · rw [if_neg h2, if_neg h2, ← Agree.reset_size_agrees]; rfl

end Props
end MiniMoka
