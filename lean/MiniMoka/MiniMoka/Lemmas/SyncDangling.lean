/-
  C13 on the one-thread model of `sync::Cache`: an admission whose victim scan meets a node whose
  entry has left the map (`insert k`, `invalidate a`, then the maintenance run that applies
  `Upsert k` before `Remove a`).  The scan skips such a node (`liveN`) and decides over the
  others.
-/
import MiniMoka.Lemmas.SyncAdmit
import MiniMoka.Spec.OraclesExt

namespace MiniMoka
namespace Sync
namespace Dangling

open Nodes Spec Admit
open Unsync.Admit (sameKeys_iff)

/- `syncRun p s` is a state like any other here (see the note in `SyncQueues`); so are the
calls `insert`, `invalidate`, `handleUpsert` that the statements carry inside it. -/
attribute [local irreducible] syncRun insert invalidate handleUpsert

/-! ### the victim scan skips nodes whose entry is not the map's -/

/-- Agreement of two accumulators of the scan on what decides. -/
def CoreEq (a b : Admission) : Prop := a.vw = b.vw ∧ a.vf = b.vf ∧ a.victims = b.victims

/-- The scan over a list with few nodes to skip decides as the scan over the list without them. -/
theorem admitLoop_filter {p : Params} {s : SState} {cw cf : Nat} :
    ∀ (l : List AoNode) (a : Admission),
      (l.filter (fun n => !liveN p s n)).length + a.retries ≤ Gen.MAX_CONSECUTIVE_RETRIES →
      CoreEq (admitLoop p s cw cf l a) (admitLoop p s cw cf (l.filter (liveN p s)) a) := by
  intro l a h
  -- both are the same `scanLen`; for every `p`, so the weight is read as the scan reads it
  have hw : ∀ l' : List AoNode, ∀ n ∈ l', ∀ ve, entryOfNode p s n.key n.info = some ve →
      (getInfo s ve.info).weight = (match entryOfNode p s n.key n.info with
        | some ve => (getInfo s ve.info).weight
        | none => 0) := fun _ n _ ve he => by rw [he]
  have hff : (l.filter (liveN p s)).filter (liveN p s) = l.filter (liveN p s) :=
    List.filter_eq_self.mpr (fun n hn => (List.mem_filter.mp hn).2)
  have h0 : (l.filter (liveN p s)).filter (fun n => !liveN p s n) = [] :=
    List.filter_eq_nil_iff.mpr (fun n hn => by
      rw [(List.mem_filter.mp hn).2]; exact Bool.false_ne_true)
  obtain ⟨a1, a2, a3, -⟩ := admitLoop_scan (cw := cw) (cf := cf) l a (hw l) h
  obtain ⟨b1, b2, b3, -⟩ := admitLoop_scan (cw := cw) (cf := cf) (l.filter (liveN p s)) a (hw _)
    (by rw [h0, List.length_nil, Nat.zero_add]; exact Nat.le_trans (Nat.le_add_left _ _) h)
  rw [hff] at b1 b2 b3
  exact ⟨a1.trans b1.symm, a2.trans b2.symm, a3.trans b3.symm⟩

/-! ### `admit` when some nodes are dangling -/

theorem admitOrReject_dangling {p : Params} (hd7 : p.q.d7 = false) {s : SState} {k : Nat}
    {hash : UInt64} {ve : VE} {w : Nat} (hs : Safe s) (hkn : (AL.keys s.map).Nodup)
    (hcand : AL.get? s.map k = some ve)
    (hcnt : (s.prob.filter (fun n => !liveN p s n)).length ≤ Gen.MAX_CONSECUTIVE_RETRIES) :
    Decides s (s.prob.filter (liveN p s)) w (s.sk.frequency hash)
      (fun n =>
        (admitOrReject p s k hash ve w).map =
          eraseKeys s.map (((s.prob.filter (liveN p s)).take n).map (·.key)) ∧
        (admitOrReject p s k hash ve w).cws =
          s.cws -
            (((s.prob.filter (liveN p s)).map (fun n => (getInfo s n.info).weight)).take n).sum + w)
      ((admitOrReject p s k hash ve w).map = AL.erase s.map k ∧
        (admitOrReject p s k hash ve w).cws = s.cws) := by
  refine (admitOrReject_scan hd7 hs hkn hcand hcnt).imp ?_ ?_
  · rintro n ⟨s2, e, -, hm, hc⟩
    have A := handleAdmit_admitted p s2 k hash ve w
    rw [e, moveSkipped_map, (Counters.moveSkipped_same _ _).cws, A.map, A.cws, hm, hc]
    exact ⟨rfl, by rw [List.map_take]⟩
  · intro e
    rw [e, moveSkipped_map, (Counters.moveSkipped_same _ _).cws]
    exact ⟨rfl, rfl⟩

theorem liveN_congr (p : Params) {s s' : SState} (h : s'.map = s.map) : liveN p s' = liveN p s := by
  funext n
  unfold liveN entryOfNode
  rw [h]

theorem handleUpsert_dangling {p : Params} (hq : NoQuirks p) {cap : Nat} (hcap : p.cap = some cap)
    {s : SState} {k v : Nat} {ve : VE} (oldW w0 : Nat) (hs : Safe s)
    (hkn : (AL.keys s.map).Nodup) (hcand : AL.get? s.map k = some ve) (hval : ve.val = v)
    (hna : (getInfo s ve.info).admitted = false)
    (hcnt : (s.prob.filter (fun n => !liveN p s n)).length ≤ Gen.MAX_CONSECUTIVE_RETRIES)
    (hroom : s.cws + p.weigh k v > cap) (hfit : p.weigh k v ≤ cap) :
    Decides s (s.prob.filter (liveN p s)) (p.weigh k v) (s.sk.frequency (p.hash k))
      (fun n =>
        (handleUpsert p s k (p.hash k) ve oldW w0).map =
          eraseKeys s.map (((s.prob.filter (liveN p s)).take n).map (·.key)) ∧
        (handleUpsert p s k (p.hash k) ve oldW w0).cws =
          s.cws -
            (((s.prob.filter (liveN p s)).map (fun n => (getInfo s n.info).weight)).take n).sum +
            p.weigh k v)
      ((handleUpsert p s k (p.hash k) ve oldW w0).map = AL.erase s.map k ∧
        (handleUpsert p s k (p.hash k) ve oldW w0).cws = s.cws) := by
  subst hval
  rw [handleUpsert_noroom hq hcap (p.hash k) oldW w0 hcand hna hroom hfit]
  have h := admitOrReject_dangling (p := p) (hd7 := by rw [hq])
    (s := withInfo s ve.info (fun i => { i with dirty := false })) (k := k) (hash := p.hash k)
    (ve := ve) (w := p.weigh k ve.val) (hs.withInfo _ _ rfl rfl rfl) hkn hcand hcnt
  rw [liveN_congr p (show (withInfo s ve.info (fun i => { i with dirty := false })).map = s.map
    from rfl)] at h
  have hW : (s.prob.filter (liveN p s)).map
        (fun n => (getInfo (withInfo s ve.info (fun i => { i with dirty := false })) n.info).weight) =
      (s.prob.filter (liveN p s)).map (fun n => (getInfo s n.info).weight) :=
    List.map_congr_left (fun n _ => weight_clean s ve.info n.info)
  refine h.of_clean.imp (fun n hn => ?_) (fun hn => hn)
  rw [← hW]
  exact hn

/-! ### a maintenance run with a queued insert and a queued removal -/

theorem syncRun_ends_remove {p : Params} {cap : Nat} (hcap : p.cap = some cap) {X u : SState}
    {ea : VE} (hr : X.readQ = [])
    (hT : applyWrites p X.writeQ.length { X with cec := X.ec, cws := X.ws } = handleRemove u ea)
    (hne : NoExp p u) (hws : u.cws ≤ cap) : (syncRun p X).map = u.map := by
  have h1 : NoExp p (handleRemove u ea) :=
    hne.of_frame_sub (handleRemove_maint _ _).frame0 (handleRemove_maint _ _).sub
  have h2 : (handleRemove u ea).cws ≤ cap := Nat.le_trans (handleRemove_maint _ _).cws_le hws
  obtain ⟨hsame, _⟩ := syncRun_writes hcap hr hT h1 h2
  rw [hsame.map, handleRemove_map]

theorem syncRun_remove {p : Params} {cap : Nat} (hcap : p.cap = some cap) {X : SState} {a : Nat}
    {ea : VE} (hr : X.readQ = []) (hw : X.writeQ = [.remove a ea]) (hne : NoExp p X)
    (hws : X.ws ≤ cap) : (syncRun p X).map = X.map :=
  syncRun_ends_remove hcap (u := { X with cec := X.ec, cws := X.ws, writeQ := [] }) (ea := ea) hr
    (applyWrites_single p { X with cec := X.ec, cws := X.ws } (.remove a ea) hw)
    ⟨hne.ao, hne.wo⟩ hws

theorem applyWrites_two (p : Params) (s : SState) (op1 op2 : WOp) (hw : s.writeQ = [op1, op2]) :
    applyWrites p s.writeQ.length s =
      applyWrite p { applyWrite p { s with writeQ := [op2] } op1 with writeQ := [] } op2 := by
  have : s.writeQ.length = 0 + 1 + 1 := by rw [hw]; rfl
  rw [this, applyWrites]
  simp only [hw]
  rw [applyWrites]
  have hq : (applyWrite p { s with writeQ := [op2] } op1).writeQ = [op2] :=
    (applyWrite_maint p _ op1).qframe.writeQ
  simp only [hq]
  rfl

theorem syncRun_upsert_remove {p : Params} {cap : Nat} (hcap : p.cap = some cap) {X : SState}
    {k a : Nat} {h : UInt64} {ve ea : VE} {o w : Nat} (hr : X.readQ = [])
    (hw : X.writeQ = [.upsert k h ve o w, .remove a ea])
    (hne : NoExp p (handleUpsert p
      { X with cec := X.ec, cws := X.ws, writeQ := [.remove a ea] } k h ve o w))
    (hws : (handleUpsert p
      { X with cec := X.ec, cws := X.ws, writeQ := [.remove a ea] } k h ve o w).cws ≤ cap) :
    (syncRun p X).map = (handleUpsert p
      { X with cec := X.ec, cws := X.ws, writeQ := [.remove a ea] } k h ve o w).map :=
  syncRun_ends_remove hcap (ea := ea) hr
    (u := { handleUpsert p { X with cec := X.ec, cws := X.ws, writeQ := [.remove a ea] } k h ve o w
      with writeQ := [] })
    (applyWrites_two p { X with cec := X.ec, cws := X.ws } (.upsert k h ve o w) (.remove a ea) hw)
    ⟨hne.ao, hne.wo⟩ hws

theorem filter_key_le_one (a : Nat) : ∀ l : List AoNode, (l.map (·.key)).Nodup →
    (l.filter (fun n => n.key == a)).length ≤ 1 := by
  intro l
  induction l with
  | nil => intro _; simp
  | cons nd rest ih =>
    intro hn
    simp only [List.map_cons, List.nodup_cons] at hn
    by_cases h : nd.key = a
    · have : rest.filter (fun n => n.key == a) = [] := by
        rw [List.filter_eq_nil_iff]
        intro m hm hk
        have hk' : m.key = a := by simpa using hk
        exact hn.1 (by rw [h, ← hk']; exact List.mem_map.mpr ⟨m, hm, rfl⟩)
      rw [List.filter_cons_of_pos (by simpa using h), this]; simp
    · rw [List.filter_cons_of_neg (by simpa using h)]; exact ih hn.2

def restProb (s : SState) (a : Nat) : List AoNode := s.prob.filter (fun n => n.key != a)

theorem mem_restProb {s : SState} {a : Nat} {n : AoNode} :
    n ∈ restProb s a ↔ n ∈ s.prob ∧ n.key ≠ a := by
  rw [restProb, List.mem_filter, bne_iff_ne]

/-- `Props.C13_sync_dangling_state` with the case split kept as `Decides`. -/
theorem dangling_sync {p : Params} (hq : NoQuirks p) (hsm : SmallSketch p) {cap : Nat}
    (hcap : p.cap = some cap) {s : SState} (hi : AInv p s) (hc : CalmS p cap s) (k v a : Nat)
    (hnew : AL.get? s.map k = none) {ea : VE} (hres : AL.get? s.map a = some ea)
    (hfit : p.weigh k v ≤ cap) (hroom : s.ws + p.weigh k v > cap) :
    Decides s (restProb s a) (p.weigh k v) (s.sk.frequency (p.hash k))
      (fun n => (syncRun p (invalidate p (insert p s k v) a)).map =
        eraseKeys (AL.erase (AL.put s.map k (candVE s v)) a) (((restProb s a).take n).map (·.key)))
      ((syncRun p (invalidate p (insert p s k v) a)).map =
        AL.erase (AL.erase (AL.put s.map k (candVE s v)) a) k) := by
  have hd7 : p.q.d7 = false := by rw [hq]
  have hnc := hi.top.nodes.toNodesCore
  have hak : a ≠ k := by intro e; rw [e, hnew] at hres; cases hres
  have hi2 : AInv p (insert p s k v) := insert_ainv hq hsm hi k v
  have hknP : (AL.keys (AL.put s.map k (candVE s v))).Nodup := AL.nodup_put _ _ hi.top.map.kn
  obtain ⟨H, hins, hHr, hHm, hrun⟩ := insert_new_state hq hsm hcap hi hc k v hnew
  rw [hins] at hi2 ⊢
  have hwpos : 0 < p.weigh k v := by have := hc.ws; omega
  -- the queued insert, applied to a state `g` that agrees with `H` but for the map
  have key : ∀ g : SState, RunOn H g → g.map = AL.erase H.map a →
      NoExp p (handleUpsert p g k (p.hash k) (candVE s v) 0 (p.weigh k v)) ∧
      (handleUpsert p g k (p.hash k) (candVE s v) 0 (p.weigh k v)).cws ≤ cap ∧
      Decides s (restProb s a) (p.weigh k v) (s.sk.frequency (p.hash k))
        (fun n => (handleUpsert p g k (p.hash k) (candVE s v) 0 (p.weigh k v)).map =
          eraseKeys (AL.erase (AL.put s.map k (candVE s v)) a)
            (((restProb s a).take n).map (·.key)))
        ((handleUpsert p g k (p.hash k) (candVE s v) 0 (p.weigh k v)).map =
          AL.erase (AL.erase (AL.put s.map k (candVE s v)) a) k) := by
    intro g hg gm
    have hS := hrun g hg
    have hgp : g.prob = s.prob := hS.prob
    have hgc : g.cws = s.ws := hS.cws
    have hgm : g.map = AL.erase (AL.put s.map k (candVE s v)) a := by rw [gm, hHm]
    have hkn : (AL.keys g.map).Nodup := by rw [hgm]; exact AL.nodup_erase _ hknP
    have hcand : AL.get? g.map k = some (candVE s v) := by
      rw [hgm, AL.get?_erase_ne hak]; exact AL.get?_put_self _ _ _
    have hna : (getInfo g (candVE s v).info).admitted = false := by rw [hS.cand]; rfl
    have hcurN : ∀ n ∈ s.prob, n.key ≠ a →
        ∃ e, AL.get? g.map n.key = some e ∧ e.info = n.info := by
      intro n hn hna'
      obtain ⟨e, he, hei⟩ := hc.cur n hn
      refine ⟨e, ?_, hei⟩
      have hne' : k ≠ n.key := by
        intro e'; rw [← e', hnew] at he; cases he
      rw [hgm, AL.get?_erase_ne (Ne.symm hna'), AL.get?_put_ne _ hne']
      exact he
    have hLive : ∀ n ∈ s.prob, liveN p g n = (n.key != a) := by
      intro n hn
      unfold liveN
      by_cases h : n.key = a
      · have hnone : AL.get? g.map n.key = none := by
          rw [hgm, h]; exact AL.get?_erase_self a hknP
        unfold entryOfNode
        rw [hnone]
        simp [h]
      · obtain ⟨e, he, hei⟩ := hcurN n hn h
        rw [entryOfNode_cur hd7 he hei]
        simp [h]
    have hfilt : g.prob.filter (liveN p g) = restProb s a := by
      unfold restProb
      rw [hgp]
      exact List.filter_congr hLive
    have hcnt : (g.prob.filter (fun n => !liveN p g n)).length ≤ Gen.MAX_CONSECUTIVE_RETRIES := by
      have e : g.prob.filter (fun n => !liveN p g n) = s.prob.filter (fun n => n.key == a) := by
        rw [hgp]
        apply List.filter_congr
        intro n hn
        rw [hLive n hn]
        simp [bne]
      rw [e]
      -- one node to skip: `1 ≤ MAX_CONSECUTIVE_RETRIES` is all that is asked of the constant
      exact Nat.le_trans (filter_key_le_one a _ (prob_keys_nodup hnc hc.cur)) (by decide)
    have hw : ∀ n ∈ restProb s a, (getInfo g n.info).weight = (getInfo s n.info).weight :=
      fun n hn => by rw [hS.node hnc (mem_restProb.mp hn).1]
    have hdec := handleUpsert_dangling hq hcap (s := g) (k := k) (v := v)
      (ve := candVE s v) 0 (p.weigh k v) hS.safe hkn hcand rfl hna hcnt
      (by rw [hgc]; exact hroom) hfit
    rw [hfilt, List.map_congr_left hw, hS.freq, hgm, hgc] at hdec
    replace hdec := hdec.congr (s := s) hw hS.freq
    have hnoexp := hS.cand_noExp 0 (p.weigh k v) (hc.fresh hi hres)
    refine ⟨hnoexp, hdec.elim (fun n hsum hA => ?_) (fun hB => ?_),
      hdec.imp (fun _ h => h.1) (fun h => h.1)⟩
    · rw [hA.2]
      have := hc.ws
      omega
    · rw [hB.2]; exact hc.ws
  have hqI : QInv ({ H with writeQ := [candOp p s k v] } : SState) := hi2.q
  have hgetA : AL.get? ({ H with writeQ := [candOp p s k v] } : SState).map a = some ea := by
    show AL.get? H.map a = some ea
    rw [hHm, AL.get?_put_ne _ (Ne.symm hak)]; exact hres
  have hinv : invalidate p { H with writeQ := [candOp p s k v] } a =
      { housekeepW p { H with writeQ := [candOp p s k v], map := AL.erase H.map a } with
        writeQ := (housekeepW p { H with writeQ := [candOp p s k v], map := AL.erase H.map a }).writeQ
          ++ [.remove a ea] } := by
    unfold invalidate
    rw [hgetA]
    dsimp only
    exact scheduleWriteOp_enqueues p 2 (s := { H with writeQ := [candOp p s k v], map := AL.erase H.map a })
      (qinv_of_eq hqI rfl rfl rfl) _
  rw [hinv]
  -- the housekeeping inside `invalidate` does nothing, or is a run that applies the insert
  suffices h : ∃ g, (RunOn H g ∧ g.map = AL.erase H.map a) ∧
      (syncRun p { housekeepW p { H with writeQ := [candOp p s k v], map := AL.erase H.map a } with
        writeQ := (housekeepW p { H with writeQ := [candOp p s k v], map := AL.erase H.map a }).writeQ
          ++ [.remove a ea] }).map =
      (handleUpsert p g k (p.hash k) (candVE s v) 0 (p.weigh k v)).map by
    obtain ⟨g, hg, e⟩ := h
    rw [e]
    exact (key g hg.1 hg.2).2.2
  refine (housekeep_ind
    (C := fun t => ∃ g, (RunOn H g ∧ g.map = AL.erase H.map a) ∧
      (syncRun p { t with writeQ := t.writeQ ++ [.remove a ea] }).map =
        (handleUpsert p g k (p.hash k) (candVE s v) 0 (p.weigh k v)).map) ?_ fun sa => ?_).2.1
  · -- no maintenance: the final run applies the insert, then the removal
    have hg : RunOn H
        { H with map := AL.erase H.map a, cec := H.ec, cws := H.ws, writeQ := [.remove a ea] } :=
      ⟨rfl, rfl, rfl, rfl, rfl, rfl, rfl, rfl, rfl, rfl⟩
    obtain ⟨k1, k2, -, -⟩ := key _ hg rfl
    exact ⟨_, ⟨hg, rfl⟩, syncRun_upsert_remove hcap hHr rfl k1 k2⟩
  · -- maintenance inside `invalidate` applies the insert, the final run the removal
    generalize hJ : ({ H with writeQ := [candOp p s k v], map := AL.erase H.map a,
                              running := true, syncAfter := sa } : SState) = J
    have hg : RunOn H { J with cec := J.ec, cws := J.ws, writeQ := [] } := by
      rw [← hJ]
      exact ⟨rfl, rfl, rfl, rfl, rfl, rfl, rfl, rfl, rfl, rfl⟩
    obtain ⟨k1, k2, -, -⟩ := key _ hg (by rw [← hJ])
    obtain ⟨hsame, hws⟩ := syncRun_writes hcap (s := J) (by rw [← hJ]; exact hHr)
      (applyWrites_single p { J with cec := J.ec, cws := J.ws } (candOp p s k v) (by rw [← hJ])) k1 k2
    have hne1 : NoExp p (syncRun p J) := k1.same hsame
    have e : (syncRun p { (syncRun p J) with
        running := false, writeQ := (syncRun p J).writeQ ++ [.remove a ea] }).map =
        (syncRun p J).map := by
      refine syncRun_remove hcap (a := a) (ea := ea) (syncRun_readQ p J) ?_ ⟨hne1.ao, hne1.wo⟩ ?_
      · show (syncRun p J).writeQ ++ [.remove a ea] = _
        rw [syncRun_writeQ]
        rfl
      · show (syncRun p J).ws ≤ cap
        rw [hws]
        exact k2
    exact ⟨_, ⟨hg, by rw [← hJ]⟩, e.trans hsame.map⟩

/-! ### snapshots: the residents without `a` -/

theorem lruOrder_without (p : Params) (s : SState) (a : Nat) :
    lruOrder (withoutKey (snapshot p s) a) = (restProb s a).map (·.key) := by
  simp [lruOrder, withoutKey, snapshot, restProb, List.filter_map, List.map_map, Function.comp_def]

theorem weightOfKey_without (sn : Snap) {a x : Nat} (hx : x ≠ a) :
    weightOfKey (withoutKey sn a) x = weightOfKey sn x := by
  unfold weightOfKey withoutKey
  dsimp only
  rw [List.find?_filter]
  have : (fun e : EntryView => decide ((e.key != a) = true ∧ (e.key == x) = true)) =
      (fun e => e.key == x) := by
    funext e
    by_cases h : e.key = x
    · simp [h, hx]
    · simp [h]
  rw [this]

theorem freqOfKey_without (sn : Snap) (a x : Nat) :
    freqOfKey (withoutKey sn a) x = freqOfKey sn x := rfl

theorem mem_keysOf_without (sn : Snap) (a x : Nat) :
    x ∈ keysOf (withoutKey sn a) ↔ x ∈ keysOf sn ∧ x ≠ a := by
  simp only [keysOf, withoutKey, List.mem_map, List.mem_filter, bne_iff_ne, ne_eq]
  constructor
  · rintro ⟨e, ⟨h1, h2⟩, rfl⟩
    exact ⟨⟨e, h1, rfl⟩, h2⟩
  · rintro ⟨⟨e, h1, rfl⟩, h2⟩
    exact ⟨e, ⟨h1, h2⟩, rfl⟩

theorem predictAdmission_without {p : Params} {s : SState} (hkn : (AL.keys s.map).Nodup)
    (hcur : AllCur s s.prob) (hh : PH p s) (a w f : Nat) :
    predictAdmission (withoutKey (snapshot p s) a) w f = predicted s (restProb s a) w f := by
  refine predictAdmission_eq (lruOrder_without p s a) (fun n hn => ?_) (fun n hn => ?_) w f
  · obtain ⟨e, he, hei⟩ := hcur n (mem_restProb.mp hn).1
    rw [weightOfKey_without _ (mem_restProb.mp hn).2, weightOfKey_snapshot hkn he, hei]
  · obtain ⟨e, he, _⟩ := hcur n (mem_restProb.mp hn).1
    rw [freqOfKey_without, freqOfKey_snapshot hkn he, hh n (mem_restProb.mp hn).1]

theorem bool_imp (b c : Bool) (h : b = true → c = true) : (!b || c) = true := by
  cases b
  · rfl
  · simpa using h rfl

theorem danglingOk_model {p : Params} (hq : NoQuirks p) (hsm : SmallSketch p) {cap : Nat}
    (hcap : p.cap = some cap) (s : SState) (hi : AInv p s) (k v a : Nat) :
    danglingOk cap p.ttl p.tti p.weigh (snapshot p s) k v (s.sk.frequency (p.hash k)) a
      (snapshot p (syncRun p (invalidate p (insert p s k v) a))) = true := by
  unfold danglingOk
  dsimp only
  refine bool_imp _ _ (fun happ => ?_)
  simp only [Bool.and_eq_true, Bool.not_eq_true', decide_eq_true_eq, beq_iff_eq] at happ
  obtain ⟨⟨⟨⟨⟨⟨hquiet, hfresh⟩, hresA⟩, hcalm⟩, hle⟩, hgt⟩, _⟩ := happ
  have hnew := get?_none_of_fresh hfresh
  obtain ⟨ea, hea⟩ := ((shows p s).mem_keysOf_get? a).mp (List.contains_iff_mem.mp hresA)
  have hak : a ≠ k := by intro e; rw [e, hnew] at hea; cases hea
  have hc := calmS_of_snapshot hcalm hquiet.1.1.1 hquiet.1.1.2
  have hkn := hi.top.map.kn
  have hkn2 : (AL.keys (AL.put s.map k (candVE s v))).Nodup := AL.nodup_put _ _ hkn
  have hkn3 : (AL.keys (AL.erase (AL.put s.map k (candVE s v)) a)).Nodup := AL.nodup_erase _ hkn2
  rw [predictAdmission_without hkn hc.cur hi.hash.prob]
  have hknew : k ∉ AL.keys s.map := (AL.get?_eq_none_iff _ _).mp hnew
  rcases (dangling_sync hq hsm hcap hi hc k v a hnew hea hle hgt).predict with
    ⟨n, e, hmap⟩ | ⟨e, hmap⟩
  · rw [e]
    dsimp only
    have hkv : k ∉ ((restProb s a).take n).map (·.key) := by
      intro hin
      obtain ⟨m, hm, hmk⟩ := List.mem_map.mp hin
      obtain ⟨e, he, _⟩ := hc.cur m (mem_restProb.mp (List.mem_of_mem_take hm)).1
      rw [hmk, hnew] at he; cases he
    rw [sameKeys_iff]
    intro x
    rw [(shows p _).mem_keysOf, hmap, mem_keys_eraseKeys hkn3,
      AL.mem_keys_erase hkn2, AL.mem_keys_put, List.mem_cons,
      mem_filter_not_contains, mem_keysOf_without, (shows p _).mem_keysOf]
    constructor
    · rintro ⟨⟨hxa, hx | hx⟩, hxV⟩
      · exact Or.inl hx
      · exact Or.inr ⟨⟨hx, hxa⟩, hxV⟩
    · rintro (hx | ⟨⟨hx, hxa⟩, hxV⟩)
      · rw [hx]; exact ⟨⟨Ne.symm hak, Or.inl rfl⟩, hkv⟩
      · exact ⟨⟨hxa, Or.inr hx⟩, hxV⟩
  · rw [e]
    dsimp only
    rw [sameKeys_iff]
    intro x
    rw [(shows p _).mem_keysOf, hmap, AL.mem_keys_erase hkn3,
      AL.mem_keys_erase hkn2, AL.mem_keys_put, mem_keysOf_without,
      (shows p _).mem_keysOf]
    exact ⟨fun h => ⟨h.2.2.resolve_left h.1, h.2.1⟩,
      fun h => ⟨fun e => hknew (e ▸ h.1), h.2, Or.inr h.1⟩⟩

/-! ### the walk of the trace oracle -/

theorem admitDanglingC13_runs {p : Params} (hq : NoQuirks p) (hsm : SmallSketch p) {cap : Nat}
    (hcap : p.cap = some cap) : ∀ t, Runs p (AInv p) t →
      admitDanglingC13 cap p.ttl p.tti p.weigh t = true := by
  have H := ainv_stepInv hq hsm
  apply IsRun.Runs.induction
  intro t ht ih
  unfold admitDanglingC13
  split
  · -- sync, snap(before), freq k, ins k' v, inv a, sync, snap(after)
    rename_i before k f k' v a after rest
    obtain ⟨s, _, hr, e⟩ := ht
    obtain ⟨-, hr1, _, e1⟩ := H.walk hr e
    obtain ⟨hb, hr2, _, e2⟩ := H.walk hr1 e1
    obtain ⟨hf, hr3, _, e3⟩ := H.walk hr2 e2
    obtain ⟨-, hr4, _, e4⟩ := H.walk hr3 e3
    obtain ⟨-, hr5, _, e5⟩ := H.walk hr4 e4
    obtain ⟨-, hr6, _, e6⟩ := H.walk hr5 e5
    obtain ⟨ha, -, -, -⟩ := H.walk hr6 e6
    rw [Bool.and_eq_true]
    refine ⟨?_, ih _ ⟨_, _, hr5, e5⟩ (by simp only [List.length_cons]; omega)⟩
    by_cases hk : k = k'
    · subst hk
      rw [Obs.snap.inj hb, Obs.freq.inj hf, Obs.snap.inj ha]
      exact Bool.or_eq_true_iff.mpr (Or.inr (danglingOk_model hq hsm hcap _ hr1 k v a))
    · simp [hk]
  · -- sync, snap(before), freq k, ins k' v, snap, inv a, snap, sync, snap(after)
    rename_i before k f k' v m1 a m2 after rest
    obtain ⟨s, _, hr, e⟩ := ht
    obtain ⟨-, hr1, _, e1⟩ := H.walk hr e
    obtain ⟨hb, hr2, _, e2⟩ := H.walk hr1 e1
    obtain ⟨hf, hr3, _, e3⟩ := H.walk hr2 e2
    obtain ⟨-, hr4, _, e4⟩ := H.walk hr3 e3
    obtain ⟨-, hr5, _, e5⟩ := H.walk hr4 e4
    obtain ⟨-, hr6, _, e6⟩ := H.walk hr5 e5
    obtain ⟨-, hr7, _, e7⟩ := H.walk hr6 e6
    obtain ⟨-, hr8, _, e8⟩ := H.walk hr7 e7
    obtain ⟨ha, -, -, -⟩ := H.walk hr8 e8
    rw [Bool.and_eq_true]
    refine ⟨?_, ih _ ⟨_, _, hr4, e4⟩ (by simp only [List.length_cons]; omega)⟩
    by_cases hk : k = k'
    · subst hk
      rw [Obs.snap.inj hb, Obs.freq.inj hf, Obs.snap.inj ha]
      exact Bool.or_eq_true_iff.mpr (Or.inr (danglingOk_model hq hsm hcap _ hr1 k v a))
    · simp [hk]
  · exact ih _ (H.tail (isRun p) ht) (Nat.lt_succ_self _)
  · rfl

theorem admitDanglingC13_trace {p : Params} (hq : NoQuirks p) (hsm : SmallSketch p) {cap : Nat}
    (hcap : p.cap = some cap) (h : List Op) :
    admitDanglingC13 cap p.ttl p.tti p.weigh (trace p h) = true :=
  admitDanglingC13_runs hq hsm hcap _ ⟨{}, h, init_ainv p, rfl⟩

end Dangling
end Sync
end MiniMoka
