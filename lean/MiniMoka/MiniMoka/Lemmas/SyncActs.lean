/-
  Everything a call does after its map step is a path of primitive updates: `Act` adds to `Prim` what
  `Maint` leaves out, so a property that every `Act` keeps is kept by a maintenance run, by
  housekeeping and by `schedule_write_op` (`Acts.keeps`).  `Nodes.Safe` and `Counters.Same` are not
  carried this way: a bare `Prim.erase` or `aoErase` breaks them.
-/
import MiniMoka.Lemmas.SyncQueues

namespace MiniMoka
namespace Sync

/- `syncRun p s` is a state like any other here (see the note in `SyncQueues`). -/
attribute [local irreducible] syncRun

/-- `w` is the level of `Prim`; `rq` is any list that holds the read operations applied on the way.
The push on the read queue that ends `get` is not an `Act`: it would break `Frame.readQ`. -/
inductive Act (p : Params) (w : Bool) (rq : List ROp) : SState → SState → Prop
  | prim {s s' : SState} (h : Prim w s s') : Act p w rq s s'
  | popR (s : SState) (op : ROp) (rest : List ROp) (h : s.readQ = op :: rest) :
      Act p w rq s { s with readQ := rest }
  | popW (s : SState) (op : WOp) (rest : List WOp) (h : s.writeQ = op :: rest) :
      Act p w rq s { s with writeQ := rest }
  | sk (s : SState) (x : Sketch) : Act p w rq s { s with sk := x }
  | enable (s : SState) (x : Sketch) : Act p w rq s { s with sk := x, skOn := true }
  | touch (s : SState) (hash : UInt64) (ve : VE) (ts : Nat) (hin : ROp.hit hash ve ts ∈ rq)
      (hlt : p.q.d6 = true ∨ (getInfo s ve.info).la < ts) :
      Act p w rq s (withInfo s ve.info (fun i => { i with la := ts }))
  | load (s : SState) : Act p w rq s { s with cec := s.ec, cws := s.ws }
  | publish (s : SState) : Act p w rq s { s with ec := s.cec, ws := s.cws }
  | flags (s : SState) (b : Bool) (a : Nat) : Act p w rq s { s with running := b, syncAfter := a }
  | pushW (s : SState) (op : WOp) : Act p w rq s { s with writeQ := s.writeQ ++ [op] }
  | hang (s : SState) : Act p w rq s (s.fail .hang)

inductive Acts (p : Params) (w : Bool) (rq : List ROp) : SState → SState → Prop
  | refl (s : SState) : Acts p w rq s s
  | step {a b c : SState} : Acts p w rq a b → Act p w rq b c → Acts p w rq a c

namespace Acts

variable {p : Params} {w : Bool} {rq : List ROp}

theorem trans {a b c : SState} (h1 : Acts p w rq a b) (h2 : Acts p w rq b c) : Acts p w rq a c := by
  induction h2 with
  | refl => exact h1
  | step _ hp ih => exact ih.step hp

theorem act {a b : SState} (h : Act p w rq a b) : Acts p w rq a b := (refl a).step h

theorem maint {a b : SState} (h : Maint w a b) : Acts p w rq a b := by
  induction h with
  | refl => exact refl _
  | step _ hp ih => exact ih.step (.prim hp)

theorem keeps {C : SState → Prop} (hC : ∀ {a b}, Act p w rq a b → C a → C b) {s s' : SState}
    (h : Acts p w rq s s') : C s → C s' := by
  induction h with
  | refl => exact id
  | step _ hb ih => exact fun hs => hC hb (ih hs)

theorem toWrite {s s' : SState} (h : Acts p false rq s s') : Acts p true rq s s' := by
  induction h with
  | refl => exact refl _
  | step _ hb ih =>
    cases hb with
    | prim h => exact ih.trans (maint (Maint.prim h).toWrite)
    | popR op rest h => exact ih.step (.popR _ op rest h)
    | popW op rest h => exact ih.step (.popW _ op rest h)
    | sk x => exact ih.step (.sk _ x)
    | enable x => exact ih.step (.enable _ x)
    | touch hash ve ts hin hlt => exact ih.step (.touch _ hash ve ts hin hlt)
    | load => exact ih.step (.load _)
    | publish => exact ih.step (.publish _)
    | flags b a => exact ih.step (.flags _ b a)
    | pushW op => exact ih.step (.pushW _ op)
    | hang => exact ih.step (.hang _)

end Acts

variable {p : Params} {w : Bool} {rq : List ROp}

theorem sketchIncrement_acts (s : SState) (h : UInt64) : Acts p false rq s (sketchIncrement p s h) := by
  unfold sketchIncrement
  split
  · exact .act (.sk s _)
  · rename_i f hf
    rw [Sketch.increment_error hf]
    exact .act (.prim (.fail s _ (by decide)))

theorem applyRead_acts (s : SState) (op : ROp) (hin : op ∈ rq) :
    Acts p false rq s (applyRead p s op) := by
  cases op with
  | miss hash => exact sketchIncrement_acts s hash
  | hit hash ve ts =>
    unfold applyRead
    dsimp only
    have h1 : Acts p false rq s (sketchIncrement p s hash) := sketchIncrement_acts s hash
    generalize sketchIncrement p s hash = s1 at h1 ⊢
    have h2 : Acts p false rq s (if p.q.d6 = true then withInfo s1 ve.info (fun i => { i with la := ts })
        else if (getInfo s1 ve.info).la < ts then withInfo s1 ve.info (fun i => { i with la := ts })
        else s1) := by
      split
      · exact h1.step (.touch _ hash ve ts hin (.inl ‹_›))
      · split
        · exact h1.step (.touch _ hash ve ts hin (.inr ‹_›))
        · exact h1
    generalize (if p.q.d6 = true then withInfo s1 ve.info (fun i => { i with la := ts })
        else if (getInfo s1 ve.info).la < ts then withInfo s1 ve.info (fun i => { i with la := ts })
        else s1) = s2 at h2 ⊢
    split
    · exact h2.trans (.maint (moveToBackAoE_maint _ _))
    · exact h2

theorem applyReads_acts (n : Nat) (s : SState) (hs : ∀ op, op ∈ s.readQ → op ∈ rq) :
    Acts p false rq s (applyReads p n s) := by
  refine (applyReads_ind (C := fun t => Acts p false rq s t ∧ ∀ op, op ∈ t.readQ → op ∈ rq)
    (fun t op rest hq h => ?_) n s ⟨.refl s, hs⟩).1
  have hin : ∀ o, o ∈ op :: rest → o ∈ rq := fun o ho => h.2 o (hq ▸ ho)
  refine ⟨(h.1.step (.popR t op rest hq)).trans (applyRead_acts _ op (hin op List.mem_cons_self)),
    fun o ho => hin o (List.mem_cons_of_mem _ ?_)⟩
  rw [(applyRead_qframe p _ op).readQ] at ho
  exact ho

theorem applyWrites_acts (n : Nat) (s : SState) : Acts p true rq s (applyWrites p n s) :=
  applyWrites_ind (C := Acts p true rq s)
    (fun t op rest hq h => (h.step (.popW t op rest hq)).trans (.maint (applyWrite_maint p _ op)))
    n s (.refl s)

theorem enableSketch_acts (s : SState) : Acts p false rq s (enableSketch p s) := by
  unfold enableSketch
  split
  · exact .act (.enable s _)
  · exact .refl s

theorem syncPass_acts (s : SState) (hs : ∀ op, op ∈ s.readQ → op ∈ rq) :
    Acts p true rq s (syncPass p s) :=
  syncPass_stages (Q := Acts p true rq s) (R := Acts p true rq s) (applyReads_acts _ s hs).toWrite
    (fun _ h => h.trans (applyWrites_acts _ _)) (fun _ h _ => h.trans (enableSketch_acts _).toWrite)

theorem syncRun_acts (s : SState) (hs : ∀ op, op ∈ s.readQ → op ∈ rq) :
    Acts p true rq s (syncRun p s) :=
  syncRun_stages (P := fun t => Acts p true rq s t ∧ t.readQ = s.readQ) (Q := Acts p true rq s)
    (R := Acts p true rq s) ⟨.act (.load s), rfl⟩
    (fun _ h => h.1.trans (syncPass_acts _ (by rw [h.2]; exact hs)))
    (fun _ h => h.trans (.maint (evictExpired_maint p _).toWrite))
    (fun _ h _ => h.trans (.maint (evictLruLoop_maint p _ _ _ _).toWrite))
    (fun _ h => h.step (.publish _))

theorem housekeep_acts (s : SState) (hs : ∀ op, op ∈ s.readQ → op ∈ rq) :
    Acts p true rq s (trySync p s) ∧ Acts p true rq s (housekeepW p s) ∧
      Acts p true rq s (housekeepR p s) :=
  housekeep_armed (.refl s)
    (((Acts.act (.flags s true _)).trans (syncRun_acts (armed s) hs)).step (.flags _ false _))

theorem scheduleWriteOp_acts (n : Nat) : ∀ (s : SState) (op : WOp),
    (∀ o, o ∈ s.readQ → o ∈ rq) → Acts p true rq s (scheduleWriteOp p n s op) := by
  induction n with
  | zero => intro s op _; exact .act (.hang s)
  | succ n ih =>
    intro s op hs
    have hk := (housekeep_acts (p := p) s hs).2.1
    rw [scheduleWriteOp_succ]
    split
    · exact hk.step (.pushW _ op)
    · refine hk.trans (ih _ _ ?_)
      have hsub := (housekeep_armed (p := p) (s := s) (C := fun t => ∀ o, o ∈ t.readQ → o ∈ s.readQ)
        (fun _ h => h) (fun o ho => by
          have : (syncRun p (armed s)).readQ = [] := syncRun_readQ p _
          have ho' : o ∈ (syncRun p (armed s)).readQ := ho
          rw [this] at ho'; cases ho')).2.1
      exact fun o ho => hs o (hsub o ho)

end Sync
end MiniMoka
