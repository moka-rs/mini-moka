/-
  From a state with the invariant a step raises no fault, so `step` is `rawStep`, the operation
  without the two fault tests (`step_eq`); `stepInv` is the `IsRun.StepInv` instance the window
  walks start from.  Which form of the step to rewrite with: `step_state` (`UnsyncStep`) where only
  the state matters, it asks for `fault = none` only; `step_eq` where the observation matters too
  (`step_obs` is its second component).  `run_all` lifts a check of one step under `Inv` to a whole
  run; `snapshot_counters` says that under `InvU` a snapshot's counters are those of its entries.
-/
import MiniMoka.Lemmas.UnsyncStep
import MiniMoka.Lemmas.Purity
import MiniMoka.Lemmas.Sort
import MiniMoka.Spec.Oracles

namespace MiniMoka
namespace Unsync

/- `maintain p s` is a state like any other here (see the note in `UnsyncOps`). -/
attribute [local irreducible] maintain

theorem run_all {P : Sketch → Prop} (L : SketchLaws P) {p : Params} (hq : NoQuirks p)
    (hsm : SmallSketch p) (check : Op × Obs → Bool)
    (hstep : ∀ s op, Inv P p s → check (op, (step p s op).2) = true) :
    ∀ (h : List Op) (s : UState), Inv P p s → (run p s h).all check = true := by
  intro h s hi
  rw [List.all_eq_true]
  rintro ⟨op, ob⟩ hm
  obtain ⟨s', hi', rfl⟩ :=
    (isRun p).mem (I := Inv P p) (fun _ op hi => step_inv L hq hsm hi op) h s hi hm
  exact hstep s' op hi'

def rawStep (p : Params) (s : UState) : Op → UState × Obs
  | .ins k v => (insert p s k v, .ok)
  | .get k => ((get p s k).1, .val (get p s k).2)
  | .has k => ((containsKey p s k).1, .bool (containsKey p s k).2)
  | .iter => (s, .iter (sortBy (·.1) (iter p s)))
  | .inv k => (invalidate p s k, .ok)
  | .invAll => (invalidateAll p s, .ok)
  | .invIf pr => (invalidateEntriesIf p s pr, .ok)
  | .sync => (s, .badOp)
  | .adv d => ({ s with now := s.now + d }, .ok)
  | .snap => (s, .snap (snapshot p s))
  | .freq k => (s, .freq (s.sk.frequency (p.hash k)))

theorem step_eq {P : Sketch → Prop} (L : SketchLaws P) {p : Params} (hq : NoQuirks p)
    (hsm : SmallSketch p) {s : UState} (hi : Inv P p s) (op : Op) :
    step p s op = rawStep p s op := by
  have guard : ∀ r : UState × Obs,
      (match r.1.fault with
        | some f => (r.1, Obs.panic f)
        | none => r).1.fault = none →
      (match r.1.fault with
        | some f => (r.1, Obs.panic f)
        | none => r) = r := by
    intro r h
    cases hf : r.1.fault with
    | none => rfl
    | some f => rw [hf] at h; cases hf.symm.trans h
  have hnext := (step_inv L hq hsm hi op).inv.struct.noFault
  unfold step at hnext ⊢
  rw [if_neg (by simp [hi.inv.struct.noFault])] at hnext ⊢
  exact (guard _ hnext).trans (by cases op <;> rfl)

theorem step_obs {P : Sketch → Prop} (L : SketchLaws P) {p : Params} (hq : NoQuirks p)
    (hsm : SmallSketch p) {s : UState} (hi : Inv P p s) (op : Op) :
    (step p s op).2 = match op with
      | .ins _ _ => .ok
      | .get k => .val (get p s k).2
      | .has k => .bool (containsKey p s k).2
      | .iter => .iter (sortBy (·.1) (iter p s))
      | .inv _ => .ok
      | .invAll => .ok
      | .invIf _ => .ok
      | .sync => .badOp
      | .adv _ => .ok
      | .snap => .snap (snapshot p s)
      | .freq k => .freq (s.sk.frequency (p.hash k)) := by
  rw [step_eq L hq hsm hi op]
  cases op <;> rfl

theorem step_snap {P : Sketch → Prop} (L : SketchLaws P) {p : Params} (hq : NoQuirks p)
    (hsm : SmallSketch p) {s : UState} (hi : Inv P p s) :
    step p s .snap = (s, .snap (snapshot p s)) :=
  step_eq L hq hsm hi .snap

/-- For `IsRun.StepInv.uncons` and `IsRun.Runs.induction`, with any invariant that implies `Inv`. -/
theorem stepInv {P : Sketch → Prop} (L : SketchLaws P) {p : Params} (hq : NoQuirks p)
    (hsm : SmallSketch p) {I : UState → Prop} (hI : ∀ s, I s → Inv P p s)
    (hn : ∀ s op, I s → I (step p s op).1) : IsRun.StepInv (step p) (rawStep p) I :=
  ⟨hn, fun s op hs => step_eq L hq hsm (hI s hs) op⟩

theorem snapshot_counters {p : Params} {s : UState} (hi : InvU p s) :
    Spec.snapCountersOk p.weigh (snapshot p s) = true := by
  simp only [Spec.snapCountersOk, snapshot, Bool.and_eq_true, beq_iff_eq]
  refine ⟨⟨?_, ?_⟩, ?_⟩
  · rw [length_sortBy, List.length_map]; exact hi.counted.ec
  · rw [sum_map_sortBy, List.map_map, hi.counted.ws]
    generalize s.map = m
    induction m with
    | nil => rfl
    | cons a m ih => obtain ⟨k, e⟩ := a; simp [totalW, entryView, ih]
  · rw [sum_map_sortBy, List.map_map, hi.counted.ws]
    have hw := hi.counted.weights
    have hn := hi.struct.keysNodup
    generalize s.map = m at hw hn
    induction m with
    | nil => rfl
    | cons a m ih =>
      obtain ⟨k, e⟩ := a
      simp only [AL.keys_cons, List.nodup_cons] at hn
      have h1 := hw k e (by simp [AL.get?_cons])
      have h2 : ∀ k' e', AL.get? m k' = some e' → e'.weight = p.weigh k' e'.val := by
        intro k' e' h
        refine hw k' e' ?_
        rw [AL.get?_cons]
        have : k ≠ k' := fun e => hn.1 (e ▸ AL.mem_keys_of_get? h)
        simp [this, h]
      simp [totalW, entryView, ih h2 hn.2, h1]

end Unsync
end MiniMoka
