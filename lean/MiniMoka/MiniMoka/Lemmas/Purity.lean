/-
  The single-threaded cache's counterpart of `Lemmas/SyncPure.lean`: its traces are runs of its
  step function (`Unsync.isRun`); `iter`, `snap`, `freq` do not change the state (`isPureU`), and
  `contains_key`, which runs the start-of-operation maintenance, changes nothing when no resident
  is expired and the cache is within its capacity (`NoneExpired`, `maintain_noop`,
  `containsKey_of_noop`): C15.
-/
import MiniMoka.Lemmas.IsRun
import MiniMoka.Lemmas.UnsyncInv

namespace MiniMoka

theorem Unsync.isRun (p : Params) : IsRun (Unsync.step p) (Unsync.run p) :=
  ⟨fun _ => rfl, fun _ _ _ => rfl⟩

/-- The observations that leave the state of the single-threaded cache alone: unlike on the
concurrent cache (`isPure`), `contains_key` is not one of them. -/
def isPureU : Op → Bool
  | .iter => true
  | .snap => true
  | .freq _ => true
  | _ => false

namespace Unsync

theorem step_pureU (p : Params) (s : UState) (op : Op) (h : isPureU op = true) :
    (step p s op).1 = s := by
  unfold step
  split
  · rfl
  · cases op <;> first
      | (exact absurd h Bool.false_ne_true)
      | (dsimp only; split <;> rfl)

theorem run_filter_pureU (p : Params) (h : List Op) (s : UState) :
    (run p s h).filter (fun oo => !isPureU oo.1) =
      run p s (h.filter (fun op => !isPureU op)) :=
  (isRun p).filter (fun op => !isPureU op)
    (fun s op hx => step_pureU p s op (by simpa using hx)) h s

theorem expiredAt_none (ts : Option Nat) (now : Nat) : expiredAt none ts now = false := by
  cases ts <;> rfl

def NoneExpired (p : Params) (s : UState) : Prop :=
  ∀ k e, AL.get? s.map k = some e → isExpiredEntry p s e s.now = false

theorem wo_unexpired {p : Params} {s : UState} (hs : Struct p s) (hne : NoneExpired p s) :
    ∀ n ∈ s.wo, expiredAt p.ttl n.ts s.now = false := by
  intro n hn
  obtain ⟨e, he, hwo⟩ := hs.woBack n hn
  have hx := hne n.key e he
  have hfind := findWo_of_mem hs.woIds hn
  unfold isExpiredEntry at hx
  rw [Bool.or_eq_false_iff] at hx
  have hlm : entryLm s e = n.ts := by
    unfold entryLm
    rw [hwo]
    dsimp only
    rw [hfind]
    rfl
  rw [← hlm]
  exact hx.1

theorem ao_unexpired {p : Params} {s : UState} (hs : Struct p s) (hne : NoneExpired p s) :
    ∀ n ∈ s.prob, expiredAt p.tti n.ts s.now = false := by
  intro n hn
  obtain ⟨e, he, hao⟩ := hs.aoBack n hn
  have hx := hne n.key e he
  have hfind := findAo_of_mem hs.probIds hn
  unfold isExpiredEntry at hx
  rw [Bool.or_eq_false_iff] at hx
  have hla : entryLa s e = n.ts := by
    unfold entryLa
    rw [hao]
    dsimp only
    rw [hfind]
    rfl
  rw [← hla]
  exact hx.2

/-- The write-order purge removes nothing when no node is expired (it looks at the front node only). -/
theorem removeExpiredWo_noop (p : Params) (fuel : Nat) (s : UState) (c w : Nat)
    (h : ∀ n ∈ s.wo, expiredAt p.ttl n.ts s.now = false) :
    removeExpiredWo p fuel s c w = (s, c, w) := by
  cases fuel with
  | zero => rfl
  | succ fuel =>
    unfold removeExpiredWo
    split
    · rfl
    · rename_i n rest hq
      have := h n (by rw [hq]; exact List.mem_cons_self)
      rw [if_neg (by rw [this]; exact Bool.false_ne_true)]

theorem removeExpiredAo_noop (p : Params) (fuel : Nat) (s : UState) (c w : Nat)
    (h : ∀ n ∈ s.prob, expiredAt p.tti n.ts s.now = false) :
    removeExpiredAo p fuel s c w = (s, c, w) := by
  cases fuel with
  | zero => rfl
  | succ fuel =>
    unfold removeExpiredAo
    split
    · rfl
    · rename_i n rest hq
      have := h n (by rw [hq]; exact List.mem_cons_self)
      rw [if_neg (by rw [this]; exact Bool.false_ne_true)]

theorem subEc_zero (s : UState) : subEc s 0 = s := by
  unfold subEc
  rw [if_neg (Nat.not_lt_zero _)]
  rfl

theorem settleR_zero (s : UState) : settleR (s, 0, 0) = s := by
  simp only [settleR]
  rw [subEc_zero]
  rfl

theorem evictExpired_noop {p : Params} {s : UState} (hs : Struct p s) (hne : NoneExpired p s) :
    evictExpired p s = s := by
  have h1 : purgeWo p s = s := by
    unfold purgeWo
    split
    · rw [removeExpiredWo_noop p _ s 0 0 (wo_unexpired hs hne)]; exact settleR_zero s
    · rfl
  rw [evictExpired_eq, h1]
  unfold purgeAo
  split
  · rw [removeExpiredAo_noop p _ s 0 0 (ao_unexpired hs hne)]; exact settleR_zero s
  · rfl

theorem evictLru_noop {p : Params} {s : UState} (h : weightsToEvict p s = 0) :
    evictLru p s = s := by
  have : evictLruLoop EVICTION_BATCH_SIZE s 0 0 0 = (s, 0, 0) := by
    cases EVICTION_BATCH_SIZE with
    | zero => rfl
    | succ n =>
      unfold evictLruLoop
      rw [if_pos (Nat.le_refl 0)]
  rw [evictLru_eq, h, this]
  exact settleR_zero s

theorem maintain_noop {p : Params} {s : UState} (hs : Struct p s) (hne : NoneExpired p s)
    (hfit : weightsToEvict p s = 0) : maintain p s = s := by
  unfold maintain evictExpiredIfNeeded
  split
  · rw [evictExpired_noop hs hne]; exact evictLru_noop hfit
  · exact evictLru_noop hfit

theorem containsKey_of_noop {p : Params} {s : UState} (hm : maintain p s = s)
    (hne : NoneExpired p s) (k : Nat) :
    containsKey p s k = (s, (AL.get? s.map k).isSome) := by
  unfold containsKey
  rw [hm]
  dsimp only
  cases hk : AL.get? s.map k with
  | none => rfl
  | some e =>
    dsimp only
    split
    · rw [hne k e hk]; rfl
    · rfl

end Unsync

end MiniMoka
