/-
  The lookup coupling (`ConcS.CoupledC`, Lemmas/ConcSLookup.lean) for the two finer interleaving
  models `MiniMoka/ConcM.lean` and `MiniMoka/ConcF.lean` (current code, `Variant.good`).

  Every maintenance micro-step, down to the single map accesses of `handle_upsert`, is a
  `Sync.Frame`, and `CoupledC` (on the state in which the reads threads hold count as queued) is
  preserved by every frame.  Nothing else is needed but that the run is at a program counter of
  the current code: no clause relates the program counter to the map.
-/
import MiniMoka.Lemmas.ConcSLookup
import MiniMoka.Lemmas.ConcF

namespace MiniMoka

namespace ConcM

open Sync Spec ConcS

/-- What an event of `ConcM` / `ConcF` contributes to the linearised trace: a thread's event as in
`ConcS.evObs`; the begin and the micro-steps of a maintenance run nothing. -/
def evObsM (p : Params) (s : SState) (pd : List (Tid × Pend)) : ConcM.Ev → Option (Op × Obs)
  | .other e => evObs p ⟨s, pd⟩ e
  | .mBegin _ _ => none
  | .mStep _ => none

/-- The linearised trace of a `ConcM` execution (ends at the first step that is not enabled). -/
def linM (p : Params) : MState → List ConcM.Ev → Trace
  | _, [] => []
  | c, e :: rest =>
    match ConcM.step p c e with
    | some c' => (evObsM p c.s c.pending e).toList ++ linM p c' rest
    | none => []

theorem step_coupledM {p : Params} (hq : NoQuirks p) {c c' : MState} {g : Ghost}
    (hc : CoupledC p ⟨c.s, c.pending⟩ g) (e : ConcM.Ev) (hs : ConcM.step p c e = some c') :
    (∀ op obs, evObsM p c.s c.pending e = some (op, obs) →
      stops obs = false ∧ (yields op obs).all (allChecks p g) = true) ∧
    CoupledC p ⟨c'.s, c'.pending⟩ (gstep g (evObsM p c.s c.pending e)) := by
  cases e with
  | other e =>
    obtain ⟨_, c1, hcs, rfl⟩ := ConcM.step_other hs
    exact step_coupledC hq hc e hcs
  | mBegin t ex =>
    refine ⟨fun op obs h => (by cases h), ?_⟩
    rcases ConcM.step_mBegin hs with rfl | ⟨_, rfl⟩
    · exact hc
    · exact coupledC_frame (c := ⟨c.s, c.pending⟩) hc (beginRun_frame0 c.s ex).toFrame rfl
  | mStep t =>
    refine ⟨fun op obs h => (by cases h), ?_⟩
    obtain ⟨r, _, _, rfl⟩ := ConcM.step_mStep hs
    exact coupledC_frame (c := ⟨c.s, c.pending⟩) hc
      (micro_frame hq r.explicit c.s r.phase).1 rfl

theorem isLinM (p : Params) :
    IsLin (ConcM.step p) (fun c => evObsM p c.s c.pending) (linM p) :=
  ⟨fun _ => rfl, fun c e rest => by simp only [linM]; cases ConcM.step p c e <;> rfl⟩

theorem lookupOracle_linM {p : Params} (hq : NoQuirks p)
    (check : Ghost → Nat × Option Nat → Bool)
    (himp : ∀ g kv, allChecks p g kv = true → check g kv = true) :
    ∀ (evs : List ConcM.Ev) (c : MState) (g : Ghost), CoupledC p ⟨c.s, c.pending⟩ g →
      lookupOracle .sync check g (linM p c evs) = true :=
  lookupOracle_lin_gen (isLinM p) (I := fun c g => CoupledC p ⟨c.s, c.pending⟩ g)
    (fun _ _ _ e h hs => step_coupledM hq h e hs) check himp

end ConcM

namespace ConcF

open Sync Spec ConcS ConcM

/-- The linearised trace of a `ConcF` execution (ends at the first step that is not enabled). -/
def linF (p : Params) (v : Variant) : FState → List ConcM.Ev → Trace
  | _, [] => []
  | c, e :: rest =>
    match ConcF.step p v c e with
    | some c' => (evObsM p c.s c.pending e).toList ++ linF p v c' rest
    | none => []

/-- The invariant: the coupling of `ConcS` for the cache state and the held operations, and the
run (if any) is at a program counter of the current code.  `FInv` gives the latter too
(`WLocal.good`), but only for reachable states and under `SmallSketch`; carried here, the lookup
theorems need neither. -/
structure CoupledF (p : Params) (c : FState) (g : Ghost) : Prop where
  cpl : CoupledC p ⟨c.s, c.pending⟩ g
  pcs : ∀ r pc, c.run = some r → r.w = some pc → goodPc pc = true

theorem coupledF_init (p : Params) : CoupledF p {} {} :=
  ⟨coupledC_init p, fun _ _ h => by cases h⟩

theorem step_coupledF {p : Params} (hq : NoQuirks p) {c c' : FState} {g : Ghost}
    (hc : CoupledF p c g) (e : ConcM.Ev) (hs : ConcF.step p .good c e = some c') :
    (∀ op obs, evObsM p c.s c.pending e = some (op, obs) →
      stops obs = false ∧ (yields op obs).all (allChecks p g) = true) ∧
    CoupledF p c' (gstep g (evObsM p c.s c.pending e)) := by
  cases e with
  | other e =>
    obtain ⟨_, c1, hcs, rfl⟩ := ConcF.step_other hs
    have h := step_coupledC hq hc.cpl e hcs
    exact ⟨h.1, h.2, hc.pcs⟩
  | mBegin t ex =>
    obtain ⟨hf, hp, hg⟩ := (FStep.of_eq hs).frame hq (fun _ h => by cases h) hc.pcs
    exact ⟨fun op obs h => (by cases h), coupledC_frame (c' := ⟨c'.s, c'.pending⟩) hc.cpl hf hp, hg⟩
  | mStep t =>
    obtain ⟨hf, hp, hg⟩ := (FStep.of_eq hs).frame hq (fun _ h => by cases h) hc.pcs
    exact ⟨fun op obs h => (by cases h), coupledC_frame (c' := ⟨c'.s, c'.pending⟩) hc.cpl hf hp, hg⟩

theorem isLinF (p : Params) (v : Variant) :
    IsLin (ConcF.step p v) (fun c => evObsM p c.s c.pending) (linF p v) :=
  ⟨fun _ => rfl, fun c e rest => by simp only [linF]; cases ConcF.step p v c e <;> rfl⟩

theorem lookupOracle_linF {p : Params} (hq : NoQuirks p)
    (check : Ghost → Nat × Option Nat → Bool)
    (himp : ∀ g kv, allChecks p g kv = true → check g kv = true) :
    ∀ (evs : List ConcM.Ev) (c : FState) (g : Ghost), CoupledF p c g →
      lookupOracle .sync check g (linF p .good c evs) = true :=
  lookupOracle_lin_gen (isLinF p .good) (fun _ _ _ e h hs => step_coupledF hq h e hs) check himp

end ConcF
end MiniMoka
