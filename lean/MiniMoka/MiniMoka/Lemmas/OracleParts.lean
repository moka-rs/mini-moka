/-
  Trace oracles put together from their parts, with no cache model: the C03 oracle from part A
  (exactly a map with expiry while the capacity is not reached; by cases on the capacity) and part B
  (what fits is kept; under a capacity); the C10 walk of the concurrent cache (`quietOk`: the
  counters are checked at a snapshot that shows both queues empty) and the C11 oracle from "every
  snapshot of the trace passes".
-/
import MiniMoka.Spec.Oracles

namespace MiniMoka
namespace Spec

theorem partA_of {kind : Kind} {cap ttl tti : Option Nat} {w : Nat → Nat → Nat} {t : Trace}
    (h0 : cap = none → exactC03 kind ttl tti {} t = true)
    (h1 : ∀ c, cap = some c → totalInserted w t ≤ c → exactC03 kind ttl tti {} t = true) :
    (match (generalizing := false) cap with
     | none => exactC03 kind ttl tti {} t
     | some c => if totalInserted w t ≤ c then exactC03 kind ttl tti {} t else true) = true := by
  cases cap with
  | none => exact h0 rfl
  | some c =>
    dsimp only
    split
    · rename_i hle
      exact h1 c rfl hle
    · rfl

theorem oracleC03_of {kind : Kind} {cap ttl tti : Option Nat} {w : Nat → Nat → Nat} {t : Trace}
    (hA : (match (generalizing := false) cap with
     | none => exactC03 kind ttl tti {} t
     | some c => if totalInserted w t ≤ c then exactC03 kind ttl tti {} t else true) = true)
    (hB : ∀ c, cap = some c →
      (match (generalizing := false) kind with
       | .unsync => fitsC03 c ttl tti w t
       | .sync => fitsC03Sync c ttl tti w t) = true) :
    oracleC03 kind cap ttl tti w t = true := by
  unfold oracleC03
  rw [Bool.and_eq_true]
  refine ⟨hA, ?_⟩
  cases cap with
  | none => rfl
  | some c => cases kind <;> exact hB c rfl

/-- The check `oracleC10 .sync` applies to a snapshot that follows `sync`.  The reduction below
asks it of EVERY snapshot of the trace, which is more than `oracleC10.go` asks and is what the
concurrent cache gives: the counters are exact whenever a snapshot shows both queues empty. -/
def quietOk (w : Nat → Nat → Nat) (sn : Snap) : Bool :=
  if sn.rq == 0 && sn.wq == 0 then Spec.snapCountersOk w sn else true

theorem oracleC10_go_of_all (w : Nat → Nat → Nat) (t : Spec.Trace)
    (h : (t.all fun oo => match oo.2 with
      | .snap sn => quietOk w sn
      | _ => true) = true) : Spec.oracleC10.go w t = true := by
  fun_induction Spec.oracleC10.go w t with
  | case1 o sn rest ih =>
    simp only [List.all_cons, Bool.and_eq_true] at h
    rw [Bool.and_eq_true]
    exact ⟨h.2.1, ih h.2.2⟩
  | case2 x rest hne ih =>
    simp only [List.all_cons, Bool.and_eq_true] at h
    exact ih h.2
  | case3 => rfl

theorem oracleC11_of_all : ∀ (t : Spec.Trace),
    (t.all fun oo => match oo.2 with
      | .snap sn => Spec.liveOk sn && Spec.liveBounded sn
      | _ => true) = true → Spec.oracleC11 t = true := by
  intro t
  induction t with
  | nil => intro _; rfl
  | cons a rest ih =>
    intro h
    simp only [List.all_cons, Bool.and_eq_true] at h
    obtain ⟨op, ob⟩ := a
    cases ob <;> simp only [Spec.oracleC11] <;> first | rfl | exact ih h.2 | skip
    simp only [Bool.and_eq_true]
    exact ⟨by simpa using h.1, ih h.2⟩

end Spec
end MiniMoka
