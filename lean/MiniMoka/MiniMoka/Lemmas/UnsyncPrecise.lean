/-
  Precision of invalidation on the unsync model: exactly the targeted entries leave.
-/
import MiniMoka.Lemmas.UnsyncTrace

namespace MiniMoka
namespace Unsync

namespace Admit

/-- `UnsyncAdmit` states what `evict_lru_entries` removes from the map with this (`evictLru_exact`),
hence the namespace. -/
def eraseKeys (m : List (Nat × UEntry)) (ks : List Nat) : List (Nat × UEntry) :=
  ks.foldl (fun m k => AL.erase m k) m

theorem get?_eraseKeys {m : List (Nat × UEntry)} (hn : (AL.keys m).Nodup) (ks : List Nat) (x : Nat) :
    AL.get? (eraseKeys m ks) x = if x ∈ ks then none else AL.get? m x :=
  AL.get?_foldl_erase hn ks x

end Admit

open Admit (eraseKeys get?_eraseKeys)

theorem invalidateKeys_map (p : Params) (keys : List Nat) :
    ∀ (s : UState) (c w : Nat), (invalidateKeys p keys s c w).1.map = eraseKeys s.map keys := by
  induction keys with
  | nil => intro s c w; rfl
  | cons k rest ih =>
    intro s c w
    unfold invalidateKeys
    cases he : AL.get? s.map k with
    | none =>
      simp only
      rw [ih]
      simp [eraseKeys, AL.erase_of_get?_none he]
    | some e =>
      simp only
      rw [ih, takeOut_only]
      simp [eraseKeys]

theorem invalidateEntriesIf_map (p : Params) (s : UState) (pr : Pred) :
    (invalidateEntriesIf p s pr).map =
      eraseKeys s.map ((s.map.filter (fun kv => pr.eval kv.1 kv.2.val)).map (·.1)) := by
  rw [← invalidateKeys_map p _ s 0 0]
  unfold invalidateEntriesIf
  dsimp only
  generalize invalidateKeys p _ s 0 0 = r
  obtain ⟨s1, c, w⟩ := r
  dsimp only
  split
  · rfl
  · rw [subEc_only]

theorem mem_selected {m : List (Nat × UEntry)} (hn : (AL.keys m).Nodup) (pr : Pred) (k : Nat) :
    k ∈ (m.filter (fun kv => pr.eval kv.1 kv.2.val)).map (·.1) ↔
      ∃ e, AL.get? m k = some e ∧ pr.eval k e.val = true := by
  constructor
  · intro hmem
    obtain ⟨⟨k', e'⟩, hf, rfl⟩ := List.mem_map.mp hmem
    obtain ⟨hin, hpr⟩ := List.mem_filter.mp hf
    exact ⟨e', AL.get?_of_mem hn hin, hpr⟩
  · rintro ⟨e, hin, hpr⟩
    exact List.mem_map.mpr ⟨(k, e), List.mem_filter.mpr ⟨AL.mem_of_get? hin, hpr⟩, rfl⟩

/-- `NoQuirks` is not used (the one switch on this path, `d3`, changes the counters and not the
map); it is asked for because
`C07_precise_invalidate_entries_if`, which is this lemma, states the property of the current code. -/
theorem invalidateEntriesIf_exact {P : Sketch → Prop} {p : Params} (_ : NoQuirks p) {s : UState}
    (hi : Inv P p s) (pr : Pred) (k : Nat) (e : UEntry) :
    AL.get? (invalidateEntriesIf p s pr).map k = some e ↔
      (AL.get? s.map k = some e ∧ pr.eval k e.val = false) := by
  have hn := hi.inv.struct.keysNodup
  rw [invalidateEntriesIf_map, get?_eraseKeys hn]
  constructor
  · intro h
    split at h
    · cases h
    · rename_i hnot
      refine ⟨h, ?_⟩
      cases hpr : pr.eval k e.val with
      | false => rfl
      | true => exact absurd ((mem_selected hn pr k).mpr ⟨e, h, hpr⟩) hnot
  · rintro ⟨hin, hpr⟩
    rw [if_neg, hin]
    intro hmem
    obtain ⟨e', he', hpr'⟩ := (mem_selected hn pr k).mp hmem
    rw [hin] at he'
    cases he'
    rw [hpr] at hpr'
    cases hpr'

theorem invalidate_exact {P : Sketch → Prop} {p : Params} (hq : NoQuirks p) {s : UState}
    (hi : Inv P p s) (k k' : Nat) :
    AL.get? (invalidate p s k).map k' =
      if k = k' then none else AL.get? (maintain p s).map k' := by
  obtain ⟨h1, _, _⟩ := maintain_spec hq hi.inv
  rw [(invalidate_spec hq hi.inv k).2.2.2, AL.get?_erase k k' h1.struct.keysNodup]

end Unsync
end MiniMoka
