/-
  Lemmas about the node lists of the unsync model (lookup / erase / retime / move by
  node id).  Lookup and erasure by id are `List.find?` and `List.eraseP`.  The model has one
  function per list (`findAo`/`findWo`, …), so every lemma is stated twice, once per node type;
  where distinct ids matter both proofs are the generic lemma of `Lemmas/ById.lean`, the retiming
  lemmas (`setTs*`) are direct inductions.
-/
import MiniMoka.Unsync
import MiniMoka.Lemmas.AL
import MiniMoka.Lemmas.ById

namespace MiniMoka
namespace Unsync

theorem findAo_eq_find? (l : List AoNode) (id : Nat) : findAo l id = l.find? (·.id == id) := by
  induction l with
  | nil => rfl
  | cons a l ih => by_cases ha : a.id = id <;> simp [findAo, ha, ih]

theorem eraseAo_eq_eraseP (l : List AoNode) (id : Nat) : eraseAo l id = l.eraseP (·.id == id) := by
  induction l with
  | nil => rfl
  | cons a l ih => by_cases ha : a.id = id <;> simp [eraseAo, ha, ih]

theorem findAo_some {l : List AoNode} {id : Nat} {n : AoNode} (h : findAo l id = some n) :
    n ∈ l ∧ n.id = id := by
  rw [findAo_eq_find?] at h
  exact ⟨List.mem_of_find?_eq_some h, by simpa using List.find?_some h⟩

theorem findAo_none {l : List AoNode} {id : Nat} (h : findAo l id = none) :
    ∀ n ∈ l, n.id ≠ id := by
  simpa [findAo_eq_find?] using h

theorem findAo_eq_none_of {l : List AoNode} {id : Nat} (h : ∀ n ∈ l, n.id ≠ id) :
    findAo l id = none := by
  simpa [findAo_eq_find?] using h

theorem findAo_of_mem {l : List AoNode} {n : AoNode} (hn : (l.map (·.id)).Nodup) (h : n ∈ l) :
    findAo l n.id = some n :=
  findAo_eq_find? l n.id ▸ find?_of_mem_nodup _ hn h

theorem mem_iff_findAo {l : List AoNode} {n : AoNode} (hn : (l.map (·.id)).Nodup) :
    n ∈ l ↔ findAo l n.id = some n :=
  ⟨findAo_of_mem hn, fun h => (findAo_some h).1⟩

theorem findAo_append (l1 l2 : List AoNode) (id : Nat) :
    findAo (l1 ++ l2) id = (findAo l1 id).or (findAo l2 id) := by
  simp only [findAo_eq_find?, List.find?_append]

theorem mem_eraseAo {l : List AoNode} {id : Nat} {n : AoNode} (h : n ∈ eraseAo l id) : n ∈ l :=
  List.mem_of_mem_eraseP (eraseAo_eq_eraseP l id ▸ h)

theorem mem_eraseAo_of_ne {l : List AoNode} {id : Nat} {n : AoNode} (h : n ∈ l) (hne : n.id ≠ id) :
    n ∈ eraseAo l id :=
  eraseAo_eq_eraseP l id ▸ (List.mem_eraseP_of_neg (by simpa using hne)).mpr h

theorem nodup_eraseAo {l : List AoNode} (id : Nat) (h : (l.map (·.id)).Nodup) :
    ((eraseAo l id).map (·.id)).Nodup :=
  eraseAo_eq_eraseP l id ▸ (List.eraseP_sublist.map _).nodup h

theorem id_ne_of_mem_eraseAo {l : List AoNode} {id : Nat} {n : AoNode}
    (hn : (l.map (·.id)).Nodup) (h : n ∈ eraseAo l id) : n.id ≠ id :=
  ne_of_mem_eraseP_nodup _ hn (eraseAo_eq_eraseP l id ▸ h)

theorem findAo_eraseAo_ne {l : List AoNode} {id id' : Nat} (h : id ≠ id') :
    findAo (eraseAo l id') id = findAo l id := by
  simp only [findAo_eq_find?, eraseAo_eq_eraseP, find?_eraseP_of_ne _ h]

theorem length_eraseAo {l : List AoNode} {id : Nat} {n : AoNode} (h : findAo l id = some n) :
    (eraseAo l id).length + 1 = l.length := by
  have hm := (findAo_some h).1
  have := List.length_pos_of_mem hm
  rw [eraseAo_eq_eraseP, List.length_eraseP_of_mem hm (by simpa using (findAo_some h).2)]
  omega

theorem ids_setTsAo (l : List AoNode) (id t : Nat) :
    (setTsAo l id t).map (·.id) = l.map (·.id) := by
  induction l with
  | nil => rfl
  | cons a l ih => by_cases ha : a.id = id <;> simp [setTsAo, ha, ih]

theorem findAo_setTsAo (l : List AoNode) (id t id' : Nat) :
    findAo (setTsAo l id t) id' =
      if id' = id then (findAo l id').map (fun n => { n with ts := some t }) else findAo l id' := by
  induction l with
  | nil => simp [setTsAo, findAo]
  | cons a l ih =>
    by_cases ha : a.id = id
    · by_cases h2 : id' = id
      · simp [setTsAo, findAo, ha, h2]
      · simp [setTsAo, findAo, ha, h2, Ne.symm h2]
    · by_cases h2 : a.id = id'
      · simp [setTsAo, findAo, h2, h2 ▸ ha]
      · simp [setTsAo, findAo, ha, h2, ih]

theorem moveToBackAo_eq {l : List AoNode} {id : Nat} {n : AoNode} (h : findAo l id = some n) :
    moveToBackAo l id = eraseAo l id ++ [n] := by
  simp [moveToBackAo, h]

theorem nodup_moveToBackAo {l : List AoNode} (id : Nat) (hn : (l.map (·.id)).Nodup) :
    ((moveToBackAo l id).map (·.id)).Nodup := by
  cases h : findAo l id with
  | none => simpa [moveToBackAo, h] using hn
  | some n =>
    rw [moveToBackAo_eq h, eraseAo_eq_eraseP]
    exact nodup_eraseP_append _ hn (findAo_eq_find? l id ▸ h)

theorem findAo_moveToBackAo {l : List AoNode} (id id' : Nat) (hn : (l.map (·.id)).Nodup) :
    findAo (moveToBackAo l id) id' = findAo l id' := by
  cases h : findAo l id with
  | none => simp [moveToBackAo, h]
  | some n =>
    rw [moveToBackAo_eq h, eraseAo_eq_eraseP, findAo_eq_find?, findAo_eq_find?]
    exact find?_eraseP_append _ id' hn (findAo_eq_find? l id ▸ h)

theorem findWo_eq_find? (l : List WoNode) (id : Nat) : findWo l id = l.find? (·.id == id) := by
  induction l with
  | nil => rfl
  | cons a l ih => by_cases ha : a.id = id <;> simp [findWo, ha, ih]

theorem eraseWo_eq_eraseP (l : List WoNode) (id : Nat) : eraseWo l id = l.eraseP (·.id == id) := by
  induction l with
  | nil => rfl
  | cons a l ih => by_cases ha : a.id = id <;> simp [eraseWo, ha, ih]

theorem findWo_some {l : List WoNode} {id : Nat} {n : WoNode} (h : findWo l id = some n) :
    n ∈ l ∧ n.id = id := by
  rw [findWo_eq_find?] at h
  exact ⟨List.mem_of_find?_eq_some h, by simpa using List.find?_some h⟩

theorem findWo_none {l : List WoNode} {id : Nat} (h : findWo l id = none) :
    ∀ n ∈ l, n.id ≠ id := by
  simpa [findWo_eq_find?] using h

theorem findWo_eq_none_of {l : List WoNode} {id : Nat} (h : ∀ n ∈ l, n.id ≠ id) :
    findWo l id = none := by
  simpa [findWo_eq_find?] using h

theorem findWo_of_mem {l : List WoNode} {n : WoNode} (hn : (l.map (·.id)).Nodup) (h : n ∈ l) :
    findWo l n.id = some n :=
  findWo_eq_find? l n.id ▸ find?_of_mem_nodup _ hn h

theorem mem_iff_findWo {l : List WoNode} {n : WoNode} (hn : (l.map (·.id)).Nodup) :
    n ∈ l ↔ findWo l n.id = some n :=
  ⟨findWo_of_mem hn, fun h => (findWo_some h).1⟩

theorem findWo_append (l1 l2 : List WoNode) (id : Nat) :
    findWo (l1 ++ l2) id = (findWo l1 id).or (findWo l2 id) := by
  simp only [findWo_eq_find?, List.find?_append]

theorem mem_eraseWo {l : List WoNode} {id : Nat} {n : WoNode} (h : n ∈ eraseWo l id) : n ∈ l :=
  List.mem_of_mem_eraseP (eraseWo_eq_eraseP l id ▸ h)

theorem mem_eraseWo_of_ne {l : List WoNode} {id : Nat} {n : WoNode} (h : n ∈ l) (hne : n.id ≠ id) :
    n ∈ eraseWo l id :=
  eraseWo_eq_eraseP l id ▸ (List.mem_eraseP_of_neg (by simpa using hne)).mpr h

theorem nodup_eraseWo {l : List WoNode} (id : Nat) (h : (l.map (·.id)).Nodup) :
    ((eraseWo l id).map (·.id)).Nodup :=
  eraseWo_eq_eraseP l id ▸ (List.eraseP_sublist.map _).nodup h

theorem id_ne_of_mem_eraseWo {l : List WoNode} {id : Nat} {n : WoNode}
    (hn : (l.map (·.id)).Nodup) (h : n ∈ eraseWo l id) : n.id ≠ id :=
  ne_of_mem_eraseP_nodup _ hn (eraseWo_eq_eraseP l id ▸ h)

theorem findWo_eraseWo_ne {l : List WoNode} {id id' : Nat} (h : id ≠ id') :
    findWo (eraseWo l id') id = findWo l id := by
  simp only [findWo_eq_find?, eraseWo_eq_eraseP, find?_eraseP_of_ne _ h]

theorem length_eraseWo {l : List WoNode} {id : Nat} {n : WoNode} (h : findWo l id = some n) :
    (eraseWo l id).length + 1 = l.length := by
  have hm := (findWo_some h).1
  have := List.length_pos_of_mem hm
  rw [eraseWo_eq_eraseP, List.length_eraseP_of_mem hm (by simpa using (findWo_some h).2)]
  omega

theorem ids_setTsWo (l : List WoNode) (id t : Nat) :
    (setTsWo l id t).map (·.id) = l.map (·.id) := by
  induction l with
  | nil => rfl
  | cons a l ih => by_cases ha : a.id = id <;> simp [setTsWo, ha, ih]

theorem findWo_setTsWo (l : List WoNode) (id t id' : Nat) :
    findWo (setTsWo l id t) id' =
      if id' = id then (findWo l id').map (fun n => { n with ts := some t }) else findWo l id' := by
  induction l with
  | nil => simp [setTsWo, findWo]
  | cons a l ih =>
    by_cases ha : a.id = id
    · by_cases h2 : id' = id
      · simp [setTsWo, findWo, ha, h2]
      · simp [setTsWo, findWo, ha, h2, Ne.symm h2]
    · by_cases h2 : a.id = id'
      · simp [setTsWo, findWo, h2, h2 ▸ ha]
      · simp [setTsWo, findWo, ha, h2, ih]

theorem moveToBackWo_eq {l : List WoNode} {id : Nat} {n : WoNode} (h : findWo l id = some n) :
    moveToBackWo l id = eraseWo l id ++ [n] := by
  simp [moveToBackWo, h]

theorem nodup_moveToBackWo {l : List WoNode} (id : Nat) (hn : (l.map (·.id)).Nodup) :
    ((moveToBackWo l id).map (·.id)).Nodup := by
  cases h : findWo l id with
  | none => simpa [moveToBackWo, h] using hn
  | some n =>
    rw [moveToBackWo_eq h, eraseWo_eq_eraseP]
    exact nodup_eraseP_append _ hn (findWo_eq_find? l id ▸ h)

theorem findWo_moveToBackWo {l : List WoNode} (id id' : Nat) (hn : (l.map (·.id)).Nodup) :
    findWo (moveToBackWo l id) id' = findWo l id' := by
  cases h : findWo l id with
  | none => simp [moveToBackWo, h]
  | some n =>
    rw [moveToBackWo_eq h, eraseWo_eq_eraseP, findWo_eq_find?, findWo_eq_find?]
    exact find?_eraseP_append _ id' hn (findWo_eq_find? l id ▸ h)

end Unsync
end MiniMoka
