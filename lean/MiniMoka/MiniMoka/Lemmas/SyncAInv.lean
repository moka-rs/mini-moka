/-
  The reachable states of the one-thread model of `sync::Cache` as the admission and recency
  proofs need them (`AInv`), and where the list nodes and set dirty flags a maintenance run leaves
  come from (`Sub` for the removal paths, `SubC` for one applied upsert, `SubQ` for the whole
  queue).
-/
import MiniMoka.Lemmas.SyncNodes
import MiniMoka.Lemmas.SyncQueues
import MiniMoka.Lemmas.SyncCalls
import MiniMoka.Lemmas.SyncActs
import MiniMoka.Lemmas.IsRun
import MiniMoka.Lemmas.SketchFrame

namespace MiniMoka
namespace Sync

/- `syncRun p s` is a state like any other here (see the note in `SyncQueues`). -/
attribute [local irreducible] syncRun
namespace Admit

open Nodes Spec

def KM (s : SState) : Prop := ∀ k e, AL.get? s.map k = some e → (getInfo s e.info).key = k

/-- The value entry `insert` makes for a NEW key (`insert_fresh`); `candInfo`, `withCand`, `candOp`
below are its info, the state after the map step and the queued operation. -/
def candVE (s : SState) (v : Nat) : VE :=
  { id := s.nextId + 1, val := v, info := s.nextId, slot := s.nextId + 1 }

def candInfo (p : Params) (s : SState) (k v : Nat) : Info :=
  { key := k, admitted := false, dirty := true, la := s.now, lm := s.now, weight := p.weigh k v }

def withCand (p : Params) (s : SState) (k v : Nat) : SState :=
  { s with nextId := s.nextId + 2,
           infos := AL.put s.infos s.nextId (candInfo p s k v),
           map := AL.put s.map k (candVE s v) }

def candOp (p : Params) (s : SState) (k v : Nat) : WOp :=
  .upsert k (p.hash k) (candVE s v) 0 (p.weigh k v)

theorem getInfo_withCand (p : Params) (s : SState) (k v j : Nat) :
    getInfo (withCand p s k v) j = if s.nextId = j then candInfo p s k v else getInfo s j :=
  getInfo_of_infos_put rfl j

/-- The map step of `insert` for key `k` led from `s` to `c`, and the upsert of `ve` is queued
next (`ConcS.insertMap_eq`, read field by field).  `key` and `lt` need an invariant of `s`; they
are fields so that the two cases (old entry, new entry) are gone through once, in
`insertMap_step`. -/
structure InsStep (s : SState) (k : Nat) (c : SState) (ve : VE) : Prop where
  prob : c.prob = s.prob
  readQ : c.readQ = s.readQ
  writeQ : c.writeQ = s.writeQ
  va : c.va = s.va
  now : c.now = s.now
  nextId : s.nextId ≤ c.nextId
  map : c.map = AL.put s.map k ve
  other : ∀ j, j ≠ ve.info → getInfo c j = getInfo s j
  lm : (getInfo c ve.info).lm = s.now
  la : (getInfo c ve.info).la = s.now
  keys : ∀ j, j < s.nextId → (getInfo c j).key = (getInfo s j).key
  key : KM s → (getInfo c ve.info).key = k
  lt : MapOK s → ve.info < c.nextId

theorem insertMap_step (p : Params) (s : SState) (k v : Nat) :
    ∃ ve oldW, (ConcS.insertMap p s k v).2 = .upsert k (p.hash k) ve oldW (p.weigh k v) ∧
      InsStep s k (ConcS.insertMap p s k v).1 ve := by
  obtain ⟨ve, inf, n, oldW, e, hcase⟩ := ConcS.insertMap_eq p s k v
  rw [e]
  refine ⟨ve, oldW, rfl, ?_⟩
  have hinfo := getInfo_of_infos_put
    (s := s) (s' := { s with nextId := n, infos := AL.put s.infos ve.info inf,
                             map := AL.put s.map k ve }) rfl
  have hcom : inf.lm = s.now ∧ inf.la = s.now ∧ s.nextId ≤ n ∧
      (ve.info < s.nextId → inf.key = (getInfo s ve.info).key) ∧ (KM s → inf.key = k) ∧
      (MapOK s → ve.info < n) := by
    rcases hcase with ⟨old, hg, rfl, rfl, rfl, _⟩ | ⟨_, rfl, rfl, rfl, _⟩
    · exact ⟨rfl, rfl, Nat.le_succ _, fun _ => rfl, fun hk => hk k old hg,
        fun hm => Nat.lt_succ_of_lt (hm.bound k old hg)⟩
    · exact ⟨rfl, rfl, Nat.le_add_right _ 2, fun h => absurd h (Nat.lt_irrefl _), fun _ => rfl,
        fun _ => Nat.lt_add_of_pos_right (by decide)⟩
  obtain ⟨c1, c2, c3, c4, c5, c6⟩ := hcom
  refine ⟨rfl, rfl, rfl, rfl, rfl, c3, rfl, ?_, ?_, ?_, ?_, ?_, c6⟩
  · intro j hj
    rw [hinfo, if_neg (fun e => hj e.symm)]
  · rw [hinfo, if_pos rfl]
    exact c1
  · rw [hinfo, if_pos rfl]
    exact c2
  · intro j hj
    rw [hinfo]
    by_cases e : ve.info = j
    · rw [if_pos e, ← e]
      exact c4 (e ▸ hj)
    · rw [if_neg e]
  · intro hk
    rw [hinfo, if_pos rfl]
    exact c5 hk

theorem fail_prob (s : SState) (f : Fault) : (s.fail f).prob = s.prob := by
  unfold SState.fail; split <;> rfl
theorem fail_infos (s : SState) (f : Fault) : (s.fail f).infos = s.infos := by
  unfold SState.fail; split <;> rfl

theorem unlinkWo_prob (s : SState) (i : Nat) : (unlinkWo s i).prob = s.prob := by
  unfold unlinkWo; split
  · rfl
  · dsimp only; split
    · rfl
    · rw [fail_prob]; rfl

/-- Agreement on what the expiry and size tests of a run read. -/
structure SameCore (s s' : SState) : Prop where
  map : s'.map = s.map
  infos : s'.infos = s.infos
  prob : s'.prob = s.prob
  wo : s'.wo = s.wo
  va : s'.va = s.va
  now : s'.now = s.now
  cws : s'.cws = s.cws
  cec : s'.cec = s.cec

theorem SameCore.refl (s : SState) : SameCore s s := ⟨rfl, rfl, rfl, rfl, rfl, rfl, rfl, rfl⟩

theorem enableSketch_same (p : Params) (s : SState) : SameCore s (enableSketch p s) := by
  unfold enableSketch
  split
  · exact ⟨rfl, rfl, rfl, rfl, rfl, rfl, rfl, rfl⟩
  · exact ⟨rfl, rfl, rfl, rfl, rfl, rfl, rfl, rfl⟩

/-- What the removal paths of maintenance guarantee: the lists only lose nodes, dirty flags are
only cleared. -/
structure Sub (s s' : SState) : Prop where
  prob : ∀ n, n ∈ s'.prob → n ∈ s.prob
  wo : ∀ n, n ∈ s'.wo → n ∈ s.wo
  dirty : ∀ j, (getInfo s' j).dirty = true → (getInfo s j).dirty = true

theorem Sub.refl (s : SState) : Sub s s := ⟨fun _ h => h, fun _ h => h, fun _ h => h⟩

theorem Sub.trans {a b c : SState} (h1 : Sub a b) (h2 : Sub b c) : Sub a c :=
  ⟨fun n h => h1.prob n (h2.prob n h), fun n h => h1.wo n (h2.wo n h),
   fun j h => h1.dirty j (h2.dirty j h)⟩

theorem sub_of_eq {s s' : SState} (hp : s'.prob = s.prob) (hw : s'.wo = s.wo)
    (hi : s'.infos = s.infos) : Sub s s' :=
  ⟨fun n h => by rw [hp] at h; exact h, fun n h => by rw [hw] at h; exact h,
   fun j h => by rw [getInfo_congr hi] at h; exact h⟩

theorem sub_fail (s : SState) (f : Fault) : Sub s (s.fail f) := by
  unfold SState.fail; split
  · exact Sub.refl s
  · exact sub_of_eq rfl rfl rfl

theorem sub_withInfo (s : SState) (i : Nat) (f : Info → Info)
    (hf : ∀ x, (f x).dirty = true → x.dirty = true := by
      intro x h; first | exact h | cases h) : Sub s (withInfo s i f) := by
  refine ⟨fun _ h => h, fun _ h => h, ?_⟩
  intro j h
  rw [getInfo_withInfo] at h
  by_cases e : i = j
  · rw [if_pos e] at h; rw [← e]; exact hf _ h
  · rw [if_neg e] at h; exact h

theorem sub_addCounters (s : SState) (n w : Nat) : Sub s (addCounters s n w) :=
  sub_of_eq rfl rfl rfl

theorem sub_erase (s : SState) (k : Nat) : Sub s { s with map := AL.erase s.map k } :=
  sub_of_eq rfl rfl rfl

theorem sub_set_writeQ (s : SState) (q : List WOp) : Sub s { s with writeQ := q } :=
  sub_of_eq rfl rfl rfl

theorem eraseAo_sublist (l : List AoNode) (id : Nat) : (eraseAo l id).Sublist l := by
  rw [eraseAo_eq_eraseP]
  exact List.eraseP_sublist

theorem eraseWo_sublist (l : List WoNode) (id : Nat) : (eraseWo l id).Sublist l := by
  rw [eraseWo_eq_eraseP]
  exact List.eraseP_sublist

theorem _root_.MiniMoka.Sync.Prim.toSub {s s' : SState} (h : Prim false s s') : Sub s s' := by
  cases h with
  | fail f _ => exact sub_fail s f
  | info i u _ => exact sub_withInfo s i _ (fun x hx => by cases u <;> first | exact hx | cases hx)
  | erase k => exact sub_erase s k
  | aoErase id => exact ⟨fun _ hm => (eraseAo_sublist _ _).subset hm, fun _ h => h, fun _ h => h⟩
  | aoBack id n hf =>
    refine ⟨fun m hm => ?_, fun _ h => h, fun _ h => h⟩
    rcases List.mem_append.mp hm with hm | hm
    · exact (eraseAo_sublist _ _).subset hm
    · rw [List.mem_singleton.mp hm]; exact (findAo_some hf).1
  | woErase id => exact ⟨fun _ h => h, fun _ hm => (eraseWo_sublist _ _).subset hm, fun _ h => h⟩
  | woBack id n hf =>
    refine ⟨fun _ h => h, fun m hm => ?_, fun _ h => h⟩
    rcases List.mem_append.mp hm with hm | hm
    · exact (eraseWo_sublist _ _).subset hm
    · rw [List.mem_singleton.mp hm]; exact (findWo_some hf).1
  | sub n wt => exact sub_of_eq rfl rfl rfl
  | add _ _ hw => cases hw
  | aoPush _ _ hw => cases hw
  | woPush _ _ hw => cases hw

theorem _root_.MiniMoka.Sync.Maint.sub {s s' : SState} (h : Maint false s s') : Sub s s' :=
  h.induct Sub.refl Sub.trans Prim.toSub

theorem applyUpdate_sub (p : Params) (s : SState) (ve : VE) (oldW newW : Nat) :
    Sub s (applyUpdate p s ve oldW newW) := by
  unfold applyUpdate
  dsimp only
  refine Sub.trans ?_ (moveToBackWoE_maint _ _).sub
  refine Sub.trans ?_ (moveToBackAoE_maint _ _).sub
  split
  · exact (subCounters_maint _ _ _).sub.trans (sub_addCounters _ _ _)
  · exact ((subCounters_maint _ _ _).sub.trans (sub_addCounters _ _ _)).trans (sub_withInfo _ _ _)

theorem _root_.MiniMoka.Sync.Act.toSub {p : Params} {rq : List ROp} {s s' : SState}
    (h : Act p false rq s s') : Sub s s' := by
  cases h with
  | prim h => exact h.toSub
  | popR _ _ _ => exact sub_of_eq rfl rfl rfl
  | popW _ _ _ => exact sub_of_eq rfl rfl rfl
  | sk _ => exact sub_of_eq rfl rfl rfl
  | enable _ => exact sub_of_eq rfl rfl rfl
  | touch _ _ _ _ _ => exact sub_withInfo _ _ _
  | load => exact sub_of_eq rfl rfl rfl
  | publish => exact sub_of_eq rfl rfl rfl
  | flags _ _ => exact sub_of_eq rfl rfl rfl
  | pushW _ => exact sub_of_eq rfl rfl rfl
  | hang => exact sub_fail _ _

theorem _root_.MiniMoka.Sync.Acts.sub {p : Params} {rq : List ROp} {s s' : SState}
    (h : Acts p false rq s s') : Sub s s' :=
  h.keeps (C := Sub s) (fun ha hs => hs.trans ha.toSub) (Sub.refl s)

theorem enableSketch_sub (p : Params) (s : SState) : Sub s (enableSketch p s) :=
  (enableSketch_acts (rq := []) s).sub

theorem applyReads_sub (p : Params) (n : Nat) (s : SState) : Sub s (applyReads p n s) :=
  (applyReads_acts n s (fun _ h => h)).sub

/-- `Sub`, but for the nodes made for the admitted candidate (`key`, `hash`, info `info`). -/
structure SubC (key : Nat) (hash : UInt64) (info : Nat) (s s' : SState) : Prop where
  prob : ∀ n, n ∈ s'.prob → n ∈ s.prob ∨ (n.key = key ∧ n.hash = hash ∧ n.info = info)
  wo : ∀ n, n ∈ s'.wo → n ∈ s.wo ∨ n.info = info
  dirty : ∀ j, (getInfo s' j).dirty = true → (getInfo s j).dirty = true

theorem Sub.toC {s s' : SState} (h : Sub s s') (key : Nat) (hash : UInt64) (info : Nat) :
    SubC key hash info s s' :=
  ⟨fun n hn => Or.inl (h.prob n hn), fun n hn => Or.inl (h.wo n hn), h.dirty⟩

theorem SubC.trans_sub {key : Nat} {hash : UInt64} {info : Nat} {a b c : SState}
    (h1 : SubC key hash info a b) (h2 : Sub b c) : SubC key hash info a c :=
  ⟨fun n hn => h1.prob n (h2.prob n hn), fun n hn => h1.wo n (h2.wo n hn),
   fun j h => h1.dirty j (h2.dirty j h)⟩

theorem Sub.trans_c {key : Nat} {hash : UInt64} {info : Nat} {a b c : SState}
    (h1 : Sub a b) (h2 : SubC key hash info b c) : SubC key hash info a c :=
  ⟨fun n hn => (h2.prob n hn).imp (h1.prob n) id, fun n hn => (h2.wo n hn).imp (h1.wo n) id,
   fun j h => h1.dirty j (h2.dirty j h)⟩

theorem handleAdmit_subc (p : Params) (s : SState) (key : Nat) (hash : UInt64) (ve : VE)
    (w : Nat) : SubC key hash ve.info s (handleAdmit p s key hash ve w) := by
  have A := handleAdmit_admitted p s key hash ve w
  refine ⟨fun n hn => ?_, fun n hn => ?_, fun j hj => ?_⟩
  · rw [A.prob] at hn
    rcases List.mem_append.mp hn with h | h
    · exact Or.inl h
    · rw [List.mem_singleton.mp h]
      exact Or.inr ⟨rfl, rfl, rfl⟩
  · rw [A.wo] at hn
    split at hn
    · rcases List.mem_append.mp hn with h | h
      · exact Or.inl h
      · rw [List.mem_singleton.mp h]
        exact Or.inr rfl
    · exact Or.inl hn
  · rw [A.info] at hj
    split at hj
    · rename_i e
      rw [← e]
      exact hj
    · exact hj

theorem admitOrReject_subc (p : Params) (s : SState) (key : Nat) (hash : UInt64) (ve : VE)
    (newW : Nat) : SubC key hash ve.info s (admitOrReject p s key hash ve newW) := by
  unfold admitOrReject
  dsimp only
  split
  · refine SubC.trans_sub ?_ (moveSkipped_maint _ _).sub
    exact (removeVictims_maint _ _ _ _).sub.trans_c (handleAdmit_subc _ _ _ _ _ _)
  · exact ((removeCandidate_maint _ _ _ _).sub.trans (moveSkipped_maint _ _).sub).toC _ _ _

theorem handleUpsert_subc_clean (p : Params) (s : SState) (key : Nat) (hash : UInt64) (ve : VE)
    (oldW newW : Nat) :
    SubC key hash ve.info (withInfo s ve.info (fun i => { i with dirty := false }))
      (handleUpsert p s key hash ve oldW newW) :=
  handleUpsert_cases (C := SubC key hash ve.info _) rfl rfl
    (fun _ => (applyUpdate_sub _ _ _ _ _).toC _ _ _)
    (fun _ _ => (Sub.refl _).toC _ _ _)
    (fun _ _ _ => handleAdmit_subc _ _ _ _ _ _)
    (fun _ _ _ _ => (removeCandidate_maint _ _ _ _).sub.toC _ _ _)
    (fun _ _ _ _ => admitOrReject_subc _ _ _ _ _ _)

theorem handleUpsert_subc (p : Params) (s : SState) (key : Nat) (hash : UInt64) (ve : VE)
    (oldW newW : Nat) : SubC key hash ve.info s (handleUpsert p s key hash ve oldW newW) :=
  (sub_withInfo _ _ _).trans_c (handleUpsert_subc_clean p s key hash ve oldW newW)

theorem handleUpsert_clean (p : Params) (s : SState) (key : Nat) (hash : UInt64) (ve : VE)
    (oldW newW : Nat) : (getInfo (handleUpsert p s key hash ve oldW newW) ve.info).dirty = false := by
  cases hx : (getInfo (handleUpsert p s key hash ve oldW newW) ve.info).dirty with
  | false => rfl
  | true =>
    have := (handleUpsert_subc_clean p s key hash ve oldW newW).dirty _ hx
    rw [getInfo_withInfo, if_pos rfl] at this
    cases this

/-- `Sub`, but for what applying the queued writes `q` adds: a new node was made for an upsert
of `q` (key, hash and info are that operation's), and a flag still set belongs to no upsert of `q`
(an applied upsert leaves its info clean). -/
structure SubQ (q : List WOp) (s s' : SState) : Prop where
  prob : ∀ n, n ∈ s'.prob → n ∈ s.prob ∨
    ∃ ve o w, WOp.upsert n.key n.hash ve o w ∈ q ∧ ve.info = n.info
  wo : ∀ n, n ∈ s'.wo → n ∈ s.wo ∨
    ∃ key hash ve o w, WOp.upsert key hash ve o w ∈ q ∧ ve.info = n.info
  dirty : ∀ j, (getInfo s' j).dirty = true → (getInfo s j).dirty = true ∧
    ∀ key hash ve o w, WOp.upsert key hash ve o w ∈ q → ve.info ≠ j

theorem Sub.toQ {s s' : SState} (h : Sub s s') : SubQ [] s s' :=
  ⟨fun n hn => Or.inl (h.prob n hn), fun n hn => Or.inl (h.wo n hn),
   fun j hj => ⟨h.dirty j hj, fun _ _ _ _ _ hm => by cases hm⟩⟩

theorem SubQ.trans {q1 q2 : List WOp} {a b c : SState} (h1 : SubQ q1 a b) (h2 : SubQ q2 b c) :
    SubQ (q1 ++ q2) a c := by
  refine ⟨fun n hn => ?_, fun n hn => ?_, fun j hj => ?_⟩
  · rcases h2.prob n hn with h | ⟨ve, o, w, hm, e⟩
    · rcases h1.prob n h with h | ⟨ve, o, w, hm, e⟩
      · exact Or.inl h
      · exact Or.inr ⟨ve, o, w, List.mem_append_left _ hm, e⟩
    · exact Or.inr ⟨ve, o, w, List.mem_append_right _ hm, e⟩
  · rcases h2.wo n hn with h | ⟨key, hash, ve, o, w, hm, e⟩
    · rcases h1.wo n h with h | ⟨key, hash, ve, o, w, hm, e⟩
      · exact Or.inl h
      · exact Or.inr ⟨key, hash, ve, o, w, List.mem_append_left _ hm, e⟩
    · exact Or.inr ⟨key, hash, ve, o, w, List.mem_append_right _ hm, e⟩
  · obtain ⟨d2, n2⟩ := h2.dirty j hj
    obtain ⟨d1, n1⟩ := h1.dirty j d2
    refine ⟨d1, fun key hash ve o w hm => ?_⟩
    rcases List.mem_append.mp hm with hm | hm
    · exact n1 key hash ve o w hm
    · exact n2 key hash ve o w hm

theorem SubQ.sub_right {q : List WOp} {a b c : SState} (h1 : SubQ q a b) (h2 : Sub b c) :
    SubQ q a c := by
  have := h1.trans h2.toQ
  rwa [List.append_nil] at this

theorem applyWrite_subq (p : Params) (s : SState) (op : WOp) : SubQ [op] s (applyWrite p s op) := by
  cases op with
  | remove key ve =>
    have h := (handleRemove_maint s ve).sub
    exact ⟨fun n hn => Or.inl (h.prob n hn), fun n hn => Or.inl (h.wo n hn),
      fun j hj => ⟨h.dirty j hj, fun _ _ _ _ _ hm => by cases List.mem_singleton.mp hm⟩⟩
  | upsert key hash ve oldW newW =>
    have hc := handleUpsert_subc p s key hash ve oldW newW
    refine ⟨fun n hn => ?_, fun n hn => ?_, fun j hj => ⟨hc.dirty j hj, ?_⟩⟩
    · rcases hc.prob n hn with h | ⟨e1, e2, e3⟩
      · exact Or.inl h
      · exact Or.inr ⟨ve, oldW, newW, by rw [e1, e2]; exact List.mem_cons_self, e3.symm⟩
    · rcases hc.wo n hn with h | e3
      · exact Or.inl h
      · exact Or.inr ⟨key, hash, ve, oldW, newW, List.mem_cons_self, e3.symm⟩
    · intro key' hash' ve' o' w' hm e
      cases List.mem_singleton.mp hm
      have hcl := handleUpsert_clean p s key hash ve oldW newW
      rw [e] at hcl
      have hj' : (getInfo (handleUpsert p s key hash ve oldW newW) j).dirty = true := hj
      rw [hcl] at hj'
      cases hj'

/-- `applyWrites_ind` with the applied prefix remembered: `R q t` speaks of the operations `q`
applied so far and the state `t` reached. -/
theorem applyWrites_all {p : Params} {s0 : SState} {R : List WOp → SState → Prop} (h0 : R [] s0)
    (step : ∀ (q : List WOp) (t : SState) (op : WOp) (rest : List WOp),
      s0.writeQ = q ++ op :: rest → t.writeQ = op :: rest → R q t →
      R (q ++ [op]) (applyWrite p { t with writeQ := rest } op)) :
    R s0.writeQ (applyWrites p s0.writeQ.length s0) := by
  obtain ⟨q, e, h⟩ := applyWrites_ind (p := p)
    (C := fun t => ∃ q, s0.writeQ = q ++ t.writeQ ∧ R q t)
    (fun t op rest hq ⟨q, e, h⟩ => by
      rw [hq] at e
      refine ⟨q ++ [op], ?_, step q t op rest e hq h⟩
      rw [(applyWrite_maint p { t with writeQ := rest } op).qframe.writeQ, e, List.append_assoc]
      rfl)
    s0.writeQ.length s0 ⟨[], rfl, h0⟩
  rw [applyWrites_writeQ, List.drop_length, List.append_nil] at e
  subst e
  exact h

theorem applyReads_all {p : Params} {s0 : SState} {R : List ROp → SState → Prop} (h0 : R [] s0)
    (step : ∀ (q : List ROp) (t : SState) (op : ROp) (rest : List ROp),
      s0.readQ = q ++ op :: rest → t.readQ = op :: rest → R q t →
      R (q ++ [op]) (applyRead p { t with readQ := rest } op)) :
    R s0.readQ (applyReads p s0.readQ.length s0) := by
  obtain ⟨q, e, h⟩ := applyReads_ind (p := p)
    (C := fun t => ∃ q, s0.readQ = q ++ t.readQ ∧ R q t)
    (fun t op rest hq ⟨q, e, h⟩ => by
      rw [hq] at e
      refine ⟨q ++ [op], ?_, step q t op rest e hq h⟩
      rw [(applyRead_qframe p { t with readQ := rest } op).readQ, e, List.append_assoc]
      rfl)
    s0.readQ.length s0 ⟨[], rfl, h0⟩
  rw [applyReads_readQ, List.drop_length, List.append_nil] at e
  subst e
  exact h

theorem applyWrites_subq (p : Params) (s : SState) :
    SubQ s.writeQ s (applyWrites p s.writeQ.length s) :=
  applyWrites_all (R := fun q t => SubQ q s t) (Sub.refl s).toQ fun _ t op rest _ _ h =>
    let h1 := applyWrite_subq p { t with writeQ := rest } op
    h.trans ⟨h1.prob, h1.wo, h1.dirty⟩

theorem syncRun_subq (p : Params) (s : SState) : SubQ s.writeQ s (syncRun p s) := by
  refine syncRun_stages (P := fun t => Sub s t ∧ t.writeQ = s.writeQ) (Q := SubQ s.writeQ s)
    (R := SubQ s.writeQ s) ⟨sub_of_eq rfl rfl rfl, rfl⟩ ?_
    (fun t ht => ht.sub_right (evictExpired_maint _ _).sub)
    (fun t ht _ => ht.sub_right (evictLruLoop_maint _ _ _ _ _).sub)
    (fun t ht => ht.sub_right (sub_of_eq rfl rfl rfl))
  rintro t ⟨ht, hw⟩
  refine syncPass_stages (Q := fun t => Sub s t ∧ t.writeQ = s.writeQ) (R := SubQ s.writeQ s)
    ⟨ht.trans (applyReads_sub _ _ _), (applyReads_writeQ _ _ _).trans hw⟩ ?_
    (fun t ht _ => ht.sub_right (enableSketch_sub _ _))
  rintro t ⟨ht, hw⟩
  exact hw ▸ ht.toQ.trans (applyWrites_subq p t)

/-- A node of the access order (`PH`) and a queued upsert (`QH`) carry the hash of their key, so
the estimate read through a node is the one the oracle reads through the key. -/
def PH (p : Params) (s : SState) : Prop := ∀ n, n ∈ s.prob → n.hash = p.hash n.key

def QH (p : Params) (q : List WOp) : Prop :=
  ∀ key hash ve o w, WOp.upsert key hash ve o w ∈ q → hash = p.hash key

structure HashOk (p : Params) (s : SState) : Prop where
  prob : PH p s
  wq : QH p s.writeQ

theorem HashOk.of_eq {p : Params} {s t : SState} (h : HashOk p s) (e1 : t.prob = s.prob)
    (e2 : t.writeQ = s.writeQ) : HashOk p t :=
  ⟨fun n hn => h.prob n (e1 ▸ hn), by rw [e2]; exact h.wq⟩

/-- `s` with the write operations `ex`, which a call holds and has not queued yet, counted as
queued: the invariants that speak of the write queue hold of this state in the middle of a call.
(`Counters.CTop` takes the same queue as a list argument, `s.writeQ ++ ex`.) -/
def held (s : SState) (ex : List WOp) : SState := { s with writeQ := s.writeQ ++ ex }

theorem held_nil (s : SState) : held s [] = s := by
  unfold held
  rw [List.append_nil]

theorem syncRun_hash {p : Params} {s : SState} {ex : List WOp} (h : HashOk p (held s ex)) :
    HashOk p (held (syncRun p s) ex) := by
  refine ⟨fun n hn => ?_, ?_⟩
  · rcases (syncRun_subq p s).prob n hn with h1 | ⟨ve, o, w, hm, _⟩
    · exact h.prob n h1
    · exact h.wq _ _ _ _ _ (List.mem_append_left _ hm)
  · show QH p ((syncRun p s).writeQ ++ ex)
    rw [syncRun_writeQ]
    exact fun key hash ve o w hm => h.wq key hash ve o w (List.mem_append_right _ hm)

theorem hash_callInv (p : Params) : CallInv p (fun ex s => HashOk p (held s ex)) where
  flags _ _ h := h.of_eq rfl rfl
  run h := syncRun_hash h
  enqW h := h.of_eq rfl (List.append_nil _)
  enqR _ h := h.of_eq rfl rfl
  insMap := by
    intro s k v _ h
    obtain ⟨ve, o, e, hc⟩ := insertMap_step p s k v
    rw [held_nil] at h
    rw [e]
    refine ⟨fun n hn => h.prob n (by rw [← hc.prob]; exact hn), ?_⟩
    show QH p ((ConcS.insertMap p s k v).1.writeQ ++ [_])
    rw [hc.writeQ]
    intro key hash ve' o' w hm
    rcases List.mem_append.mp hm with hm | hm
    · exact h.wq key hash ve' o' w hm
    · cases List.mem_singleton.mp hm
      rfl
  invMap := by
    intro s k op _ h hop
    obtain ⟨ve, _, rfl, e⟩ := ConcS.invalidateMap_some hop
    rw [held_nil] at h
    rw [e]
    refine ⟨h.prob, ?_⟩
    intro key hash ve' o' w hm
    rcases List.mem_append.mp hm with hm | hm
    · exact h.wq key hash ve' o' w hm
    · cases List.mem_singleton.mp hm
  invAll h := h.of_eq rfl rfl
  adv _ h := h.of_eq rfl rfl

/-- An invariant of `step` under which no fault arises, so that a call returns `stepState` and
observes `stepObs`. -/
abbrev StepInv (p : Params) (I : SState → Prop) : Prop :=
  IsRun.StepInv (step p) (fun s op => (stepState p s op, stepObs p s op)) I

abbrev Runs (p : Params) (I : SState → Prop) (t : List (Op × Obs)) : Prop := IsRun.Runs (run p) I t

theorem stepInv_of {p : Params} {I : SState → Prop} (next : ∀ s op, I s → I (step p s op).1)
    (nofault : ∀ s, I s → s.fault = none) : StepInv p I := by
  refine ⟨next, fun s op hs => ?_⟩
  have h := nofault _ (next s op hs)
  rw [step_fst (nofault s hs)] at h
  rw [step_eq p (nofault s hs) op, h]

theorem StepInv.state {p : Params} {I : SState → Prop} (H : StepInv p I) {s : SState} (hs : I s)
    (op : Op) : I (stepState p s op) := by
  have := H.next s op hs
  rw [H.eq s op hs] at this
  exact this

/-- No watermark or time stamp lies in the future (`va` is `VaLe` of SyncFits; the admission
files do not rest on that file).  Not a `CallInv` instance and not through `step_keeps`: both
quantify over EVERY read operation a call may push, and `rq` needs `ts ≤ now` of the hit that
`get` pushes, which only `ConcS.lookup_now` gives; so the three calls are walked here. -/
structure TsOk (s : SState) : Prop where
  va : ∀ v, s.va = some v → v ≤ s.now
  lm : ∀ i, (getInfo s i).lm ≤ s.now
  la : ∀ i, (getInfo s i).la ≤ s.now
  rq : ∀ hash ve ts, ROp.hit hash ve ts ∈ s.readQ → ts ≤ s.now

theorem TsOk.frame {s s' : SState} (h : TsOk s) (hf : Frame s s') : TsOk s' := by
  refine ⟨?_, ?_, ?_, ?_⟩
  · intro v hv; rw [hf.va] at hv; rw [hf.now]; exact h.va v hv
  · intro i; rw [hf.lm, hf.now]; exact h.lm i
  · intro i
    rw [hf.now]
    rcases hf.la i with e | ⟨hash, ve, hin, _⟩
    · rw [e]; exact h.la i
    · exact h.rq _ _ _ hin
  · intro hash ve ts hin
    rw [hf.now]
    exact h.rq _ _ _ (hf.readQ _ hin)

theorem TsOk.of_eq {s t : SState} (h : TsOk s) (e1 : t.infos = s.infos) (e2 : t.va = s.va)
    (e3 : t.now = s.now) (e4 : t.readQ = s.readQ) : TsOk t := by
  have hg : ∀ j, getInfo t j = getInfo s j := getInfo_congr e1
  refine ⟨?_, ?_, ?_, ?_⟩
  · intro v hv; rw [e2] at hv; rw [e3]; exact h.va v hv
  · intro i; rw [hg, e3]; exact h.lm i
  · intro i; rw [hg, e3]; exact h.la i
  · intro hash ve ts hin; rw [e4] at hin; rw [e3]; exact h.rq _ _ _ hin

theorem insert_ts {p : Params} (hq : NoQuirks p) {s : SState} (h : TsOk s) (k v : Nat) :
    TsOk (insert p s k v) := by
  obtain ⟨ve, o, e, hc⟩ := insertMap_step p s k v
  rw [ConcS.insert_eq, e]
  refine TsOk.frame ⟨?_, ?_, ?_, ?_⟩ (scheduleWriteOp_frame hq 3 _ _)
  · rw [hc.va, hc.now]; exact h.va
  · intro i
    rw [hc.now]
    by_cases e : i = ve.info
    · rw [e, hc.lm]; exact Nat.le_refl _
    · rw [hc.other i e]; exact h.lm i
  · intro i
    rw [hc.now]
    by_cases e : i = ve.info
    · rw [e, hc.la]; exact Nat.le_refl _
    · rw [hc.other i e]; exact h.la i
  · rw [hc.readQ, hc.now]; exact h.rq

theorem get_ts {p : Params} (hq : NoQuirks p) {s : SState} (hqi : QInv s) (h : TsOk s) (k : Nat) :
    TsOk (get p s k).1 := by
  rw [ConcS.get_fst_eq, recordReadOp_enqueues p hqi]
  have hf := housekeepR_frame hq s
  have h1 := h.frame hf
  refine ⟨h1.va, h1.lm, h1.la, ?_⟩
  intro hash ve ts hin
  rcases List.mem_append.mp hin with hin | hin
  · exact h1.rq _ _ _ hin
  · rw [hf.now, ConcS.lookup_now (List.mem_singleton.mp hin).symm]
    exact Nat.le_refl _

theorem invalidate_ts {p : Params} (hq : NoQuirks p) {s : SState} (h : TsOk s) (k : Nat) :
    TsOk (invalidate p s k) := by
  unfold invalidate
  split
  · exact h
  · dsimp only
    refine TsOk.frame ?_ (scheduleWriteOp_frame hq 3 _ _)
    exact ⟨h.va, h.lm, h.la, h.rq⟩

/-- What the admission and recency results assume of a state, and every reachable state has
(`ainv_stepInv`); `ts` is there so that an entry stamped now has not expired. -/
structure AInv (p : Params) (s : SState) : Prop where
  top : TopInv Sketch.Good s
  q : QInv s
  hash : HashOk p s
  ts : TsOk s

theorem init_ainv (p : Params) : AInv p {} := by
  refine ⟨init_inv sketchLaws, qinv_init, ⟨?_, ?_⟩, ⟨?_, ?_, ?_, ?_⟩⟩
  · intro n hn; cases hn
  · intro _ _ _ _ _ hm; cases hm
  · intro v hv; cases hv
  · intro i; exact Nat.le_refl _
  · intro i; exact Nat.le_refl _
  · intro _ _ _ hm; cases hm

theorem step_ainv {p : Params} (hq : NoQuirks p) (hsm : SmallSketch p) {s : SState}
    (h : AInv p s) (op : Op) : AInv p (step p s op).1 := by
  have hnf := h.top.nofault
  have hr := SkF.step_reach sketchLaws hq hsm ⟨h.top, h.q⟩ op
  refine ⟨hr.top, hr.q, ?_, ?_⟩
  · have := (hash_callInv p).step h.q (show HashOk p (held s []) by rw [held_nil]; exact h.hash) op
    rwa [held_nil] at this
  · rw [step_fst hnf]
    cases op with
    | ins k v => exact insert_ts hq h.ts k v
    | get k => exact get_ts hq h.q h.ts k
    | inv k => exact invalidate_ts hq h.ts k
    | sync => exact h.ts.frame (syncRun_frame hq s)
    | invAll =>
      refine ⟨?_, h.ts.lm, h.ts.la, h.ts.rq⟩
      intro v hv
      have : some s.now = some v := hv
      cases this; exact Nat.le_refl _
    | adv d =>
      refine ⟨?_, ?_, ?_, ?_⟩
      · intro v hv; exact Nat.le_trans (h.ts.va v hv) (Nat.le_add_right _ _)
      · intro i; exact Nat.le_trans (h.ts.lm i) (Nat.le_add_right _ _)
      · intro i; exact Nat.le_trans (h.ts.la i) (Nat.le_add_right _ _)
      · intro a b c hm; exact Nat.le_trans (h.ts.rq a b c hm) (Nat.le_add_right _ _)
    | _ => exact h.ts

theorem ainv_stepInv {p : Params} (hq : NoQuirks p) (hsm : SmallSketch p) : StepInv p (AInv p) :=
  stepInv_of (fun _ op hs => step_ainv hq hsm hs op) (fun _ hs => hs.top.nofault)

theorem insert_ainv {p : Params} (hq : NoQuirks p) (hsm : SmallSketch p) {s : SState}
    (h : AInv p s) (k v : Nat) : AInv p (insert p s k v) :=
  (ainv_stepInv hq hsm).state h (.ins k v)

end Admit
end Sync
end MiniMoka
