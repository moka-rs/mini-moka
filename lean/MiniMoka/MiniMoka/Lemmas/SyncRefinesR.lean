/-
  The one-thread model refines the abstract model R of per-key atomic map steps (`ConcR.lean`):
  every operation of `Sync` is an execution fragment of R (`fragOf`, `fragOf_refines`): `insert`,
  `invalidate` and `get` have exactly one map step, on their key — the map steps are those of
  `ConcS.lean` —, the other operations have none, and everything else an operation does to the map
  is deletions (`daemon` events).  The abstraction is `absMap s` = key ↦ value of the map
  entry; maps are compared by their lookups (`KVEq`).  A history of one thread is then a path of a
  system that projects to R (`sysT`, an instance of `ProjR.Sys`).  Theorems:
  `Props/C02Refines.lean`.
-/
import MiniMoka.Lemmas.ConcRFrags
import MiniMoka.Lemmas.ConcS
import MiniMoka.Lemmas.SyncQueues

namespace MiniMoka
namespace SyncR

open ConcR (KV Key Val Tid Oid Ev State lookup remove store runFrom threadIdle)
open Sync (SState VE KN NoQuirks Frame)

def absKV (m : List (Nat × VE)) : KV := m.map (fun kv => (kv.1, kv.2.val))

/-- The map of R that a state of `Sync` stands for: key ↦ value of the map entry. -/
def absMap (s : SState) : KV := absKV s.map

theorem lookup_absKV (m : List (Nat × VE)) (k : Nat) :
    lookup (absKV m) k = (AL.get? m k).map (·.val) := by
  induction m with
  | nil => rfl
  | cons a m ih =>
    obtain ⟨k', ve⟩ := a
    show AL.get? ((k', ve.val) :: absKV m) k = _
    rw [AL.get?_cons, AL.get?_cons]
    by_cases h : k' = k
    · simp [h]
    · simp only [h, if_false]; exact ih

theorem lookup_absMap (s : SState) (k : Nat) :
    lookup (absMap s) k = (AL.get? s.map k).map (·.val) := lookup_absKV s.map k

theorem absKV_put (m : List (Nat × VE)) (k : Nat) (ve : VE) :
    KVEq (store (absKV m) k ve.val) (absKV (AL.put m k ve)) := by
  intro k'
  rw [ConcR.lookup_store, lookup_absKV, lookup_absKV, AL.get?_put]
  by_cases h : k = k' <;> simp [h]

theorem absKV_erase {m : List (Nat × VE)} (hn : (AL.keys m).Nodup) (k : Nat) :
    KVEq (remove (absKV m) k) (absKV (AL.erase m k)) := by
  intro k'
  rw [ConcR.lookup_remove, lookup_absKV, lookup_absKV, AL.get?_erase k k' hn]
  by_cases h : k = k' <;> simp [h]

/-! ## `Sync`: apart from its one map step, an operation only shrinks the map -/

open Sync in
theorem sub_of_frame {s1 s' : SState} (hf : Frame s1 s') (hk : KN s1) :
    KVSub (absMap s1) (absMap s') := by
  intro k v h
  rw [lookup_absMap] at h ⊢
  cases hg : AL.get? s'.map k with
  | none => rw [hg] at h; cases h
  | some ve => rw [hg] at h; rw [hf.mapSub hk k ve hg]; exact h

theorem insertMap_abs (p : Params) (s : SState) (k v : Nat) :
    KVEq (store (absMap s) k v) (absMap (ConcS.insertMap p s k v).1) := by
  obtain ⟨ve, hm, hv, _⟩ := ConcS.insertMap_map p s k v
  unfold absMap
  rw [hm, ← hv]
  exact absKV_put s.map k ve

theorem insertMap_kn (p : Params) {s : SState} (hk : KN s) (k v : Nat) :
    KN (ConcS.insertMap p s k v).1 := by
  obtain ⟨ve, hm, _⟩ := ConcS.insertMap_map p s k v
  unfold KN
  rw [hm]
  exact AL.nodup_put k ve hk

theorem invalidateMap_abs {s : SState} (hk : KN s) (k : Nat) :
    KVEq (remove (absMap s) k) (absMap (ConcS.invalidateMap s k).1) := by
  unfold absMap
  rw [ConcS.invalidateMap_map]
  exact absKV_erase hk k

theorem invalidateMap_kn {s : SState} (hk : KN s) (k : Nat) : KN (ConcS.invalidateMap s k).1 := by
  unfold KN
  rw [ConcS.invalidateMap_map]
  exact AL.nodup_erase k hk

theorem lookup_ret (p : Params) (s : SState) (k : Nat) :
    (ConcS.lookup p s k).2 = lookup (absMap s) k ∨ (ConcS.lookup p s k).2 = none := by
  rcases ConcS.lookup_cases p s k with ⟨e, _⟩ | ⟨ve, hve, _, e⟩
  · exact Or.inr (by rw [e])
  · left; rw [e, lookup_absMap, hve]; rfl

open Sync in
theorem recordReadOp_sub {p : Params} (hq : NoQuirks p) {s : SState} (hk : KN s) (op : ROp) :
    KVSub (absMap s) (absMap (recordReadOp p s op)) := by
  have h1 : KVSub (absMap s) (absMap (housekeepR p s)) := by
    unfold housekeepR
    split
    · exact sub_of_frame (trySync_frame hq s) hk
    · exact KVSub.refl _
  show KVSub _ (absMap (if (housekeepR p s).readQ.length < Gen.READ_LOG_SIZE
    then { housekeepR p s with readQ := (housekeepR p s).readQ ++ [op] } else housekeepR p s))
  split <;> exact h1

open Sync in
theorem insert_sub {p : Params} (hq : NoQuirks p) {s : SState} (hk : KN s) (k v : Nat) :
    KVSub (store (absMap s) k v) (absMap (insert p s k v)) := by
  rw [ConcS.insert_eq]
  exact (sub_of_frame (scheduleWriteOp_frame hq _ _ _) (insertMap_kn p hk k v)).of_eq_left
    (insertMap_abs p s k v).symm

open Sync in
theorem invalidate_sub {p : Params} (hq : NoQuirks p) {s : SState} (hk : KN s) (k : Nat) :
    KVSub (remove (absMap s) k) (absMap (invalidate p s k)) := by
  rw [ConcS.invalidate_eq]
  split
  · exact (sub_of_frame (scheduleWriteOp_frame hq _ _ _) (invalidateMap_kn hk k)).of_eq_left
      (invalidateMap_abs hk k).symm
  · rename_i ho
    have h := invalidateMap_abs hk k
    rw [ConcS.invalidateMap_fst_of_none ho] at h
    exact (KVSub.refl _).of_eq_left h.symm

open Sync in
theorem get_sub {p : Params} (hq : NoQuirks p) {s : SState} (hk : KN s) (k : Nat) :
    KVSub (absMap s) (absMap (get p s k).1) := by
  rw [ConcS.get_fst_eq]
  exact recordReadOp_sub hq hk _

open Sync in
theorem get_ret (p : Params) (s : SState) (k : Nat) :
    (get p s k).2 = lookup (absMap s) k ∨ (get p s k).2 = none := by
  rw [ConcS.get_snd_eq]
  exact lookup_ret p s k

/-! ## The fragment of R that an operation of `Sync` stands for -/

/-- The data operations of `Sync` are the operations of R; everything else is not (see the
remarks at the top of `ConcR.lean`). -/
def ropOf : Op → Option ConcR.Op
  | .ins k v => some (.ins k v)
  | .inv k => some (.del k)
  | .get k => some (.get k)
  | _ => none

def respOf : Obs → Option Val
  | .val v => v
  | _ => none

/-- The events of R for the operation `op` of `Sync` performed in state `s` by thread `t` as
instance `o`.  A data operation: invocation, its map step, one `daemon` per key that the
maintenance inside the call deleted (in the model, as in the code, maintenance runs after the
map step: inside `schedule_write_op` / `record_read_op`), the response.  Any other operation:
one `daemon` per deleted key (non-empty only for `sync`). -/
def fragOf (p : Params) (s : SState) (t : Tid) (o : Oid) (op : Op) : List Ev :=
  let s' := (Sync.step p s op).1
  match ropOf op with
  | some rop =>
    callFrag t o rop (delKeys (mapAfter (absMap s) rop) (absMap s')) (respOf (Sync.step p s op).2)
  | none => (delKeys (absMap s) (absMap s')).map Ev.daemon

/-- The execution of R for a history of `Sync` run by thread `t`; instance ids are positions. -/
def evsOf (p : Params) (t : Tid) : SState → Oid → List Op → List Ev
  | _, _, [] => []
  | s, n, op :: rest => fragOf p s t n op ++ evsOf p t (Sync.step p s op).1 (n + 1) rest

theorem fragOf_call {p : Params} {s : SState} {t : Tid} {o : Oid} {op : Op} {rop : ConcR.Op}
    (h : ropOf op = some rop) :
    fragOf p s t o op = callFrag t o rop
      (delKeys (mapAfter (absMap s) rop) (absMap (Sync.step p s op).1))
      (respOf (Sync.step p s op).2) := by
  unfold fragOf; simp only [h]

theorem fragOf_other {p : Params} {s : SState} {t : Tid} {o : Oid} {op : Op}
    (h : ropOf op = none) :
    fragOf p s t o op = (delKeys (absMap s) (absMap (Sync.step p s op).1)).map Ev.daemon := by
  unfold fragOf; simp only [h]

def preMap (m : KV) (op : Op) : KV :=
  match ropOf op with
  | some rop => mapAfter m rop
  | none => m

theorem step_sub {p : Params} (hq : NoQuirks p) {s : SState} (hk : KN s) (hf : s.fault = none)
    (op : Op) : KVSub (preMap (absMap s) op) (absMap (Sync.step p s op).1) := by
  rw [Sync.step_fst hf]
  cases op with
  | ins k v => exact insert_sub hq hk k v
  | get k => exact get_sub hq hk k
  | inv k => exact invalidate_sub hq hk k
  | sync => exact sub_of_frame (Sync.syncRun_frame hq s) hk
  | _ => exact KVSub.refl _

theorem step_resp (p : Params) {s : SState} (hf : s.fault = none) (op : Op) :
    respOf (Sync.step p s op).2 =
        (match ropOf op with
         | some rop => retOf (absMap s) rop
         | none => none) ∨
      respOf (Sync.step p s op).2 = none := by
  rcases Sync.step_obs_or_panic p hf op with h | ⟨f, h⟩
  · rw [h]
    cases op with
    | get k =>
      show (Sync.get p s k).2 = lookup (absMap s) k ∨ (Sync.get p s k).2 = none
      exact get_ret p s k
    | _ => exact Or.inr rfl
  · rw [h]; exact Or.inr rfl

theorem fragOf_refines {p : Params} (hq : NoQuirks p) {s : SState} (hk : KN s)
    (hf : s.fault = none) (a : State) (hm : KVEq a.map (absMap s)) (t : Tid) (o : Oid)
    (hfresh : AL.get? a.ops o = none) (hidle : threadIdle a t = true) (op : Op) :
    ∃ a', runFrom a (fragOf p s t o op) = some a' ∧
      KVEq a'.map (absMap (Sync.step p s op).1) ∧
      a'.ops = (match ropOf op with
        | some rop => AL.put a.ops o ⟨t, rop, .done, retOf a.map rop⟩
        | none => a.ops) := by
  have hsub := step_sub hq hk hf op
  have hresp := step_resp p hf op
  unfold preMap at hsub
  cases hro : ropOf op with
  | some rop =>
    simp only [hro] at hsub hresp ⊢
    rw [← retOf_congr hm rop] at hresp
    rw [fragOf_call hro]
    exact ⟨_, runFrom_callFrag a t o rop _ _ hfresh hidle hresp,
      removeAll_delKeys (hm.mapAfter rop) hsub, rfl⟩
  | none =>
    simp only [hro] at hsub ⊢
    rw [fragOf_other hro]
    exact ⟨_, runFrom_daemons _ a, removeAll_delKeys hm hsub, rfl⟩

theorem fragOf_daemons {p : Params} {s : SState} {t : Tid} {o : Oid} {op : Op} {k : Key}
    (h : Ev.daemon k ∈ fragOf p s t o op) : lookup (absMap (Sync.step p s op).1) k = none := by
  have hd : ∀ {m m' : KV}, Ev.daemon k ∈ (delKeys m m').map Ev.daemon → lookup m' k = none := by
    intro m m' h
    obtain ⟨d, hd, e⟩ := List.mem_map.1 h
    cases e
    exact (mem_delKeys.1 hd).2
  cases hro : ropOf op with
  | some rop =>
    rw [fragOf_call hro] at h
    simp only [callFrag, List.mem_append, List.mem_cons, List.not_mem_nil, or_false,
      reduceCtorEq, false_or] at h
    exact hd h
  | none => rw [fragOf_other hro] at h; exact hd h

theorem fragOf_refines_done {p : Params} (hq : NoQuirks p) {s : SState} (hk : KN s)
    (hf : s.fault = none) {a : State} (hm : KVEq a.map (absMap s)) {n : Nat}
    (hd : Cpl a.ops ⟨n, []⟩) (t : Tid) (op : Op) :
    ∃ a', runFrom a (fragOf p s t n op) = some a' ∧
      KVEq a'.map (absMap (Sync.step p s op).1) ∧ Cpl a'.ops ⟨n + 1, []⟩ := by
  obtain ⟨a', hr, hm', hops⟩ := fragOf_refines hq hk hf a hm t n hd.fresh (hd.idle rfl) op
  refine ⟨a', hr, hm', ?_⟩
  rw [hops]
  cases ropOf op with
  | some rop => exact hd.call rfl rop _
  | none => exact hd.next_succ

/-! ## Histories: the calls of one thread as a system with a projection to R -/

/-- The calls read off a trace of `Sync` run by thread `t` (ids are positions, from `n`): the data
operations with their observations: the value observed by a `get`, `none` for `insert` /
`invalidate`. -/
def callsOfTrace (t : Tid) : Nat → List (Op × Obs) → List (Oid × Tid × ConcR.Op × Option Val)
  | _, [] => []
  | n, (op, ob) :: rest =>
    match ropOf op with
    | some rop => (n, t, rop, respOf ob) :: callsOfTrace t (n + 1) rest
    | none => callsOfTrace t (n + 1) rest

/-- The calls of one thread `t`, one operation of `Sync` after the other, as a system with a
projection to R: an event is an operation, its fragment is `fragOf`, ids are positions, the
thread holds nothing between two calls. -/
def sysT (p : Params) (t : Tid) : ProjR.Sys SState Op where
  step := fun s op => some (Sync.step p s op).1
  proj := fun s g op => fragOf p s t g.next op
  gstep := fun _ g _ => { g with next := g.next + 1 }
  mop := fun op => (ropOf op).map fun rop => (t, rop)
  resp := fun s g op => callsOfTrace t g.next [(op, (Sync.step p s op).2)]
  dec := fun s n op => callsOfTrace t n [(op, (Sync.step p s op).2)]
  next := fun _ _ _ => rfl
  opOf := by
    intro s g op o
    cases hro : ropOf op with
    | some rop => rw [fragOf_call hro, opOf_callFrag]; rfl
    | none => rw [fragOf_other hro, opOf_daemons, Option.map_none, ite_self]
  steps := by
    intro s g op
    cases hro : ropOf op with
    | some rop => rw [fragOf_call hro, stepOids_callFrag]; rfl
    | none => rw [fragOf_other hro, stepOids_daemons]; rfl
  held := fun _ _ _ _ hx => Or.inl hx
  decm := by
    intro s n op y hy
    cases hro : ropOf op with
    | some rop =>
      simp only [callsOfTrace, hro, List.mem_singleton] at hy
      subst hy
      exact ⟨rfl, rfl⟩
    | none => simp only [callsOfTrace, hro, List.not_mem_nil] at hy
  calls := by
    intro s g pre op T h
    cases hro : ropOf op with
    | some rop =>
      have hop : ConcR.opOf (pre ++ fragOf p s t g.next op ++ T) g.next = some (t, rop) := by
        rw [List.append_assoc, ConcR.opOf_append, h.2 g.next (Nat.le_refl _), ConcR.opOf_append,
          fragOf_call hro, opOf_callFrag, if_pos rfl]
        rfl
      rw [fragOf_call hro] at hop ⊢
      simp only [resps_callFrag, List.filterMap_cons, hop, Option.map_some, List.filterMap_nil,
        callsOfTrace, hro]
    | none =>
      rw [fragOf_other hro, resps_daemons]
      simp only [callsOfTrace, hro, List.filterMap_nil]
  respDec := fun _ _ _ _ _ y hy => List.mem_append_right _ hy

theorem sysT_run (p : Params) (t : Tid) (h : List Op) : ∀ (s : SState),
    (sysT p t).run s h = some (Sync.runState p s h) := by
  induction h with
  | nil => intro s; rfl
  | cons op rest ih => intro s; exact ih _

theorem sysT_projFrom (p : Params) (t : Tid) (h : List Op) : ∀ (s : SState) (g : ConcSR.Ghost),
    (sysT p t).projFrom s g h = evsOf p t s g.next h := by
  induction h with
  | nil => intro s g; rfl
  | cons op rest ih =>
    intro s g
    show fragOf p s t g.next op ++ (sysT p t).projFrom _ _ rest = _
    rw [ih]; rfl

theorem sysT_callsFrom (p : Params) (t : Tid) (h : List Op) : ∀ (s : SState) (g : ConcSR.Ghost),
    (sysT p t).callsFrom s g h = callsOfTrace t g.next (Sync.run p s h) := by
  induction h with
  | nil => intro s g; rfl
  | cons op rest ih =>
    intro s g
    show callsOfTrace t g.next [(op, (Sync.step p s op).2)] ++ (sysT p t).callsFrom _ _ rest =
      callsOfTrace t g.next ((op, (Sync.step p s op).2) :: Sync.run p (Sync.step p s op).1 rest)
    rw [ih]
    simp only [callsOfTrace]
    cases ropOf op <;> rfl

theorem step_fault_none (p : Params) {s : SState} (hf : s.fault = none) (op : Op)
    (hnp : ∀ f, (Sync.step p s op).2 ≠ Obs.panic f) : (Sync.step p s op).1.fault = none := by
  rw [Sync.step_eq p hf op] at hnp ⊢
  cases hc : (Sync.stepState p s op).fault with
  | none => simp only [hc]
  | some f => simp only [hc] at hnp; exact absurd rfl (hnp f)

theorem runState_fault_none (p : Params) (h : List Op) : ∀ (s : SState), s.fault = none →
    Spec.noPanic (Sync.run p s h) = true → (Sync.runState p s h).fault = none := by
  induction h with
  | nil => intro s hf _; exact hf
  | cons op rest ih =>
    intro s hf hnp
    unfold Spec.noPanic at hnp
    rw [(Sync.isRun p).cons, List.all_cons, Bool.and_eq_true] at hnp
    refine ih _ (step_fault_none p hf op fun f e => ?_) hnp.2
    rw [e] at hnp
    cases hnp.1

theorem runState_append (p : Params) (h1 h2 : List Op) : ∀ (s : SState),
    Sync.runState p s (h1 ++ h2) = Sync.runState p (Sync.runState p s h1) h2 := by
  intro s
  simp only [Sync.runState_eq_stateAfter]
  exact Sync.stateAfter_append p h1 h2 s

end SyncR
end MiniMoka
