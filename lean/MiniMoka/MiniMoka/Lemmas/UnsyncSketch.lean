/-
  Who touches the popularity sketch of the single-threaded cache (property C14, clause "only
  lookups are recorded"): every function of `MiniMoka/Unsync.lean` except `sketchIncrement` (called
  by `get` only) and `enableSketch` (called by `insert` through `maybeEnableSketch`) leaves the
  fields `sk` / `skOn` alone (`SkSame`, proved without any invariant: the `fail` branches do not
  touch the sketch either); `Recorded` is then an invariant of whole histories.
-/
import MiniMoka.Lemmas.UnsyncStep
import MiniMoka.Lemmas.SketchFeed

namespace MiniMoka

namespace Unsync
namespace SkF

def SkSame (s s' : UState) : Prop := s'.sk = s.sk ∧ s'.skOn = s.skOn

theorem SkSame.refl (s : UState) : SkSame s s := ⟨rfl, rfl⟩

theorem SkSame.trans {a b c : UState} (h1 : SkSame a b) (h2 : SkSame b c) : SkSame a c :=
  ⟨h2.1.trans h1.1, h2.2.trans h1.2⟩

theorem SkSame.of_unlinks {s s' : UState} (h : Unlinks s s') : SkSame s s' :=
  ⟨h.aux.sk, h.aux.skOn⟩

theorem maintain_sk (p : Params) (s : UState) : SkSame s (maintain p s) :=
  .of_unlinks (unlinks_maintain p s)

theorem moveToBackAoE_sk (s : UState) (e : UEntry) : SkSame s (moveToBackAoE s e) := by
  rw [moveToBackAoE_only]; exact ⟨rfl, rfl⟩

theorem moveToBackWoE_sk (s : UState) (e : UEntry) : SkSame s (moveToBackWoE s e) := by
  -- unlike `moveToBackAoE`, a node that is not in the list leaves the state as it is
  -- (`if self.write_order.contains(p)` in `deques.rs`): third branch
  unfold moveToBackWoE
  split
  · exact .of_unlinks (unlinks_fail _ _)
  · split
    · exact ⟨rfl, rfl⟩
    · exact SkSame.refl s

theorem pushCandidate_sk (p : Params) (s : UState) (k : Nat) (hash : UInt64) (ts : Option Nat) :
    SkSame s (pushCandidate p s k hash ts) := by
  rw [pushCandidate_only]; exact ⟨rfl, rfl⟩

/-- The re-stamping of both nodes at the start of `handle_update`. -/
def retime (s : UState) (e : UEntry) (ts : Option Nat) : UState :=
  match ts with
  | none => s
  | some t =>
    let s := match e.ao with
      | some id => { s with prob := setTsAo s.prob id t }
      | none => s
    match e.wo with
      | some id => { s with wo := setTsWo s.wo id t }
      | none => s

theorem retime_sk (s : UState) (e : UEntry) (ts : Option Nat) : SkSame s (retime s e ts) := by
  unfold retime
  cases ts with
  | none => exact SkSame.refl s
  | some t => cases e.ao <;> cases e.wo <;> exact ⟨rfl, rfl⟩

theorem handleUpdate_eq_retime (p : Params) (s : UState) (k : Nat) (ts : Option Nat)
    (weight : Nat) (old : UEntry) :
    handleUpdate p s k ts weight old =
      match AL.get? s.map k with
      | none => s.fail .expect
      | some e =>
        let e' : UEntry := { e with ao := old.ao, wo := old.wo, weight := weight }
        let s2 := moveToBackAoE (retime { s with map := AL.put s.map k e' } e' ts) e'
        let s3 := if p.ttl.isSome then moveToBackWoE s2 e' else s2
        { s3 with ws := s3.ws - old.weight + weight } := rfl

theorem handleUpdate_sk (p : Params) (s : UState) (k : Nat) (ts : Option Nat) (weight : Nat)
    (old : UEntry) : SkSame s (handleUpdate p s k ts weight old) := by
  rw [handleUpdate_eq_retime]
  split
  · exact .of_unlinks (unlinks_fail _ _)
  · rename_i e _
    have h2 := ((show SkSame s { s with map := AL.put s.map k { e with ao := old.ao, wo := old.wo, weight := weight } } from ⟨rfl, rfl⟩).trans
      (retime_sk _ { e with ao := old.ao, wo := old.wo, weight := weight } ts)).trans (moveToBackAoE_sk _ { e with ao := old.ao, wo := old.wo, weight := weight })
    dsimp only
    generalize moveToBackAoE _ _ = s2 at h2 ⊢
    have h3 : SkSame s (if p.ttl.isSome = true then moveToBackWoE s2 { e with ao := old.ao, wo := old.wo, weight := weight } else s2) := by
      split
      · exact h2.trans (moveToBackWoE_sk _ _)
      · exact h2
    generalize (if p.ttl.isSome = true then moveToBackWoE s2 { e with ao := old.ao, wo := old.wo, weight := weight } else s2) = s3 at h3 ⊢
    exact h3.trans ⟨rfl, rfl⟩

theorem recordHit_sk (s : UState) (e : UEntry) (ts : Option Nat) : SkSame s (recordHit s e ts) := by
  rw [recordHit_only]; exact ⟨rfl, rfl⟩

theorem containsKey_sk (p : Params) (s : UState) (k : Nat) : SkSame s (containsKey p s k).1 := by
  rw [Unsync.containsKey_fst]
  exact maintain_sk p s

theorem invalidateAll_sk (p : Params) (s : UState) : SkSame s (invalidateAll p s) := ⟨rfl, rfl⟩

def En (s s' : UState) : Prop := Enabled s.sk s.skOn s'.sk s'.skOn

theorem En.of_same {s s' : UState} (h : SkSame s s') : En s s' := Or.inl h

theorem En.after {a b c : UState} (h1 : SkSame a b) (h2 : En b c) : En a c := by
  unfold En at h2 ⊢
  rw [← h1.1, ← h1.2]
  exact h2

theorem maybeEnableSketch_en (p : Params) (s : UState) : En s (maybeEnableSketch p s) := by
  unfold En maybeEnableSketch
  split
  · rename_i hen
    unfold enableSketch
    split
    · -- reduce the field projections first: left to `exact`, the unifier unfolds `ensureCapacity`
      dsimp only
      exact Enabled.on _ (shouldEnableSketch_off hen) _
    · exact Enabled.same _ _
  · exact Enabled.same _ _

theorem handleInsert_en (p : Params) (s : UState) (k : Nat) (hash : UInt64) (weight : Nat)
    (ts : Option Nat) : En s (handleInsert p s k hash weight ts) := by
  rcases Unsync.handleInsert_cases p s k hash weight ts with
    ⟨_, h⟩ | ⟨_, ⟨_, h⟩ | ⟨_, ⟨_, h⟩ | ⟨_, _, h⟩ | ⟨_, _, h⟩⟩⟩ <;> rw [h]
  · refine En.after ?_ (maybeEnableSketch_en p _)
    have h1 := pushCandidate_sk p s k hash ts
    generalize pushCandidate p s k hash ts = s1 at h1 ⊢
    exact h1.trans ⟨rfl, rfl⟩
  · exact Or.inl ⟨rfl, rfl⟩
  · exact En.of_same (.of_unlinks (unlinks_fail _ _))
  · refine En.after ?_ (maybeEnableSketch_en p _)
    have h1 := (SkSame.of_unlinks (unlinks_removeVictims
      (admitLoop p s weight (s.sk.frequency hash) s.prob {}).victims s)).trans
      (pushCandidate_sk p _ k hash ts)
    generalize pushCandidate p _ k hash ts = s1 at h1 ⊢
    exact h1.trans ⟨rfl, rfl⟩
  · exact Or.inl ⟨rfl, rfl⟩

-- As in `UnsyncOps`: from here on `maintain p s` is a state like any other, and so is the result
-- of `handleInsert` (`insert_en` composes lemmas about both and never looks inside).
attribute [local irreducible] maintain handleInsert

theorem insert_en (p : Params) (s : UState) (k v : Nat) : En s (insert p s k v) := by
  rw [Unsync.insert_eq]
  refine En.after (maintain_sk p s) ?_
  rcases Unsync.insertCore_cases p (maintain p s) k v with ⟨old, _, h⟩ | ⟨_, h⟩ <;> rw [h]
  · exact En.of_same (SkSame.trans ⟨rfl, rfl⟩ (handleUpdate_sk _ _ _ _ _ _))
  · exact En.after ⟨rfl, rfl⟩ (handleInsert_en _ _ _ _ _ _)

theorem sketchIncrement_sk (p : Params) (s : UState) (h : UInt64) :
    (sketchIncrement p s h).sk = Sketch.incr1 p.q.d5 s.sk h ∧
    (sketchIncrement p s h).skOn = s.skOn := by
  unfold sketchIncrement Sketch.incr1
  cases s.sk.increment p.q.d5 h with
  | ok sk' => exact ⟨rfl, rfl⟩
  | error f => exact SkSame.of_unlinks (unlinks_fail s f)

theorem get_sk (p : Params) (s : UState) (k : Nat) :
    SkSame (sketchIncrement p (maintain p s) (p.hash k)) (get p s k).1 := by
  rw [Unsync.get_eq]
  rcases Unsync.getCore_cases p (maintain p s) k with ⟨_, h⟩ | ⟨_, _, _, _, h⟩ | ⟨e, _, _, h⟩ <;>
    rw [h]
  · exact SkSame.refl _
  · exact SkSame.refl _
  · exact recordHit_sk _ _ _

theorem step_en (p : Params) (s : UState) (op : Op) (hop : ∀ k, op ≠ .get k) :
    En s (step p s op).1 := by
  rw [step_fst]
  split
  · exact Or.inl ⟨rfl, rfl⟩
  · cases op with
    | ins k v => exact insert_en p s k v
    | get k => exact absurd rfl (hop k)
    | has k => exact En.of_same (containsKey_sk p s k)
    | iter => exact Or.inl ⟨rfl, rfl⟩
    | inv k => exact En.of_same (.of_unlinks (unlinks_invalidate p s k))
    | invAll => exact Or.inl ⟨rfl, rfl⟩
    | invIf pr => exact En.of_same (.of_unlinks (unlinks_invalidateEntriesIf p s pr))
    | sync => exact Or.inl ⟨rfl, rfl⟩
    | adv d => exact Or.inl ⟨rfl, rfl⟩
    | snap => exact Or.inl ⟨rfl, rfl⟩
    | freq k => exact Or.inl ⟨rfl, rfl⟩

theorem step_same (p : Params) (s : UState) (op : Op) (hop : ∀ k, op ≠ .get k)
    (hins : ∀ k v, op ≠ .ins k v) : SkSame s (step p s op).1 := by
  rw [step_fst]
  split
  · exact SkSame.refl s
  · cases op with
    | ins k v => exact absurd rfl (hins k v)
    | get k => exact absurd rfl (hop k)
    | has k => exact containsKey_sk p s k
    | iter => exact SkSame.refl s
    | inv k => exact .of_unlinks (unlinks_invalidate p s k)
    | invAll => exact SkSame.refl s
    | invIf pr => exact .of_unlinks (unlinks_invalidateEntriesIf p s pr)
    | sync => exact SkSame.refl s
    | adv d => exact ⟨rfl, rfl⟩
    | snap => exact SkSame.refl s
    | freq k => exact SkSame.refl s

theorem step_get (p : Params) (s : UState) (k : Nat) (hf : s.fault = none) :
    (step p s (.get k)).1.sk = Sketch.incr1 p.q.d5 (maintain p s).sk (p.hash k) ∧
    (step p s (.get k)).1.skOn = s.skOn := by
  rw [step_state hf]
  have h1 := get_sk p s k
  have h2 := sketchIncrement_sk p (maintain p s) (p.hash k)
  have h3 := maintain_sk p s
  exact ⟨h1.1.trans h2.1, (h1.2.trans h2.2).trans h3.2⟩

theorem step_recorded {P : Sketch → Prop} (L : SketchLaws P) {p : Params} (hq : NoQuirks p)
    (hsm : SmallSketch p) {s : UState} (hi : Inv P p s) (op : Op) {hs : List UInt64}
    (hr : Recorded P s.sk s.skOn hs) :
    Recorded P (step p s op).1.sk (step p s op).1.skOn (hs ++ getHashes p [op]) := by
  have hi' := step_inv L hq hsm hi op
  by_cases hop : ∀ k, op ≠ .get k
  · rw [getHashes_cons_of_not_get p op [] hop]
    show Recorded P _ _ (hs ++ [])
    rw [List.append_nil]
    exact hr.enabled (step_en p s op hop) hi'.sk
  · have : ∃ k, op = .get k := by
      cases op <;> first | exact ⟨_, rfl⟩ | exact absurd (fun k hk => by cases hk) hop
    obtain ⟨k, rfl⟩ := this
    have hd5 : p.q.d5 = false := by rw [hq]
    obtain ⟨h1, h2⟩ := step_get p s k hi.inv.struct.noFault
    rw [hd5, (maintain_sk p s).1] at h1
    rw [h1, h2]
    exact hr.feed [p.hash k]

theorem runState_recorded {P : Sketch → Prop} (L : SketchLaws P) {p : Params} (hq : NoQuirks p)
    (hsm : SmallSketch p) (h : List Op) : ∀ {s : UState} {hs : List UInt64}, Inv P p s →
      Recorded P s.sk s.skOn hs →
      Recorded P (runState p s h).sk (runState p s h).skOn (hs ++ getHashes p h) := by
  induction h with
  | nil => intro s hs _ hr; rw [show getHashes p [] = [] from rfl, List.append_nil]; exact hr
  | cons op rest ih =>
    intro s hs hi hr
    have h1 := ih (step_inv L hq hsm hi op) (step_recorded L hq hsm hi op hr)
    have e : getHashes p (op :: rest) = getHashes p [op] ++ getHashes p rest := by
      show List.filterMap _ ([op] ++ rest) = _
      rw [List.filterMap_append]; rfl
    rw [e, ← List.append_assoc]
    exact h1

end SkF
end Unsync

end MiniMoka
