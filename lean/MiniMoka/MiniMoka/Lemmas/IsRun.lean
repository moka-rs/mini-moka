/-
  Traces of a step function.  `IsRun step run`: `run` lists the observations of `step` along a
  history; both cache models satisfy it.  What holds of every such trace: dropping operations
  that leave the state alone, where an observation comes from, suffixes; and the walk along a
  trace from the states of an invariant under which no fault arises (`StepInv`, `Runs`), which is
  how the window oracles are followed.
-/
import MiniMoka.Types

namespace MiniMoka

/-- `run s h` is the trace of the history `h` from state `s`: the operations of `h`, each with the
observation `step` makes in the state the operations before it have led to. -/
structure IsRun {σ : Type} (step : σ → Op → σ × Obs) (run : σ → List Op → List (Op × Obs)) :
    Prop where
  nil : ∀ s, run s [] = []
  cons : ∀ s op rest, run s (op :: rest) = (op, (step s op).2) :: run (step s op).1 rest

namespace IsRun

variable {σ : Type} {step : σ → Op → σ × Obs} {run : σ → List Op → List (Op × Obs)}
  (hr : IsRun step run)
include hr

theorem filter (keep : Op → Bool) (hk : ∀ s op, keep op = false → (step s op).1 = s)
    (h : List Op) : ∀ s, (run s h).filter (fun oo => keep oo.1) = run s (h.filter keep) := by
  induction h with
  | nil => intro s; rw [List.filter_nil, hr.nil, List.filter_nil]
  | cons op rest ih =>
    intro s
    rw [hr.cons, List.filter_cons, List.filter_cons]
    dsimp only
    cases hx : keep op with
    | false => rw [if_neg Bool.false_ne_true, if_neg Bool.false_ne_true, hk s op hx]; exact ih s
    | true => rw [if_pos rfl, if_pos rfl, hr.cons, ih]

theorem eq_cons {s : σ} {h : List Op} {x : Op × Obs} {t : List (Op × Obs)}
    (e : run s h = x :: t) :
    ∃ op rest, h = op :: rest ∧ x = (op, (step s op).2) ∧ run (step s op).1 rest = t := by
  cases h with
  | nil => rw [hr.nil] at e; cases e
  | cons op rest => rw [hr.cons] at e; cases e; exact ⟨op, rest, rfl, rfl, rfl⟩

variable {I : σ → Prop} (hI : ∀ s op, I s → I (step s op).1)
include hI

theorem mem {op : Op} {ob : Obs} (h : List Op) : ∀ s, I s → (op, ob) ∈ run s h →
    ∃ s', I s' ∧ ob = (step s' op).2 := by
  induction h with
  | nil => intro s _ hm; rw [hr.nil] at hm; cases hm
  | cons op0 rest ih =>
    intro s hs hm
    rw [hr.cons] at hm
    rcases List.mem_cons.mp hm with heq | hmem
    · cases heq; exact ⟨s, hs, rfl⟩
    · exact ih _ (hI s op0 hs) hmem

theorem all (check : Op × Obs → Bool) (hstep : ∀ s op, I s → check (op, (step s op).2) = true)
    (h : List Op) (s : σ) (hs : I s) : (run s h).all check = true := by
  rw [List.all_eq_true]
  rintro ⟨op, ob⟩ hm
  obtain ⟨s', hs', rfl⟩ := hr.mem hI h s hs hm
  exact hstep s' op hs'

theorem suffix (pre : List (Op × Obs)) : ∀ (h : List Op) (s : σ) (suf : List (Op × Obs)),
    I s → run s h = pre ++ suf → ∃ s' h', I s' ∧ run s' h' = suf := by
  induction pre with
  | nil => intro h s suf hs e; exact ⟨s, h, hs, e⟩
  | cons x pre ih =>
    intro h s suf hs e
    obtain ⟨op, rest, _, _, e'⟩ := hr.eq_cons e
    exact ih rest _ suf (hI s op hs) e'

end IsRun

/-- An invariant `I` of the steps under which `step` is the plain transition `raw` (no fault). -/
structure IsRun.StepInv {σ : Type} (step raw : σ → Op → σ × Obs) (I : σ → Prop) : Prop where
  next : ∀ s op, I s → I (step s op).1
  eq : ∀ s op, I s → step s op = raw s op

def IsRun.Runs {σ : Type} (run : σ → List Op → List (Op × Obs)) (I : σ → Prop)
    (t : List (Op × Obs)) : Prop := ∃ s h, I s ∧ run s h = t

namespace IsRun

variable {σ : Type} {step raw : σ → Op → σ × Obs} {run : σ → List Op → List (Op × Obs)}
  {I : σ → Prop}

theorem StepInv.uncons (hr : IsRun step run) (H : StepInv step raw I) {s : σ} (hs : I s)
    {h : List Op} {op : Op} {ob : Obs} {t : List (Op × Obs)} (e : run s h = (op, ob) :: t) :
    ob = (raw s op).2 ∧ I (raw s op).1 ∧ ∃ rest, run (raw s op).1 rest = t := by
  obtain ⟨op', rest, rfl, hx, ht⟩ := hr.eq_cons e
  cases hx
  have := H.next s op hs
  rw [H.eq s op hs] at ht this ⊢
  exact ⟨rfl, this, rest, ht⟩

theorem StepInv.tail (hr : IsRun step run) (H : StepInv step raw I) {x : Op × Obs}
    {t : List (Op × Obs)} (h : Runs run I (x :: t)) : Runs run I t := by
  obtain ⟨s, _, hs, e⟩ := h
  obtain ⟨_, hs1, rest, e1⟩ := H.uncons hr hs (op := x.1) (ob := x.2) e
  exact ⟨_, rest, hs1, e1⟩

/-- The recursion of the window oracles: they recur on suffixes, so a property of such a trace
may be derived from the same property of the shorter ones. -/
theorem Runs.induction {P : List (Op × Obs) → Prop}
    (step : ∀ t, Runs run I t → (∀ t', Runs run I t' → t'.length < t.length → P t') → P t) :
    ∀ t, Runs run I t → P t := by
  have key : ∀ n t, t.length < n → Runs run I t → P t := by
    intro n
    induction n with
    | zero => intro t h; exact absurd h (Nat.not_lt_zero _)
    | succ n ih => intro t hl ht; exact step t ht (fun t' ht' hlt => ih t' (by omega) ht')
  exact fun t => key _ t (Nat.lt_succ_self _)

end IsRun

end MiniMoka
