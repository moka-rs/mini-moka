/-
  Every step of the unsync model keeps the invariant, hence every state a history leads to has it
  (`runState`, `reachable_inv`).  Which form of the step to rewrite with: `step_fst` has no
  hypothesis (the fault wrapper never changes the state); `step_state` asks for `fault = none` and
  spells out all eleven operations, to rewrite with before `cases op`; `step_eq` (`UnsyncTrace`)
  asks for the invariant and gives the observation too.
-/
import MiniMoka.Lemmas.UnsyncInsert

namespace MiniMoka
namespace Unsync

/- `maintain p s` is a state like any other here (see the note in `UnsyncOps`). -/
attribute [local irreducible] maintain

theorem insert_inv {P : Sketch → Prop} (L : SketchLaws P) {p : Params} (hq : NoQuirks p)
    (hsm : SmallSketch p) {s : UState} (hi : Inv P p s) (k v : Nat) :
    Inv P p (insert p s k v) := by
  obtain ⟨h1, _, h3⟩ := maintain_spec hq hi.inv
  have hi1 : Inv P p (maintain p s) := hi.of_aux h1 h3.sk h3.skOn
  rw [insert_eq]
  rcases insertCore_cases p (maintain p s) k v with ⟨old, hg, h⟩ | ⟨hg, h⟩ <;> rw [h]
  · exact handleUpdate_inv hi1 hg _
  · exact handleInsert_inv L hsm hi1 _ hg

theorem init_inv {P : Sketch → Prop} (L : SketchLaws P) (p : Params) : Inv P p {} :=
  ⟨.of_empty rfl rfl rfl rfl rfl rfl, L.init, fun _ => rfl⟩

theorem step_fst (p : Params) (s : UState) (op : Op) :
    (step p s op).1 =
      if s.fault.isSome then s
      else match op with
        | .ins k v => insert p s k v
        | .get k => (get p s k).1
        | .has k => (containsKey p s k).1
        | .inv k => invalidate p s k
        | .invAll => invalidateAll p s
        | .invIf pr => invalidateEntriesIf p s pr
        | .adv d => { s with now := s.now + d }
        | _ => s := by
  unfold step
  split
  · rfl
  · dsimp only
    split <;> cases op <;> rfl

theorem step_state {p : Params} {s : UState} (hf : s.fault = none) (op : Op) :
    (step p s op).1 = match op with
      | .ins k v => insert p s k v
      | .get k => (get p s k).1
      | .has k => (containsKey p s k).1
      | .iter => s
      | .inv k => invalidate p s k
      | .invAll => invalidateAll p s
      | .invIf pr => invalidateEntriesIf p s pr
      | .sync => s
      | .adv d => { s with now := s.now + d }
      | .snap => s
      | .freq _ => s := by
  rw [step_fst, hf]
  cases op <;> rfl

theorem step_inv {P : Sketch → Prop} (L : SketchLaws P) {p : Params} (hq : NoQuirks p)
    (hsm : SmallSketch p) {s : UState} (hi : Inv P p s) (op : Op) :
    Inv P p (step p s op).1 := by
  have hnf := hi.inv.struct.noFault
  rw [step_state hnf]
  cases op with
  | ins k v => exact insert_inv L hq hsm hi k v
  | get k => exact get_inv L hq hi k
  | has k => exact containsKey_inv hq hi k
  | iter => exact hi
  | inv k => exact invalidate_inv hq hi k
  | invAll => exact invalidateAll_inv hq hi
  | invIf pr => exact invalidateEntriesIf_inv hq hi pr
  | sync => exact hi
  | adv d =>
    exact hi.of_aux
      (invU_of hi.inv (structP_congr hi.inv.struct rfl rfl rfl rfl (by simp [hnf])) rfl rfl rfl)
      rfl rfl
  | snap => exact hi
  | freq k => exact hi

/-- The state a history leads to from `s`: `run` without the observations. -/
def runState (p : Params) : UState → List Op → UState
  | s, [] => s
  | s, op :: rest => runState p (step p s op).1 rest

theorem runState_induct {p : Params} {I : UState → Prop} (hI : ∀ s op, I s → I (step p s op).1)
    (h : List Op) : ∀ {s : UState}, I s → I (runState p s h) := by
  induction h with
  | nil => intro s hs; exact hs
  | cons op rest ih => intro s hs; exact ih (hI s op hs)

theorem runState_inv {P : Sketch → Prop} (L : SketchLaws P) {p : Params} (hq : NoQuirks p)
    (hsm : SmallSketch p) (h : List Op) {s : UState} (hi : Inv P p s) : Inv P p (runState p s h) :=
  runState_induct (I := Inv P p) (fun _ op hi => step_inv L hq hsm hi op) h hi

theorem reachable_inv {P : Sketch → Prop} (L : SketchLaws P) {p : Params} (hq : NoQuirks p)
    (hsm : SmallSketch p) (h : List Op) : Inv P p (runState p {} h) :=
  runState_inv L hq hsm h (init_inv L p)

end Unsync
end MiniMoka
