/-
  Lemmas about `MiniMoka/ConcF.lean`.  Executed back to back the steps of one `Upsert` are
  `Sync.applyWrite`, hence `ConcM ⊆ ConcF`.  What a step can do is inverted once, as relations
  (`WStep`: a step of an `Upsert`; `FStep`: an event), and later proofs are a `cases`.  Between two
  steps of an `Upsert` other threads act: `MapEff` is what their steps do, `QIds`/`WD`/`WF` what
  the run knows of its entry and such steps keep, and `WStep.next` carries it from step to step.
  `FInv`, the invariant of the reachable states, is `ConcS.CSInvX` of the state as it would be if
  the run ended now, with the `Upsert` being applied held by the run.
-/
import MiniMoka.ConcF
import MiniMoka.Lemmas.ConcM
import MiniMoka.Lemmas.SyncExact

namespace MiniMoka
namespace ConcF

open Sync Sync.Nodes Sync.Counters ConcS ConcM

/-! ### one `Upsert`, step by step with nothing in between -/

inductive WPath (p : Params) (v : Variant) : SState × WPc → SState × Option WPc → Prop where
  | refl (s : SState) (pc : WPc) : WPath p v (s, pc) (s, some pc)
  | step {s s1 : SState} {pc pc1 : WPc} {r : SState × Option WPc} :
      wstep p v s pc = (s1, some pc1) → WPath p v (s1, pc1) r → WPath p v (s, pc) r
  | last {s s1 : SState} {pc : WPc} : wstep p v s pc = (s1, none) → WPath p v (s, pc) (s1, none)

theorem WPath.single {p : Params} {v : Variant} {s : SState} {pc : WPc}
    {r : SState × Option WPc} (h : wstep p v s pc = r) : WPath p v (s, pc) r := by
  obtain ⟨s1, o⟩ := r
  cases o with
  | none => exact WPath.last h
  | some pc1 => exact WPath.step h (WPath.refl _ _)

theorem WPath.trans {p : Params} {v : Variant} {a : SState × WPc} {b r : SState × Option WPc}
    (h1 : WPath p v a b) : ∀ {s1 : SState} {pc1 : WPc}, b = (s1, some pc1) →
      WPath p v (s1, pc1) r → WPath p v a r := by
  induction h1 with
  | refl s pc =>
    intro s1 pc1 e h2
    injection e with e1 e2
    injection e2 with e2
    subst e1; subst e2
    exact h2
  | step hm _ ih => intro s1 pc1 e h2; exact WPath.step hm (ih e h2)
  | last hm => intro s1 pc1 e _; injection e with _ e2; cases e2

theorem wpath_scan (p : Params) (s : SState) (u : UOp) (nw cf : Nat) :
    ∀ (rest : List AoNode) (acc : Admission),
      WPath p .good (s, .scan u nw cf rest acc)
        (finishScan .good s u nw cf (admitLoop p s nw cf rest acc)) := by
  intro rest
  induction rest with
  | nil => intro acc; exact WPath.single rfl
  | cons n rest ih =>
    intro acc
    by_cases hc : acc.vw < nw ∧ ¬ cf < acc.vf
    · cases he : entryOfNode p s n.key n.info with
      | some ve =>
        have h1 : admitLoop p s nw cf (n :: rest) acc = admitLoop p s nw cf rest
            { acc with vw := acc.vw + (getInfo s ve.info).weight,
                       vf := acc.vf + s.sk.frequency n.hash,
                       victims := acc.victims ++ [n], retries := 0 } := by
          rw [admitLoop, if_pos hc, he]
        rw [h1]
        exact WPath.step (by simp only [wstep, if_pos hc, he]) (ih _)
      | none =>
        by_cases hr : acc.retries + 1 > Gen.MAX_CONSECUTIVE_RETRIES
        · have h1 : admitLoop p s nw cf (n :: rest) acc =
              { acc with skipped := acc.skipped ++ [n], retries := acc.retries + 1 } := by
            rw [admitLoop, if_pos hc, he]
            dsimp only
            rw [if_pos hr]
          rw [h1]
          exact WPath.single (by simp only [wstep, if_pos hc, he, if_pos hr])
        · have h1 : admitLoop p s nw cf (n :: rest) acc = admitLoop p s nw cf rest
              { acc with skipped := acc.skipped ++ [n], retries := acc.retries + 1 } := by
            rw [admitLoop, if_pos hc, he]
            dsimp only
            rw [if_neg hr]
          rw [h1]
          exact WPath.step (by simp only [wstep, if_pos hc, he, if_neg hr]) (ih _)
    · have h1 : admitLoop p s nw cf (n :: rest) acc = acc := by rw [admitLoop, if_neg hc]
      rw [h1]
      exact WPath.single (by simp only [wstep, if_neg hc])

theorem wpath_victims (p : Params) (u : UOp) (nw : Nat) : ∀ (vs : List AoNode) (s : SState)
    (sk : List AoNode),
    WPath p .good (s, .victims u nw vs sk)
      (moveSkipped (removeVictims p vs s sk).2
        (handleAdmit p (removeVictims p vs s sk).1 u.key u.hash u.ve nw), none) := by
  intro vs
  induction vs with
  | nil => intro s sk; exact WPath.last rfl
  | cons n vs ih =>
    intro s sk
    cases hf : findAo s.prob n.id with
    | none =>
      have h1 : removeVictims p (n :: vs) s sk = removeVictims p vs (s.fail .useAfterFree) sk := by
        rw [removeVictims, hf]
      rw [h1]
      exact WPath.step (by simp only [wstep, hf]) (ih _ _)
    | some m =>
      cases he : entryOfNode p s n.key n.info with
      | some ve =>
        have h1 : removeVictims p (n :: vs) s sk =
            removeVictims p vs (handleRemove { s with map := AL.erase s.map n.key } ve) sk := by
          rw [removeVictims, hf]
          dsimp only
          rw [he]
        rw [h1]
        exact WPath.step (by simp only [wstep, hf, he]) (ih _ _)
      | none =>
        have h1 : removeVictims p (n :: vs) s sk = removeVictims p vs s (sk ++ [n]) := by
          rw [removeVictims, hf]
          dsimp only
          rw [he]
        rw [h1]
        exact WPath.step (by simp only [wstep, hf, he]) (ih _ _)

theorem wpath_upsert (p : Params) (s : SState) (u : UOp) :
    WPath p .good (s, .clearDirty u) (handleUpsert p s u.key u.hash u.ve u.oldW u.newW, none) := by
  unfold handleUpsert
  dsimp only
  -- `Sync.handleUpsert` reads the weight and then clears the dirty flag; here, as in the code, the
  -- flag is cleared first.  For one thread the orders agree (`currentWeight` does not read the
  -- flag: `rfl`); with other threads in between, an update after the lookup sets the flag again
  -- only if the clearing came first (`WF.dirty`; the seeded variant `dirtyOrder` loses it).
  have hcw : currentWeight p (withInfo s u.ve.info (fun i => { i with dirty := false })) u.key u.ve
      u.newW = currentWeight p s u.key u.ve u.newW := rfl
  refine WPath.step (pc1 := .readCurrent u) rfl (WPath.step (pc1 := .dispatch u _ _) rfl ?_)
  rw [hcw]
  generalize currentWeight p s u.key u.ve u.newW = nw
  generalize withInfo s u.ve.info (fun i => { i with dirty := false }) = s1
  by_cases c1 : (getInfo s1 u.ve.info).admitted = true
  · rw [if_pos c1]; exact WPath.last (by simp only [wstep, if_pos c1])
  · rw [if_neg c1]
    by_cases c2 : (!p.q.d7 && !isCurrentEntry s1 u.key u.ve) = true
    · rw [if_pos c2]; exact WPath.last (by simp only [wstep, if_neg c1, if_pos c2])
    · rw [if_neg c2]
      by_cases c3 : hasEnoughCapacity p nw s1 = true
      · rw [if_pos c3]; exact WPath.last (by simp only [wstep, if_neg c1, if_neg c2, if_pos c3])
      · rw [if_neg c3]
        by_cases c4 : tooBig p nw = true
        · rw [if_pos c4]
          exact WPath.last (by simp only [wstep, if_neg c1, if_neg c2, if_neg c3, if_pos c4])
        · rw [if_neg c4]
          refine WPath.step (s1 := s1) (pc1 := .scan u nw (s1.sk.frequency u.hash) s1.prob {})
            (by simp only [wstep, if_neg c1, if_neg c2, if_neg c3, if_neg c4]) ?_
          have hs := wpath_scan p s1 u nw (s1.sk.frequency u.hash) s1.prob {}
          unfold admitOrReject
          dsimp only
          generalize admitLoop p s1 nw (s1.sk.frequency u.hash) s1.prob {} = a at hs ⊢
          unfold finishScan at hs
          by_cases c5 : a.vw ≥ nw ∧ s1.sk.frequency u.hash > a.vf
          · rw [if_pos c5] at hs
            rw [if_pos c5]
            dsimp only at hs
            exact hs.trans rfl (wpath_victims p u nw a.victims s1 a.skipped)
          · rw [if_neg c5] at hs
            rw [if_neg c5]
            exact hs.trans rfl (WPath.last rfl)

/-! ### what a step of the application of an `Upsert` can do -/

/-- The program counters of the current code. -/
def goodPc : WPc → Bool
  | .clearDirty _ => true
  | .readCurrent _ => true
  | .dispatch _ _ _ => true
  | .scan _ _ _ _ _ => true
  | .victims _ _ _ _ => true
  | .reject _ _ => true
  | _ => false

/-- `wstep p .good s pc`, one constructor per outcome (the program counters of the seeded variants
have none). -/
inductive WStep (p : Params) (s : SState) : WPc → SState × Option WPc → Prop where
  | clearDirty (u : UOp) :
      WStep p s (.clearDirty u)
        (withInfo s u.ve.info (fun i => { i with dirty := false }), some (.readCurrent u))
  | readCurrent (u : UOp) :
      WStep p s (.readCurrent u)
        (s, some (.dispatch u (currentWeight p s u.key u.ve u.newW) (isCurrentEntry s u.key u.ve)))
  | update (u : UOp) (nw : Nat) (cur : Bool) : (getInfo s u.ve.info).admitted = true →
      WStep p s (.dispatch u nw cur) (applyUpdate p s u.ve u.oldW nw, none)
  | stale (u : UOp) (nw : Nat) (cur : Bool) : ¬ (getInfo s u.ve.info).admitted = true →
      (!p.q.d7 && !cur) = true → WStep p s (.dispatch u nw cur) (s, none)
  | room (u : UOp) (nw : Nat) (cur : Bool) : ¬ (getInfo s u.ve.info).admitted = true →
      ¬ (!p.q.d7 && !cur) = true → hasEnoughCapacity p nw s = true →
      WStep p s (.dispatch u nw cur) (handleAdmit p s u.key u.hash u.ve nw, none)
  | tooBig (u : UOp) (nw : Nat) (cur : Bool) : ¬ (getInfo s u.ve.info).admitted = true →
      ¬ (!p.q.d7 && !cur) = true → ¬ hasEnoughCapacity p nw s = true → tooBig p nw = true →
      WStep p s (.dispatch u nw cur) (removeCandidate p s u.key u.ve, none)
  | startScan (u : UOp) (nw : Nat) (cur : Bool) : ¬ (getInfo s u.ve.info).admitted = true →
      ¬ (!p.q.d7 && !cur) = true → ¬ hasEnoughCapacity p nw s = true → ¬ Sync.tooBig p nw = true →
      WStep p s (.dispatch u nw cur) (s, some (.scan u nw (s.sk.frequency u.hash) s.prob {}))
  | scanVictim (u : UOp) (nw cf : Nat) (n : AoNode) (rest : List AoNode) (acc : Admission) (ve : VE) :
      acc.vw < nw ∧ ¬ cf < acc.vf → entryOfNode p s n.key n.info = some ve →
      WStep p s (.scan u nw cf (n :: rest) acc)
        (s, some (.scan u nw cf rest
          { acc with vw := acc.vw + (getInfo s ve.info).weight,
                     vf := acc.vf + s.sk.frequency n.hash,
                     victims := acc.victims ++ [n], retries := 0 }))
  | scanSkip (u : UOp) (nw cf : Nat) (n : AoNode) (rest : List AoNode) (acc : Admission) :
      acc.vw < nw ∧ ¬ cf < acc.vf → entryOfNode p s n.key n.info = none →
      ¬ acc.retries + 1 > Gen.MAX_CONSECUTIVE_RETRIES →
      WStep p s (.scan u nw cf (n :: rest) acc)
        (s, some (.scan u nw cf rest
          { acc with skipped := acc.skipped ++ [n], retries := acc.retries + 1 }))
  | scanGiveUp (u : UOp) (nw cf : Nat) (n : AoNode) (rest : List AoNode) (acc : Admission) :
      acc.vw < nw ∧ ¬ cf < acc.vf → entryOfNode p s n.key n.info = none →
      acc.retries + 1 > Gen.MAX_CONSECUTIVE_RETRIES →
      WStep p s (.scan u nw cf (n :: rest) acc)
        (finishScan .good s u nw cf { acc with skipped := acc.skipped ++ [n], retries := acc.retries + 1 })
  | scanStop (u : UOp) (nw cf : Nat) (rest : List AoNode) (acc : Admission) :
      rest = [] ∨ ¬ (acc.vw < nw ∧ ¬ cf < acc.vf) →
      WStep p s (.scan u nw cf rest acc) (finishScan .good s u nw cf acc)
  | victimsDone (u : UOp) (nw : Nat) (sk : List AoNode) :
      WStep p s (.victims u nw [] sk) (moveSkipped sk (handleAdmit p s u.key u.hash u.ve nw), none)
  | victimFreed (u : UOp) (nw : Nat) (n : AoNode) (vs sk : List AoNode) :
      findAo s.prob n.id = none →
      WStep p s (.victims u nw (n :: vs) sk) (s.fail .useAfterFree, some (.victims u nw vs sk))
  | victimEvict (u : UOp) (nw : Nat) (n m : AoNode) (vs sk : List AoNode) (ve : VE) :
      findAo s.prob n.id = some m → entryOfNode p s n.key n.info = some ve →
      WStep p s (.victims u nw (n :: vs) sk)
        (handleRemove { s with map := AL.erase s.map n.key } ve, some (.victims u nw vs sk))
  | victimSkip (u : UOp) (nw : Nat) (n m : AoNode) (vs sk : List AoNode) :
      findAo s.prob n.id = some m → entryOfNode p s n.key n.info = none →
      WStep p s (.victims u nw (n :: vs) sk) (s, some (.victims u nw vs (sk ++ [n])))
  | reject (u : UOp) (sk : List AoNode) :
      WStep p s (.reject u sk) (moveSkipped sk (removeCandidate p s u.key u.ve), none)

theorem WStep.of_good (p : Params) (s : SState) {pc : WPc} (hg : goodPc pc = true) :
    WStep p s pc (wstep p .good s pc) := by
  cases pc with
  | clearDirty u => exact .clearDirty u
  | readCurrent u => exact .readCurrent u
  | dispatch u nw cur =>
    rw [wstep]
    refine iteInduction (.update u nw cur) fun c1 => ?_
    refine iteInduction (.stale u nw cur c1) fun c2 => ?_
    refine iteInduction (.room u nw cur c1 c2) fun c3 => ?_
    exact iteInduction (.tooBig u nw cur c1 c2 c3) (.startScan u nw cur c1 c2 c3)
  | scan u nw cf rest acc =>
    cases rest with
    | nil => exact .scanStop u nw cf [] acc (Or.inl rfl)
    | cons n rest =>
      by_cases hc : acc.vw < nw ∧ ¬ cf < acc.vf
      · cases he : entryOfNode p s n.key n.info with
        | some ve => simp only [wstep, if_pos hc, he]; exact .scanVictim u nw cf n rest acc ve hc he
        | none =>
          by_cases hr : acc.retries + 1 > Gen.MAX_CONSECUTIVE_RETRIES
          · simp only [wstep, if_pos hc, he, if_pos hr]; exact .scanGiveUp u nw cf n rest acc hc he hr
          · simp only [wstep, if_pos hc, he, if_neg hr]; exact .scanSkip u nw cf n rest acc hc he hr
      · simp only [wstep, if_neg hc]; exact .scanStop u nw cf _ acc (Or.inr hc)
  | victims u nw vs sk =>
    cases vs with
    | nil => exact .victimsDone u nw sk
    | cons n vs =>
      cases hf : findAo s.prob n.id with
      | none => simp only [wstep, hf]; exact .victimFreed u nw n vs sk hf
      | some m =>
        cases he : entryOfNode p s n.key n.info with
        | some ve => simp only [wstep, hf, he]; exact .victimEvict u nw n m vs sk ve hf he
        | none => simp only [wstep, hf, he]; exact .victimSkip u nw n m vs sk hf he
  | reject u sk => exact .reject u sk
  | readCurrentB1 u | clearDirtyB1 u nw cur | victimsB2 u nw vs sk ev al | putBackB2 u ev sk =>
    cases hg

theorem finishScan_good (s : SState) (u : UOp) (nw cf : Nat) (a : Admission) (pc' : WPc)
    (h : (finishScan .good s u nw cf a).2 = some pc') : goodPc pc' = true := by
  unfold finishScan at h
  split at h
  · simp only [Option.some.injEq] at h; subst h; rfl
  · simp only [Option.some.injEq] at h; subst h; rfl

theorem WStep.good_next {p : Params} {s : SState} {pc : WPc} {r : SState × Option WPc}
    (h : WStep p s pc r) (pc' : WPc) (e : r.2 = some pc') : goodPc pc' = true := by
  cases h with
  | scanGiveUp => exact finishScan_good _ _ _ _ _ _ e
  | scanStop => exact finishScan_good _ _ _ _ _ _ e
  | clearDirty | readCurrent | startScan | scanVictim | scanSkip | victimFreed | victimEvict
  | victimSkip =>
    cases e
    rfl
  | update | stale | room | tooBig | victimsDone | reject => cases e

theorem finishScan_fst (v : Variant) (s : SState) (u : UOp) (nw cf : Nat) (a : Admission) :
    (finishScan v s u nw cf a).1 = s := by
  unfold finishScan
  split
  · split <;> rfl
  · rfl

theorem WStep.maint {p : Params} {s : SState} {pc : WPc} {r : SState × Option WPc}
    (h : WStep p s pc r) : Maint true s r.1 := by
  cases h with
  | clearDirty u => exact .prim (.info s u.ve.info .clean (.inr rfl))
  | update => exact applyUpdate_maint _ _ _ _ _
  | room => exact handleAdmit_maint _ _ _ _ _ _
  | tooBig => exact (removeCandidate_maint _ _ _ _).toWrite
  | scanGiveUp =>
    rw [finishScan_fst]
    exact .refl s
  | scanStop =>
    rw [finishScan_fst]
    exact .refl s
  | victimsDone => exact (handleAdmit_maint _ _ _ _ _ _).trans (moveSkipped_maint _ _).toWrite
  | victimFreed => exact .prim (.fail s .useAfterFree (by decide))
  | victimEvict u nw n =>
    exact (Maint.prim (.erase s n.key)).trans (handleRemove_maint _ _).toWrite
  | reject => exact ((removeCandidate_maint _ _ _ _).trans (moveSkipped_maint _ _)).toWrite
  | readCurrent | stale | startScan | scanVictim | scanSkip | victimSkip => exact .refl s

/-! ### `ConcM` is contained in `ConcF` -/

/-- Micro-steps of one run of `ConcF` with nothing in between. -/
inductive FPath (p : Params) (v : Variant) (ex : Bool) :
    SState × Phase × Option WPc → SState × Option Phase × Option WPc → Prop where
  | refl (s : SState) (ph : Phase) (w : Option WPc) : FPath p v ex (s, ph, w) (s, some ph, w)
  | step {s s1 : SState} {ph ph1 : Phase} {w w1 : Option WPc}
      {r : SState × Option Phase × Option WPc} :
      fmicro p v ex s ph w = (s1, some ph1, w1) → FPath p v ex (s1, ph1, w1) r →
        FPath p v ex (s, ph, w) r
  | last {s s1 : SState} {ph : Phase} {w w1 : Option WPc} :
      fmicro p v ex s ph w = (s1, none, w1) → FPath p v ex (s, ph, w) (s1, none, w1)

theorem FPath.trans {p : Params} {v : Variant} {ex : Bool} {a : SState × Phase × Option WPc}
    {b r : SState × Option Phase × Option WPc} (h1 : FPath p v ex a b) :
    ∀ {s1 : SState} {ph1 : Phase} {w1 : Option WPc}, b = (s1, some ph1, w1) →
      FPath p v ex (s1, ph1, w1) r → FPath p v ex a r := by
  induction h1 with
  | refl s ph w =>
    intro s1 ph1 w1 e h2
    injection e with e1 e2
    injection e2 with e2 e3
    injection e2 with e2
    subst e1; subst e2; subst e3
    exact h2
  | step hm _ ih => intro s1 ph1 w1 e h2; exact FPath.step hm (ih e h2)
  | last hm => intro s1 ph1 w1 e _; injection e with _ e2; injection e2 with e2 _; cases e2

theorem fpath_of_wpath {p : Params} {v : Variant} {ex : Bool} {a : SState × WPc}
    {b : SState × Option WPc} (h : WPath p v a b) (ph : Phase) :
    FPath p v ex (a.1, ph, some a.2) (b.1, some ph, b.2) := by
  induction h with
  | refl s pc => exact FPath.refl _ _ _
  | step hm _ ih =>
    refine FPath.step ?_ ih
    simp only [fmicro, hm]
  | last hm =>
    refine FPath.step (ph1 := ph) (w1 := none) ?_ (FPath.refl _ _ _)
    simp only [fmicro, hm]

theorem fmicro_none (p : Params) (v : Variant) (ex : Bool) (s : SState) (ph : Phase) :
    (∃ f n key hash ve oldW newW rest, ph = .writes f (n + 1) ∧
      s.writeQ = .upsert key hash ve oldW newW :: rest ∧
      fmicro p v ex s ph none = ({ s with writeQ := rest }, some (.writes f n),
        some (firstPc v ⟨key, hash, ve, oldW, newW⟩))) ∨
    fmicro p v ex s ph none = ((micro p ex s ph).1, (micro p ex s ph).2, none) := by
  cases ph with
  | writes f n =>
    cases n with
    | zero => exact Or.inr rfl
    | succ n =>
      cases hq : s.writeQ with
      | nil => exact Or.inr (by simp only [fmicro, hq])
      | cons op rest =>
        cases op with
        | remove k ve => exact Or.inr (by simp only [fmicro, hq])
        | upsert key hash ve oldW newW =>
          exact Or.inl ⟨f, n, key, hash, ve, oldW, newW, rest, rfl, rfl, by simp only [fmicro, hq]⟩
  | _ => exact Or.inr rfl

theorem fpath_of_micro (p : Params) (ex : Bool) (s : SState) (ph : Phase) :
    FPath p .good ex (s, ph, none) ((micro p ex s ph).1, (micro p ex s ph).2, none) := by
  rcases fmicro_none p .good ex s ph with ⟨f, n, key, hash, ve, oldW, newW, rest, rfl, hq, hm⟩ | hm
  · have hmi : micro p ex s (.writes f (n + 1)) =
        (applyWrite p { s with writeQ := rest } (.upsert key hash ve oldW newW),
         some (.writes f n)) := by simp only [micro, hq]
    rw [hmi]
    exact FPath.step hm (fpath_of_wpath (wpath_upsert p { s with writeQ := rest }
      ⟨key, hash, ve, oldW, newW⟩) (.writes f n))
  · cases h2 : (micro p ex s ph).2 with
    | none => rw [h2] at hm; exact FPath.last hm
    | some ph1 => rw [h2] at hm; exact FPath.step hm (FPath.refl _ _ _)

theorem isPath (p : Params) (v : Variant) : IsPath (step p v) (runEvs p v) :=
  ⟨fun _ => rfl, fun c e rest => by simp only [runEvs]; cases step p v c e <;> rfl⟩

theorem runEvs_append (p : Params) (v : Variant) (c : FState) (l1 l2 : List ConcM.Ev) :
    runEvs p v c (l1 ++ l2) = match runEvs p v c l1 with
      | some c' => runEvs p v c' l2
      | none => none := by
  rw [(isPath p v).append]
  cases runEvs p v c l1 <;> rfl

theorem runEvs_of_fpath' {p : Params} {v : Variant} {ex : Bool} {a : SState × Phase × Option WPc}
    {b : SState × Option Phase × Option WPc} (h : FPath p v ex a b) (t : Tid)
    (pd : List (Tid × Pend)) :
    ∃ n, runEvs p v ⟨a.1, pd, some ⟨t, ex, a.2.1, a.2.2⟩⟩ (List.replicate n (.mStep t)) =
      some ⟨b.1, pd, b.2.1.map fun ph => ⟨t, ex, ph, b.2.2⟩⟩ := by
  induction h with
  | refl s ph w => exact ⟨0, rfl⟩
  | step hm _ ih =>
    obtain ⟨n, he⟩ := ih
    refine ⟨n + 1, ?_⟩
    simp only [List.replicate_succ, runEvs, step, if_true, hm, Option.map_some]
    exact he
  | last hm =>
    refine ⟨1, ?_⟩
    simp only [List.replicate_succ, List.replicate_zero, runEvs, step, if_true, hm, Option.map_none]

theorem runEvs_of_fpath {p : Params} {v : Variant} {ex : Bool} {a : SState × Phase × Option WPc}
    {b : SState × Option Phase × Option WPc} (h : FPath p v ex a b) (t : Tid)
    (pd : List (Tid × Pend)) :
    ∃ evs, runEvs p v ⟨a.1, pd, some ⟨t, ex, a.2.1, a.2.2⟩⟩ evs =
      some ⟨b.1, pd, b.2.1.map fun ph => ⟨t, ex, ph, b.2.2⟩⟩ :=
  let ⟨_, he⟩ := runEvs_of_fpath' h t pd
  ⟨_, he⟩

/-! ### the enabled steps -/

theorem step_other {p : Params} {v : Variant} {c c' : FState} {e : ConcS.Ev}
    (hs : step p v c (.other e) = some c') :
    isPlain e = true ∧ ∃ c1, ConcS.step p ⟨c.s, c.pending⟩ e = some c1 ∧
      c' = { c with s := c1.s, pending := c1.pending } :=
  other_eq_some hs

/-- `step p .good c e = some c'`, one constructor per way an event is enabled. -/
inductive FStep (p : Params) (c : FState) : ConcM.Ev → FState → Prop where
  | other (e : ConcS.Ev) (c1 : CState) : isPlain e = true →
      ConcS.step p ⟨c.s, c.pending⟩ e = some c1 →
      FStep p c (.other e) { c with s := c1.s, pending := c1.pending }
  /-- `try_sync` finds the flag taken by the run in progress and returns -/
  | busy (t : Tid) (r : FRun) : c.run = some r → c.s.running = true → FStep p c (.mBegin t false) c
  | begin (t : Tid) (ex : Bool) : c.run = none →
      FStep p c (.mBegin t ex)
        { c with s := beginRun c.s ex,
                 run := some ⟨t, ex, passStart p (Gen.MAX_SYNC_REPEATS + 1) (beginRun c.s ex), none⟩ }
  | app (r : FRun) (pc : WPc) : c.run = some r → r.w = some pc →
      FStep p c (.mStep r.tid)
        { c with s := (wstep p .good c.s pc).1, run := some { r with w := (wstep p .good c.s pc).2 } }
  | recv (r : FRun) (f n : Nat) (u : UOp) (rest : List WOp) : c.run = some r → r.w = none →
      r.phase = .writes f (n + 1) → c.s.writeQ = .upsert u.key u.hash u.ve u.oldW u.newW :: rest →
      FStep p c (.mStep r.tid)
        { c with s := { c.s with writeQ := rest },
                 run := some { r with phase := .writes f n, w := some (.clearDirty u) } }
  | body (r : FRun) (ph' : Phase) : c.run = some r → r.w = none → r.phase ≠ .finish →
      (micro p r.explicit c.s r.phase).2 = some ph' →
      FStep p c (.mStep r.tid)
        { c with s := (micro p r.explicit c.s r.phase).1,
                 run := some { r with phase := ph', w := none } }
  | finish (r : FRun) : c.run = some r → r.w = none → r.phase = .finish →
      FStep p c (.mStep r.tid) { c with s := (micro p r.explicit c.s .finish).1, run := none }

theorem FStep.of_eq {p : Params} {c c' : FState} {e : ConcM.Ev}
    (hs : step p .good c e = some c') : FStep p c e c' := by
  cases e with
  | other e0 =>
    obtain ⟨hpl, c1, h0, rfl⟩ := step_other hs
    exact .other e0 c1 hpl h0
  | mBegin t ex =>
    simp only [step] at hs
    split at hs
    · rename_i r hr
      split at hs
      · cases hs
      · rename_i hex
        split at hs
        · rename_i hrun
          cases Option.some.inj hs
          rw [Bool.eq_false_iff.mpr hex]
          exact .busy t r hr hrun
        · cases hs
    · rename_i hr
      cases Option.some.inj hs
      exact .begin t ex hr
  | mStep t =>
    simp only [step] at hs
    split at hs
    · cases hs
    · rename_i r hr
      split at hs
      · rename_i ht
        subst ht
        cases Option.some.inj hs
        cases hw : r.w with
        | some pc => exact .app r pc hr hw
        | none =>
          rcases fmicro_none p .good r.explicit c.s r.phase with
            ⟨f, n, key, hash, ve, oldW, newW, rest, hph, hwq, hm⟩ | hm
          · rw [hm]
            exact .recv r f n ⟨key, hash, ve, oldW, newW⟩ rest hr hw hph hwq
          · rw [hm]
            dsimp only
            cases hph : (micro p r.explicit c.s r.phase).2 with
            | some ph' =>
              refine .body r ph' hr hw (fun hf => ?_) hph
              -- the last micro-step has no next phase
              rw [hf] at hph
              cases hex : r.explicit with
              | true => rw [hex] at hph; cases hph
              | false => rw [hex] at hph; cases hph
            | none =>
              have hf := micro_none hph
              rw [hf]
              exact .finish r hr hw hf
      · cases hs

theorem FStep.frame {p : Params} (hq : NoQuirks p) {c c' : FState} {e : ConcM.Ev}
    (hs : FStep p c e c') (he : ∀ e0, e ≠ .other e0)
    (hg : ∀ r pc, c.run = some r → r.w = some pc → goodPc pc = true) :
    Frame c.s c'.s ∧ c'.pending = c.pending ∧
      ∀ r pc, c'.run = some r → r.w = some pc → goodPc pc = true := by
  cases hs with
  | other e0 => exact absurd rfl (he e0)
  | busy => exact ⟨Frame.refl _, rfl, hg⟩
  | begin t ex =>
    refine ⟨(beginRun_frame0 c.s ex).toFrame, rfl, fun r pc hr hw => ?_⟩
    cases hr
    cases hw
  | app r pc hr hw =>
    have h := WStep.of_good p c.s (hg r pc hr hw)
    refine ⟨h.maint.frame0.toFrame, rfl, fun r' pc' hr' hw' => ?_⟩
    cases hr'
    exact h.good_next pc' hw'
  | recv r f n u rest =>
    refine ⟨(frame0_set_writeQ c.s rest).toFrame, rfl, fun r' pc' hr' hw' => ?_⟩
    cases hr'
    cases hw'
    rfl
  | body r =>
    refine ⟨(micro_frame hq r.explicit c.s r.phase).1, rfl, fun r' pc' hr' hw' => ?_⟩
    cases hr'
    cases hw'
  | finish r =>
    refine ⟨(micro_frame hq r.explicit c.s .finish).1, rfl, fun r' pc' hr' => ?_⟩
    cases hr'

def embedM (c : MState) : FState :=
  ⟨c.s, c.pending, c.run.map fun r => ⟨r.tid, r.explicit, r.phase, none⟩⟩

theorem step_embedM (p : Params) (v : Variant) (c : MState) (e : ConcM.Ev)
    (he : ∀ t, e ≠ .mStep t) : step p v (embedM c) e = (ConcM.step p c e).map embedM := by
  cases e with
  | other e0 =>
    simp only [step, ConcM.step, embedM]
    split
    · cases ConcS.step p ⟨c.s, c.pending⟩ e0 <;> rfl
    · rfl
  | mBegin t ex =>
    obtain ⟨s, pd, run⟩ := c
    cases run with
    | none => rfl
    | some r =>
      cases ex with
      | true => rfl
      | false =>
        show (if s.running = true then some (embedM ⟨s, pd, some r⟩) else none) =
          Option.map embedM (if s.running = true then some ⟨s, pd, some r⟩ else none)
        split <;> rfl
  | mStep t => exact absurd rfl (he t)

theorem path_of_concM_step (p : Params) {c c' : MState} (e : ConcM.Ev)
    (hs : ConcM.step p c e = some c') :
    ∃ evs, runEvs p .good (embedM c) evs = some (embedM c') := by
  have hsame : (∀ t, e ≠ .mStep t) → ∃ evs, runEvs p .good (embedM c) evs = some (embedM c') :=
    fun he => ⟨[e], by simp only [runEvs, step_embedM p .good c e he, hs, Option.map_some]⟩
  cases e with
  | mStep t =>
    obtain ⟨r, hr, rfl, rfl⟩ := ConcM.step_mStep hs
    obtain ⟨evs, he⟩ := runEvs_of_fpath (fpath_of_micro p r.explicit c.s r.phase) r.tid c.pending
    refine ⟨evs, ?_⟩
    simp only [embedM, hr, Option.map_some]
    rw [he]
    cases (micro p r.explicit c.s r.phase).2 <;> rfl
  | other e0 => exact hsame (fun _ h => by cases h)
  | mBegin t ex => exact hsame (fun _ h => by cases h)

theorem reach_of_runEvs {p : Params} : ∀ (evs : List ConcM.Ev) (c c' : FState), Reach p c →
    runEvs p .good c evs = some c' → Reach p c' :=
  (isPath p .good).inv fun _ _ e h hs => Reach.step e h hs

theorem reach_embedM {p : Params} {c : MState} (h : ConcM.Reach p c) : Reach p (embedM c) := by
  induction h with
  | init => exact Reach.init
  | step e _ hs ih =>
    obtain ⟨evs, he⟩ := path_of_concM_step p e hs
    exact reach_of_runEvs evs _ _ ih he

/-! ### the counters invariant when other threads act between the steps of one `Upsert` -/

/-- `CInv.dropUpsert` (`Lemmas/SyncCounters.lean`) when other threads may have acted since the
`Upsert` was sent: its value entry, if still the map's, may await another `Upsert`, and the info may
be dirty again with another `Upsert` of it pending. -/
theorem _root_.MiniMoka.Sync.Counters.CInv.dropUpsert' {p : Params} {s : SState} {Q : List WOp} {key : Nat} {hash : UInt64}
    {ve : VE} {oldW newW : Nat} (h : CInv p s (WOp.upsert key hash ve oldW newW :: Q))
    (hadm : AL.get? s.map key = some ve → (∃ hh o w, WOp.upsert key hh ve o w ∈ Q) ∨
      ((getInfo s ve.info).admitted = true ∧ (getInfo s ve.info).weight = p.weigh key ve.val))
    (hnd : (getInfo s ve.info).dirty = true →
      ∃ k' hh v o w, WOp.upsert k' hh v o w ∈ Q ∧ v.info = ve.info) :
    CInv p s Q :=
  h.shrink (fun _ => List.mem_cons_of_mem _)
    (fun _ hop => (List.mem_cons.mp hop).elim (· ▸ Or.inr ⟨hadm, hnd⟩) Or.inl)

/-! ### what a step of another thread does -/

/-- What a plain step of another thread does to the map, the infos and the logical queue (`Q`,
`Q'`: write queue ++ write operations held, before and after).  `put` is the map step of `insert`
(`ConcS.insertMap_eq`); `admitted` holds though `insert` re-times and dirties the info it shares. -/
inductive MapEff (s s' : SState) (Q Q' : List WOp) : Prop where
  | same : s'.map = s.map → s'.infos = s.infos → s'.nextId = s.nextId →
      (∀ op, op ∈ Q' ↔ op ∈ Q) → MapEff s s' Q Q'
  | put (k : Nat) (c : VE) (hh : UInt64) (o w : Nat)
      (map : s'.map = AL.put s.map k c)
      (queue : ∀ op, op ∈ Q' ↔ op ∈ Q ∨ op = WOp.upsert k hh c o w)
      (idFresh : s.nextId ≤ c.id) (idLt : c.id < s'.nextId) (next : s.nextId ≤ s'.nextId)
      (info : (∃ old, AL.get? s.map k = some old ∧ c.info = old.info) ∨
        (AL.get? s.map k = none ∧ c.info = s.nextId))
      (others : ∀ j, j < s.nextId → j ≠ c.info → getInfo s' j = getInfo s j)
      (admitted : ∀ j, j < s.nextId → (getInfo s' j).admitted = (getInfo s j).admitted) :
      MapEff s s' Q Q'
  | erase (k : Nat) (old : VE) :
      AL.get? s.map k = some old → s'.map = AL.erase s.map k → s'.infos = s.infos →
      s'.nextId = s.nextId → (∀ op, op ∈ Q' ↔ op ∈ Q ∨ op = WOp.remove k old) →
      MapEff s s' Q Q'

theorem plain_step_eff (p : Params) {s : SState} {pd : List (Tid × Pend)}
    (htid : (pd.map (·.1)).Nodup) (e : ConcS.Ev) (hpl : isPlain e = true) {c' : CState}
    (hs : ConcS.step p ⟨s, pd⟩ e = some c') :
    c'.s.prob = s.prob ∧
    MapEff s c'.s (s.writeQ ++ pendWrites pd) (c'.s.writeQ ++ pendWrites c'.pending) := by
  cases Step.of_eq hs with
  | insMap t k v _ =>
    obtain ⟨ve, inf, n, oldW, e, hcase⟩ := insertMap_eq p s k v
    dsimp only
    rw [e]
    have hq : ∀ op, op ∈ s.writeQ ++
        pendWrites (pd ++ [(t, .write (.upsert k (p.hash k) ve oldW (p.weigh k v)))]) ↔
        op ∈ s.writeQ ++ pendWrites pd ∨ op = .upsert k (p.hash k) ve oldW (p.weigh k v) := by
      intro op
      rw [pendWrites_append_write]
      simp only [List.mem_append, List.mem_singleton, or_assoc]
    have hgi : ∀ j,
        getInfo { s with nextId := n, infos := AL.put s.infos ve.info inf,
                         map := AL.put s.map k ve } j =
          if ve.info = j then inf else getInfo s j :=
      getInfo_of_infos_put rfl
    rcases hcase with ⟨old, hg, rfl, rfl, rfl, _⟩ | ⟨hg, rfl, rfl, rfl, _⟩
    · refine ⟨rfl, MapEff.put k _ (p.hash k) oldW (p.weigh k v) rfl hq (Nat.le_refl _)
        (Nat.lt_succ_self _) (Nat.le_succ _) (Or.inl ⟨old, hg, rfl⟩) (fun j _ hne => ?_)
        (fun j _ => ?_)⟩
      · rw [hgi, if_neg (fun e => hne e.symm)]
      · rw [hgi]
        by_cases e : old.info = j
        · rw [if_pos e, e]
        · rw [if_neg e]
    · refine ⟨rfl, MapEff.put k _ (p.hash k) oldW (p.weigh k v) rfl hq (Nat.le_succ _)
        (Nat.lt_succ_self _) (Nat.le_add_right _ 2) (Or.inr ⟨hg, rfl⟩) (fun j hj _ => ?_)
        (fun j hj => ?_)⟩
      · rw [hgi, if_neg (Nat.ne_of_gt hj)]
      · rw [hgi, if_neg (Nat.ne_of_gt hj)]
  | invMap t k op _ ho =>
    obtain ⟨old, hg, rfl, e⟩ := invalidateMap_some ho
    rw [e]
    refine ⟨rfl, MapEff.erase k old hg rfl rfl rfl fun o => ?_⟩
    rw [pendWrites_append_write]
    simp only [List.mem_append, List.mem_singleton, or_assoc]
  | invNone t k _ _ => exact ⟨rfl, MapEff.same rfl rfl rfl fun _ => Iff.rfl⟩
  | getMap t k _ =>
    exact ⟨rfl, MapEff.same rfl rfl rfl fun o => by rw [pendWrites_append_read]⟩
  | maint t => cases hpl
  | sync t => cases hpl
  | enqWrite t op hp _ =>
    refine ⟨rfl, MapEff.same rfl rfl rfl fun o => ?_⟩
    show o ∈ (s.writeQ ++ [op]) ++ pendWrites (dropPend pd t) ↔ _
    simp only [List.mem_append, List.mem_singleton, mem_pendWrites_of_write htid hp o, or_assoc]
  | enqRead t op hp _ =>
    exact ⟨rfl, MapEff.same rfl rfl rfl fun o => by
      simp only [List.mem_append, mem_pendWrites_of_read htid hp o]⟩
  | enqDrop t op hp _ =>
    exact ⟨rfl, MapEff.same rfl rfl rfl fun o => by
      simp only [List.mem_append, mem_pendWrites_of_read htid hp o]⟩
  | tick d => exact ⟨rfl, MapEff.same rfl rfl rfl fun _ => Iff.rfl⟩
  | invAll t => exact ⟨rfl, MapEff.same rfl rfl rfl fun _ => Iff.rfl⟩

/-! ### identities of queued value entries -/

/-- Every pending `Upsert` carries a value entry whose identity has been allocated, and a map
entry with that identity is that very value entry.  Needed for the rejected candidate only
(`reject_done`): `remove_if(key, same value entry)` compares identities, and the proof needs the
entry it removes to be the `Upsert`'s own. -/
def QIds (s : SState) (Q : List WOp) : Prop :=
  ∀ k h ve o w, WOp.upsert k h ve o w ∈ Q →
    ve.id < s.nextId ∧ ∀ k' c, AL.get? s.map k' = some c → c.id = ve.id → c = ve

theorem QIds.mono {s s' : SState} {Q Q' : List WOp} (h : QIds s Q)
    (hmap : ∀ k c, AL.get? s'.map k = some c → AL.get? s.map k = some c)
    (hn : s.nextId ≤ s'.nextId)
    (hq : ∀ k h ve o w, WOp.upsert k h ve o w ∈ Q' → WOp.upsert k h ve o w ∈ Q) :
    QIds s' Q' := by
  intro k hh ve o w hm
  obtain ⟨a1, a2⟩ := h k hh ve o w (hq _ _ _ _ _ hm)
  exact ⟨Nat.lt_of_lt_of_le a1 hn, fun k' c hc => a2 k' c (hmap k' c hc)⟩

theorem qids_eff {s s' : SState} {Q Q' ex : List WOp} (h : QIds s (ex ++ Q))
    (hkn : (AL.keys s.map).Nodup)
    (hid : ∀ k c, AL.get? s.map k = some c → c.id < s.nextId)
    (heff : MapEff s s' Q Q') : QIds s' (ex ++ Q') := by
  cases heff with
  | same hm hi hn hq =>
    refine h.mono (fun k c hc => by rw [hm] at hc; exact hc) (by rw [hn]; exact Nat.le_refl _) ?_
    intro k0 h0 ve o w hop
    rcases List.mem_append.mp hop with h1 | h1
    · exact List.mem_append_left _ h1
    · exact List.mem_append_right _ ((hq _).mp h1)
  | put k c hh o w hm hq h1 h2 h3 _ _ _ =>
    intro k0 h0 ve o0 w0 hmem
    have hget : ∀ k' c', AL.get? s'.map k' = some c' →
        (k' = k ∧ c' = c) ∨ AL.get? s.map k' = some c' := by
      intro k' c' hc'
      rw [hm, AL.get?_put] at hc'
      by_cases e : k = k'
      · rw [if_pos e] at hc'; exact Or.inl ⟨e.symm, (Option.some.inj hc').symm⟩
      · rw [if_neg e] at hc'; exact Or.inr hc'
    have hold : WOp.upsert k0 h0 ve o0 w0 ∈ ex ++ Q ∨
        WOp.upsert k0 h0 ve o0 w0 = WOp.upsert k hh c o w := by
      rcases List.mem_append.mp hmem with a | a
      · exact Or.inl (List.mem_append_left _ a)
      · rcases (hq _).mp a with a | a
        · exact Or.inl (List.mem_append_right _ a)
        · exact Or.inr a
    rcases hold with a | a
    · obtain ⟨b1, b2⟩ := h k0 h0 ve o0 w0 a
      refine ⟨Nat.lt_of_lt_of_le b1 h3, ?_⟩
      intro k' c' hc' hid'
      rcases hget k' c' hc' with ⟨_, e2⟩ | g
      · exfalso
        rw [e2] at hid'
        rw [← hid'] at b1
        exact Nat.lt_irrefl _ (Nat.lt_of_lt_of_le b1 h1)
      · exact b2 k' c' g hid'
    · injection a with _ _ e3 _ _
      rw [e3]
      refine ⟨h2, ?_⟩
      intro k' c' hc' hid'
      rcases hget k' c' hc' with ⟨_, e2⟩ | g
      · exact e2
      · exfalso
        have := hid k' c' g
        rw [hid'] at this
        exact Nat.lt_irrefl _ (Nat.lt_of_lt_of_le this h1)
  | erase k old hg hm hi hn hq =>
    refine h.mono ?_ (by rw [hn]; exact Nat.le_refl _) ?_
    · intro k' c hc
      rw [hm, AL.get?_erase k k' hkn] at hc
      by_cases e : k = k'
      · simp [e] at hc
      · rw [if_neg e] at hc; exact hc
    · intro k0 h0 ve o w hop
      rcases List.mem_append.mp hop with h1 | h1
      · exact List.mem_append_left _ h1
      · rcases (hq _).mp h1 with h2 | h2
        · exact List.mem_append_right _ h2
        · cases h2

/-! ### what the run knows about the entry of the `Upsert` it is applying -/

def wop (u : UOp) : WOp := .upsert u.key u.hash u.ve u.oldW u.newW

/-- After `set_dirty(false)`: if the info is dirty (again), another thread has updated the key
since, and that update's `Upsert` is pending (`Qr`: queued or held, the one being applied
excluded). -/
def WD (s : SState) (Qr : List WOp) (u : UOp) : Prop :=
  (getInfo s u.ve.info).dirty = true →
    ∃ k' h v o w, WOp.upsert k' h v o w ∈ Qr ∧ v.info = u.ve.info

/-- After the lookup of the current entry: `nw` is the weigher applied to the value of the
entry of this info the map holds under the key, unless that entry is newer than the lookup,
in which case its own `Upsert` is pending; an entry that was current at the lookup is still in
the map or awaits a `Remove`; one that was not current never becomes current. -/
structure WF (p : Params) (s : SState) (Qr : List WOp) (u : UOp) (nw : Nat) (cur : Bool) :
    Prop where
  dirty : WD s Qr u
  wcur : ∀ c, AL.get? s.map u.key = some c → c.info = u.ve.info →
    nw = p.weigh u.key c.val ∨ ∃ h o w, WOp.upsert u.key h c o w ∈ Qr
  gone : cur = true → (∃ c, AL.get? s.map u.key = some c ∧ c.info = u.ve.info) ∨
    ∃ k' v, WOp.remove k' v ∈ Qr ∧ v.info = u.ve.info
  notCur : cur = false → ∀ c, AL.get? s.map u.key = some c → c.info ≠ u.ve.info

theorem wd_eff {s s' : SState} {Q Q' : List WOp} {u : UOp} (h : WD s Q u)
    (hlt : u.ve.info < s.nextId) (heff : MapEff s s' Q Q') : WD s' Q' u := by
  intro hd
  cases heff with
  | same hm hi hn hq =>
    rw [getInfo_congr hi] at hd
    obtain ⟨k', hh, v, o, w, a, b⟩ := h hd
    exact ⟨k', hh, v, o, w, (hq _).mpr a, b⟩
  | put k c hh o w hm hq h1 h2 h3 hinfo hfr hadm =>
    by_cases e : u.ve.info = c.info
    · exact ⟨k, hh, c, o, w, (hq _).mpr (Or.inr rfl), e.symm⟩
    · rw [hfr _ hlt e] at hd
      obtain ⟨k', h', v, o', w', a, b⟩ := h hd
      exact ⟨k', h', v, o', w', (hq _).mpr (Or.inl a), b⟩
  | erase k old hg hm hi hn hq =>
    rw [getInfo_congr hi] at hd
    obtain ⟨k', hh, v, o, w, a, b⟩ := h hd
    exact ⟨k', hh, v, o, w, (hq _).mpr (Or.inl a), b⟩

theorem MapEff.mono {s s' : SState} {Q Q' : List WOp} (heff : MapEff s s' Q Q') {op : WOp}
    (h : op ∈ Q) : op ∈ Q' := by
  cases heff with
  | same _ _ _ hq => exact (hq _).mpr h
  | put k c hh o w _ hq _ _ _ _ _ _ => exact (hq _).mpr (Or.inl h)
  | erase k old _ _ _ _ hq => exact (hq _).mpr (Or.inl h)

theorem MapEff.back {s s' : SState} {Q Q' : List WOp} (heff : MapEff s s' Q Q')
    (hkn : (AL.keys s.map).Nodup) {k' : Nat} {c : VE} (hc : AL.get? s'.map k' = some c) :
    AL.get? s.map k' = some c ∨
    ((∃ hh o w, WOp.upsert k' hh c o w ∈ Q') ∧
      ((∃ old, AL.get? s.map k' = some old ∧ c.info = old.info) ∨
        (AL.get? s.map k' = none ∧ c.info = s.nextId))) := by
  cases heff with
  | same hm _ _ _ =>
    rw [hm] at hc
    exact Or.inl hc
  | put k c0 hh o w hm hq _ _ _ hinfo _ _ =>
    rw [hm, AL.get?_put] at hc
    by_cases e : k = k'
    · rw [if_pos e] at hc
      cases hc
      subst e
      exact Or.inr ⟨⟨hh, o, w, (hq _).mpr (Or.inr rfl)⟩, hinfo⟩
    · rw [if_neg e] at hc
      exact Or.inl hc
  | erase k old _ hm _ _ _ =>
    rw [hm, AL.get?_erase k k' hkn] at hc
    by_cases e : k = k'
    · rw [if_pos e] at hc
      cases hc
    · rw [if_neg e] at hc
      exact Or.inl hc

theorem MapEff.forth {s s' : SState} {Q Q' : List WOp} (heff : MapEff s s' Q Q')
    (hkn : (AL.keys s.map).Nodup) {k' : Nat} {c : VE} (hc : AL.get? s.map k' = some c) :
    (∃ c', AL.get? s'.map k' = some c' ∧ c'.info = c.info) ∨ WOp.remove k' c ∈ Q' := by
  cases heff with
  | same hm _ _ _ => exact Or.inl ⟨c, by rw [hm]; exact hc, rfl⟩
  | put k c0 hh o w hm _ _ _ _ hinfo _ _ =>
    by_cases e : k = k'
    · subst e
      refine Or.inl ⟨c0, by rw [hm, AL.get?_put, if_pos rfl], ?_⟩
      rcases hinfo with ⟨old, g1, g2⟩ | ⟨g1, _⟩
      · rw [hc] at g1
        cases g1
        exact g2
      · rw [hc] at g1
        cases g1
    · exact Or.inl ⟨c, by rw [hm, AL.get?_put, if_neg e]; exact hc, rfl⟩
  | erase k old hg hm _ _ hq =>
    by_cases e : k = k'
    · subst e
      rw [hc] at hg
      cases hg
      exact Or.inr ((hq _).mpr (Or.inr rfl))
    · exact Or.inl ⟨c, by rw [hm, AL.get?_erase k k' hkn, if_neg e]; exact hc, rfl⟩

theorem wf_eff {p : Params} {s s' : SState} {Q Q' : List WOp} {u : UOp} {nw : Nat} {cur : Bool}
    (h : WF p s Q u nw cur) (hkn : (AL.keys s.map).Nodup) (hlt : u.ve.info < s.nextId)
    (heff : MapEff s s' Q Q') : WF p s' Q' u nw cur := by
  refine ⟨wd_eff h.dirty hlt heff, ?_, ?_, ?_⟩
  · intro c hc hi
    rcases heff.back hkn hc with a | ⟨a, _⟩
    · rcases h.wcur c a hi with e | ⟨hh, o, w, e⟩
      · exact Or.inl e
      · exact Or.inr ⟨hh, o, w, heff.mono e⟩
    · exact Or.inr a
  · intro hcur
    rcases h.gone hcur with ⟨c, a, b⟩ | ⟨k', v, a, b⟩
    · rcases heff.forth hkn a with ⟨c', a', b'⟩ | r
      · exact Or.inl ⟨c', a', b'.trans b⟩
      · exact Or.inr ⟨u.key, c, r, b⟩
    · exact Or.inr ⟨k', v, heff.mono a, b⟩
  · intro hcur c hc
    rcases heff.back hkn hc with a | ⟨_, ⟨old, g1, g2⟩ | ⟨_, g2⟩⟩
    · exact h.notCur hcur c a
    · rw [g2]
      exact h.notCur hcur old g1
    · rw [g2]
      exact fun e' => Nat.lt_irrefl _ (e' ▸ hlt)

theorem adm_eff {s s' : SState} {Q Q' : List WOp} (heff : MapEff s s' Q Q') {j : Nat}
    (hlt : j < s.nextId) : (getInfo s' j).admitted = (getInfo s j).admitted := by
  cases heff with
  | same _ hi _ _ => rw [getInfo_congr hi]
  | put k c hh o w _ _ _ _ _ _ _ hadm => exact hadm j hlt
  | erase _ _ _ _ hi _ _ => rw [getInfo_congr hi]

/-! ### the invariant between two steps of one `Upsert` -/

def opOf : WPc → UOp
  | .clearDirty u => u
  | .readCurrent u => u
  | .dispatch u _ _ => u
  | .scan u _ _ _ _ => u
  | .victims u _ _ _ => u
  | .reject u _ => u
  | .readCurrentB1 u => u
  | .clearDirtyB1 u _ _ => u
  | .victimsB2 u _ _ _ _ _ => u
  | .putBackB2 u _ _ => u

/-- The part of the invariant between two steps that does not depend on the program counter:
`ConcM.RInv` with the operation being applied still counted as pending. -/
structure WBase (p : Params) (s : SState) (pd : List (Tid × Pend)) (u : UOp) : Prop where
  run : RunInv Sketch.Good s
  cinv : CInv p s (wop u :: (s.writeQ ++ pendWrites pd))
  tids : (pd.map (·.1)).Nodup
  wq : s.writeQ.length ≤ Gen.WRITE_LOG_SIZE
  rq : s.readQ.length ≤ Gen.READ_LOG_SIZE
  qids : QIds s (wop u :: (s.writeQ ++ pendWrites pd))

def Lists (l : List AoNode) (s : SState) : Prop :=
  (∀ m, m ∈ l → m ∈ s.prob) ∧ (l.map (·.id)).Nodup

/-- The part that depends on the program counter (`False` for the program counters of the
seeded variants, which the current code never reaches). -/
def WLocal (p : Params) (s : SState) (Qr : List WOp) : WPc → Prop
  | .clearDirty _ => True
  | .readCurrent u => WD s Qr u
  | .dispatch u nw cur => WF p s Qr u nw cur
  | .scan u nw _ rest acc =>
    WF p s Qr u nw true ∧ (getInfo s u.ve.info).admitted = false ∧
      Lists (acc.victims ++ acc.skipped ++ rest) s
  | .victims u nw vs sk =>
    WF p s Qr u nw true ∧ (getInfo s u.ve.info).admitted = false ∧ Lists (vs ++ sk) s
  | .reject u sk => WD s Qr u ∧ (getInfo s u.ve.info).admitted = false ∧ Lists sk s
  | _ => False

theorem WLocal.good {p : Params} {s : SState} {Qr : List WOp} {pc : WPc}
    (h : WLocal p s Qr pc) : goodPc pc = true := by
  cases pc with
  | readCurrentB1 u => exact h.elim
  | clearDirtyB1 u nw cur => exact h.elim
  | victimsB2 u nw vs sk ev al => exact h.elim
  | putBackB2 u ev sk => exact h.elim
  | _ => rfl

theorem WBase.lt {p : Params} {s : SState} {pd : List (Tid × Pend)} {u : UOp}
    (h : WBase p s pd u) : u.ve.info < s.nextId :=
  (h.cinv.upKey u.key u.hash u.ve u.oldW u.newW List.mem_cons_self).2

theorem WBase.keyi {p : Params} {s : SState} {pd : List (Tid × Pend)} {u : UOp}
    (h : WBase p s pd u) : (getInfo s u.ve.info).key = u.key :=
  (h.cinv.upKey u.key u.hash u.ve u.oldW u.newW List.mem_cons_self).1

theorem Lists.of_prob {l : List AoNode} {s s' : SState} (h : Lists l s) (hp : s'.prob = s.prob) :
    Lists l s' := ⟨fun m hm => by rw [hp]; exact h.1 m hm, h.2⟩

theorem held_mem (u : UOp) (Q : List WOp) (op : WOp) : op ∈ Q ++ [wop u] ↔ op ∈ wop u :: Q := by
  rw [List.mem_append, List.mem_singleton, List.mem_cons, or_comm]

theorem WBase.csinvX {p : Params} {s : SState} {pd : List (Tid × Pend)} {u : UOp}
    (h : WBase p s pd u) : CSInvX p [wop u] ⟨view s, pd⟩ :=
  csinvX_view.2 ⟨h.run, CInv.of_mem h.cinv (fun op => by
    rw [← List.append_assoc]; exact held_mem u _ op), h.tids, h.wq, h.rq⟩

theorem wbase_of_csinvX {p : Params} {s : SState} {pd : List (Tid × Pend)} {u : UOp}
    (h : CSInvX p [wop u] ⟨view s, pd⟩) (hqi : QIds s (wop u :: (s.writeQ ++ pendWrites pd))) :
    WBase p s pd u :=
  have ⟨a1, a2, a3, a4, a5⟩ := csinvX_view.1 h
  ⟨a1, CInv.of_mem a2 (fun op => by rw [← List.append_assoc]; exact (held_mem u _ op).symm),
    a3, a4, a5, hqi⟩

theorem WLocal.eff {p : Params} {s s' : SState} {Q Q' : List WOp} {pc : WPc}
    (hl : WLocal p s Q pc) (hkn : (AL.keys s.map).Nodup) (hlt : (opOf pc).ve.info < s.nextId)
    (hprob : s'.prob = s.prob) (heff : MapEff s s' Q Q') : WLocal p s' Q' pc := by
  cases pc with
  | clearDirty u => trivial
  | readCurrent u => exact wd_eff hl hlt heff
  | dispatch u nw cur => exact wf_eff hl hkn hlt heff
  | scan u nw cf rest acc =>
    exact ⟨wf_eff hl.1 hkn hlt heff, (adm_eff heff hlt).trans hl.2.1, hl.2.2.of_prob hprob⟩
  | victims u nw vs sk =>
    exact ⟨wf_eff hl.1 hkn hlt heff, (adm_eff heff hlt).trans hl.2.1, hl.2.2.of_prob hprob⟩
  | reject u sk =>
    exact ⟨wd_eff hl.1 hlt heff, (adm_eff heff hlt).trans hl.2.1, hl.2.2.of_prob hprob⟩
  | readCurrentB1 u => exact hl
  | clearDirtyB1 u nw cur => exact hl
  | victimsB2 u nw vs sk ev al => exact hl
  | putBackB2 u ev sk => exact hl

/-! ### the steps of one `Upsert` keep the invariant -/

/-- What a step of an `Upsert` must establish: queues and flag untouched; the next program counter
with its invariant, or (the operation is done) `ConcM.RInv` with the operation no longer pending. -/
def WNext (p : Params) (pd : List (Tid × Pend)) (u : UOp) (s : SState)
    (r : SState × Option WPc) : Prop :=
  r.1.writeQ = s.writeQ ∧ r.1.readQ = s.readQ ∧ r.1.running = s.running ∧
  match r.2 with
  | some pc' => opOf pc' = u ∧ WBase p r.1 pd u ∧ WLocal p r.1 (r.1.writeQ ++ pendWrites pd) pc'
  | none => RInv p r.1 pd ∧ QIds r.1 (r.1.writeQ ++ pendWrites pd)

theorem WBase.g {p : Params} {s : SState} {pd : List (Tid × Pend)} {u : UOp}
    (h : WBase p s pd u) : G p s (wop u :: (s.writeQ ++ pendWrites pd)) :=
  ⟨h.run.safe, h.run.map, h.cinv⟩

theorem WBase.step {p : Params} {s s' : SState} {pd : List (Tid × Pend)} {u : UOp} {pc' : WPc}
    (h : WBase p s pd u) (hm : Maint true s s') (hs : Safe s')
    (hc : CInv p s' (wop u :: (s.writeQ ++ pendWrites pd))) (ho : opOf pc' = u)
    (hl : WLocal p s' (s.writeQ ++ pendWrites pd) pc') : WNext p pd u s (s', some pc') := by
  have hw := hm.qframe.writeQ
  refine ⟨hw, hm.qframe.readQ, hm.qframe.running, ho,
    ⟨⟨hs, h.run.map.frame0 hm.frame0, h.run.sk.same hm.skSame⟩, ?_, h.tids, ?_, ?_, ?_⟩, ?_⟩
  · rw [hw]; exact hc
  · rw [hw]; exact h.wq
  · rw [hm.qframe.readQ]; exact h.rq
  · rw [hw]
    exact h.qids.mono (hm.frame0.mapSub h.run.map.kn) hm.frame0.nextId (fun _ _ _ _ _ x => x)
  · show WLocal p s' (s'.writeQ ++ pendWrites pd) pc'
    rw [hw]; exact hl

theorem WBase.done {p : Params} {s s' : SState} {pd : List (Tid × Pend)} {u : UOp}
    (h : WBase p s pd u) (hm : Maint true s s') (hs : Safe s')
    (hc : CInv p s' (s.writeQ ++ pendWrites pd)) : WNext p pd u s (s', none) := by
  have hw := hm.qframe.writeQ
  refine ⟨hw, hm.qframe.readQ, hm.qframe.running,
    ⟨⟨hs, h.run.map.frame0 hm.frame0, h.run.sk.same hm.skSame⟩, ?_, h.tids, ?_, ?_⟩, ?_⟩
  · rw [hw]; exact hc
  · rw [hw]; exact h.wq
  · rw [hm.qframe.readQ]; exact h.rq
  · show QIds s' (s'.writeQ ++ pendWrites pd)
    rw [hw]
    exact h.qids.mono (hm.frame0.mapSub h.run.map.kn) hm.frame0.nextId
      (fun _ _ _ _ _ x => List.mem_cons_of_mem _ x)

theorem admit_done {p : Params} (hq : NoQuirks p) {s : SState} {pd : List (Tid × Pend)} {u : UOp}
    {nw : Nat} (hb : WBase p s pd u) (hl : WF p s (s.writeQ ++ pendWrites pd) u nw true)
    (hna : (getInfo s u.ve.info).admitted = false) :
    Safe (handleAdmit p s u.key u.hash u.ve nw) ∧
    Keeps s (handleAdmit p s u.key u.hash u.ve nw) ∧
    CInv p (handleAdmit p s u.key u.hash u.ve nw) (s.writeQ ++ pendWrites pd) := by
  obtain ⟨h1, h2⟩ := handleAdmit_safe (p := p) hb.run.safe u.key u.hash u.ve nw hna hb.lt
  refine ⟨h1, h2, ?_⟩
  have hcur : (∃ c, AL.get? s.map u.key = some c ∧ c.info = u.ve.info ∧ c.slot = u.ve.slot) ∨
      ((∀ c, AL.get? s.map u.key = some c → c.info ≠ u.ve.info) ∧
        ∃ k' v, WOp.remove k' v ∈ wop u :: (s.writeQ ++ pendWrites pd) ∧ v.info = u.ve.info) := by
    by_cases hex : ∃ c, AL.get? s.map u.key = some c ∧ c.info = u.ve.info
    · obtain ⟨c, g1, g2⟩ := hex
      exact Or.inl ⟨c, g1, g2,
        hb.cinv.upSlot u.key u.hash u.ve u.oldW u.newW List.mem_cons_self c g1 g2⟩
    · refine Or.inr ⟨fun c hc hi => hex ⟨c, hc, hi⟩, ?_⟩
      rcases hl.gone rfl with g | ⟨k', v, g1, g2⟩
      · exact absurd g hex
      · exact ⟨k', v, List.mem_cons_of_mem _ g1, g2⟩
  obtain ⟨a1, a2, a3, a4, a5⟩ :=
    handleAdmit_cinv hq hb.cinv hb.run.safe u.key u.hash u.ve nw hb.keyi hna hcur
  refine a1.dropUpsert' ?_ ?_
  · intro hk
    rw [a2] at hk
    rcases hl.wcur u.ve hk rfl with e | pend
    · exact Or.inr ⟨a3, by rw [a4]; exact e⟩
    · exact Or.inl pend
  · intro hd
    rw [a5] at hd
    exact hl.dirty hd

theorem reject_done {p : Params} (hq : NoQuirks p) {s : SState} {pd : List (Tid × Pend)}
    {u : UOp} (hb : WBase p s pd u) (hd : WD s (s.writeQ ++ pendWrites pd) u)
    (hna : (getInfo s u.ve.info).admitted = false) :
    Safe (removeCandidate p s u.key u.ve) ∧ Keeps s (removeCandidate p s u.key u.ve) ∧
    CInv p (removeCandidate p s u.key u.ve) (s.writeQ ++ pendWrites pd) := by
  have hd7 : p.q.d7 = false := by rw [hq]
  obtain ⟨h1, h2⟩ := removeCandidate_safe (p := p) hb.run.safe u.key u.ve
  refine ⟨h1, h2, ?_⟩
  unfold removeCandidate
  cases hg : AL.get? s.map u.key with
  | none =>
    dsimp only
    refine hb.cinv.dropUpsert' ?_ hd
    intro hk; rw [hg] at hk; cases hk
  | some c =>
    dsimp only
    rw [hd7, Bool.false_or]
    by_cases e : (c.id == u.ve.id) = true
    · rw [if_pos e]
      have hcv : c = u.ve :=
        (hb.qids u.key u.hash u.ve u.oldW u.newW List.mem_cons_self).2 u.key c hg (eq_of_beq e)
      have hc1 := hb.cinv.eraseNotAdm hb.run.safe hb.run.map hg (by rw [hcv]; exact hna)
      refine hc1.dropUpsert' ?_ hd
      intro hk
      have : AL.get? (AL.erase s.map u.key) u.key = none := AL.get?_erase_self u.key hb.run.map.kn
      rw [this] at hk; cases hk
    · rw [if_neg e]
      refine hb.cinv.dropUpsert' ?_ hd
      intro hk
      rw [hg] at hk
      rw [Option.some.inj hk] at e
      simp at e

theorem Lists.perm {l l' : List AoNode} {s : SState} (h : Lists l s) (hp : l'.Perm l) :
    Lists l' s :=
  ⟨fun m hm => h.1 m (hp.mem_iff.mp hm), ((hp.map (·.id)).nodup_iff).mpr h.2⟩

theorem Lists.left {a b : List AoNode} {s : SState} (h : Lists (a ++ b) s) : Lists a s := by
  refine ⟨fun m hm => h.1 m (List.mem_append_left _ hm), ?_⟩
  have := h.2
  rw [List.map_append, List.nodup_append] at this
  exact this.1

theorem perm_scan_victim (a b r : List AoNode) (n : AoNode) :
    ((a ++ [n]) ++ b ++ r).Perm (a ++ b ++ (n :: r)) := by
  simp only [List.append_assoc, List.singleton_append]
  exact (List.perm_middle.symm).append_left a

theorem perm_scan_skip (a b r : List AoNode) (n : AoNode) :
    (a ++ (b ++ [n]) ++ r).Perm (a ++ b ++ (n :: r)) := by
  simp only [List.append_assoc, List.singleton_append]
  exact List.Perm.refl _

theorem lists_finish {v s : List AoNode} {r : List AoNode} {st : SState}
    (h : Lists (v ++ s ++ r) st) : Lists (v ++ s) st := h.left

theorem WF.cur_of {p : Params} {s : SState} {Qr : List WOp} {u : UOp} {nw : Nat} {cur : Bool}
    (h : WF p s Qr u nw cur) (hd7 : p.q.d7 = false) (c2 : ¬ (!p.q.d7 && !cur) = true) :
    WF p s Qr u nw true := by
  rw [hd7] at c2
  cases cur with
  | true => exact h
  | false => exact absurd rfl c2

theorem finishScan_next {p : Params} {s : SState} {pd : List (Tid × Pend)} {u : UOp}
    {nw cf : Nat} {acc : Admission} (hb : WBase p s pd u)
    (hf : WF p s (s.writeQ ++ pendWrites pd) u nw true)
    (hna : (getInfo s u.ve.info).admitted = false)
    (hls : Lists (acc.victims ++ acc.skipped) s) :
    WNext p pd u s (finishScan .good s u nw cf acc) := by
  unfold finishScan
  by_cases hc : acc.vw ≥ nw ∧ cf > acc.vf
  · rw [if_pos hc]
    exact ⟨rfl, rfl, rfl, rfl, hb, hf, hna, hls⟩
  · rw [if_neg hc]
    refine ⟨rfl, rfl, rfl, rfl, hb, hf.dirty, hna, ?_⟩
    exact ⟨fun m hm => hls.1 m (List.mem_append_right _ hm), by
      have := hls.2
      rw [List.map_append, List.nodup_append] at this
      exact this.2.1⟩

/-- The main lemma.  Other threads enter only through `WF`: `wcur` (the weight read is the current
one, or a newer `Upsert` is pending), `gone` (an entry that was current is still there or awaits its
`Remove`), `notCur` (an entry that was not current at the lookup has not become current: the `stale`
case) and `dirty`. -/
theorem WStep.next {p : Params} (hq : NoQuirks p) {s : SState} {pd : List (Tid × Pend)}
    {pc : WPc} {r : SState × Option WPc} (hw : WStep p s pc r) (hb : WBase p s pd (opOf pc))
    (hl : WLocal p s (s.writeQ ++ pendWrites pd) pc) : WNext p pd (opOf pc) s r := by
  have hd7 : p.q.d7 = false := by rw [hq]
  have hd10 : p.q.d10 = false := by rw [hq]
  have hm := hw.maint
  cases hw with
  | clearDirty u =>
    have hsame : Same s (withInfo s u.ve.info (fun i => { i with dirty := false })) :=
      same_withInfo _ _ _ (fun x => ⟨rfl, rfl, rfl, fun hx => by cases hx⟩)
    refine hb.step hm (hb.run.safe.withInfo _ _ rfl rfl rfl) (hb.cinv.same hsame) rfl ?_
    intro hx
    rw [getInfo_withInfo, if_pos rfl] at hx
    cases hx
  | readCurrent u =>
    refine ⟨rfl, rfl, rfl, rfl, hb, hl, fun c hc hi => Or.inl (currentWeight_of_cur hd10 hc hi _),
      fun hcur => Or.inl (isCurrentEntry_iff.mp hcur), fun hcur c hc hi => ?_⟩
    rw [isCurrentEntry_iff.mpr ⟨c, hc, hi⟩] at hcur
    cases hcur
  | update u nw cur c1 =>
    have hb : WBase p s pd u := hb
    obtain ⟨a1, a5⟩ := applyUpdate_cinv hq hb.cinv hb.run.safe u.ve u.oldW nw c1 (by
      intro k c hc hi
      have hk : k = u.key := by rw [← hb.cinv.mapKey k c hc, hi]; exact hb.keyi
      subst hk
      rcases hl.wcur c hc hi with e | ⟨hh, o, w, e⟩
      · exact Or.inl e
      · exact Or.inr ⟨hh, o, w, List.mem_cons_of_mem _ e⟩)
    refine hb.done hm (applyUpdate_safe hb.run.safe _ _ _) (a1.dropUpsert' ?_ ?_)
    · intro hk
      rw [applyUpdate_map] at hk
      rcases hl.wcur u.ve hk rfl with e | pend
      · exact Or.inr ⟨(applyUpdate_adm ..).trans c1,
          by rw [applyUpdate_weight (by rw [hq]), if_pos rfl]; exact e⟩
      · exact Or.inl pend
    · intro hd
      exact hl.dirty (a5 _ hd)
  | stale u nw cur _ c2 =>
    have hcur : cur = false := by
      rw [hd7] at c2
      cases cur with
      | false => rfl
      | true => cases c2
    refine hb.done hm hb.run.safe (hb.cinv.dropUpsert' ?_ hl.dirty)
    intro hk
    exact absurd rfl (hl.notCur hcur u.ve hk)
  | room u nw cur c1 c2 =>
    have hl : WF p s (s.writeQ ++ pendWrites pd) u nw true := hl.cur_of hd7 c2
    obtain ⟨b1, _, b3⟩ := admit_done hq hb hl (Bool.eq_false_iff.mpr c1)
    exact hb.done hm b1 b3
  | tooBig u nw cur c1 =>
    obtain ⟨b1, _, b3⟩ := reject_done hq hb hl.dirty (Bool.eq_false_iff.mpr c1)
    exact hb.done hm b1 b3
  | startScan u nw cur c1 c2 =>
    have hl : WF p s (s.writeQ ++ pendWrites pd) u nw true := hl.cur_of hd7 c2
    refine ⟨rfl, rfl, rfl, rfl, hb, hl, Bool.eq_false_iff.mpr c1, ?_⟩
    exact ⟨fun m hm => by simpa using hm, by simpa using hb.run.safe.probIds⟩
  | scanVictim u nw cf n rest acc ve =>
    exact ⟨rfl, rfl, rfl, rfl, hb, hl.1, hl.2.1, hl.2.2.perm (perm_scan_victim _ _ _ _)⟩
  | scanSkip u nw cf n rest acc =>
    exact ⟨rfl, rfl, rfl, rfl, hb, hl.1, hl.2.1, hl.2.2.perm (perm_scan_skip _ _ _ _)⟩
  | scanGiveUp u nw cf n rest acc =>
    exact finishScan_next hb hl.1 hl.2.1 (hl.2.2.perm (perm_scan_skip _ _ _ _)).left
  | scanStop u nw cf rest acc => exact finishScan_next hb hl.1 hl.2.1 hl.2.2.left
  | victimsDone u nw sk =>
    obtain ⟨hf, hna, hls⟩ := hl
    obtain ⟨b1, b2, b3⟩ := admit_done hq hb hf hna
    have m1 := moveSkipped_safe sk _ b1 (fun n hn => b2 n (hls.1 n (by simpa using hn)))
    exact hb.done hm m1 (b3.same (moveSkipped_same _ _))
  | victimFreed u nw n vs sk hfree =>
    -- a selected victim is still a node of the list: nothing else unlinks nodes
    rw [findAo_of_mem hb.run.safe.probIds (hl.2.2.1 n List.mem_cons_self)] at hfree
    cases hfree
  | victimSkip u nw n m vs sk =>
    refine ⟨rfl, rfl, rfl, rfl, hb, hl.1, hl.2.1, hl.2.2.perm ?_⟩
    rw [← List.append_assoc]
    exact (List.perm_append_singleton _ _).trans (List.Perm.refl _)
  | victimEvict u nw n m vs sk ve _ he =>
    obtain ⟨hf, hna, hls⟩ := hl
    have hn : n ∈ s.prob := hls.1 n List.mem_cons_self
    have hnd := hls.2
    simp only [List.cons_append, List.map_cons, List.nodup_cons] at hnd
    have hrest : Lists (vs ++ sk) s :=
      ⟨fun m hm => hls.1 m (List.mem_cons_of_mem _ hm), hnd.2⟩
    have hinfo := entryOfNode_info hd7 he
    have hget := entryOfNode_get he
    obtain ⟨g1, gmap, gmono, gdirty⟩ := evict_g hb.g hget
    obtain ⟨_, hkeep, _⟩ := handleRemove_safe (safe_eraseMap hb.run.safe n.key) ve
    refine hb.step hm g1.safe g1.inv rfl ⟨?_, gmono _ hna, ?_⟩
    · refine ⟨fun hd => hf.dirty (by rw [gdirty] at hd; exact hd), ?_, ?_, fun hx => by cases hx⟩
      · intro c hc hi
        exact hf.wcur c (hm.frame0.mapSub hb.run.map.kn _ _ hc) hi
      · intro _
        rcases hf.gone rfl with ⟨c, a, b⟩ | g
        · refine Or.inl ⟨c, gmap u.key c a ?_, b⟩
          -- the victim is not the candidate's own entry: a node of the list is admitted, the
          -- candidate is not
          intro e
          rw [e, hget] at a
          have hadm := hb.run.safe.probAdm hn
          rw [← hinfo, Option.some.inj a, b, hna] at hadm
          cases hadm
        · exact Or.inr g
    · refine ⟨fun m hm => hkeep m (hrest.1 m hm) (fun e => ?_), hrest.2⟩
      have hmid : m.id = n.id := hb.run.safe.info_inj (hrest.1 m hm) hn (e.trans hinfo)
      exact hnd.1 (List.mem_map.mpr ⟨m, hm, hmid⟩)
  | reject u sk =>
    obtain ⟨hd, hna, hls⟩ := hl
    obtain ⟨b1, b2, b3⟩ := reject_done hq hb hd hna
    have m1 := moveSkipped_safe sk _ b1 (fun n hn => b2 n (hls.1 n hn))
    exact hb.done hm m1 (b3.same (moveSkipped_same _ _))

/-! ### the invariant of the reachable states of `ConcF` -/

def heldF (c : FState) : List WOp :=
  match c.run with
  | some r => (match r.w with | some pc => [wop (opOf pc)] | none => [])
  | none => []

/-- The state as it would be if the run (if any) ended now. -/
def viewF (c : FState) : SState :=
  match c.run with
  | none => c.s
  | some _ => view c.s

theorem viewF_fields (c : FState) :
    (viewF c).map = c.s.map ∧ (viewF c).nextId = c.s.nextId ∧ (viewF c).fault = c.s.fault := by
  unfold viewF
  split <;> exact ⟨rfl, rfl, rfl⟩

/-- The invariant of `ConcS` for the view, with the operation being applied held by the run.  Read
by the form of the state: no run in progress, `CSInv` (`of_idle`); between two micro-steps,
`ConcM.RInv` (`of_run`); inside the application of an `Upsert`, `WBase` (`of_mid`). -/
structure FInv (p : Params) (c : FState) : Prop where
  core : CSInvX p (heldF c) ⟨viewF c, c.pending⟩
  qids : QIds c.s (heldF c ++ (c.s.writeQ ++ pendWrites c.pending))
  flag : ∀ r, c.run = some r → r.explicit = true → c.s.running = false
  loc : ∀ r pc, c.run = some r → r.w = some pc →
    WLocal p c.s (c.s.writeQ ++ pendWrites c.pending) pc

theorem FInv.mk_idle {p : Params} {s : SState} {pd : List (Tid × Pend)} (h : CSInv p ⟨s, pd⟩)
    (hqi : QIds s (s.writeQ ++ pendWrites pd)) : FInv p ⟨s, pd, none⟩ :=
  ⟨csinvX_nil.2 h, hqi, fun _ hr => (by cases hr), fun _ _ hr => (by cases hr)⟩

theorem FInv.mk_run {p : Params} {s : SState} {pd : List (Tid × Pend)} {t : Tid} {ex : Bool}
    {ph : Phase} (hf : ex = true → s.running = false) (h : RInv p s pd)
    (hqi : QIds s (s.writeQ ++ pendWrites pd)) : FInv p ⟨s, pd, some ⟨t, ex, ph, none⟩⟩ :=
  ⟨csinvX_nil.2 (view_of_rinv h), hqi, fun _ hr hx => (by cases hr; exact hf hx),
    fun _ _ hr hw => (by cases hr; cases hw)⟩

theorem FInv.mk_mid {p : Params} {s : SState} {pd : List (Tid × Pend)} {t : Tid} {ex : Bool}
    {ph : Phase} {pc : WPc} (hf : ex = true → s.running = false) (hb : WBase p s pd (opOf pc))
    (hl : WLocal p s (s.writeQ ++ pendWrites pd) pc) :
    FInv p ⟨s, pd, some ⟨t, ex, ph, some pc⟩⟩ :=
  ⟨hb.csinvX, hb.qids, fun _ hr hx => (by cases hr; exact hf hx),
    fun _ _ hr hw => (by cases hr; cases hw; exact hl)⟩

theorem FInv.of_idle {p : Params} {c : FState} (h : FInv p c) (hr : c.run = none) :
    CSInv p ⟨c.s, c.pending⟩ ∧ QIds c.s (c.s.writeQ ++ pendWrites c.pending) := by
  obtain ⟨s, pd, run⟩ := c
  cases hr
  exact ⟨csinvX_nil.1 h.core, h.qids⟩

theorem FInv.of_run {p : Params} {c : FState} (h : FInv p c) {r : FRun} (hr : c.run = some r)
    (hw : r.w = none) : RInv p c.s c.pending ∧ QIds c.s (c.s.writeQ ++ pendWrites c.pending) := by
  obtain ⟨s, pd, run⟩ := c
  cases hr
  obtain ⟨t, ex, ph, w⟩ := r
  cases hw
  exact ⟨rinv_of_view (csinvX_nil.1 h.core), h.qids⟩

theorem FInv.of_mid {p : Params} {c : FState} (h : FInv p c) {r : FRun} {pc : WPc}
    (hr : c.run = some r) (hw : r.w = some pc) :
    WBase p c.s c.pending (opOf pc) ∧ WLocal p c.s (c.s.writeQ ++ pendWrites c.pending) pc := by
  have hl := h.loc r pc hr hw
  obtain ⟨s, pd, run⟩ := c
  cases hr
  obtain ⟨t, ex, ph, w⟩ := r
  cases hw
  exact ⟨wbase_of_csinvX h.core h.qids, hl⟩

theorem FInv.kn {p : Params} {c : FState} (h : FInv p c) : (AL.keys c.s.map).Nodup := by
  rw [← (viewF_fields c).1]
  exact h.core.top.map.kn

theorem finv_init (p : Params) : FInv p {} :=
  FInv.mk_idle (csinv_init p) (fun _ _ _ _ _ hm => by cases hm)

theorem beginRun_fields (s : SState) (ex : Bool) :
    (beginRun s ex).map = s.map ∧ (beginRun s ex).nextId = s.nextId ∧
    (beginRun s ex).writeQ = s.writeQ := by
  cases ex <;> exact ⟨rfl, rfl, rfl⟩

/-- One case whatever the run is doing: the invariant is the one of `ConcS` (`step_csinvX`) and the
step acts on the view as on the state (`step_view`). -/
theorem FInv.plain {p : Params} (hq : NoQuirks p) (hsm : SmallSketch p) {c : FState}
    (h : FInv p c) {e : ConcS.Ev} (hpl : isPlain e = true) {c1 : CState}
    (h0 : ConcS.step p ⟨c.s, c.pending⟩ e = some c1) :
    FInv p { c with s := c1.s, pending := c1.pending } := by
  obtain ⟨f1, f2, _⟩ := viewF_fields c
  obtain ⟨hprob, heff⟩ := plain_step_eff p h.core.tids e hpl h0
  have hv : ConcS.step p ⟨viewF c, c.pending⟩ e =
      some ⟨viewF { c with s := c1.s, pending := c1.pending }, c1.pending⟩ := by
    unfold viewF
    cases c.run with
    | none => exact h0
    | some r =>
      dsimp only
      rw [step_view p c.s c.pending e hpl, h0]
      rfl
  have hid : ∀ k ve, AL.get? c.s.map k = some ve → ve.id < c.s.nextId := fun k ve hk => by
    rw [← f1] at hk
    rw [← f2]
    exact (CInv.mapId h.core.cinv k ve hk).1
  refine ⟨step_csinvX hq hsm h.core e hv, qids_eff h.qids h.kn hid heff,
    fun r hr hx => (step_running p _ _ e hpl h0).trans (h.flag r hr hx), fun r pc hr hw => ?_⟩
  exact (h.loc r pc hr hw).eff h.kn (h.of_mid hr hw).1.lt hprob heff

theorem qids_micro {p : Params} (hq : NoQuirks p) {s : SState} {pd : List (Tid × Pend)}
    (hkn : (AL.keys s.map).Nodup) (h : QIds s (s.writeQ ++ pendWrites pd)) (ex : Bool) (ph : Phase) :
    QIds (micro p ex s ph).1 ((micro p ex s ph).1.writeQ ++ pendWrites pd) := by
  obtain ⟨fr, fq⟩ := micro_frame hq ex s ph
  refine h.mono (fr.mapSub hkn) fr.nextId ?_
  intro k hh v o w hmem
  rcases List.mem_append.mp hmem with a | a
  · exact List.mem_append_left _ (fq _ a)
  · exact List.mem_append_right _ a

theorem step_finv {p : Params} (hq : NoQuirks p) (hsm : SmallSketch p) {c c' : FState}
    (h : FInv p c) (e : ConcM.Ev) (hs : step p .good c e = some c') : FInv p c' := by
  cases FStep.of_eq hs with
  | other e0 c1 hpl h0 => exact h.plain hq hsm hpl h0
  | busy => exact h
  | begin t ex hr =>
    obtain ⟨h1, h2⟩ := h.of_idle hr
    obtain ⟨f1, f2, f3⟩ := beginRun_fields c.s ex
    refine FInv.mk_run (fun hx => by rw [hx]; exact h1.running) (rinv_of_view (begin_view h1 ex)) ?_
    rw [f3]
    exact h2.mono (fun k c hc => by rw [f1] at hc; exact hc) (by rw [f2]; exact Nat.le_refl _)
      (fun _ _ _ _ _ hm => hm)
  | app r pc hr hw =>
    obtain ⟨hb, hl⟩ := h.of_mid hr hw
    obtain ⟨_, _, n3, n4⟩ := (WStep.of_good p c.s hl.good).next hq hb hl
    have hf : r.explicit = true → (wstep p .good c.s pc).1.running = false :=
      fun hx => n3.trans (h.flag r hr hx)
    cases hpc : (wstep p .good c.s pc).2 with
    | some pc' =>
      rw [hpc] at n4
      exact FInv.mk_mid hf (by rw [n4.1]; exact n4.2.1) n4.2.2
    | none =>
      rw [hpc] at n4
      exact FInv.mk_run hf n4.1 n4.2
  | recv r f n u rest hr hw _ hwq =>
    -- the `Upsert` leaves the queue and stays pending
    obtain ⟨hri, hqi⟩ := h.of_run hr hw
    have hc := hri.cinv
    have hlen := hri.wq
    rw [hwq] at hc hqi hlen
    refine FInv.mk_mid (pc := .clearDirty u) (h.flag r hr)
      ⟨⟨safe_setWriteQ hri.run.safe rest, ⟨hri.run.map.kn, hri.run.map.bound⟩,
          ⟨hri.run.sk.sk, hri.run.sk.skOff⟩⟩,
        hc.same (same_of_eq rfl rfl rfl rfl rfl rfl), hri.tids,
        Nat.le_trans (Nat.le_succ _) hlen, hri.rq,
        hqi.mono (fun _ _ hc => hc) (Nat.le_refl _) (fun _ _ _ _ _ hm => hm)⟩ trivial
  | body r ph' hr hw _ hph =>
    obtain ⟨hri, hqi⟩ := h.of_run hr hw
    obtain ⟨m1, m2⟩ := micro_rinv hq hsm r.explicit hri r.phase
    refine FInv.mk_run (fun hx => ?_) m1 (qids_micro hq hri.run.map.kn hqi _ _)
    rw [m2 (Or.inl (by rw [hph]; rfl))]
    exact h.flag r hr hx
  | finish r hr hw hph =>
    obtain ⟨hri, hqi⟩ := h.of_run hr hw
    have hqids := qids_micro hq hri.run.map.kn hqi r.explicit .finish
    have hv : (micro p r.explicit c.s .finish).1 = view c.s := by
      cases hex : r.explicit with
      | true => exact view_eq_of_not_running (h.flag r hr hex)
      | false => rfl
    rw [hv] at hqids ⊢
    exact FInv.mk_idle (view_of_rinv hri) hqids

theorem reach_finv {p : Params} (hq : NoQuirks p) (hsm : SmallSketch p) {c : FState}
    (h : Reach p c) : FInv p c := by
  induction h with
  | init => exact finv_init p
  | step e _ hs ih => exact step_finv hq hsm ih e hs

/-- `ConcM` is contained in `ConcF`, so its invariant is the one of `ConcF` read through the
embedding. -/
theorem _root_.MiniMoka.ConcM.reach_minv {p : Params} (hq : NoQuirks p) (hsm : SmallSketch p)
    {c : MState} (h : ConcM.Reach p c) : MInv p c := by
  have hf := reach_finv hq hsm (reach_embedM h)
  obtain ⟨s, pd, run⟩ := c
  cases run with
  | none => exact ⟨csinvX_nil.1 hf.core, fun _ hr => by cases hr⟩
  | some r => exact ⟨csinvX_nil.1 hf.core, fun _ hr hx => hf.flag _ rfl (by cases hr; exact hx)⟩

theorem cinv_map_length_le {p : Params} {s : SState} {Q : List WOp} (hc : CInv p s Q)
    (hnc : NodesCore s) (hkn : (AL.keys s.map).Nodup) :
    s.map.length ≤ s.prob.length + Q.length :=
  hc.map_length_le hnc.adm_node hkn

theorem finv_nofault {p : Params} {c : FState} (h : FInv p c) : c.s.fault = none := by
  rw [← (viewF_fields c).2.2]
  exact h.core.top.nofault

theorem finv_mstep_mapsub {p : Params} (hq : NoQuirks p) {c c' : FState} (h : FInv p c)
    (t : Tid) (hs : step p .good c (.mStep t) = some c') :
    ∀ k ve, AL.get? c'.s.map k = some ve → AL.get? c.s.map k = some ve := by
  cases FStep.of_eq hs with
  | app r pc hr hw => exact (WStep.of_good p c.s (h.loc r pc hr hw).good).maint.frame0.mapSub h.kn
  | recv => exact fun _ _ hk => hk
  | body r => exact (micro_frame hq r.explicit c.s r.phase).1.mapSub h.kn
  | finish r => exact (micro_frame hq r.explicit c.s .finish).1.mapSub h.kn

/-! ### every run ends -/

theorem WPath.done_of {p : Params} {v : Variant} {a : SState × WPc} {s1 : SState} {pc1 : WPc}
    (h : WPath p v a (s1, some pc1)) (hd : ∃ s', WPath p v (s1, pc1) (s', none)) :
    ∃ s', WPath p v a (s', none) :=
  let ⟨s', h2⟩ := hd
  ⟨s', h.trans rfl h2⟩

theorem WPath.done_of_none {p : Params} {v : Variant} {s : SState} {pc : WPc}
    (h : (wstep p v s pc).2 = none) : ∃ s', WPath p v (s, pc) (s', none) :=
  ⟨(wstep p v s pc).1, WPath.last (Prod.ext rfl h)⟩

theorem wpath_done (p : Params) (s : SState) (pc : WPc) (hg : goodPc pc = true) :
    ∃ s', WPath p .good (s, pc) (s', none) := by
  have hscan : ∀ u nw cf rest acc s0,
      ∃ s', WPath p .good (s0, .scan u nw cf rest acc) (s', none) := by
    intro u nw cf rest acc s0
    have h1 := wpath_scan p s0 u nw cf rest acc
    generalize admitLoop p s0 nw cf rest acc = a at h1
    unfold finishScan at h1
    by_cases hc : a.vw ≥ nw ∧ cf > a.vf
    · rw [if_pos hc] at h1
      exact h1.done_of ⟨_, wpath_victims p u nw a.victims s0 a.skipped⟩
    · rw [if_neg hc] at h1
      exact h1.done_of (WPath.done_of_none rfl)
  have hdisp : ∀ u nw cur s0, ∃ s', WPath p .good (s0, .dispatch u nw cur) (s', none) := by
    intro u nw cur s0
    have hw := WStep.of_good p s0 (pc := .dispatch u nw cur) rfl
    generalize hr : wstep p .good s0 (.dispatch u nw cur) = r at hw
    cases hw with
    | update => exact ⟨_, WPath.last hr⟩
    | stale => exact ⟨_, WPath.last hr⟩
    | room => exact ⟨_, WPath.last hr⟩
    | tooBig => exact ⟨_, WPath.last hr⟩
    | startScan => exact (WPath.single hr).done_of (hscan _ _ _ _ _ _)
  cases pc with
  | clearDirty u =>
    exact (WPath.single rfl).done_of ((WPath.single rfl).done_of (hdisp u _ _ _))
  | readCurrent u => exact (WPath.single rfl).done_of (hdisp u _ _ _)
  | dispatch u nw cur => exact hdisp u nw cur s
  | scan u nw cf rest acc => exact hscan u nw cf rest acc s
  | victims u nw vs sk => exact ⟨_, wpath_victims p u nw vs s sk⟩
  | reject u sk => exact WPath.done_of_none rfl
  | readCurrentB1 u => cases hg
  | clearDirtyB1 u nw cur => cases hg
  | victimsB2 u nw vs sk ev al => cases hg
  | putBackB2 u ev sk => cases hg

theorem fpath_of_mpath {p : Params} {ex : Bool} {a : SState × Phase} {b : SState × Option Phase}
    (h : MPath p ex a b) : FPath p .good ex (a.1, a.2, none) (b.1, b.2, none) := by
  induction h with
  | refl s ph => exact FPath.refl _ _ _
  | @step s s1 ph ph1 r hm _ ih =>
    have h1 := fpath_of_micro p ex s ph
    rw [hm] at h1
    exact h1.trans rfl ih
  | @last s s1 ph hm =>
    have h1 := fpath_of_micro p ex s ph
    rw [hm] at h1
    exact h1

theorem run_terminates {p : Params} {c : FState} (h : FInv p c) (r : FRun)
    (hr : c.run = some r) :
    ∃ n s', runEvs p .good c (List.replicate n (.mStep r.tid)) = some ⟨s', c.pending, none⟩ := by
  have hc : c = ⟨c.s, c.pending, some ⟨r.tid, r.explicit, r.phase, r.w⟩⟩ := by
    cases c; simp only at hr; rw [hr]
  have h1 : ∃ s1, FPath p .good r.explicit (c.s, r.phase, r.w) (s1, some r.phase, none) := by
    cases hw : r.w with
    | none => exact ⟨c.s, FPath.refl _ _ _⟩
    | some pc =>
      obtain ⟨s1, hp⟩ := wpath_done p c.s pc (h.loc r pc hr hw).good
      exact ⟨s1, fpath_of_wpath hp r.phase⟩
  obtain ⟨s1, p1⟩ := h1
  obtain ⟨s2, p2⟩ := mpath_done p r.explicit s1 r.phase
  have p3 := p1.trans rfl (fpath_of_mpath p2)
  obtain ⟨n, he⟩ := runEvs_of_fpath' p3 r.tid c.pending
  refine ⟨n, s2, ?_⟩
  rw [hc]
  exact he

/-! ### without a capacity limit: no size eviction, no admission scan -/

def notLru : Phase → Prop
  | .lru _ _ _ => False
  | _ => True

theorem lruStart_none {p : Params} (hcap : p.cap = none) (s : SState) : lruStart p s = .finish := by
  unfold lruStart weightsToEvict
  rw [hcap]
  simp

theorem aoStart_notLru {p : Params} (hcap : p.cap = none) (s : SState) : notLru (aoStart p s) := by
  unfold aoStart
  split
  · trivial
  · rw [lruStart_none hcap]; trivial

theorem afterLoop_notLru {p : Params} (hcap : p.cap = none) (s : SState) :
    notLru (afterLoop p s) := by
  unfold afterLoop
  split
  · split
    · trivial
    · exact aoStart_notLru hcap s
  · rw [lruStart_none hcap]; trivial

theorem passStart_notLru {p : Params} (hcap : p.cap = none) (f : Nat) (s : SState) :
    notLru (passStart p f s) := by
  cases f with
  | zero => exact afterLoop_notLru hcap s
  | succ f => trivial

theorem micro_notLru {p : Params} (hcap : p.cap = none) (ex : Bool) (s : SState) (ph : Phase)
    (hph : notLru ph) (ph' : Phase) (h : (micro p ex s ph).2 = some ph') : notLru ph' := by
  cases ph with
  | reads f n =>
    cases n with
    | zero => simp only [micro] at h; rw [← Option.some.inj h]; trivial
    | succ n =>
      simp only [micro] at h
      split at h <;> (rw [← Option.some.inj h]; trivial)
  | writes f n =>
    cases n with
    | zero => simp only [micro] at h; rw [← Option.some.inj h]; trivial
    | succ n =>
      simp only [micro] at h
      split at h <;> (rw [← Option.some.inj h]; trivial)
  | enable f =>
    simp only [micro] at h
    split at h
    · split at h
      · rw [← Option.some.inj h]; exact passStart_notLru hcap _ _
      · rw [← Option.some.inj h]; exact afterLoop_notLru hcap _
    · split at h
      · rw [← Option.some.inj h]; exact passStart_notLru hcap _ _
      · rw [← Option.some.inj h]; exact afterLoop_notLru hcap _
  | expireWo n =>
    cases n with
    | zero => simp only [micro] at h; rw [← Option.some.inj h]; exact aoStart_notLru hcap _
    | succ n =>
      simp only [micro] at h
      split at h
      · rw [← Option.some.inj h]; trivial
      · rw [← Option.some.inj h]; exact aoStart_notLru hcap _
  | expireAo n =>
    cases n with
    | zero =>
      simp only [micro] at h; rw [← Option.some.inj h, lruStart_none hcap]; trivial
    | succ n =>
      simp only [micro] at h
      split at h
      · rw [← Option.some.inj h]; trivial
      · rw [← Option.some.inj h, lruStart_none hcap]; trivial
  | lru n wte ev => exact hph.elim
  | finish =>
    cases ex <;> (simp only [micro] at h; cases h)

/-- The program counters up to the capacity check of `handle_upsert` (`dispatch`). -/
def simplePc : WPc → Prop
  | .clearDirty _ => True
  | .readCurrent _ => True
  | .dispatch _ _ _ => True
  | _ => False

/-- A run, if any, is in no LRU phase, and an `Upsert` being applied is at a program counter up
to `dispatch`.  Without `max_capacity` every reachable state is so (`reach_simple`). -/
def Simple (c : FState) : Prop :=
  ∀ r, c.run = some r → notLru r.phase ∧ ∀ pc, r.w = some pc → simplePc pc

theorem simplePc.good {pc : WPc} (h : simplePc pc) : goodPc pc = true := by
  cases pc with
  | clearDirty | readCurrent | dispatch => rfl
  | scan | victims | reject | readCurrentB1 | clearDirtyB1 | victimsB2 | putBackB2 => exact h.elim

theorem WStep.simple {p : Params} (hcap : p.cap = none) {s : SState} {pc : WPc}
    {r : SState × Option WPc} (h : WStep p s pc r) (hs : simplePc pc) :
    r.1.map = s.map ∧ ∀ pc', r.2 = some pc' → simplePc pc' := by
  cases h with
  | clearDirty | readCurrent => exact ⟨rfl, fun _ e => by cases e; trivial⟩
  | stale => exact ⟨rfl, fun _ e => by cases e⟩
  | update => exact ⟨applyUpdate_map _ _ _ _ _, fun _ e => by cases e⟩
  | room u nw => exact ⟨(handleAdmit_admitted p s u.key u.hash u.ve nw).map, fun _ e => by cases e⟩
  | tooBig _ _ _ _ _ c3 => exact absurd (hasEnoughCapacity_none hcap _ _) c3
  | startScan _ _ _ _ _ c3 => exact absurd (hasEnoughCapacity_none hcap _ _) c3
  | scanVictim | scanSkip | scanGiveUp | scanStop | victimsDone | victimFreed | victimEvict | victimSkip
  | reject => exact hs.elim

theorem step_simple {p : Params} (hcap : p.cap = none) {c c' : FState} (h : Simple c)
    (e : ConcM.Ev) (hs : step p .good c e = some c') : Simple c' := by
  cases FStep.of_eq hs with
  | other => exact h
  | busy => exact h
  | begin t ex =>
    intro r hr
    cases hr
    refine ⟨?_, fun _ hx => by cases hx⟩
    exact passStart_notLru hcap (Gen.MAX_SYNC_REPEATS + 1) (beginRun c.s ex)
  | app r pc hr hw =>
    intro r' hr'
    cases hr'
    have hs := (h r hr).2 pc hw
    exact ⟨(h r hr).1, ((WStep.of_good p c.s hs.good).simple hcap hs).2⟩
  | recv r =>
    intro r' hr'
    cases hr'
    exact ⟨trivial, fun _ hx => by cases hx; trivial⟩
  | body r ph' hr hw _ hph =>
    intro r' hr'
    cases hr'
    exact ⟨micro_notLru hcap r.explicit c.s r.phase (h r hr).1 ph' hph, fun pc hx => by cases hx⟩
  | finish =>
    intro r hr
    cases hr

theorem reach_simple {p : Params} (hcap : p.cap = none) {c : FState} (h : Reach p c) :
    Simple c := by
  induction h with
  | init => intro r hr; cases hr
  | step e _ hs ih => exact step_simple hcap ih e hs

theorem mstep_kept_none {p : Params} (hq : NoQuirks p) (hcap : p.cap = none) {c c' : FState}
    (h : FInv p c) (hsim : Simple c) (t : Tid) (hs : step p .good c (.mStep t) = some c')
    (k : Nat) (ve : VE) (hk : AL.get? c.s.map k = some ve) :
    AL.get? c'.s.map k = some ve ∨
      isExpiredInfo p c'.s (getInfo c'.s ve.info) c'.s.now = true := by
  have hsame : ∀ s' : SState, s'.map = c.s.map → AL.get? s'.map k = some ve ∨
      isExpiredInfo p s' (getInfo s' ve.info) s'.now = true :=
    fun s' e => Or.inl (by rw [e]; exact hk)
  have hkept : ∀ s' : SState, Kept p c.s s' → Frame0 c.s s' → AL.get? s'.map k = some ve ∨
      isExpiredInfo p s' (getInfo s' ve.info) s'.now = true := by
    intro s' hkp hf
    rcases hkp h.kn k ve hk with a | a
    · exact Or.inl a
    · exact Or.inr (by rw [isExpiredInfo_frame0 p hf]; exact a)
  cases FStep.of_eq hs with
  | app r pc hr hw =>
    have hsp := (hsim r hr).2 pc hw
    exact hsame _ ((WStep.of_good p c.s hsp.good).simple hcap hsp).1
  | recv => exact hsame _ rfl
  | finish r => exact hsame _ (by cases r.explicit <;> rfl)
  | body r ph' hr _ hf =>
    have hb := micro_body p r.explicit c.s r.phase hf
    generalize (micro p r.explicit c.s r.phase).1 = s' at hb ⊢
    cases hb with
    | skip => exact hsame _ rfl
    | read op rest _ => exact hsame _ (applyRead_same p _ op).map
    | write op rest _ =>
      refine hsame _ ?_
      cases op with
      | upsert key hash ve' oldW newW => exact handleUpsert_map_none hq hcap _ _ _ _ _ _
      | remove k' ve' => exact handleRemove_map _ _
    | enable _ => exact hsame _ (enableSketch_same p c.s).map
    | expireWo =>
      exact hkept _ (removeExpiredWo_evicts 1 c.s).kept (removeExpiredWo_maint p 1 c.s).frame0
    | expireAo =>
      exact hkept _ (removeExpiredAo_evicts 1 c.s).kept (removeExpiredAo_maint p 1 c.s).frame0
    | lru n wte ev hph =>
      have g1 := (hsim r hr).1
      rw [hph] at g1
      exact g1.elim

end ConcF
end MiniMoka
