/-
  The oracles' reference bookkeeping, without either cache model: `Spec.Ghost` of the lookup oracles,
  `Spec.Ref` of C03 part A and its projection `toGhost` onto `Ghost`, with which the reference steps
  of both kinds commute; `RefOk`, which every reference step of the single-threaded kind keeps; and
  the two oracles read one observation at a time: `exactC03_cons` with the check `checkExact`,
  `checks_of_entry` for the three lookup checks.
  `toGhost`, `RefOk`, `mustLive_mono` … are in `namespace Unsync` and used by both caches: the names
  are those of the single-threaded cache's results, which other statements mention.
-/
import MiniMoka.Spec.Oracles
import MiniMoka.Lemmas.AL
import MiniMoka.Lemmas.IsRun

namespace MiniMoka
namespace Spec

theorem get?_killIf (f : Nat → GEntry → Bool) (ents : List (Nat × GEntry)) (k : Nat) :
    AL.get? (killIf f ents) k =
      (AL.get? ents k).map (fun ge => if f k ge then { ge with alive := false } else ge) := by
  induction ents with
  | nil => rfl
  | cons a rest ih =>
    obtain ⟨k', ge⟩ := a
    simp only [killIf, AL.get?_cons]
    by_cases h : k' = k
    · subst h; simp
    · simp [h, ih]

theorem mustLive_iff {ttl tti : Option Nat} {r : Ref} {e : REntry} :
    mustLive ttl tti r e = true ↔ (e.alive = true ∧ e.maybeDead = false ∧
      (∀ d, ttl = some d → r.now < e.tIns + d) ∧ (∀ d, tti = some d → r.now < e.tSure + d)) := by
  cases ttl <;> cases tti <;> simp [mustLive, and_assoc]

end Spec

namespace Unsync

open Spec

def toGE (e : REntry) : GEntry := { val := e.val, tIns := e.tIns, tAcc := e.tAcc, alive := e.alive }

def toGhostEnts : List (Nat × REntry) → List (Nat × GEntry)
  | [] => []
  | (k, e) :: rest => (k, toGE e) :: toGhostEnts rest

/-- The bookkeeping of the lookup oracles is a projection of the reference of C03. -/
def toGhost (r : Ref) : Ghost := { now := r.now, ents := toGhostEnts r.ents }

theorem get?_toGhostEnts (l : List (Nat × REntry)) (k : Nat) :
    AL.get? (toGhostEnts l) k = (AL.get? l k).map toGE := by
  induction l with
  | nil => rfl
  | cons a l ih =>
    obtain ⟨k', e⟩ := a
    simp only [toGhostEnts, AL.get?_cons]
    by_cases h : k' = k
    · simp [h]
    · simp [h, ih]

theorem toGhostEnts_put (l : List (Nat × REntry)) (k : Nat) (e : REntry) :
    toGhostEnts (AL.put l k e) = AL.put (toGhostEnts l) k (toGE e) := by
  induction l with
  | nil => rfl
  | cons a l ih =>
    obtain ⟨k', e'⟩ := a
    simp only [toGhostEnts, AL.put_cons]
    by_cases h : k' = k
    · simp [h, toGhostEnts]
    · simp [h, toGhostEnts, ih]

theorem toGhostEnts_same (f : Nat → REntry → REntry) (hf : ∀ k e, toGE (f k e) = toGE e)
    (l : List (Nat × REntry)) : toGhostEnts (mapEnts f l) = toGhostEnts l := by
  induction l with
  | nil => rfl
  | cons a l ih =>
    obtain ⟨k, e⟩ := a
    simp only [mapEnts, toGhostEnts, ih, hf]

theorem toGhostEnts_mapEnts_kill (f : Nat → REntry → REntry) (f' : Nat → GEntry → Bool)
    (hf : ∀ k e, toGE (f k e) =
      if f' k (toGE e) then { toGE e with alive := false } else toGE e)
    (l : List (Nat × REntry)) : toGhostEnts (mapEnts f l) = killIf f' (toGhostEnts l) := by
  induction l with
  | nil => rfl
  | cons a l ih =>
    obtain ⟨k, e⟩ := a
    simp only [mapEnts, toGhostEnts, killIf, ih, hf]

theorem toGhostEnts_kill (f : Nat → REntry → Bool) (f' : Nat → GEntry → Bool)
    (hf : ∀ k e, f k e = f' k (toGE e)) (l : List (Nat × REntry)) :
    toGhostEnts (mapEnts (fun k e => if f k e then { e with alive := false } else e) l) =
      killIf f' (toGhostEnts l) :=
  toGhostEnts_mapEnts_kill _ f' (fun k e => by rw [hf k e]; cases f' k (toGE e) <;> simp [toGE]) l

/-- The reference steps commute with the projection, on both caches: the two kinds differ in
`invalidate_all` only. -/
theorem toGhost_refStep (kind : Kind) (r : Ref) (op : Op) (obs : Obs) :
    toGhost (refStep kind r op obs) = ghostStep kind (toGhost r) op obs := by
  cases op with
  | ins k v => simp [refStep, ghostStep, toGhost, toGhostEnts_put, toGE]
  | get k =>
    cases obs with
    | val res =>
      cases res with
      | none => rfl
      | some v =>
        simp only [refStep, ghostStep, toGhost, get?_toGhostEnts]
        cases AL.get? r.ents k with
        | none => rfl
        | some e => simp [toGhostEnts_put, toGE]
    | _ => rfl
  | has k => rfl
  | iter => rfl
  | inv k =>
    simp only [refStep, ghostStep, toGhost]
    rw [toGhostEnts_kill (fun k' _ => k' == k) (fun k' _ => k' == k) (fun _ _ => rfl)]
  | invAll =>
    cases kind with
    | unsync =>
      simp only [refStep, ghostStep, toGhost]
      have := toGhostEnts_kill (fun _ _ => true) (fun _ _ => true) (fun _ _ => rfl) r.ents
      simpa using this
    | sync =>
      simp only [refStep, ghostStep, toGhost]
      have h := toGhostEnts_mapEnts_kill (fun _ e =>
          if e.tIns < r.now then { e with alive := false }
          else if e.tIns == r.now then { e with maybeDead := true } else e)
        (fun _ ge => decide (ge.tIns < r.now)) (by
          intro k e
          by_cases h1 : e.tIns < r.now
          · simp [h1, toGE]
          · by_cases h2 : e.tIns = r.now <;> simp [h1, h2, toGE]) r.ents
      rw [h]
      rfl
  | invIf pr =>
    simp only [refStep, ghostStep, toGhost]
    rw [toGhostEnts_kill (fun k e => pr.eval k e.val) (fun k ge => pr.eval k ge.val) (fun _ _ => rfl)]
  | sync =>
    simp only [refStep, ghostStep, toGhost]
    rw [toGhostEnts_same (fun _ e => { e with tSure := e.tAcc }) (fun _ _ => rfl)]
  | adv d => rfl
  | snap => rfl
  | freq k => rfl

theorem keys_mapEnts (f : Nat → REntry → REntry) (l : List (Nat × REntry)) :
    AL.keys (mapEnts f l) = AL.keys l := by
  induction l with
  | nil => rfl
  | cons a l ih => obtain ⟨k, e⟩ := a; simp [mapEnts, ih]

theorem get?_mapEnts (f : Nat → REntry → REntry) (l : List (Nat × REntry)) (k : Nat) :
    AL.get? (mapEnts f l) k = (AL.get? l k).map (f k) := by
  induction l with
  | nil => rfl
  | cons a l ih =>
    obtain ⟨k', e⟩ := a
    simp only [mapEnts, AL.get?_cons]
    by_cases h : k' = k
    · subst h; simp
    · simp [h, ih]

theorem mapEnts_some {f : Nat → REntry → REntry} {l : List (Nat × REntry)} {k : Nat}
    {re' : REntry} (h : AL.get? (mapEnts f l) k = some re') :
    ∃ re, AL.get? l k = some re ∧ f k re = re' := by
  rw [get?_mapEnts] at h
  cases h0 : AL.get? l k with
  | none => rw [h0] at h; cases h
  | some re => rw [h0] at h; exact ⟨re, rfl, Option.some.inj h⟩

/-- A property `Q now e` of the entries of a reference survives every `refStep` if it holds of a
fresh entry and survives a touch, the two flags, `sync` and the clock. -/
theorem _root_.MiniMoka.Spec.refStep_all (kind : Kind) {Q : Nat → REntry → Prop}
    (hins : ∀ now v, Q now { val := v, tIns := now, tAcc := now, tSure := now, alive := true })
    (htouch : ∀ now e, Q now e →
      Q now { e with tAcc := now, tSure := if kind == .unsync then now else e.tSure })
    (hflag : ∀ now e a m, Q now e → Q now { e with alive := a, maybeDead := m })
    (hsync : ∀ now e, Q now e → Q now { e with tSure := e.tAcc })
    (hadv : ∀ now d e, Q now e → Q (now + d) e)
    {r : Ref} (hn : (AL.keys r.ents).Nodup) (hq : ∀ k e, AL.get? r.ents k = some e → Q r.now e)
    (op : Op) (obs : Obs) :
    (AL.keys (refStep kind r op obs).ents).Nodup ∧
      ∀ k e, AL.get? (refStep kind r op obs).ents k = some e → Q (refStep kind r op obs).now e := by
  have put : ∀ k e, Q r.now e → (AL.keys (AL.put r.ents k e)).Nodup ∧
      ∀ k' e', AL.get? (AL.put r.ents k e) k' = some e' → Q r.now e' := by
    intro k e he
    refine ⟨AL.nodup_put k e hn, fun k' e' h => ?_⟩
    rw [AL.get?_put] at h
    by_cases hk : k = k'
    · rw [if_pos hk] at h
      cases h
      exact he
    · rw [if_neg hk] at h
      exact hq k' e' h
  have mapE : ∀ f : Nat → REntry → REntry, (∀ k e, Q r.now e → Q r.now (f k e)) →
      (AL.keys (mapEnts f r.ents)).Nodup ∧
      ∀ k e, AL.get? (mapEnts f r.ents) k = some e → Q r.now e := by
    intro f hf
    refine ⟨by rw [keys_mapEnts]; exact hn, fun k e h => ?_⟩
    obtain ⟨e0, h0, rfl⟩ := mapEnts_some h
    exact hf k e0 (hq k e0 h0)
  cases op with
  | ins k v => exact put k _ (hins _ _)
  | get k =>
    cases obs with
    | val res =>
      cases res with
      | none => exact ⟨hn, hq⟩
      | some v =>
        simp only [refStep]
        cases h0 : AL.get? r.ents k with
        | none => exact ⟨hn, hq⟩
        | some e => exact put k _ (htouch _ _ (hq k e h0))
    | _ => exact ⟨hn, hq⟩
  | inv k =>
    refine mapE _ fun k' e h => ?_
    split
    · exact hflag _ _ false e.maybeDead h
    · exact h
  | invAll =>
    cases kind with
    | unsync => exact mapE _ fun _ e h => hflag _ _ false e.maybeDead h
    | sync =>
      refine mapE _ fun _ e h => ?_
      split
      · exact hflag _ _ false e.maybeDead h
      · split
        · exact hflag _ _ e.alive true h
        · exact h
  | invIf pr =>
    refine mapE _ fun k' e h => ?_
    split
    · exact hflag _ _ false e.maybeDead h
    · exact h
  | sync => exact mapE _ fun _ e h => hsync _ _ h
  | adv d => exact ⟨hn, fun k e h => hadv _ _ _ (hq k e h)⟩
  | _ => exact ⟨hn, hq⟩

/-- Well-formedness of the reference on the single-threaded cache: one entry per key, and the
guaranteed access time is the access time. -/
structure RefOk (r : Ref) : Prop where
  nodup : (AL.keys r.ents).Nodup
  sure : ∀ k e, AL.get? r.ents k = some e → e.tSure = e.tAcc

theorem refOk_init : RefOk {} := ⟨by simp, fun k e h => by simp at h⟩

theorem refOk_step {r : Ref} (hr : RefOk r) (op : Op) (obs : Obs) :
    RefOk (refStep .unsync r op obs) :=
  have h := refStep_all .unsync (Q := fun _ e => e.tSure = e.tAcc) (fun _ _ => rfl)
    (fun _ _ _ => rfl) (fun _ _ _ _ h => h) (fun _ _ _ => rfl) (fun _ _ _ h => h) hr.nodup hr.sure
    op obs
  ⟨h.1, h.2⟩

theorem mustLive_now {ttl tti : Option Nat} {r r' : Ref} (h : r'.now = r.now) (e : REntry) :
    mustLive ttl tti r' e = mustLive ttl tti r e := by
  simp only [mustLive, h]

theorem mustLive_mono {ttl tti : Option Nat} {r r' : Ref} (h : r.now ≤ r'.now) {e : REntry}
    (hl : mustLive ttl tti r' e = true) : mustLive ttl tti r e = true := by
  obtain ⟨ha, hm, h1, h2⟩ := mustLive_iff.mp hl
  exact mustLive_iff.mpr ⟨ha, hm, fun d hd => Nat.lt_of_le_of_lt h (h1 d hd),
    fun d hd => Nat.lt_of_le_of_lt h (h2 d hd)⟩

end Unsync

namespace Spec

def insW (p : Params) : Op → Nat
  | .ins k v => p.weigh k v
  | _ => 0

/-- The per-observation check of `Spec.exactC03`. -/
def checkExact (ttl tti : Option Nat) (r : Ref) (op : Op) (obs : Obs) : Bool :=
  match op, obs with
  | .get k, .val res =>
    (match AL.get? r.ents k with
     | some e => !(mustLive ttl tti r e) || res == some e.val
     | none => true)
  | .has k, .bool b =>
    (match AL.get? r.ents k with
     | some e => !(mustLive ttl tti r e) || b
     | none => true)
  | .iter, .iter l =>
    r.ents.all fun ke => !(mustLive ttl tti r ke.2) || l.contains (ke.1, ke.2.val)
  | _, _ => true

theorem exactC03_cons (kind : Kind) (ttl tti : Option Nat) (r : Ref) (op : Op) (obs : Obs)
    (rest : Trace) :
    exactC03 kind ttl tti r ((op, obs) :: rest) =
      if stops obs then true
      else (checkExact ttl tti r op obs && exactC03 kind ttl tti (refStep kind r op obs) rest) := by
  conv => lhs; unfold exactC03
  rfl

theorem dead_not_mustLive {ttl tti : Option Nat} {r : Ref} {e : REntry} (h : e.alive = false) :
    mustLive ttl tti r e = false := by
  simp [mustLive, h]

def totalIns (p : Params) : List Op → Nat
  | [] => 0
  | op :: rest => insW p op + totalIns p rest

theorem totalInserted_isRun {σ : Type} {step : σ → Op → σ × Obs} {run : σ → List Op → Trace}
    (hr : IsRun step run) (p : Params) : ∀ (h : List Op) (s : σ),
    totalInserted p.weigh (run s h) = totalIns p h := by
  intro h
  induction h with
  | nil =>
    intro s
    rw [hr.nil]
    rfl
  | cons op rest ih =>
    intro s
    rw [hr.cons]
    cases op <;> simp [totalInserted, totalIns, insW, ih]

theorem checks_of_entry {ttl tti : Option Nat} {g : Ghost} {k : Nat} {ge : GEntry}
    (h1 : AL.get? g.ents k = some ge) (hal : ge.alive = true) {ov : Option Nat}
    (hov : ov = none ∨ ov = some ge.val) (httl : ∀ d, ttl = some d → g.now < ge.tIns + d)
    (htti : ∀ d, tti = some d → g.now < ge.tAcc + d) :
    (checkC01 g (k, ov) && checkC05 ttl g (k, ov) && checkC06 tti g (k, ov)) = true := by
  simp only [Bool.and_eq_true]
  refine ⟨⟨?_, ?_⟩, ?_⟩
  · simp only [checkC01, h1, hal, Bool.true_and]
    rcases hov with h | h <;> simp [h]
  · simp only [checkC05]
    cases h : ttl with
    | none => rfl
    | some d => simp only [h1]; exact decide_eq_true (httl d h)
  · simp only [checkC06]
    cases h : tti with
    | none => rfl
    | some d => simp only [h1]; exact decide_eq_true (htti d h)

end Spec
end MiniMoka
