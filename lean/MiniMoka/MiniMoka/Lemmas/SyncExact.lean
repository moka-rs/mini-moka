/-
  C03 part A on the one-thread model: as long as nothing is evicted for size it is exactly a map
  with expiry, for any placement of `sync` and of clock steps and any queue state.  The coupling
  `CoupledRS` adds to the soundness half (`CoupledS`) a completeness half: an alive entry of the
  reference is resident with the reference's timestamps, up to hits still queued (`Pending`), or
  past a deadline for good.  `SyncOk`/`MaintOk`: a maintenance run neither rejects nor evicts for
  size; under a capacity `syncRun_frameX_over` is the one argument, the budgets (`RoomInv`) its
  instance for histories whose inserts fit (`SyncFits.lean` has the other).
-/
import MiniMoka.Lemmas.SyncLookup
import MiniMoka.Lemmas.SyncCounters
import MiniMoka.Lemmas.Ghost

namespace MiniMoka
namespace Sync

/- `syncRun p s` is a state like any other here (see the note in `SyncQueues`). -/
attribute [local irreducible] syncRun

open Spec Counters Nodes

def Applied (s s' : SState) : Prop :=
  ∀ hash ve ts, ROp.hit hash ve ts ∈ s.readQ →
    ROp.hit hash ve ts ∈ s'.readQ ∨ ts ≤ (getInfo s' ve.info).la

theorem Applied.refl (s : SState) : Applied s s := fun _ _ _ h => Or.inl h

theorem Applied.trans {a b c : SState} (h1 : Applied a b) (h2 : Applied b c) (hf : Frame b c) :
    Applied a c := by
  intro hash ve ts hin
  rcases h1 hash ve ts hin with h | h
  · exact h2 hash ve ts h
  · exact Or.inr (Nat.le_trans h (hf.laLe _))

theorem Frame0.applied {s s' : SState} (h : Frame0 s s') : Applied s s' :=
  fun _ _ _ hin => Or.inl (by rw [h.readQ]; exact hin)

structure FrameA (s s' : SState) : Prop where
  frame : Frame s s'
  applied : Applied s s'

theorem FrameA.refl (s : SState) : FrameA s s := ⟨Frame.refl s, Applied.refl s⟩

theorem FrameA.trans {a b c : SState} (h1 : FrameA a b) (h2 : FrameA b c) : FrameA a c :=
  ⟨h1.frame.trans h2.frame, h1.applied.trans h2.applied h2.frame⟩

theorem Frame0.toFrameA {s s' : SState} (h : Frame0 s s') : FrameA s s' :=
  ⟨h.toFrame, h.applied⟩

theorem applyRead_frameA {p : Params} (hq : NoQuirks p) (s : SState) (op : ROp) (rest : List ROp)
    (hs : s.readQ = op :: rest) : FrameA s (applyRead p { s with readQ := rest } op) := by
  refine ⟨applyRead_frame hq s op rest hs, ?_⟩
  have hd6 : p.q.d6 = false := by rw [hq]
  intro hash ve ts hin
  rw [hs] at hin
  rcases List.mem_cons.mp hin with h | h
  · right
    subst h
    unfold applyRead
    simp only [hd6, Bool.false_eq_true, if_false]
    generalize sketchIncrement p { s with readQ := rest } hash = s1
    have h2 : ts ≤ (getInfo (if (getInfo s1 ve.info).la < ts
        then withInfo s1 ve.info (fun i => { i with la := ts }) else s1) ve.info).la := by
      by_cases hlt : (getInfo s1 ve.info).la < ts
      · rw [if_pos hlt, getInfo_withInfo, if_pos rfl]; exact Nat.le_refl _
      · rw [if_neg hlt]; exact Nat.le_of_not_lt hlt
    generalize (if (getInfo s1 ve.info).la < ts
        then withInfo s1 ve.info (fun i => { i with la := ts }) else s1) = s2 at h2 ⊢
    split
    · rw [(moveToBackAoE_maint _ _).frame0.la]; exact h2
    · exact h2
  · left
    rw [(applyRead_qframe p { s with readQ := rest } op).readQ]
    exact h

theorem applyReads_frameA {p : Params} (hq : NoQuirks p) (n : Nat) (s : SState) :
    FrameA s (applyReads p n s) :=
  applyReads_ind (C := FrameA s)
    (fun t op rest hs h => h.trans (applyRead_frameA hq t op rest hs)) n s (FrameA.refl s)

theorem syncPass_frameA {p : Params} (hq : NoQuirks p) (s : SState) :
    FrameA s (syncPass p s) :=
  syncPass_rel (R := FrameA) FrameA.trans p s (fun s n => applyReads_frameA hq n s)
    (fun s n => (applyWrites_frame0 p n s).toFrameA) (fun s => (enableSketch_frame0 p s).toFrameA)

theorem syncRun_frameA {p : Params} (hq : NoQuirks p) (s : SState) : FrameA s (syncRun p s) :=
  syncRun_rel (R := FrameA) FrameA.trans p s (fun s => (frame0_set_cec_cws s _ _).toFrameA)
    (syncPass_frameA hq) (fun h => h.frame0.toFrameA) (fun s => (frame0_set_ec_ws s _ _).toFrameA)

theorem syncRun_applied {p : Params} (hq : NoQuirks p) (s : SState) (hash : UInt64) (ve : VE)
    (ts : Nat) (hin : ROp.hit hash ve ts ∈ s.readQ) : ts ≤ (getInfo (syncRun p s) ve.info).la := by
  rcases (syncRun_frameA hq s).applied hash ve ts hin with h | h
  · rw [syncRun_readQ] at h; cases h
  · exact h

theorem handleUpsert_roomy {p : Params} (hq : NoQuirks p) (s : SState) (key : Nat) (hash : UInt64)
    (ve : VE) (oldW newW : Nat)
    (hroom : (getInfo s ve.info).admitted = false → isCurrentEntry s key ve = true →
      hasEnoughCapacity p (currentWeight p s key ve newW) s = true) :
    (handleUpsert p s key hash ve oldW newW).map = s.map ∧
    (∀ j, j ≠ ve.info →
      (getInfo (handleUpsert p s key hash ve oldW newW) j).weight = (getInfo s j).weight ∧
      (getInfo (handleUpsert p s key hash ve oldW newW) j).admitted = (getInfo s j).admitted) ∧
    ((getInfo (handleUpsert p s key hash ve oldW newW) ve.info).weight =
        currentWeight p s key ve newW ∨
      ((getInfo (handleUpsert p s key hash ve oldW newW) ve.info).weight =
          (getInfo s ve.info).weight ∧
        (getInfo (handleUpsert p s key hash ve oldW newW) ve.info).admitted = false)) := by
  have hd8 : p.q.d8 = false := by rw [hq]
  have hd7 : p.q.d7 = false := by rw [hq]
  have h0g : ∀ j, (getInfo (withInfo s ve.info (fun i => { i with dirty := false })) j).weight =
      (getInfo s j).weight ∧
      (getInfo (withInfo s ve.info (fun i => { i with dirty := false })) j).admitted =
      (getInfo s j).admitted := by
    intro j; rw [getInfo_withInfo]; by_cases e : ve.info = j
    · rw [if_pos e, e]; exact ⟨rfl, rfl⟩
    · rw [if_neg e]; exact ⟨rfl, rfl⟩
  -- with room the last two ways of `handle_upsert` are not taken
  have hcap : (getInfo (withInfo s ve.info (fun i => { i with dirty := false })) ve.info).admitted
      = false → ¬ (!p.q.d7 && !isCurrentEntry (withInfo s ve.info (fun i => { i with dirty := false }))
        key ve) = true →
      hasEnoughCapacity p (currentWeight p s key ve newW)
        (withInfo s ve.info (fun i => { i with dirty := false })) = true := by
    intro c1 c2
    refine hroom (by rw [← (h0g _).2]; exact c1) ?_
    rw [hd7] at c2
    show isCurrentEntry (withInfo s ve.info (fun i => { i with dirty := false })) key ve = true
    cases hc : isCurrentEntry (withInfo s ve.info (fun i => { i with dirty := false })) key ve with
    | true => rfl
    | false => rw [hc] at c2; exact absurd rfl c2
  refine handleUpsert_cases (C := fun t => t.map = s.map ∧
    (∀ j, j ≠ ve.info → (getInfo t j).weight = (getInfo s j).weight ∧
      (getInfo t j).admitted = (getInfo s j).admitted) ∧
    ((getInfo t ve.info).weight = currentWeight p s key ve newW ∨
      ((getInfo t ve.info).weight = (getInfo s ve.info).weight ∧
        (getInfo t ve.info).admitted = false))) rfl rfl ?_ ?_ ?_ ?_ ?_
  · intro _
    refine ⟨by rw [applyUpdate_map]; rfl, fun j hj => ?_, Or.inl ?_⟩
    · rw [applyUpdate_weight hd8, if_neg (fun e => hj e.symm), applyUpdate_adm]
      exact h0g j
    · rw [applyUpdate_weight hd8, if_pos rfl]
  · intro c1 _
    exact ⟨rfl, fun j _ => h0g j, Or.inr ⟨(h0g _).1, c1⟩⟩
  · intro _ _ _
    have ha := handleAdmit_admitted p (withInfo s ve.info (fun i => { i with dirty := false }))
      key hash ve (currentWeight p s key ve newW)
    refine ⟨by rw [ha.map]; rfl, fun j hj => by rw [ha.info_ne hj]; exact h0g j, Or.inl ?_⟩
    rw [ha.info, if_pos rfl]
    simp only [hd8, Bool.false_eq_true, if_false]
  · intro c1 c2 c3 _
    exact absurd (hcap c1 c2) c3
  · intro c1 c2 c3 _
    exact absurd (hcap c1 c2) c3

theorem handleUpsert_map_none {p : Params} (hq : NoQuirks p) (hcap : p.cap = none) (s : SState)
    (key : Nat) (hash : UInt64) (ve : VE) (oldW newW : Nat) :
    (handleUpsert p s key hash ve oldW newW).map = s.map :=
  (handleUpsert_roomy hq s key hash ve oldW newW
    (fun _ _ => hasEnoughCapacity_none hcap s _)).1

theorem applyWrites_map_none {p : Params} (hq : NoQuirks p) (hcap : p.cap = none) (n : Nat)
    (s : SState) : (applyWrites p n s).map = s.map := by
  refine applyWrites_ind (C := fun t => t.map = s.map) (fun t op rest _ h => ?_) n s rfl
  cases op with
  | upsert key hash ve oldW newW => exact (handleUpsert_map_none hq hcap _ _ _ _ _ _).trans h
  | remove key ve => exact (handleRemove_map _ _).trans h

theorem syncPass_map_none {p : Params} (hq : NoQuirks p) (hcap : p.cap = none) (s : SState) :
    (syncPass p s).map = s.map :=
  syncPass_stages (Q := fun s' => s'.map = s.map) (R := fun s' => s'.map = s.map)
    (applyReads_same _ _ _).map (fun _ h => (applyWrites_map_none hq hcap _ _).trans h)
    (fun _ h _ => (enableSketch_same _ _).map.trans h)

/-- A map entry that leaves was expired, judged in the state before the step (`FrameX.kept` judges
it after the run). -/
def Kept (p : Params) (s s' : SState) : Prop :=
  (AL.keys s.map).Nodup → ∀ k ve, AL.get? s.map k = some ve →
    AL.get? s'.map k = some ve ∨ isExpiredInfo p s (getInfo s ve.info) s.now = true

theorem Kept.of_map_eq {p : Params} {s s' : SState} (h : s'.map = s.map) : Kept p s s' :=
  fun _ k ve hk => Or.inl (by rw [h]; exact hk)

theorem Kept.trans {p : Params} {a b c : SState} (h1 : Kept p a b) (f1 : Frame0 a b)
    (h2 : Kept p b c) : Kept p a c := by
  intro hn k ve hk
  rcases h1 hn k ve hk with h | h
  · rcases h2 (f1.kn hn) k ve h with h' | h'
    · exact Or.inl h'
    · right; rw [← isExpiredInfo_frame0 p f1]; exact h'
  · exact Or.inr h

theorem evict_kept (p : Params) {s : SState} {k : Nat} {ve : VE}
    (hk : AL.get? s.map k = some ve)
    (hx : isExpiredInfo p s (getInfo s ve.info) s.now = true) :
    Kept p s (handleRemove { s with map := AL.erase s.map k } ve) := by
  intro hn k' ve' hk'
  by_cases e : k = k'
  · subst e
    rw [hk] at hk'; cases hk'
    exact Or.inr hx
  · left
    rw [handleRemove_map]
    show AL.get? (AL.erase s.map k) k' = some ve'
    rw [AL.get?_erase_ne e]; exact hk'

theorem Evict.kept {p : Params} {a b : SState} (h : Evict p false a b) : Kept p a b := by
  cases h with
  | expAo _ hv hx =>
    exact evict_kept p (entryOfNode_get hv) (by simp only [isExpiredInfo, hx, Bool.or_true])
  | expWo _ hv hx =>
    exact evict_kept p (entryOfNode_get hv) (by simp only [isExpiredInfo, hx, Bool.true_or])
  | lru _ _ _ hl => cases hl
  | touch _ _ =>
    exact Kept.of_map_eq ((moveToBackAoE_same _ _).trans (moveToBackWoE_same _ _)).map
  | headAo _ _ => exact Kept.of_map_eq (moveNodeToBackAo_same _ _).map
  | headWo _ _ => exact Kept.of_map_eq (moveNodeToBackWo_same _ _).map

theorem Evicts.kept {p : Params} {s s' : SState} (h : Evicts p false s s') : Kept p s s' :=
  (h.rel (I := fun _ => True) (R := fun a b => Kept p a b ∧ Frame0 a b)
    (fun s => ⟨Kept.of_map_eq rfl, Frame0.refl s⟩)
    (fun _ r1 r2 => ⟨r1.1.trans r1.2 r2.1, r1.2.trans r2.2⟩)
    (fun e _ => ⟨trivial, e.kept, e.maint.frame0⟩) trivial).2.1

structure FrameX (p : Params) (s s' : SState) : Prop where
  frame : Frame s s'
  applied : Applied s s'
  /-- The expiry is read in `s'`; only a drained read queue makes `last_accessed` there final, so
  the clause asks for it.  A step that removes nothing satisfies the left disjunct alone. -/
  kept : (AL.keys s.map).Nodup → ∀ k ve, AL.get? s.map k = some ve →
    AL.get? s'.map k = some ve ∨
      (s'.readQ = [] ∧ isExpiredInfo p s' (getInfo s' ve.info) s'.now = true)

theorem FrameX.refl (p : Params) (s : SState) : FrameX p s s :=
  ⟨Frame.refl s, Applied.refl s, fun _ _ _ h => Or.inl h⟩

theorem FrameX.kept_of_fresh {p : Params} {s s' : SState} (h : FrameX p s s')
    (hn : (AL.keys s.map).Nodup) {k : Nat} {ve : VE} (hk : AL.get? s.map k = some ve)
    (hx : isExpiredInfo p s (getInfo s ve.info) s.now = false) : AL.get? s'.map k = some ve := by
  rcases h.kept hn k ve hk with h1 | ⟨_, h1⟩
  · exact h1
  · rw [notExpired_frame p h.frame ve.info hx] at h1
    cases h1

theorem syncRun_eq_of_room {p : Params} {s : SState}
    (hroom : weightsToEvict p (runExpiry p (syncPass p { s with cec := s.ec, cws := s.ws })) = 0) :
    syncRun p s = { runExpiry p (syncPass p { s with cec := s.ec, cws := s.ws }) with
      ec := (runExpiry p (syncPass p { s with cec := s.ec, cws := s.ws })).cec,
      ws := (runExpiry p (syncPass p { s with cec := s.ec, cws := s.ws })).cws } := by
  rw [syncRun_eq]
  dsimp only
  rw [if_neg (by rw [hroom]; exact Nat.lt_irrefl 0)]

theorem syncRun_kept_of_room {p : Params} {s : SState} (hmap : (syncPass p { s with cec := s.ec, cws := s.ws }).map = s.map)
    (hroom : weightsToEvict p (runExpiry p (syncPass p { s with cec := s.ec, cws := s.ws })) = 0)
    (hn : (AL.keys s.map).Nodup) (k : Nat) (ve : VE) (hk : AL.get? s.map k = some ve) :
    AL.get? (syncRun p s).map k = some ve ∨
      isExpiredInfo p (syncRun p s) (getInfo (syncRun p s) ve.info) (syncRun p s).now = true := by
  rw [syncRun_eq_of_room hroom]
  have hkf : Kept p (syncPass p { s with cec := s.ec, cws := s.ws }) (runExpiry p (syncPass p { s with cec := s.ec, cws := s.ws })) ∧
      Frame0 (syncPass p { s with cec := s.ec, cws := s.ws }) (runExpiry p (syncPass p { s with cec := s.ec, cws := s.ws })) := by
    rcases runExpiry_cases p (syncPass p { s with cec := s.ec, cws := s.ws }) with e | e <;> rw [e]
    · exact ⟨(evictExpired_evicts _).kept, (evictExpired_maint _ _).frame0⟩
    · exact ⟨Kept.of_map_eq rfl, Frame0.refl _⟩
  rcases hkf.1 (by rw [hmap]; exact hn) k ve (by rw [hmap]; exact hk) with h | h
  · exact Or.inl h
  · right
    rw [isExpiredInfo_frame0 p (hkf.2.trans (frame0_set_ec_ws _ _ _))]
    exact h

theorem syncRun_frameX_of_room {p : Params} (hq : NoQuirks p) {s : SState}
    (hmap : (syncPass p { s with cec := s.ec, cws := s.ws }).map = s.map)
    (hroom : weightsToEvict p (runExpiry p (syncPass p { s with cec := s.ec, cws := s.ws })) = 0) : FrameX p s (syncRun p s) :=
  ⟨syncRun_frame hq s, (syncRun_frameA hq s).applied, fun hn k ve hk =>
    (syncRun_kept_of_room hmap hroom hn k ve hk).imp id (fun h => ⟨syncRun_readQ p s, h⟩)⟩

/-- A run has room: an invariant `J` of the queue pass that fixes the map, and a bound on the
weighted size of whatever a removal leaves of a state satisfying `J` with an empty write queue.
Then the run neither rejects nor evicts for size; `t` is the state after the pass. -/
theorem syncRun_frameX_over {P : Sketch → Prop} (L : SketchLaws P) {p : Params} (hq : NoQuirks p)
    (hsm : SmallSketch p) {c : Nat} (hcap : p.cap = some c) {ex : List WOp} {J : SState → Prop}
    (O : PassInv p ex J) {s : SState} (hmap : ∀ {t}, J t → t.map = s.map)
    (hbound : ∀ {t t'}, J t → t.writeQ = [] → G p t ex → G p t' ex → Rem t t' → t'.cws ≤ c)
    (h : TopInv P s) (hct : CTop p s (s.writeQ ++ ex)) (j : J { s with cec := s.ec, cws := s.ws }) :
    FrameX p s (syncRun p s) ∧
      ∃ t, J t ∧ t.writeQ = [] ∧ G p t ex ∧ Rem t (syncRun p s) := by
  obtain ⟨h1, j1⟩ := O.syncPass L hq hsm { s with cec := s.ec, cws := s.ws } ⟨h.run, hct⟩ j
  have hq1 := (syncPass_queues p { s with cec := s.ec, cws := s.ws }).1
  have g1 := h1.g
  rw [hq1, List.nil_append] at g1
  obtain ⟨g2, r2⟩ := runExpiry_rem g1
  have hroom : weightsToEvict p (runExpiry p (syncPass p { s with cec := s.ec, cws := s.ws })) = 0 := by
    rw [weightsToEvict_some hcap]
    exact Nat.sub_eq_zero_of_le (hbound j1 hq1 g1 g2 r2)
  refine ⟨syncRun_frameX_of_room hq (hmap j1) hroom, _, j1, hq1, g1, ?_⟩
  rw [syncRun_eq_of_room hroom]
  exact ⟨r2.frame0.trans (frame0_set_ec_ws _ _ _), r2.weight, r2.adm⟩

theorem syncRun_kept_none {p : Params} (hq : NoQuirks p) (hcap : p.cap = none) (s : SState)
    (hn : (AL.keys s.map).Nodup) (k : Nat) (ve : VE) (hk : AL.get? s.map k = some ve) :
    AL.get? (syncRun p s).map k = some ve ∨
      isExpiredInfo p (syncRun p s) (getInfo (syncRun p s) ve.info) (syncRun p s).now = true :=
  syncRun_kept_of_room (syncPass_map_none hq hcap _) (weightsToEvict_none hcap _) hn k ve hk

theorem syncRun_frameX_none {p : Params} (hq : NoQuirks p) (hcap : p.cap = none) (s : SState) :
    FrameX p s (syncRun p s) :=
  syncRun_frameX_of_room hq (syncPass_map_none hq hcap _) (weightsToEvict_none hcap _)

/-- The maintenance runs of state `s` do not evict for size. -/
def SyncOk (p : Params) (s : SState) : Prop := FrameX p (armed s) (syncRun p (armed s))

theorem syncOk_none {p : Params} (hq : NoQuirks p) (hcap : p.cap = none) (s : SState) :
    SyncOk p s := syncRun_frameX_none hq hcap _

theorem housekeep_frameX {p : Params} {s : SState} (hX : SyncOk p s) :
    FrameX p s (trySync p s) ∧ FrameX p s (housekeepW p s) ∧ FrameX p s (housekeepR p s) := by
  refine housekeep_armed (FrameX.refl p s) ?_
  have h0 : Frame0 s (armed s) := frame0_set_running_after _ _ _
  have h1 : Frame0 (syncRun p (armed s)) { syncRun p (armed s) with running := false } :=
    frame0_set_running _ _
  refine ⟨(h0.toFrame.trans hX.frame).trans h1.toFrame,
    (h0.applied.trans hX.applied hX.frame).trans h1.applied h1.toFrame, fun hn k ve hk => ?_⟩
  rw [isExpiredInfo_frame0 p h1]
  exact hX.kept hn k ve hk

theorem trySync_frameX {p : Params} {s : SState} (hX : SyncOk p s) : FrameX p s (trySync p s) :=
  (housekeep_frameX hX).1

theorem housekeepW_frameX {p : Params} {s : SState} (hX : SyncOk p s) :
    FrameX p s (housekeepW p s) := (housekeep_frameX hX).2.1

theorem housekeepR_frameX {p : Params} {s : SState} (hX : SyncOk p s) :
    FrameX p s (housekeepR p s) := (housekeep_frameX hX).2.2

/-- Well-formedness of the reference on the concurrent cache: one entry per key, and
`tIns ≤ tSure ≤ tAcc ≤ now`.  `tSure` is the last access that maintenance has certainly applied:
a hit moves `tAcc` only, `sync` moves `tSure` up to `tAcc` (`refStep .sync`); time-to-idle is
demanded from `tSure`. -/
structure RefOkS (r : Ref) : Prop where
  nodup : (AL.keys r.ents).Nodup
  ord : ∀ k e, AL.get? r.ents k = some e → e.tIns ≤ e.tSure ∧ e.tSure ≤ e.tAcc ∧ e.tAcc ≤ r.now

theorem refOkS_init : RefOkS {} := ⟨by simp, fun k e h => by simp at h⟩

theorem refOkS_step {r : Ref} (hr : RefOkS r) (op : Op) (obs : Obs) :
    RefOkS (refStep .sync r op obs) :=
  have h := refStep_all .sync
    (Q := fun now e => e.tIns ≤ e.tSure ∧ e.tSure ≤ e.tAcc ∧ e.tAcc ≤ now)
    (fun _ _ => ⟨Nat.le_refl _, Nat.le_refl _, Nat.le_refl _⟩)
    (fun _ _ h => ⟨h.1, Nat.le_trans h.2.1 h.2.2, Nat.le_refl _⟩) (fun _ _ _ _ h => h)
    (fun _ _ h => ⟨Nat.le_trans h.1 h.2.1, Nat.le_refl _, h.2.2⟩)
    (fun _ _ _ h => ⟨h.1, h.2.1, Nat.le_trans h.2.2 (Nat.le_add_right _ _)⟩) hr.nodup hr.ord op obs
  ⟨h.1, h.2⟩

def deadForGood (ttl tti : Option Nat) (now : Nat) (e : REntry) : Prop :=
  (∃ d, ttl = some d ∧ e.tIns + d ≤ now) ∨ (∃ d, tti = some d ∧ e.tAcc + d ≤ now)

def Pending (s : SState) (i t : Nat) : Prop :=
  t ≤ (getInfo s i).la ∨ ∃ hash ve ts, ROp.hit hash ve ts ∈ s.readQ ∧ ve.info = i ∧ t ≤ ts

theorem Pending.frame {s s' : SState} {i t : Nat} (h : Pending s i t) (hf : Frame s s')
    (ha : Applied s s') : Pending s' i t := by
  rcases h with h | ⟨hash, ve, ts, hin, hi, hle⟩
  · exact Or.inl (Nat.le_trans h (hf.laLe i))
  · rcases ha hash ve ts hin with h' | h'
    · exact Or.inr ⟨hash, ve, ts, h', hi, hle⟩
    · exact Or.inl (by rw [← hi]; exact Nat.le_trans hle h')

theorem Pending.of_eq {s s' : SState} {i t : Nat} (h : Pending s i t)
    (hla : (getInfo s' i).la = (getInfo s i).la) (hq : ∀ op, op ∈ s.readQ → op ∈ s'.readQ) :
    Pending s' i t := by
  rcases h with h | ⟨hash, ve, ts, hin, hi, hle⟩
  · exact Or.inl (by rw [hla]; exact h)
  · exact Or.inr ⟨hash, ve, ts, hq _ hin, hi, hle⟩

theorem Pending.of_empty {s : SState} {i t : Nat} (h : Pending s i t) (he : s.readQ = []) :
    t ≤ (getInfo s i).la := by
  rcases h with h | ⟨hash, ve, ts, hin, _, _⟩
  · exact h
  · rw [he] at hin; cases hin

structure CompleteS (p : Params) (s : SState) (r : Ref) : Prop where
  /-- entries written before the watermark are dead (or doubtful) in the reference -/
  wm : ∀ k re v, AL.get? r.ents k = some re → re.alive = true → re.maybeDead = false →
    s.va = some v → v ≤ re.tIns
  /-- the reference's last access may be ahead of the entry info: then a queued read carries it
  (`Pending`) -/
  res : ∀ k re ve, AL.get? r.ents k = some re → re.alive = true → re.maybeDead = false →
    AL.get? s.map k = some ve →
      ve.val = re.val ∧ (getInfo s ve.info).lm = re.tIns ∧ re.tSure ≤ (getInfo s ve.info).la ∧
      Pending s ve.info re.tAcc
  gone : ∀ k re, AL.get? r.ents k = some re → re.alive = true → re.maybeDead = false →
    AL.get? s.map k = none → deadForGood p.ttl p.tti s.now re

theorem completeS_init (p : Params) : CompleteS p {} {} :=
  ⟨fun k re v h => by simp at h, fun k re ve h => by simp at h, fun k re h => by simp at h⟩

/-- What `CompleteS` says of one alive, undoubted reference entry `re` of key `k`. -/
structure EntryC (p : Params) (s : SState) (k : Nat) (re : REntry) : Prop where
  wm : ∀ v, s.va = some v → v ≤ re.tIns
  res : ∀ ve, AL.get? s.map k = some ve →
    ve.val = re.val ∧ (getInfo s ve.info).lm = re.tIns ∧ re.tSure ≤ (getInfo s ve.info).la ∧
    Pending s ve.info re.tAcc
  gone : AL.get? s.map k = none → deadForGood p.ttl p.tti s.now re

theorem CompleteS.entry {p : Params} {s : SState} {r : Ref} (hc : CompleteS p s r) {k : Nat}
    {re : REntry} (hre : AL.get? r.ents k = some re) (ha : re.alive = true)
    (hm : re.maybeDead = false) : EntryC p s k re :=
  ⟨fun v => hc.wm k re v hre ha hm, fun ve => hc.res k re ve hre ha hm, hc.gone k re hre ha hm⟩

theorem completeS_of_entries {p : Params} {s : SState} {r : Ref}
    (h : ∀ k re, AL.get? r.ents k = some re → re.alive = true → re.maybeDead = false →
      EntryC p s k re) : CompleteS p s r :=
  ⟨fun k re v hre ha hm => (h k re hre ha hm).wm v, fun k re ve hre ha hm => (h k re hre ha hm).res ve,
    fun k re hre ha hm => (h k re hre ha hm).gone⟩

theorem EntryC.congr {p : Params} {s s0 : SState} {k : Nat} {re : REntry} (h : EntryC p s k re)
    (hmap : AL.get? s0.map k = AL.get? s.map k)
    (hinf : ∀ ve, AL.get? s.map k = some ve → getInfo s0 ve.info = getInfo s ve.info)
    (hrq : ∀ op, op ∈ s.readQ → op ∈ s0.readQ) (hva : s0.va = s.va) (hn : s0.now = s.now) :
    EntryC p s0 k re := by
  refine ⟨fun v hv => h.wm v (by rw [← hva]; exact hv), fun ve hk => ?_, fun hk => ?_⟩
  · rw [hmap] at hk
    obtain ⟨h1, h2, h3, h4⟩ := h.res ve hk
    have hg := hinf ve hk
    exact ⟨h1, by rw [hg]; exact h2, by rw [hg]; exact h3, h4.of_eq (by rw [hg]) hrq⟩
  · rw [hmap] at hk
    rw [hn]
    exact h.gone hk

theorem dead_of_expired {p : Params} {s : SState} {i : Info} {now : Nat} {re : REntry}
    (hx : isExpiredInfo p s i now = true) (hlm : i.lm = re.tIns) (hla : re.tAcc ≤ i.la)
    (hins : re.tIns ≤ i.la) (hva : ∀ v, s.va = some v → v ≤ re.tIns) :
    deadForGood p.ttl p.tti now re := by
  have hsplit : ∀ d t, expiredTs d s.va t now = true → re.tIns ≤ t → ∃ x, d = some x ∧ t + x ≤ now := by
    intro d t h ht
    apply Classical.byContradiction
    intro hn
    rw [expiredTs_eq_false_iff.mpr ⟨fun v hv => Nat.le_trans (hva v hv) ht,
      fun x hx => Nat.lt_of_not_le fun hle => hn ⟨x, hx, hle⟩⟩] at h
    cases h
  simp only [isExpiredInfo, Bool.or_eq_true] at hx
  rcases hx with hx | hx
  · obtain ⟨d, hd, hle⟩ := hsplit _ _ hx (by omega)
    exact Or.inl ⟨d, hd, by omega⟩
  · obtain ⟨d, hd, hle⟩ := hsplit _ _ hx hins
    exact Or.inr ⟨d, hd, by omega⟩

theorem completeS_frameX {p : Params} {s s' : SState} {r : Ref} (hc : CompleteS p s r)
    (hr : RefOkS r) (hn : (AL.keys s.map).Nodup) (hf : FrameX p s s') : CompleteS p s' r := by
  refine ⟨?_, ?_, ?_⟩
  · intro k re v hre ha hm hv
    rw [hf.frame.va] at hv
    exact hc.wm k re v hre ha hm hv
  · intro k re ve hre ha hm hk'
    obtain ⟨h1, h2, h3, h4⟩ := hc.res k re ve hre ha hm (hf.frame.mapSub hn k ve hk')
    exact ⟨h1, (hf.frame.lm _).trans h2, Nat.le_trans h3 (hf.frame.laLe _),
      h4.frame hf.frame hf.applied⟩
  · intro k re hre ha hm hk'
    cases hk : AL.get? s.map k with
    | none => rw [hf.frame.now]; exact hc.gone k re hre ha hm hk
    | some ve =>
      rcases hf.kept hn k ve hk with h | ⟨hrq, hx⟩
      · rw [hk'] at h; cases h
      · obtain ⟨_, h2, h3, h4⟩ := hc.res k re ve hre ha hm hk
        have ho := hr.ord k re hre
        have hla := (h4.frame hf.frame hf.applied).of_empty hrq
        refine dead_of_expired hx ((hf.frame.lm _).trans h2) hla ?_ ?_
        · exact Nat.le_trans ho.1 (Nat.le_trans h3 (hf.frame.laLe _))
        · intro v hv
          rw [hf.frame.va] at hv
          exact hc.wm k re v hre ha hm hv

theorem live_resident {p : Params} {s : SState} {r : Ref} (hc : CompleteS p s r) (hr : RefOkS r)
    (hnow : r.now = s.now) {k : Nat} {re : REntry} (hre : AL.get? r.ents k = some re)
    (hl : mustLive p.ttl p.tti r re = true) :
    ∃ ve, AL.get? s.map k = some ve ∧ ve.val = re.val ∧
      isExpiredInfo p s (getInfo s ve.info) s.now = false := by
  obtain ⟨ha, hm, hl1, hl2⟩ := mustLive_iff.mp hl
  have ho := hr.ord k re hre
  cases hk : AL.get? s.map k with
  | none =>
    exfalso
    rcases hc.gone k re hre ha hm hk with ⟨d, hd, hle⟩ | ⟨d, hd, hle⟩
    · have := hl1 d hd; omega
    · have := hl2 d hd; omega
  | some ve =>
    obtain ⟨h1, h2, h3, _⟩ := hc.res k re ve hre ha hm hk
    refine ⟨ve, rfl, h1, ?_⟩
    rw [isExpiredInfo, Bool.or_eq_false_iff, expiredTs_eq_false_iff, expiredTs_eq_false_iff]
    refine ⟨⟨fun v hv => ?_, fun d ht => ?_⟩, ⟨fun v hv => ?_, fun d ht => ?_⟩⟩
    · have := hc.wm k re v hre ha hm hv; omega
    · have := hl1 d ht; omega
    · have := hc.wm k re v hre ha hm hv; omega
    · have := hl2 d ht; omega

/-- Model state and reference agree: every resident is a reference entry with the same value
and timestamps, alive or hidden by the watermark (`sound`), and every alive entry of the
reference is resident or past a deadline for good (`complete`). -/
structure CoupledRS (p : Params) (s : SState) (r : Ref) : Prop where
  sound : CoupledS p s (Unsync.toGhost r)
  q : QInv s
  ok : RefOkS r
  complete : CompleteS p s r

theorem coupledRS_init (p : Params) : CoupledRS p {} {} :=
  ⟨init_coupled p, qinv_init, refOkS_init, completeS_init p⟩

theorem completeS_pushR {p : Params} {s : SState} {r : Ref} (hc : CompleteS p s r) (op : ROp) :
    CompleteS p { s with readQ := s.readQ ++ [op] } r :=
  ⟨hc.wm, fun k re ve hre ha hm hk => by
    obtain ⟨h1, h2, h3, h4⟩ := hc.res k re ve hre ha hm hk
    exact ⟨h1, h2, h3, h4.of_eq rfl (fun _ h => List.mem_append_left _ h)⟩, hc.gone⟩

theorem completeS_pushW {p : Params} {s : SState} {r : Ref} (hc : CompleteS p s r) (op : WOp) :
    CompleteS p { s with writeQ := s.writeQ ++ [op] } r :=
  ⟨hc.wm, hc.res, hc.gone⟩

theorem get_hit {p : Params} {s : SState} {k : Nat} {ve : VE} (hk : AL.get? s.map k = some ve)
    (hx : isExpiredInfo p s (getInfo s ve.info) s.now = false) :
    get p s k = (recordReadOp p s (.hit (p.hash k) ve s.now), some ve.val) := by
  unfold get; simp only [hk, hx, Bool.false_eq_true, if_false]

theorem recordReadOp_complete {p : Params} {s : SState} {r : Ref} (hcr : CoupledRS p s r)
    (hX : SyncOk p s) (op : ROp) : CompleteS p (recordReadOp p s op) r := by
  rw [recordReadOp_enqueues p hcr.q]
  exact completeS_pushR
    (completeS_frameX hcr.complete hcr.ok hcr.sound.kn (housekeepR_frameX hX)) _

theorem hit_complete {p : Params} {s : SState} {r : Ref} (hcr : CoupledRS p s r)
    (hX : SyncOk p s) {k : Nat} {ve : VE} (hk : AL.get? s.map k = some ve)
    (hx : isExpiredInfo p s (getInfo s ve.info) s.now = false) :
    CompleteS p (recordReadOp p s (.hit (p.hash k) ve s.now))
      (refStep .sync r (.get k) (.val (some ve.val))) := by
  have hnow : r.now = s.now := hcr.sound.now
  cases hre : AL.get? r.ents k with
  | none =>
    have : refStep .sync r (.get k) (.val (some ve.val)) = r := by simp [refStep, hre]
    rw [this]; exact recordReadOp_complete hcr hX _
  | some re =>
    have : refStep .sync r (.get k) (.val (some ve.val)) =
        { r with ents := AL.put r.ents k { re with tAcc := r.now } } := by simp [refStep, hre]
    rw [this, recordReadOp_enqueues p hcr.q]
    have hfx := housekeepR_frameX hX
    have hc1 := completeS_frameX hcr.complete hcr.ok hcr.sound.kn hfx
    generalize housekeepR p s = s1 at hfx hc1 ⊢
    refine completeS_of_entries fun k' re' hre' ha hm => ?_
    have hre'' : AL.get? (AL.put r.ents k { re with tAcc := r.now }) k' = some re' := hre'
    rw [AL.get?_put] at hre''
    by_cases e : k = k'
    · -- the entry that was read: its access is the hit that is now queued
      rw [if_pos e] at hre''
      cases hre''
      subst e
      have e1 := (completeS_pushR hc1 (.hit (p.hash k) ve s.now)).entry hre ha hm
      refine ⟨e1.wm, fun ve' hk' => ?_, fun hk' => ?_⟩
      · have hve : ve' = ve := by
          have := hfx.frame.mapSub hcr.sound.kn k ve' hk'
          rw [hk] at this; exact (Option.some.inj this).symm
        obtain ⟨h1, h2, h3, _⟩ := e1.res ve' hk'
        refine ⟨h1, h2, h3, Or.inr ⟨p.hash k, ve, s.now, ?_, by rw [hve], ?_⟩⟩
        · exact List.mem_append_right _ (List.mem_singleton.mpr rfl)
        · show r.now ≤ s.now
          rw [hnow]; exact Nat.le_refl _
      · exfalso
        have hk0 : AL.get? s1.map k = none := hk'
        rw [hfx.kept_of_fresh hcr.sound.kn hk hx] at hk0
        cases hk0
    · rw [if_neg e] at hre''
      exact (completeS_pushR hc1 _).entry hre'' ha hm

theorem get_exact {p : Params} {s : SState} {r : Ref} (hcr : CoupledRS p s r)
    (hX : SyncOk p s) (k : Nat) :
    Spec.checkExact p.ttl p.tti r (.get k) (.val (get p s k).2) = true ∧
    CompleteS p (get p s k).1 (refStep .sync r (.get k) (.val (get p s k).2)) := by
  have hnow : r.now = s.now := hcr.sound.now
  have hlive : ∀ re, AL.get? r.ents k = some re → mustLive p.ttl p.tti r re = true →
      (get p s k).2 = some re.val := by
    intro re hre hl
    obtain ⟨ve, hk, hv, hx⟩ := live_resident hcr.complete hcr.ok hnow hre hl
    rw [get_hit hk hx, hv]
  refine ⟨?_, ?_⟩
  · simp only [Spec.checkExact]
    cases hre : AL.get? r.ents k with
    | none => rfl
    | some re =>
      dsimp only
      by_cases hl : mustLive p.ttl p.tti r re = true
      · rw [hlive re hre hl]; simp
      · simp [hl]
  · rw [ConcS.get_fst_eq, ConcS.get_snd_eq]
    rcases ConcS.lookup_cases p s k with ⟨e, _⟩ | ⟨ve, hk, hx, e⟩
    · rw [e]
      exact recordReadOp_complete hcr hX _
    · rw [e]
      exact hit_complete hcr hX hk hx

theorem containsKey_exact {p : Params} {s : SState} {r : Ref} (hcr : CoupledRS p s r) (k : Nat) :
    Spec.checkExact p.ttl p.tti r (.has k) (.bool (containsKey p s k)) = true := by
  simp only [Spec.checkExact]
  cases hre : AL.get? r.ents k with
  | none => rfl
  | some re =>
    dsimp only
    by_cases hl : mustLive p.ttl p.tti r re = true
    · obtain ⟨ve, hk, _, hx⟩ := live_resident hcr.complete hcr.ok hcr.sound.now hre hl
      have : containsKey p s k = true := by unfold containsKey; simp only [hk, hx]; rfl
      rw [this]; simp
    · simp [hl]

theorem iter_exact {p : Params} {s : SState} {r : Ref} (hcr : CoupledRS p s r) :
    Spec.checkExact p.ttl p.tti r .iter (.iter (sortBy (·.1) (iter p s))) = true := by
  simp only [Spec.checkExact, List.all_eq_true]
  rintro ⟨k, re⟩ hmem
  have hre := AL.get?_of_mem hcr.ok.nodup hmem
  by_cases hl : mustLive p.ttl p.tti r re = true
  · obtain ⟨ve, hk, hv, hx⟩ := live_resident hcr.complete hcr.ok hcr.sound.now hre hl
    have : (k, re.val) ∈ sortBy (·.1) (iter p s) := by
      rw [mem_sortBy]
      simp only [iter, List.mem_map, List.mem_filter]
      exact ⟨(k, ve), ⟨AL.mem_of_get? hk, by simp [hx]⟩, by rw [hv]⟩
    simp [this]
  · simp [hl]

def insEntry (now v : Nat) : REntry :=
  { val := v, tIns := now, tAcc := now, tSure := now, alive := true }

/-- What `invalidate(k)` does to the reference entries. -/
def killKey (k : Nat) : Nat → REntry → REntry :=
  fun k' e => if k' == k then { e with alive := false } else e

theorem completeS_put {p : Params} {s s0 : SState} {r : Ref} (hc : CompleteS p s r)
    (hvaLe : ∀ v, s.va = some v → v ≤ s.now) (hnow : r.now = s.now) {k v : Nat} {ve : VE}
    (hmap : s0.map = AL.put s.map k ve) (hval : ve.val = v)
    (hlm : (getInfo s0 ve.info).lm = s.now) (hla : (getInfo s0 ve.info).la = s.now)
    (hother : ∀ k' ve', k ≠ k' → AL.get? s.map k' = some ve' →
      getInfo s0 ve'.info = getInfo s ve'.info)
    (hrq : s0.readQ = s.readQ) (hva : s0.va = s.va) (hn : s0.now = s.now) :
    CompleteS p s0 { r with ents := AL.put r.ents k (insEntry r.now v) } := by
  refine completeS_of_entries fun k' re' hre' ha hm => ?_
  have hre'' : AL.get? (AL.put r.ents k (insEntry r.now v)) k' = some re' := hre'
  rw [AL.get?_put] at hre''
  by_cases e : k = k'
  · rw [if_pos e] at hre''
    cases hre''
    subst e
    have hle : r.now ≤ (getInfo s0 ve.info).la := by rw [hla, hnow]; exact Nat.le_refl _
    refine ⟨fun v' hv => ?_, fun ve' hk' => ?_, fun hk' => ?_⟩
    · rw [hva] at hv
      show v' ≤ r.now
      rw [hnow]; exact hvaLe v' hv
    · rw [hmap, AL.get?_put_self] at hk'
      cases hk'
      exact ⟨hval, by rw [hlm, hnow]; rfl, hle, Or.inl hle⟩
    · rw [hmap, AL.get?_put_self] at hk'
      cases hk'
  · rw [if_neg e] at hre''
    exact (hc.entry hre'' ha hm).congr (by rw [hmap, AL.get?_put_ne _ e])
      (fun ve' hk' => hother k' ve' e hk') (fun _ h => by rw [hrq]; exact h) hva hn

theorem insertMap_other_infos (p : Params) {s : SState} (k v : Nat)
    (hkey : ∀ k' ve', AL.get? s.map k' = some ve' →
      (getInfo s ve'.info).key = k' ∧ ve'.info < s.nextId)
    {k' : Nat} {ve' : VE} (hne : k ≠ k') (hve : AL.get? s.map k' = some ve') :
    getInfo (ConcS.insertMap p s k v).1 ve'.info = getInfo s ve'.info := by
  obtain ⟨ve, _, _, _, _, _, hinfo, _, _, hcase⟩ := ConcS.insertMap_infos p s k v
  rw [hinfo, if_neg]
  rcases hcase with ⟨old, hold, hi, _⟩ | ⟨_, hi, _⟩
  · intro e
    rw [hi] at e
    exact hne (by rw [← (hkey k old hold).1, e]; exact (hkey k' ve' hve).1)
  · rw [hi]
    exact Nat.ne_of_gt (hkey k' ve' hve).2

theorem insertMap_complete {p : Params} {s : SState} {r : Ref}
    (hcr : CoupledRS p s r) (k v : Nat) :
    CompleteS p (ConcS.insertMap p s k v).1 (refStep .sync r (.ins k v) .ok) := by
  have hr : refStep .sync r (.ins k v) .ok =
      { r with ents := AL.put r.ents k (insEntry r.now v) } := rfl
  rw [hr]
  obtain ⟨ve, inf, _, _, hmap, hval, hinfo, hlm, hla, _⟩ := ConcS.insertMap_infos p s k v
  obtain ⟨_, hrq, _, hva, hn⟩ := ConcS.insertMap_fields p s k v
  refine completeS_put hcr.complete hcr.sound.vaLe hcr.sound.now hmap hval
    (by rw [hinfo, if_pos rfl]; exact hlm) (by rw [hinfo, if_pos rfl]; exact hla) ?_ hrq hva hn
  exact fun k' ve' e hk' => insertMap_other_infos p k v (fun k' ve' h =>
    have ⟨_, _, _, h3, _⟩ := hcr.sound.ents k' ve' h
    ⟨h3, hcr.sound.refsMap k' ve' h⟩) e hk'

theorem insert_complete {p : Params} {s : SState} {r : Ref}
    (hcr : CoupledRS p s r) (k v : Nat) (hX : SyncOk p (ConcS.insertMap p s k v).1) :
    CompleteS p (insert p s k v) (refStep .sync r (.ins k v) .ok) := by
  rw [ConcS.insert_eq, scheduleWriteOp_enqueues p 2 (ConcS.insertMap_qinv hcr.q k v)]
  refine completeS_pushW (completeS_frameX (insertMap_complete hcr k v)
    (refOkS_step hcr.ok _ _) ?_ (housekeepW_frameX hX)) _
  obtain ⟨ve, _, _, _, hmap, _⟩ := ConcS.insertMap_infos p s k v
  rw [hmap]
  exact AL.nodup_put k ve hcr.sound.kn

theorem completeS_inv {p : Params} {s s0 : SState} {r : Ref} (hc : CompleteS p s r) (k : Nat)
    (hmap : ∀ k', k' ≠ k → AL.get? s0.map k' = AL.get? s.map k') (hinf : s0.infos = s.infos)
    (hrq : s0.readQ = s.readQ) (hva : s0.va = s.va) (hn : s0.now = s.now) :
    CompleteS p s0 { r with ents := mapEnts (killKey k) r.ents } := by
  refine completeS_of_entries fun k' re' hre' ha hm => ?_
  obtain ⟨re, h0, hre'⟩ := Unsync.mapEnts_some hre'
  by_cases e : k' = k
  · rw [← hre'] at ha; simp [killKey, e] at ha
  · have : re' = re := by rw [← hre']; simp [killKey, e]
    subst this
    exact (hc.entry h0 ha hm).congr (hmap k' e) (fun _ _ => getInfo_congr hinf _)
      (fun _ h => by rw [hrq]; exact h) hva hn

theorem invalidate_complete {p : Params} {s : SState} {r : Ref} (hcr : CoupledRS p s r) (k : Nat)
    (hX : ∀ op, (ConcS.invalidateMap s k).2 = some op → SyncOk p (ConcS.invalidateMap s k).1) :
    CompleteS p (invalidate p s k) (refStep .sync r (.inv k) .ok) := by
  have hr : refStep .sync r (.inv k) .ok = { r with ents := mapEnts (killKey k) r.ents } := rfl
  rw [hr, ConcS.invalidate_eq]
  rcases ConcS.invalidateMap_cases s k with ⟨_, e⟩ | ⟨ve, _, e⟩
  · rw [e]
    exact completeS_inv hcr.complete k (fun _ _ => rfl) rfl rfl rfl rfl
  · have hX' := hX (.remove k ve) (by rw [e])
    rw [e] at hX' ⊢
    dsimp only
    rw [scheduleWriteOp_enqueues p 2
      (qinv_of_eq (s' := { s with map := AL.erase s.map k }) hcr.q rfl rfl rfl)]
    have h0 : CompleteS p { s with map := AL.erase s.map k }
        { r with ents := mapEnts (killKey k) r.ents } :=
      completeS_inv hcr.complete k
        (fun k' e => AL.get?_erase_ne (fun h => e h.symm)) rfl rfl rfl rfl
    have hok := refOkS_step hcr.ok (.inv k) .ok
    rw [hr] at hok
    exact completeS_pushW (completeS_frameX h0 hok (AL.nodup_erase k hcr.sound.kn)
      (housekeepW_frameX hX')) _

theorem invalidateAll_complete {p : Params} {s : SState} {r : Ref} (hcr : CoupledRS p s r) :
    CompleteS p (invalidateAll s) (refStep .sync r .invAll .ok) := by
  have hnow : r.now = s.now := hcr.sound.now
  refine completeS_of_entries fun k' re' hre' ha hm => ?_
  obtain ⟨re, h0, hre'⟩ := Unsync.mapEnts_some hre'
  -- an entry that stays alive and undoubted was written after the call's clock reading
  by_cases e1 : re.tIns < r.now
  · rw [← hre'] at ha; simp [e1] at ha
  · by_cases e2 : re.tIns = r.now
    · rw [← hre'] at hm; simp [e2] at hm
    · have : re' = re := by rw [← hre']; simp [e1, e2]
      subst this
      have e := hcr.complete.entry h0 ha hm
      refine ⟨fun v hv => ?_, e.res, e.gone⟩
      simp only [invalidateAll, Option.some.injEq] at hv
      omega

theorem sync_complete {p : Params} {s : SState} {r : Ref} (hcr : CoupledRS p s r)
    (hX : FrameX p s (syncRun p s)) :
    CompleteS p (syncRun p s) (refStep .sync r .sync .ok) := by
  have hc1 := completeS_frameX hcr.complete hcr.ok hcr.sound.kn hX
  refine completeS_of_entries fun k' re' hre' ha hm => ?_
  obtain ⟨re, h0, rfl⟩ := Unsync.mapEnts_some hre'
  have e := hc1.entry h0 ha hm
  refine ⟨e.wm, fun ve' hk' => ?_, e.gone⟩
  obtain ⟨h1, h2, _, h4⟩ := e.res ve' hk'
  exact ⟨h1, h2, h4.of_empty (syncRun_readQ p s), h4⟩

theorem adv_complete {p : Params} {s : SState} {r : Ref} (hc : CompleteS p s r) (d : Nat) :
    CompleteS p { s with now := s.now + d } (refStep .sync r (.adv d) .ok) := by
  refine ⟨hc.wm, hc.res, ?_⟩
  intro k' re' hre' ha hm hk'
  rcases hc.gone k' re' hre' ha hm hk' with ⟨x, hx, hle⟩ | ⟨x, hx, hle⟩
  · exact Or.inl ⟨x, hx, Nat.le_trans hle (Nat.le_add_right _ _)⟩
  · exact Or.inr ⟨x, hx, Nat.le_trans hle (Nat.le_add_right _ _)⟩

/-- The maintenance run that `op` may start in `s` does not evict for size: asked of the state
between the call's map step and its enqueue, whether or not housekeeping is due there. -/
def MaintOk (p : Params) (s : SState) : Op → Prop
  | .ins k v => SyncOk p (ConcS.insertMap p s k v).1
  | .get _ => SyncOk p s
  | .inv k => ∀ op, (ConcS.invalidateMap s k).2 = some op → SyncOk p (ConcS.invalidateMap s k).1
  | .sync => FrameX p s (syncRun p s)
  | _ => True

theorem maintOk_none {p : Params} (hq : NoQuirks p) (hcap : p.cap = none) (s : SState) (op : Op) :
    MaintOk p s op := by
  cases op <;> first
    | exact syncOk_none hq hcap _
    | exact syncRun_frameX_none hq hcap _
    | exact fun _ _ => syncOk_none hq hcap _
    | exact True.intro

/-- Not an instance of `CallInv`: `FrameX` of every run comes from outside (`MaintOk`), and for a hit
the reference moves with the enqueue, after the housekeeping (`hit_complete`), not with the lookup. -/
theorem step_exact {p : Params} (hq : NoQuirks p) {s : SState} {r : Ref} (hcr : CoupledRS p s r)
    (op : Op) (hm : MaintOk p s op) :
    stops (step p s op).2 = true ∨
    (Spec.checkExact p.ttl p.tti r op (step p s op).2 = true ∧
      CoupledRS p (step p s op).1 (refStep .sync r op (step p s op).2)) := by
  suffices h : stops (step p s op).2 = true ∨
      (Spec.checkExact p.ttl p.tti r op (step p s op).2 = true ∧
        CompleteS p (step p s op).1 (refStep .sync r op (step p s op).2)) by
    rcases h with h | ⟨h1, h2⟩
    · exact Or.inl h
    · rcases step_coupled hq hcr.sound op with h3 | ⟨_, h3⟩
      · exact Or.inl h3
      · rw [← Unsync.toGhost_refStep] at h3
        exact Or.inr ⟨h1, ⟨h3, (step_qinv p hcr.q op).1, refOkS_step hcr.ok _ _, h2⟩⟩
  rcases step_plain_or_stops p s op with h | h
  · exact Or.inl h
  · rw [h]
    cases op with
    | ins k v => exact Or.inr ⟨rfl, insert_complete hcr k v hm⟩
    | get k => exact Or.inr (get_exact hcr hm k)
    | has k => exact Or.inr ⟨containsKey_exact hcr k, hcr.complete⟩
    | iter => exact Or.inr ⟨iter_exact hcr, hcr.complete⟩
    | inv k => exact Or.inr ⟨rfl, invalidate_complete hcr k hm⟩
    | invAll => exact Or.inr ⟨rfl, invalidateAll_complete hcr⟩
    | invIf pr => exact Or.inl rfl
    | sync => exact Or.inr ⟨rfl, sync_complete hcr hm⟩
    | adv d => exact Or.inr ⟨rfl, adv_complete hcr.complete d⟩
    | snap => exact Or.inr ⟨rfl, hcr.complete⟩
    | freq k => exact Or.inr ⟨rfl, hcr.complete⟩

theorem exactC03_run_sync {p : Params} (hq : NoQuirks p) (I : SState → List Op → Prop)
    (hstep : ∀ s op rest, I s (op :: rest) → MaintOk p s op ∧ I (step p s op).1 rest) :
    ∀ (h : List Op) (s : SState) (r : Ref), I s h → CoupledRS p s r →
      exactC03 .sync p.ttl p.tti r (run p s h) = true :=
  fun h s r hi hcr => (exactC03_refWalk .sync p.ttl p.tti).run (isRun p)
    (C := fun h s r => I s h ∧ CoupledRS p s r)
    (fun s _ op rest ⟨hi, hcr⟩ =>
      (step_exact hq hcr op (hstep s op rest hi).1).imp_right fun ⟨h1, h2⟩ =>
        ⟨h1, (hstep s op rest hi).2, h2⟩) h s r ⟨hi, hcr⟩

/-! ### budgets: how much weight has been inserted under each index (here: entry info) -/

/-- A budget list may bind an index twice: `budOf` reads the first binding, `budTotal` sums all
(so `AL.put bl i x` gives back what `budOf` read: new total + `budOf bl i` ≤ old total + `x`,
`budTotal_put`). -/
def budOf (bl : List (Nat × Nat)) (i : Nat) : Nat := (AL.get? bl i).getD 0

def budTotal : List (Nat × Nat) → Nat
  | [] => 0
  | (_, x) :: rest => x + budTotal rest

theorem budOf_nil (i : Nat) : budOf [] i = 0 := rfl

theorem budOf_cons (a x : Nat) (rest : List (Nat × Nat)) (i : Nat) :
    budOf ((a, x) :: rest) i = if a = i then x else budOf rest i := by
  unfold budOf
  rw [AL.get?_cons]
  by_cases h : a = i <;> simp [h]

/-- Distinct indices claim distinct bindings: peel the head binding `a` off `K`
(`perm_cons_erase`); `K.Nodup` makes the rest of `K` miss `a`. -/
theorem sum_budOf_le : ∀ (bl : List (Nat × Nat)) (K : List Nat), K.Nodup →
    (K.map (budOf bl)).sum ≤ budTotal bl := by
  intro bl
  induction bl with
  | nil =>
    intro K _
    have : ∀ K : List Nat, (K.map (budOf [])).sum = 0 := by
      intro K; induction K with
      | nil => rfl
      | cons a K ih => simp only [List.map_cons, List.sum_cons, ih, budOf_nil]
    rw [this]; exact Nat.le_refl _
  | cons ax rest ih =>
    obtain ⟨a, x⟩ := ax
    intro K hK
    by_cases ha : a ∈ K
    · have hp := List.perm_cons_erase ha
      rw [((hp.map (budOf ((a, x) :: rest))).sum_nat)]
      simp only [List.map_cons, List.sum_cons, budTotal]
      have h1 : budOf ((a, x) :: rest) a = x := by rw [budOf_cons, if_pos rfl]
      have h2 : (K.erase a).map (budOf ((a, x) :: rest)) = (K.erase a).map (budOf rest) := by
        apply List.map_congr_left
        intro i hi
        have := (hK.mem_erase_iff.mp hi).1
        rw [budOf_cons, if_neg (fun e => this e.symm)]
      rw [h1, h2]
      exact Nat.add_le_add_left (ih _ (hK.erase a)) _
    · have h2 : K.map (budOf ((a, x) :: rest)) = K.map (budOf rest) := by
        apply List.map_congr_left
        intro i hi
        rw [budOf_cons, if_neg (fun (e : a = i) => ha (by rw [e]; exact hi))]
      rw [h2]
      simp only [budTotal]
      exact Nat.le_trans (ih K hK) (Nat.le_add_left _ _)

def charge (bl : List (Nat × Nat)) (i w : Nat) : List (Nat × Nat) := AL.put bl i (budOf bl i + w)

theorem budOf_charge (bl : List (Nat × Nat)) (i w j : Nat) :
    budOf (charge bl i w) j = if i = j then budOf bl i + w else budOf bl j := by
  unfold charge budOf
  rw [AL.get?_put]
  by_cases h : i = j <;> simp [h]

theorem budOf_charge_ge (bl : List (Nat × Nat)) (i w j : Nat) :
    budOf bl j ≤ budOf (charge bl i w) j := by
  rw [budOf_charge]
  by_cases h : i = j
  · rw [if_pos h, h]; exact Nat.le_add_right _ _
  · rw [if_neg h]; exact Nat.le_refl _

theorem budTotal_put : ∀ (bl : List (Nat × Nat)) (i x : Nat),
    budTotal (AL.put bl i x) + budOf bl i ≤ budTotal bl + x := by
  intro bl
  induction bl with
  | nil => intro i x; simp [AL.put, budTotal, budOf_nil]
  | cons ay rest ih =>
    obtain ⟨a, y⟩ := ay
    intro i x
    rw [AL.put_cons, budOf_cons]
    by_cases h : a = i
    · simp only [h, if_true, budTotal]; omega
    · simp only [h, if_false, budTotal]
      have := ih i x
      omega

theorem budTotal_charge (bl : List (Nat × Nat)) (i w : Nat) :
    budTotal (charge bl i w) ≤ budTotal bl + w := by
  have := budTotal_put bl i (budOf bl i + w)
  unfold charge
  omega

/-- Every weight the maintenance may account for info `i` — the one stored in the info, the
policy weight of the map's entry, the weight carried by a queued upsert — is at most the budget
of `i`. -/
structure BInv (p : Params) (s : SState) (Q : List WOp) (bl : List (Nat × Nat)) : Prop where
  wt : ∀ i, (getInfo s i).weight ≤ budOf bl i
  mp : ∀ k ve, AL.get? s.map k = some ve → p.weigh k ve.val ≤ budOf bl ve.info
  up : ∀ k h ve o w, WOp.upsert k h ve o w ∈ Q → w ≤ budOf bl ve.info

theorem BInv.mono {p : Params} {s s' : SState} {Q Q' : List WOp} {bl : List (Nat × Nat)}
    (b : BInv p s Q bl)
    (hm : ∀ k ve, AL.get? s'.map k = some ve → AL.get? s.map k = some ve)
    (hw : ∀ i, (getInfo s' i).weight ≤ budOf bl i) (hQ : ∀ op, op ∈ Q' → op ∈ Q) :
    BInv p s' Q' bl :=
  ⟨hw, fun k ve hk => b.mp k ve (hm k ve hk), fun k h ve o w hin => b.up k h ve o w (hQ _ hin)⟩

theorem BInv.of_eq {p : Params} {s s' : SState} {Q : List WOp} {bl : List (Nat × Nat)}
    (b : BInv p s Q bl) (hm : s'.map = s.map) (hi : s'.infos = s.infos) : BInv p s' Q bl :=
  b.mono (fun k ve hk => by rw [hm] at hk; exact hk)
    (fun i => by rw [getInfo_congr hi]; exact b.wt i) (fun _ h => h)

theorem BInv.same {p : Params} {s s' : SState} {Q : List WOp} {bl : List (Nat × Nat)}
    (b : BInv p s Q bl) (hs : Same s s') : BInv p s' Q bl :=
  b.mono (fun k ve hk => by rw [hs.map] at hk; exact hk)
    (fun i => by rw [hs.weight]; exact b.wt i) (fun _ h => h)

theorem wsumOf_le_bud {p : Params} {s : SState} {Q : List WOp} {bl : List (Nat × Nat)}
    (b : BInv p s Q bl) : wsumOf s ≤ ((s.prob.map (·.info)).map (budOf bl)).sum := by
  unfold wsumOf
  rw [List.map_map]
  exact sum_map_le _ _ _ (fun n _ => b.wt n.info)

theorem cws_add_budOf_le {p : Params} {s : SState} {Q : List WOp} {bl : List (Nat × Nat)} {c : Nat}
    (hs : Safe s) (hw : s.cws = wsumOf s) (b : BInv p s Q bl) (hc : budTotal bl ≤ c) {j : Nat}
    (hna : (getInfo s j).admitted = false) : s.cws + budOf bl j ≤ c := by
  have hnd := prob_infos_nodup hs.toNodesCore
  have hj : j ∉ s.prob.map (·.info) := by
    intro hm
    obtain ⟨n, hn, e⟩ := List.mem_map.mp hm
    have h1 := hs.probOwn n hn
    have e' : n.info = j := e
    rw [e'] at h1
    have := (hs.admIff j).mpr (by rw [h1]; rfl)
    rw [hna] at this; cases this
  have h1 := wsumOf_le_bud b
  have h2 := sum_budOf_le bl (j :: s.prob.map (·.info)) (List.nodup_cons.mpr ⟨hj, hnd⟩)
  simp only [List.map_cons, List.sum_cons] at h2
  omega

theorem cws_le_of_binv {p : Params} {s : SState} {Q : List WOp} {bl : List (Nat × Nat)} {c : Nat}
    (hs : Safe s) (hw : s.cws = wsumOf s) (b : BInv p s Q bl) (hc : budTotal bl ≤ c) :
    s.cws ≤ c := by
  have h1 := wsumOf_le_bud b
  have h2 := sum_budOf_le bl (s.prob.map (·.info)) (prob_infos_nodup hs.toNodesCore)
  omega

theorem currentWeight_le {p : Params} (hq : NoQuirks p) {s : SState} {Q : List WOp} {key : Nat}
    {hash : UInt64} {ve : VE} {oldW newW : Nat} {bl : List (Nat × Nat)}
    (b : BInv p s (WOp.upsert key hash ve oldW newW :: Q) bl) :
    currentWeight p s key ve newW ≤ budOf bl ve.info := by
  have hd10 : p.q.d10 = false := by rw [hq]
  have hup := b.up key hash ve oldW newW List.mem_cons_self
  unfold currentWeight
  rw [hd10]
  simp only [Bool.false_eq_true, if_false]
  cases hg : AL.get? s.map key with
  | none => exact hup
  | some cur =>
    dsimp only
    by_cases e : (cur.info == ve.info) = true
    · rw [if_pos e]
      have := b.mp key cur hg
      rw [show cur.info = ve.info from by simpa using e] at this
      exact this
    · rw [if_neg e]; exact hup

theorem handleUpsert_binv {p : Params} (hq : NoQuirks p) {c : Nat} (hcap : p.cap = some c)
    {s : SState} {Q : List WOp} {key : Nat} {hash : UInt64} {ve : VE} {oldW newW : Nat}
    {bl : List (Nat × Nat)} (g : G p s (WOp.upsert key hash ve oldW newW :: Q))
    (b : BInv p s (WOp.upsert key hash ve oldW newW :: Q) bl) (hc : budTotal bl ≤ c) :
    (handleUpsert p s key hash ve oldW newW).map = s.map ∧
      BInv p (handleUpsert p s key hash ve oldW newW) Q bl := by
  have hnw := currentWeight_le hq b
  obtain ⟨m, hoth, hself⟩ := handleUpsert_roomy hq s key hash ve oldW newW (fun hna _ => by
    have hb := cws_add_budOf_le g.safe g.inv.wsum b hc hna
    rw [hasEnoughCapacity_some hcap]
    exact decide_eq_true (Nat.le_trans (Nat.add_le_add_left hnw _) hb))
  refine ⟨m, b.mono (fun k v hk => by rw [m] at hk; exact hk) (fun i => ?_)
    (fun _ h => List.mem_cons_of_mem _ h)⟩
  by_cases e : i = ve.info
  · rw [e]
    rcases hself with h | ⟨h, _⟩ <;> rw [h]
    · exact hnw
    · exact b.wt _
  · rw [(hoth i e).1]; exact b.wt i

theorem applyWrite_binv {p : Params} (hq : NoQuirks p) {c : Nat} (hcap : p.cap = some c)
    {s : SState} {Q : List WOp} {bl : List (Nat × Nat)} (op : WOp) (g : G p s (op :: Q))
    (b : BInv p s (op :: Q) bl) (hc : budTotal bl ≤ c) :
    (applyWrite p s op).map = s.map ∧ BInv p (applyWrite p s op) Q bl := by
  cases op with
  | upsert key hash ve oldW newW => exact handleUpsert_binv hq hcap g b hc
  | remove key ve =>
    have hr := handleRemove_removed g.safe ve
    refine ⟨hr.map, b.mono ?_ ?_ (fun _ h => List.mem_cons_of_mem _ h)⟩
    · intro k v hk
      have : AL.get? (handleRemove s ve).map k = some v := hk
      rw [hr.map] at this; exact this
    · intro i
      show (getInfo (handleRemove s ve) i).weight ≤ _
      rw [hr.other (·.weight) fun _ => rfl]; exact b.wt i

theorem binv_passInv {p : Params} (hq : NoQuirks p) {c : Nat} (hcap : p.cap = some c)
    (ex : List WOp) {bl : List (Nat × Nat)} (hc : budTotal bl ≤ c) (m0 : List (Nat × VE)) :
    PassInv p ex (fun t => t.map = m0 ∧ BInv p t (t.writeQ ++ ex) bl) where
  same j hs hw := ⟨hs.map.trans j.1, by rw [hw]; exact j.2.same hs⟩
  write := by
    intro s op rest hw g j
    have b0 : BInv p { s with writeQ := rest } (op :: (rest ++ ex)) bl := by
      have := j.2; rw [hw] at this; exact this.of_eq rfl rfl
    obtain ⟨m1, b1⟩ := applyWrite_binv hq hcap op g b0 hc
    rw [(applyWrite_maint p { s with writeQ := rest } op).qframe.writeQ]
    exact ⟨m1.trans j.1, b1⟩

theorem syncRun_frameX_room {P : Sketch → Prop} (L : SketchLaws P) {p : Params} (hq : NoQuirks p)
    (hsm : SmallSketch p) {c : Nat} (hcap : p.cap = some c) {s : SState} (ex : List WOp)
    {bl : List (Nat × Nat)} (hc : budTotal bl ≤ c) (h : TopInv P s)
    (hct : CTop p s (s.writeQ ++ ex)) (b : BInv p s (s.writeQ ++ ex) bl) :
    FrameX p s (syncRun p s) ∧ BInv p (syncRun p s) ex bl := by
  have rem {t t' : SState} (bt : BInv p t ex bl) (g : G p t ex) (r : Rem t t') : BInv p t' ex bl :=
    bt.mono (r.frame0.mapSub g.map.kn) (fun i => by rw [r.weight]; exact bt.wt i) (fun _ hh => hh)
  obtain ⟨fx, t, ⟨_, bt⟩, hq1, g, r⟩ := syncRun_frameX_over L hq hsm hcap
    (binv_passInv hq hcap ex hc s.map) (fun j => j.1)
    (fun j hq1 g g' r => by
      have bt := j.2; rw [hq1, List.nil_append] at bt
      exact cws_le_of_binv g'.safe g'.inv.wsum (rem bt g r) hc)
    h hct ⟨rfl, b.of_eq rfl rfl⟩
  rw [hq1, List.nil_append] at bt
  exact ⟨fx, rem bt g r⟩

/-! ### the budgets along the calls of the one thread

Not an instance of `CallInv`: the budget bound moves with the rest of the history (an `insert`
spends from it), and each call also has to yield `MaintOk` for the coupling proof. -/

theorem housekeep_room {p : Params} (hq : NoQuirks p) (hsm : SmallSketch p) {c : Nat}
    (hcap : p.cap = some c) {s : SState} {ex : List WOp} {bl : List (Nat × Nat)}
    (hc : budTotal bl ≤ c) (h : TInv p s ex) (b : BInv p s (s.writeQ ++ ex) bl) :
    SyncOk p s ∧ BInv p (housekeepW p s) ((housekeepW p s).writeQ ++ ex) bl ∧
      BInv p (housekeepR p s) ((housekeepR p s).writeQ ++ ex) bl := by
  have b0 : BInv p (armed s) ((armed s).writeQ ++ ex) bl := b.of_eq rfl rfl
  have ha : TopInv Sketch.Good (armed s) ∧ CTop p (armed s) ((armed s).writeQ ++ ex) :=
    (t_callInv hq hsm).flags true _ ⟨h.top, h.c⟩
  obtain ⟨fx, b1⟩ := syncRun_frameX_room sketchLaws hq hsm hcap ex hc ha.1 ha.2 b0
  refine ⟨fx, (housekeep_armed (C := fun t => BInv p t (t.writeQ ++ ex) bl) b ?_).2⟩
  show BInv p _ ((syncRun p (armed s)).writeQ ++ ex) bl
  rw [syncRun_writeQ]
  exact b1.of_eq rfl rfl

theorem insertMap_binv {p : Params} (hq : NoQuirks p) {s : SState}
    {bl : List (Nat × Nat)} (b : BInv p s s.writeQ bl) (k v : Nat) :
    ∃ bl', BInv p (ConcS.insertMap p s k v).1
        ((ConcS.insertMap p s k v).1.writeQ ++ [(ConcS.insertMap p s k v).2]) bl' ∧
      budTotal bl' ≤ budTotal bl + p.weigh k v := by
  obtain ⟨ve, inf, oldW, hop, hmap, hval, hinfo, _, _, hcase⟩ := ConcS.insertMap_infos p s k v
  have hw : inf.weight ≤ budOf bl ve.info + p.weigh k v := by
    rcases hcase with ⟨old, _, hi, _, hwt, _⟩ | ⟨_, _, _, hwt, _⟩
    · rw [hwt (by rw [hq]), hi]
      exact Nat.le_trans (b.wt _) (Nat.le_add_right _ _)
    · rw [hwt]
      exact Nat.le_add_left _ _
  refine ⟨charge bl ve.info (p.weigh k v), ⟨?_, ?_, ?_⟩, budTotal_charge _ _ _⟩
  · intro i
    rw [hinfo i, budOf_charge]
    by_cases e : ve.info = i
    · rw [if_pos e, if_pos e]; exact hw
    · rw [if_neg e, if_neg e]; exact b.wt i
  · intro k' ve' hk'
    rw [hmap, AL.get?_put] at hk'
    by_cases e : k = k'
    · rw [if_pos e] at hk'
      cases hk'
      rw [budOf_charge, if_pos rfl, ← e, hval]
      exact Nat.le_add_left _ _
    · rw [if_neg e] at hk'
      exact Nat.le_trans (b.mp k' ve' hk') (budOf_charge_ge _ _ _ _)
  · intro k' h' ve' o w hin
    rw [(ConcS.insertMap_fields p s k v).1] at hin
    rcases List.mem_append.mp hin with hin | hin
    · exact Nat.le_trans (b.up k' h' ve' o w hin) (budOf_charge_ge _ _ _ _)
    · rw [hop, List.mem_singleton] at hin
      cases hin
      rw [budOf_charge, if_pos rfl]
      exact Nat.le_add_left _ _

theorem insert_room {p : Params} (hq : NoQuirks p) (hsm : SmallSketch p) {c : Nat}
    (hcap : p.cap = some c) {s : SState} (h : TInv p s []) {bl : List (Nat × Nat)}
    (b : BInv p s s.writeQ bl) (k v : Nat) (hc : budTotal bl + p.weigh k v ≤ c) :
    SyncOk p (ConcS.insertMap p s k v).1 ∧
    ∃ bl', BInv p (insert p s k v) (insert p s k v).writeQ bl' ∧
      budTotal bl' ≤ budTotal bl + p.weigh k v := by
  obtain ⟨bl', b0, hle⟩ := insertMap_binv hq b k v
  have t0 := insertMap_t hq h k v
  obtain ⟨h1, h2, _⟩ := housekeep_room hq hsm hcap (Nat.le_trans hle hc) t0 b0
  refine ⟨h1, bl', ?_, hle⟩
  rw [ConcS.insert_eq, scheduleWriteOp_enqueues p 2 t0.q]
  exact h2.of_eq rfl rfl

theorem invalidate_room {p : Params} (hq : NoQuirks p) (hsm : SmallSketch p) {c : Nat}
    (hcap : p.cap = some c) {s : SState} (h : TInv p s []) {bl : List (Nat × Nat)}
    (b : BInv p s s.writeQ bl) (k : Nat) (hc : budTotal bl ≤ c) :
    (∀ op, (ConcS.invalidateMap s k).2 = some op → SyncOk p (ConcS.invalidateMap s k).1) ∧
    BInv p (invalidate p s k) (invalidate p s k).writeQ bl := by
  rw [ConcS.invalidate_eq]
  rcases ConcS.invalidateMap_cases s k with ⟨_, e⟩ | ⟨ve, _, e⟩
  · rw [e]
    exact ⟨fun op hop => (by cases hop), b⟩
  · have t0 : TInv p (ConcS.invalidateMap s k).1 [WOp.remove k ve] :=
      have ⟨a, c⟩ := (t_callInv hq hsm).invMap k _ h.q ⟨h.top, h.c⟩ (by rw [e])
      ⟨a, ConcS.invalidateMap_qinv h.q k, c⟩
    rw [e] at t0 ⊢
    dsimp only
    have b0 : BInv p { s with map := AL.erase s.map k }
        (({ s with map := AL.erase s.map k } : SState).writeQ ++ [WOp.remove k ve]) bl := by
      refine ⟨b.wt, ?_, ?_⟩
      · intro k' ve' hk'
        exact b.mp k' ve' ((frame0_erase s k).mapSub h.top.map.kn k' ve' hk')
      · intro k' h' ve' o w hin
        rcases List.mem_append.mp hin with hin | hin
        · exact b.up k' h' ve' o w hin
        · simp only [List.mem_singleton] at hin
          cases hin
    obtain ⟨h1, h2, _⟩ := housekeep_room hq hsm hcap hc t0 b0
    refine ⟨fun _ _ => h1, ?_⟩
    rw [scheduleWriteOp_enqueues p 2 t0.q]
    exact h2.of_eq rfl rfl

theorem get_room {p : Params} (hq : NoQuirks p) (hsm : SmallSketch p) {c : Nat}
    (hcap : p.cap = some c) {s : SState} (h : TInv p s []) {bl : List (Nat × Nat)}
    (b : BInv p s s.writeQ bl) (k : Nat) (hc : budTotal bl ≤ c) :
    SyncOk p s ∧ BInv p (get p s k).1 (get p s k).1.writeQ bl := by
  have b0 : BInv p s (s.writeQ ++ []) bl := by rw [List.append_nil]; exact b
  obtain ⟨h1, _, h2⟩ := housekeep_room hq hsm hcap hc h b0
  rw [List.append_nil] at h2
  refine ⟨h1, ?_⟩
  rw [ConcS.get_fst_eq, recordReadOp_enqueues p h.q]
  exact h2.of_eq rfl rfl

theorem sync_room {p : Params} (hq : NoQuirks p) (hsm : SmallSketch p) {c : Nat}
    (hcap : p.cap = some c) {s : SState} (h : TInv p s []) {bl : List (Nat × Nat)}
    (b : BInv p s s.writeQ bl) (hc : budTotal bl ≤ c) :
    FrameX p s (syncRun p s) ∧ BInv p (syncRun p s) (syncRun p s).writeQ bl := by
  have b0 : BInv p s (s.writeQ ++ []) bl := by rw [List.append_nil]; exact b
  obtain ⟨h1, h2⟩ := syncRun_frameX_room sketchLaws hq hsm hcap [] hc h.top h.c b0
  refine ⟨h1, ?_⟩
  rw [syncRun_writeQ]
  exact h2

/-- Reachable states of a history whose inserts fit into the capacity: the invariants of
`SyncCounters`, and budgets that cover every weight in the state while the capacity still has
room for everything the rest of the history inserts. -/
structure RoomInv (p : Params) (c : Nat) (s : SState) (rest : List Op) : Prop where
  t : TInv p s []
  bud : ∃ bl, BInv p s s.writeQ bl ∧ budTotal bl + Spec.totalIns p rest ≤ c

theorem roomInv_init (p : Params) (c : Nat) (h : List Op) (hle : Spec.totalIns p h ≤ c) :
    RoomInv p c {} h :=
  ⟨init_t p, [], ⟨fun i => Nat.le_refl _, fun k ve hk => by simp at hk,
    fun k h' ve o w hin => by cases hin⟩, by simpa [budTotal] using hle⟩

theorem roomInv_step {p : Params} (hq : NoQuirks p) (hsm : SmallSketch p) {c : Nat}
    (hcap : p.cap = some c) {s : SState} {op : Op} {rest : List Op}
    (h : RoomInv p c s (op :: rest)) : MaintOk p s op ∧ RoomInv p c (step p s op).1 rest := by
  obtain ⟨bl, b, hle⟩ := h.bud
  have hle' : budTotal bl + (Spec.insW p op + Spec.totalIns p rest) ≤ c := hle
  have hrest : budTotal bl + Spec.totalIns p rest ≤ c :=
    Nat.le_trans (Nat.add_le_add_left (Nat.le_add_left _ _) _) hle'
  have hbl : budTotal bl ≤ c := Nat.le_trans (Nat.le_add_right _ _) hrest
  suffices hs : MaintOk p s op ∧ ∃ bl', BInv p (stepState p s op) (stepState p s op).writeQ bl' ∧
      budTotal bl' + Spec.totalIns p rest ≤ c by
    refine ⟨hs.1, step_t hq hsm h.t op, ?_⟩
    rw [step_fst h.t.top.nofault]
    exact hs.2
  cases op with
  | ins k v =>
    rw [← Nat.add_assoc] at hle'
    obtain ⟨ok, bl', b', hb⟩ := insert_room hq hsm hcap h.t b k v
      (Nat.le_trans (Nat.le_add_right _ _) hle')
    exact ⟨ok, bl', b', Nat.le_trans (Nat.add_le_add_right hb _) hle'⟩
  | get k =>
    obtain ⟨ok, b'⟩ := get_room hq hsm hcap h.t b k hbl
    exact ⟨ok, bl, b', hrest⟩
  | inv k =>
    obtain ⟨ok, b'⟩ := invalidate_room hq hsm hcap h.t b k hbl
    exact ⟨ok, bl, b', hrest⟩
  | sync =>
    obtain ⟨ok, b'⟩ := sync_room hq hsm hcap h.t b hbl
    exact ⟨ok, bl, b', hrest⟩
  | _ => exact ⟨True.intro, bl, b.of_eq rfl rfl, hrest⟩

end Sync
end MiniMoka
