/-
  Every execution of the finest many-thread model `ConcF` (`MiniMoka/ConcF.lean`, current code
  `Variant.good`) projects to an execution that model R (`MiniMoka/ConcR.lean`) accepts
  (theorems: `Props/C02ConcF.lean`).  `ConcF` is a system with a projection to R (`ProjR.Sys`):
  the `.other` steps are those of `ConcS` (`ConcSR.step_rel`); a maintenance micro-step is a frame
  (`ConcF.FStep.frame`), so it only deletes and is a list of `daemon` events.
-/
import MiniMoka.Lemmas.ConcSRefinesR
import MiniMoka.Lemmas.ConcF

namespace MiniMoka
namespace ConcFR

open ConcR (KV Key Val Tid Oid State lookup runFrom)
open Sync (SState KN NoQuirks)
open SyncR ConcSR ProjR
open ConcF (FState)

def cs (c : FState) : ConcS.CState := ⟨c.s, c.pending⟩

def mopF : ConcM.Ev → Option (Tid × ConcR.Op)
  | .other e => mapEvOp e
  | _ => none

/-- The events of R for one event of `ConcF`: a step of a thread as in `ConcSR.projEv`; an event
of a maintenance run is one `daemon` per key it deletes. -/
def projEvF (p : Params) (c : FState) (g : Ghost) : ConcM.Ev → List ConcR.Ev
  | .other e => projEv p (cs c) g e
  | .mBegin t ex =>
    match ConcF.step p .good c (.mBegin t ex) with
    | some c' => (delKeys (absMap c.s) (absMap c'.s)).map ConcR.Ev.daemon
    | none => []
  | .mStep t =>
    match ConcF.step p .good c (.mStep t) with
    | some c' => (delKeys (absMap c.s) (absMap c'.s)).map ConcR.Ev.daemon
    | none => []

/-- An event of a maintenance run uses up an id and invokes nothing. -/
def gstepF (p : Params) (c : FState) (g : Ghost) : ConcM.Ev → Ghost
  | .other e => ghostStep p (cs c) g e
  | _ => { g with next := g.next + 1 }

def respF (c : FState) (g : Ghost) : ConcM.Ev → List Call
  | .other e => respCalls (cs c) g e
  | _ => []

def decF (p : Params) (c : FState) (n : Nat) : ConcM.Ev → List Call
  | .other e => decidedEv p (cs c) n e
  | _ => []

theorem projEvF_daemons (p : Params) (c : FState) (g : Ghost) (e : ConcM.Ev)
    (hne : ∀ e', e ≠ .other e') :
    ∃ ds : List Key, projEvF p c g e = ds.map ConcR.Ev.daemon := by
  cases e with
  | other e' => exact absurd rfl (hne e')
  | mBegin t ex =>
    simp only [projEvF]
    split
    · exact ⟨_, rfl⟩
    · exact ⟨[], rfl⟩
  | mStep t =>
    simp only [projEvF]
    split
    · exact ⟨_, rfl⟩
    · exact ⟨[], rfl⟩

def sysF (p : Params) : Sys FState ConcM.Ev where
  step := ConcF.step p .good
  proj := projEvF p
  gstep := gstepF p
  mop := mopF
  resp := respF
  dec := decF p
  next := by
    intro c g e
    cases e with
    | other e' => exact ghostStep_next p (cs c) g e'
    | mBegin t ex => rfl
    | mStep t => rfl
  opOf := by
    intro c g e o
    cases e with
    | other e' => exact opOf_projEv p (cs c) g e' o
    | mBegin t ex =>
      obtain ⟨ds, hds⟩ := projEvF_daemons p c g (.mBegin t ex) (fun _ h => by cases h)
      rw [hds, opOf_daemons]; simp [mopF]
    | mStep t =>
      obtain ⟨ds, hds⟩ := projEvF_daemons p c g (.mStep t) (fun _ h => by cases h)
      rw [hds, opOf_daemons]; simp [mopF]
  steps := by
    intro c g e
    cases e with
    | other e' => exact stepOids_projEv p (cs c) g e'
    | mBegin t ex =>
      obtain ⟨ds, hds⟩ := projEvF_daemons p c g (.mBegin t ex) (fun _ h => by cases h)
      rw [hds, stepOids_daemons]; rfl
    | mStep t =>
      obtain ⟨ds, hds⟩ := projEvF_daemons p c g (.mStep t) (fun _ h => by cases h)
      rw [hds, stepOids_daemons]; rfl
  held := by
    intro c g e x hx
    cases e with
    | other e' => exact mem_held_step hx
    | mBegin t ex => exact Or.inl hx
    | mStep t => exact Or.inl hx
  decm := by
    intro c n e y hy
    cases e with
    | other e' => exact mem_decidedEv hy
    | mBegin t ex => cases hy
    | mStep t => cases hy
  calls := by
    intro c g pre e T h
    cases e with
    | other e' => exact calls_step h e' T
    | mBegin t ex =>
      obtain ⟨ds, hds⟩ := projEvF_daemons p c g (.mBegin t ex) (fun _ h => by cases h)
      rw [hds, resps_daemons]; rfl
    | mStep t =>
      obtain ⟨ds, hds⟩ := projEvF_daemons p c g (.mStep t) (fun _ h => by cases h)
      rw [hds, resps_daemons]; rfl
  respDec := by
    intro c g e D hD y hy
    cases e with
    | other e' => exact respCalls_decided p (cs c) g e' D hD y hy
    | mBegin t ex => cases hy
    | mStep t => cases hy

theorem sysF_run (p : Params) : (sysF p).run = ConcF.runEvs p .good :=
  (sysF p).isPath.unique (ConcF.isPath p .good)

/-- Carried along with `Rel`: the keys of the map are distinct, and the run is at a program counter
of the current code, so that each of its steps is a frame (`ConcF.FStep.frame`) and only
deletes. -/
theorem stepF_rel {p : Params} (hq : NoQuirks p) {a : State}
    {c c' : FState} {g : Ghost} (e : ConcM.Ev)
    (h : Rel a (cs c) g ∧ KN c.s ∧
      ∀ r pc, c.run = some r → r.w = some pc → ConcF.goodPc pc = true)
    (hs : ConcF.step p .good c e = some c') :
    ∃ a', runFrom a (projEvF p c g e) = some a' ∧ Rel a' (cs c') (gstepF p c g e) ∧ KN c'.s ∧
      ∀ r pc, c'.run = some r → r.w = some pc → ConcF.goodPc pc = true := by
  obtain ⟨h, hk, hpc⟩ := h
  cases e with
  | other e' =>
    obtain ⟨_, c1, hc, rfl⟩ := ConcF.step_other hs
    obtain ⟨a', h1, h2⟩ := step_rel hq h hk e' hc
    exact ⟨a', h1, h2, step_kn hq (c := cs c) hk e' hc, hpc⟩
  | mBegin t ex | mStep t =>
    obtain ⟨hf, hp, hg⟩ := (ConcF.FStep.of_eq hs).frame hq (fun _ h => by cases h) hpc
    obtain ⟨a', h1, h2⟩ :=
      rel_daemons (c := cs c) (c' := cs c') (g := g) h hp (sub_of_frame hf hk)
    simp only [projEvF, hs]
    exact ⟨a', h1, h2, hf.kn hk, hg⟩

end ConcFR
end MiniMoka
