/-
  Recency (C12) on the one-thread model of `sync::Cache`: the walk of the trace oracle.  `RInv`
  adds to `AInv` that an info belongs to one key (`KeyOk`) and that a dirty entry has its insert
  queued (`GDP`).  `SI` is the invariant of a segment with at most one use, `WInv` ties it to the
  oracle's bookkeeping; `final_order` reads the recency rule off it at the next quiescent
  snapshot.
-/
import MiniMoka.Lemmas.SyncAdmit
import MiniMoka.Lemmas.SyncMoves
import MiniMoka.Lemmas.ExpOrd
import MiniMoka.Lemmas.RefWalk

namespace MiniMoka
namespace Sync
namespace Admit

open Nodes Spec
open Unsync.Admit (expOrd expOrd_refl expOrd_sub expOrd_use expOrd_use_absent useKey filter_ne_self)

/- `syncRun p s` is a state like any other here (see the note in `SyncQueues`). -/
attribute [local irreducible] syncRun

def KP (s : SState) : Prop := ∀ n, n ∈ s.prob → (getInfo s n.info).key = n.key

def KQ (s : SState) : Prop :=
  ∀ key hash ve o w, WOp.upsert key hash ve o w ∈ s.writeQ →
    (getInfo s ve.info).key = key ∧ ve.info < s.nextId

structure KeyOk (s : SState) : Prop where
  prob : KP s
  map : KM s
  wq : KQ s

theorem KM.frame {s s' : SState} (h : KM s) (hkn : (AL.keys s.map).Nodup) (hf : Frame s s') :
    KM s' := fun k e he => by rw [hf.key]; exact h k e (hf.mapSub hkn k e he)

theorem syncRun_keyok {p : Params} (hq : NoQuirks p) {s : SState} {ex : List WOp}
    (hkn : (AL.keys s.map).Nodup) (h : KeyOk (held s ex)) : KeyOk (held (syncRun p s) ex) := by
  have hf := syncRun_frame hq s
  refine ⟨fun n hn => ?_, KM.frame (s := s) (s' := syncRun p s) h.map hkn hf, ?_⟩
  · show (getInfo (syncRun p s) n.info).key = n.key
    rw [hf.key]
    rcases (syncRun_subq p s).prob n hn with h1 | ⟨ve, o, w, hm, e⟩
    · exact h.prob n h1
    · rw [← e]
      exact (h.wq _ _ _ _ _ (List.mem_append_left _ hm)).1
  · intro key hash ve o w hm
    have hm : WOp.upsert key hash ve o w ∈ (syncRun p s).writeQ ++ ex := hm
    rw [syncRun_writeQ, List.nil_append] at hm
    obtain ⟨a, b⟩ := h.wq key hash ve o w (List.mem_append_right _ hm)
    show (getInfo (syncRun p s) ve.info).key = key ∧ ve.info < (syncRun p s).nextId
    rw [hf.key]
    exact ⟨a, Nat.lt_of_lt_of_le b hf.nextId⟩

theorem KeyOk.of_eq {s t : SState} (h : KeyOk s) (e1 : t.prob = s.prob) (e2 : t.map = s.map)
    (e3 : t.infos = s.infos) (e4 : t.writeQ = s.writeQ) (e5 : t.nextId = s.nextId) : KeyOk t := by
  have hg : ∀ j, getInfo t j = getInfo s j := getInfo_congr e3
  refine ⟨?_, ?_, ?_⟩
  · intro n hn; rw [e1] at hn; rw [hg]; exact h.prob n hn
  · intro k e he; rw [e2] at he; rw [hg]; exact h.map k e he
  · intro key hash ve o w hm; rw [e4] at hm; rw [hg, e5]; exact h.wq key hash ve o w hm

/-- A dirty entry of the map has its insert queued, or is of the info `u`.  The invariant of the
trace is `GDP none`; a segment carries the form without queue, `DirtyOk u` (`GDP u` with an empty
queue). -/
def GDP (u : Option Nat) (s : SState) : Prop :=
  ∀ k e, AL.get? s.map k = some e → (getInfo s e.info).dirty = true →
    (∃ key hash ve o w, WOp.upsert key hash ve o w ∈ s.writeQ ∧ ve.info = e.info) ∨
      some e.info = u

theorem syncRun_gd {u : Option Nat} {p : Params} (hq : NoQuirks p) {s : SState} {ex : List WOp}
    (hkn : (AL.keys s.map).Nodup) (h : GDP u (held s ex)) : GDP u (held (syncRun p s) ex) := by
  intro k e he hd
  obtain ⟨hd0, hno⟩ := (syncRun_subq p s).dirty _ hd
  rcases h k e ((syncRun_frame hq s).mapSub hkn k e he) hd0 with ⟨key, hash, ve, o, w, hm, hi⟩ | hu
  · rcases List.mem_append.mp hm with hm | hm
    · exact absurd hi (hno key hash ve o w hm)
    · exact Or.inl ⟨key, hash, ve, o, w, List.mem_append_right _ hm, hi⟩
  · exact Or.inr hu

theorem GDP.of_eq {u : Option Nat} {s t : SState} (h : GDP u s) (e1 : t.map = s.map)
    (e2 : t.infos = s.infos) (e3 : t.writeQ = s.writeQ) : GDP u t := by
  intro k e he hd
  rw [e1] at he
  rw [getInfo_congr e2] at hd
  rw [e3]
  exact h k e he hd

/-- The clauses of `KeyOk` and `GDP none` are `nodeKey`, `mapKey`, `upKey`, `dirtyQ` of
`Counters.CInv`, which `Counters.t_callInv` carries already.  They are walked again, beside
`TopInv` on which they rest, because the recency results (`WInv.*`,
`Props.C12_sync_recency_state`, `C12_sync_segment`) assume `RInv` of an ARBITRARY state and step
it: reachability, and with it `CInv`, is not at hand, and `RInv` has no `CTop` among its
conjuncts. -/
theorem key_callInv {p : Params} (hq : NoQuirks p) (hsm : SmallSketch p) :
    CallInv p (fun ex s => TopInv Sketch.Good s ∧ KeyOk (held s ex) ∧ GDP none (held s ex)) where
  flags _ _ h := ⟨h.1.of_eq rfl rfl rfl rfl rfl rfl rfl rfl rfl, h.2.1.of_eq rfl rfl rfl rfl rfl,
    h.2.2.of_eq rfl rfl rfl⟩
  run h := ⟨syncRun_inv sketchLaws hq hsm h.1,
    syncRun_keyok hq h.1.map.kn h.2.1, syncRun_gd hq h.1.map.kn h.2.2⟩
  enqW h := ⟨h.1.of_eq rfl rfl rfl rfl rfl rfl rfl rfl rfl,
    h.2.1.of_eq rfl rfl rfl (List.append_nil _) rfl, h.2.2.of_eq rfl rfl (List.append_nil _)⟩
  enqR _ h := ⟨h.1.of_eq rfl rfl rfl rfl rfl rfl rfl rfl rfl, h.2.1.of_eq rfl rfl rfl rfl rfl,
    h.2.2.of_eq rfl rfl rfl⟩
  insMap := by
    intro s k v _ h
    rw [held_nil] at h
    obtain ⟨ht, hk, hg⟩ := h
    have hnc := ht.nodes.toNodesCore
    have htc := insertMap_top (p := p) ht k v
    obtain ⟨ve, o, e, hc⟩ := insertMap_step p s k v
    rw [e]
    generalize (ConcS.insertMap p s k v).1 = c at htc hc ⊢
    refine ⟨htc, ⟨?_, ?_, ?_⟩, ?_⟩
    · intro n hn
      have hn : n ∈ s.prob := by
        rw [← hc.prob]
        exact hn
      show (getInfo c n.info).key = n.key
      rw [hc.keys _ (hnc.node_info_lt hn)]
      exact hk.prob n hn
    · intro k' e' he
      have he : AL.get? c.map k' = some e' := he
      show (getInfo c e'.info).key = k'
      rw [hc.map, AL.get?_put] at he
      by_cases ekk : k = k'
      · rw [if_pos ekk] at he
        cases he
        rw [← ekk]
        exact hc.key hk.map
      · rw [if_neg ekk] at he
        rw [hc.keys _ (ht.map.bound k' e' he)]
        exact hk.map k' e' he
    · intro key hash ve' o' w hm
      have hm : WOp.upsert key hash ve' o' w ∈
          c.writeQ ++ [.upsert k (p.hash k) ve o (p.weigh k v)] := hm
      show (getInfo c ve'.info).key = key ∧ ve'.info < c.nextId
      rw [hc.writeQ] at hm
      rcases List.mem_append.mp hm with hm | hm
      · obtain ⟨a, b⟩ := hk.wq key hash ve' o' w hm
        rw [hc.keys _ b]
        exact ⟨a, Nat.lt_of_lt_of_le b hc.nextId⟩
      · cases List.mem_singleton.mp hm
        exact ⟨hc.key hk.map, hc.lt ht.map⟩
    · intro k' e' he hd
      have he : AL.get? c.map k' = some e' := he
      have hd : (getInfo c e'.info).dirty = true := hd
      by_cases hei : e'.info = ve.info
      · exact Or.inl ⟨k, p.hash k, ve, o, p.weigh k v,
          List.mem_append_right _ List.mem_cons_self, hei.symm⟩
      · rw [hc.map, AL.get?_put] at he
        rw [hc.other _ hei] at hd
        by_cases ekk : k = k'
        · rw [if_pos ekk] at he
          cases he
          exact absurd rfl hei
        · rw [if_neg ekk] at he
          rcases hg k' e' he hd with ⟨key, hash, ve', o', w, hm, hinfo⟩ | hr
          · refine Or.inl ⟨key, hash, ve', o', w, List.mem_append_left _ ?_, hinfo⟩
            rw [hc.writeQ]
            exact hm
          · cases hr
  invMap := by
    intro s k op _ h hop
    rw [held_nil] at h
    obtain ⟨ht, hk, hg⟩ := h
    obtain ⟨ve, _, rfl, e⟩ := ConcS.invalidateMap_some hop
    have htc := invalidateMap_top ht k
    rw [e] at htc ⊢
    have hsub := (frame0_erase s k).mapSub ht.map.kn
    refine ⟨htc, ⟨hk.prob, fun k' e' he => hk.map k' e' (hsub k' e' he), ?_⟩, ?_⟩
    · intro key hash ve' o' w hm
      rcases List.mem_append.mp hm with hm | hm
      · exact hk.wq key hash ve' o' w hm
      · cases List.mem_singleton.mp hm
    · intro k' e' he hd
      rcases hg k' e' (hsub k' e' he) hd with ⟨key, hash, ve', o', w, hm, hinfo⟩ | hu
      · exact Or.inl ⟨key, hash, ve', o', w, List.mem_append_left _ hm, hinfo⟩
      · cases hu
  invAll h := ⟨h.1.of_eq rfl rfl rfl rfl rfl rfl rfl rfl rfl, h.2.1.of_eq rfl rfl rfl rfl rfl,
    h.2.2.of_eq rfl rfl rfl⟩
  adv _ h := ⟨h.1.of_eq rfl rfl rfl rfl rfl rfl rfl rfl rfl, h.2.1.of_eq rfl rfl rfl rfl rfl,
    h.2.2.of_eq rfl rfl rfl⟩

/-- What the recency results assume of a state, and every reachable state has (see
`key_callInv` for why `KeyOk` and `GDP` are conjuncts of their own). -/
structure RInv (p : Params) (s : SState) : Prop where
  ainv : AInv p s
  key : KeyOk s
  gd : GDP none s

theorem init_rinv (p : Params) : RInv p {} := by
  refine ⟨init_ainv p, ⟨?_, ?_, ?_⟩, ?_⟩
  · intro n hn; cases hn
  · intro k e he; cases he
  · intro _ _ _ _ _ hm; cases hm
  · intro k e he; cases he

theorem step_rinv {p : Params} (hq : NoQuirks p) (hsm : SmallSketch p) {s : SState}
    (h : RInv p s) (op : Op) : RInv p (step p s op).1 := by
  have := (key_callInv hq hsm).step h.ainv.q
    (show _ ∧ KeyOk (held s []) ∧ GDP none (held s []) by
      rw [held_nil]
      exact ⟨h.ainv.top, h.key, h.gd⟩) op
  rw [held_nil] at this
  exact ⟨step_ainv hq hsm h.ainv op, this.2.1, this.2.2⟩

theorem rinv_stepInv {p : Params} (hq : NoQuirks p) (hsm : SmallSketch p) : StepInv p (RInv p) :=
  stepInv_of (fun _ op hs => step_rinv hq hsm hs op) (fun _ hs => hs.ainv.top.nofault)

/-- `N`: the access order at the last quiescent snapshot; `mv`: the key used since (at most
one); `u`: the info of that use; `d`: the use has been applied by maintenance.  `g`: a node of
the used key is unstable; `ku`, `mv0`: `mv` is the key of `u`, or empty. -/
structure SI (N : List AoNode) (mv : List Nat) (u : Option Nat) (d : Bool) (s : SState) : Prop where
  seg : Seg d u N s
  rq : RQU u s.readQ
  wq : WQU u s.writeQ
  dirty : DirtyOk u s
  g : ∀ n, n ∈ s.prob → n.key ∈ mv → Unst u s n
  ku : ∀ i, u = some i → mv = [(getInfo s i).key]
  mv0 : u = none → mv = []

def Pend (d : Bool) (u : Option Nat) (s : SState) : Prop :=
  d = false → u = none ∨ (s.readQ.any isHit || s.writeQ.any isUpsert) = true

theorem Seg.of_eq {d : Bool} {u : Option Nat} {N : List AoNode} {s t : SState} (h : Seg d u N s)
    (hp : t.prob = s.prob) (hm : ∀ n, Unst u s n → Unst u t n) : Seg d u N t := by
  obtain ⟨A, T, e, hs, hT, hA⟩ := h
  exact ⟨A, T, by rw [hp]; exact e, hs, fun n hn => hm n (hT n hn), hA⟩

theorem SI.of_eq {N : List AoNode} {mv : List Nat} {u : Option Nat} {d : Bool} {s t : SState}
    (h : SI N mv u d s) (e1 : t.prob = s.prob) (e2 : t.map = s.map) (e3 : t.infos = s.infos)
    (e4 : t.readQ = s.readQ) (e5 : t.writeQ = s.writeQ) : SI N mv u d t := by
  have hU : ∀ n, Unst u s n → Unst u t n := fun n hn => hn.mono (fun k ve hk => by rw [e2] at hk; exact hk)
  refine ⟨h.seg.of_eq e1 hU, by rw [e4]; exact h.rq, by rw [e5]; exact h.wq, ?_, ?_, ?_, h.mv0⟩
  · intro k e he hd
    rw [e2] at he
    rw [getInfo_congr e3] at hd
    exact h.dirty k e he hd
  · intro n hn hk
    rw [e1] at hn
    exact hU n (h.g n hn hk)
  · intro i hi
    rw [getInfo_congr e3]
    exact h.ku i hi

theorem SI.syncRun {p : Params} (hq : NoQuirks p) {N : List AoNode} {mv : List Nat}
    {u : Option Nat} {d : Bool} {s : SState} (ht : TopInv Sketch.Good s) (h : SI N mv u d s) :
    SI N mv u (d || (s.readQ.any isHit || s.writeQ.any isUpsert)) (syncRun p s) := by
  obtain ⟨m, dok⟩ := syncRun_mv (u := u) hq ht h.rq h.wq h.dirty
  have hkn := ht.map.kn
  refine ⟨h.seg.step hkn m, ?_, ?_, dok, ?_, ?_, h.mv0⟩
  · rw [syncRun_readQ]; intro _ _ _ hm; cases hm
  · rw [syncRun_writeQ]; intro _ _ _ _ _ hm; cases hm
  · intro n hn hk
    obtain ⟨A, T, e, hs, hT, _⟩ := m.split
    rw [e] at hn
    rcases List.mem_append.mp hn with hn | hn
    · exact (h.g n (hs.subset hn) hk).mono (m.mapSub hkn)
    · exact hT n hn
  · intro i hi
    rw [(syncRun_frame hq s).key]
    exact h.ku i hi

theorem Pend.syncRun {p : Params} {u : Option Nat} {d : Bool} {s : SState} (h : Pend d u s) :
    Pend (d || (s.readQ.any isHit || s.writeQ.any isUpsert)) u (syncRun p s) := by
  intro hd
  rw [Bool.or_eq_false_iff] at hd
  rcases h hd.1 with h1 | h1
  · exact Or.inl h1
  · rw [hd.2] at h1; cases h1

theorem Pend.of_eq {u : Option Nat} {d : Bool} {s t : SState} (h : Pend d u s)
    (e4 : t.readQ = s.readQ) (e5 : t.writeQ = s.writeQ) : Pend d u t := by
  intro hd; rw [e4, e5]; exact h hd

/-- The housekeeping before an enqueue keeps the segment invariant, for some flag, and the use
stays queued if it was (`H`: `Pend` before the housekeeping). -/
theorem SI.housekeep {p : Params} (hq : NoQuirks p) {N : List AoNode} {mv : List Nat}
    {u : Option Nat} {d : Bool} {s : SState} {H : Prop} (ht : TopInv Sketch.Good s)
    (h : SI N mv u d s) (hp : H → Pend d u s) :
    (∃ d', SI N mv u d' (housekeepW p s) ∧ (H → Pend d' u (housekeepW p s))) ∧
    (∃ d', SI N mv u d' (housekeepR p s) ∧ (H → Pend d' u (housekeepR p s))) := by
  refine (housekeep_ind (C := fun t => ∃ d', SI N mv u d' t ∧ (H → Pend d' u t)) ⟨d, h, hp⟩
    fun a => ?_).2
  have ht1 : TopInv Sketch.Good { s with running := true, syncAfter := a } :=
    ht.of_eq rfl rfl rfl rfl rfl rfl rfl rfl rfl
  have h1 : SI N mv u d { s with running := true, syncAfter := a } := h.of_eq rfl rfl rfl rfl rfl
  exact ⟨_, (h1.syncRun hq ht1).of_eq rfl rfl rfl rfl rfl,
    fun x => (((hp x).of_eq (t := { s with running := true, syncAfter := a }) rfl rfl).syncRun).of_eq
      rfl rfl⟩

theorem SI.push_remove {N : List AoNode} {mv : List Nat} {u : Option Nat} {d : Bool} {s : SState}
    (h : SI N mv u d s) (hp : Pend d u s) (k : Nat) (ve : VE) :
    SI N mv u d { s with writeQ := s.writeQ ++ [.remove k ve] } ∧
    Pend d u { s with writeQ := s.writeQ ++ [.remove k ve] } := by
  refine ⟨⟨h.seg.of_eq rfl (fun _ x => x), h.rq, ?_, h.dirty, h.g, h.ku, h.mv0⟩, ?_⟩
  · intro key hash ve' o w hm
    rcases List.mem_append.mp hm with hm | hm
    · exact h.wq key hash ve' o w hm
    · simp at hm
  · intro hd
    rcases hp hd with h1 | h1
    · exact Or.inl h1
    · refine Or.inr ?_
      show (s.readQ.any isHit || (s.writeQ ++ [WOp.remove k ve]).any isUpsert) = true
      rw [List.any_append]
      simpa [isUpsert] using h1

theorem SI.push_miss {N : List AoNode} {mv : List Nat} {u : Option Nat} {d : Bool} {s : SState}
    (h : SI N mv u d s) (hp : Pend d u s) (hash : UInt64) :
    SI N mv u d { s with readQ := s.readQ ++ [.miss hash] } ∧
    Pend d u { s with readQ := s.readQ ++ [.miss hash] } := by
  refine ⟨⟨h.seg.of_eq rfl (fun _ x => x), ?_, h.wq, h.dirty, h.g, h.ku, h.mv0⟩, ?_⟩
  · intro hash' ve' ts hm
    rcases List.mem_append.mp hm with hm | hm
    · exact h.rq hash' ve' ts hm
    · simp at hm
  · intro hd
    rcases hp hd with h1 | h1
    · exact Or.inl h1
    · refine Or.inr ?_
      show ((s.readQ ++ [ROp.miss hash]).any isHit || s.writeQ.any isUpsert) = true
      rw [List.any_append]
      simpa [isHit] using h1

theorem SI.erase {N : List AoNode} {mv : List Nat} {u : Option Nat} {d : Bool} {s : SState}
    (hkn : (AL.keys s.map).Nodup) (h : SI N mv u d s) (k : Nat) :
    SI N mv u d { s with map := AL.erase s.map k } := by
  have hsub := (frame0_erase s k).mapSub hkn
  have hU : ∀ n, Unst u s n → Unst u { s with map := AL.erase s.map k } n := fun n hn => hn.mono hsub
  refine ⟨h.seg.of_eq rfl hU, h.rq, h.wq, ?_, fun n hn hk => hU n (h.g n hn hk), h.ku, h.mv0⟩
  intro k' e he hd
  exact h.dirty k' e (hsub k' e he) hd

/-- The map step of `insert`: from now on `i` is the used info. -/
theorem SI.put {N : List AoNode} {d : Bool} {s c : SState} (h : SI N [] none d s) {k i : Nat}
    {ve' : VE} (hp : c.prob = s.prob) (hrq : c.readQ = s.readQ) (hwq : c.writeQ = s.writeQ)
    (hm : c.map = AL.put s.map k ve') (hve : ve'.info = i)
    (hinf : ∀ j, j ≠ i → getInfo c j = getInfo s j) (hkey : (getInfo c i).key = k) :
    SI N [k] (some i) false c := by
  have hU : ∀ n, Unst none s n → Unst (some i) c n := by
    intro n hn
    rcases hn with hn | hn
    · cases hn
    · by_cases e : n.info = i
      · exact Or.inl (by rw [e])
      · refine Or.inr ?_
        intro x hx
        rw [hm, AL.get?_put] at hx
        by_cases ek : k = n.key
        · rw [if_pos ek] at hx
          cases hx
          rw [hve]; exact fun e' => e e'.symm
        · rw [if_neg ek] at hx
          exact hn x hx
  refine ⟨?_, ?_, ?_, ?_, ?_, ?_, fun e => by cases e⟩
  · obtain ⟨A, T, e, hs, hT, _⟩ := h.seg
    exact ⟨A, T, by rw [hp]; exact e, hs, fun n hn => hU n (hT n hn), fun e => by cases e⟩
  · rw [hrq]
    intro hash ve ts hmem
    have := h.rq hash ve ts hmem
    cases this
  · rw [hwq]
    intro key hash ve o w hmem
    have := h.wq key hash ve o w hmem
    cases this
  · intro k' e he hd
    by_cases hei : e.info = i
    · rw [hei]
    · exfalso
      rw [hinf _ hei] at hd
      rw [hm, AL.get?_put] at he
      by_cases ek : k = k'
      · rw [if_pos ek] at he
        cases he
        exact hei hve
      · rw [if_neg ek] at he
        have := h.dirty k' e he hd
        cases this
  · intro n hn hk
    simp at hk
    by_cases e : n.info = i
    · exact Or.inl (by rw [e])
    · refine Or.inr ?_
      intro x hx
      rw [hm, hk, AL.get?_put_self] at hx
      cases hx
      rw [hve]; exact fun e' => e e'.symm
  · intro j hj
    cases hj
    rw [hkey]

theorem SI.push_upsert {N : List AoNode} {mv : List Nat} {i : Nat} {d : Bool} {s : SState}
    (h : SI N mv (some i) d s) (key : Nat) (hash : UInt64) (ve : VE) (o w : Nat)
    (hve : ve.info = i) :
    SI N mv (some i) d { s with writeQ := s.writeQ ++ [.upsert key hash ve o w] } ∧
    Pend d (some i) { s with writeQ := s.writeQ ++ [.upsert key hash ve o w] } := by
  refine ⟨⟨h.seg.of_eq rfl (fun _ x => x), h.rq, ?_, h.dirty, h.g, h.ku, h.mv0⟩, ?_⟩
  · intro key' hash' ve' o' w' hm
    rcases List.mem_append.mp hm with hm | hm
    · exact h.wq key' hash' ve' o' w' hm
    · simp at hm
      rw [hm.2.2.1, hve]
  · intro _
    refine Or.inr ?_
    show (s.readQ.any isHit || (s.writeQ ++ [WOp.upsert key hash ve o w]).any isUpsert) = true
    rw [List.any_append]
    simp [isUpsert]

theorem SI.push_hit {N : List AoNode} {d : Bool} {s : SState} (h : SI N [] none d s) (k : Nat)
    (hash : UInt64) (ve : VE) (ts : Nat) (hg : ∀ e, AL.get? s.map k = some e → e = ve)
    (hkey : (getInfo s ve.info).key = k) :
    SI N [k] (some ve.info) false { s with readQ := s.readQ ++ [.hit hash ve ts] } ∧
    Pend false (some ve.info) { s with readQ := s.readQ ++ [.hit hash ve ts] } := by
  refine ⟨⟨?_, ?_, ?_, ?_, ?_, ?_, fun e => by cases e⟩, ?_⟩
  · obtain ⟨A, T, e, hs, hT, _⟩ := h.seg
    refine ⟨A, T, e, hs, fun n hn => ?_, fun e => by cases e⟩
    rcases hT n hn with h1 | h1
    · cases h1
    · exact Or.inr h1
  · intro hash' ve' ts' hm
    rcases List.mem_append.mp hm with hm | hm
    · have := h.rq hash' ve' ts' hm; cases this
    · simp at hm
      rw [hm.2.1]
  · intro key hash' ve' o w hm
    have := h.wq key hash' ve' o w hm
    cases this
  · intro k' e he hd
    have := h.dirty k' e he hd
    cases this
  · intro n hn hk
    simp at hk
    by_cases hc : ∃ e, AL.get? s.map n.key = some e ∧ e.info = n.info
    · obtain ⟨e, he, hei⟩ := hc
      rw [hk] at he
      rw [hg e he] at hei
      exact Or.inl (by rw [hei])
    · exact Or.inr (fun e he hei => hc ⟨e, he, hei⟩)
  · intro j hj
    cases hj
    show [k] = [(getInfo s ve.info).key]
    rw [hkey]
  · intro _
    refine Or.inr ?_
    show ((s.readQ ++ [ROp.hit hash ve ts]).any isHit || s.writeQ.any isUpsert) = true
    rw [List.any_append]
    simp [isHit]

theorem SI.no_use {N : List AoNode} {u : Option Nat} {d : Bool} {s : SState}
    (h : SI N [] u d s) : u = none := by
  cases hu : u with
  | none => rfl
  | some i => have := h.ku i hu; cases this

/-- The oracle's bookkeeping of a use (`Spec.recUse false`, by `rfl`: `recencyWalk_run` passes a
`WInv (useSt st k) …` for a `WInv (recStep false st …) …`). -/
def useSt (st : RecSt) (k : Nat) : RecSt :=
  { st with moved := st.moved.filter (· != k) ++ [k],
            valid := st.valid && (false || st.moved.isEmpty) }

/-- What the recency walk knows about the model state: while the segment since the last
quiescent snapshot `b` is one the rule speaks about, the segment invariant holds relative to
the access order shown in `b`. -/
def WInv (st : RecSt) (s : SState) : Prop :=
  st.valid = true → ∀ b, st.prev = some b →
    ∃ N u d, lruOrder b = N.map (·.key) ∧ (N.map (·.key)).Nodup ∧ SI N st.moved u d s ∧ Pend d u s

theorem WInv.of_eq {st : RecSt} {s t : SState} (h : WInv st s) (e1 : t.prob = s.prob)
    (e2 : t.map = s.map) (e3 : t.infos = s.infos) (e4 : t.readQ = s.readQ)
    (e5 : t.writeQ = s.writeQ) : WInv st t := by
  intro hv b hb
  obtain ⟨N, u, d, h1, h2, h3, h4⟩ := h hv b hb
  exact ⟨N, u, d, h1, h2, h3.of_eq e1 e2 e3 e4 e5, h4.of_eq e4 e5⟩

theorem WInv.sync {p : Params} (hq : NoQuirks p) {st : RecSt} {s : SState}
    (ht : TopInv Sketch.Good s) (h : WInv st s) : WInv st (syncRun p s) := by
  intro hv b hb
  obtain ⟨N, u, d, h1, h2, h3, h4⟩ := h hv b hb
  exact ⟨N, u, _, h1, h2, h3.syncRun hq ht, h4.syncRun⟩

theorem WInv.inv {p : Params} (hq : NoQuirks p) {st : RecSt} {s : SState} (hi : AInv p s)
    (h : WInv st s) (k : Nat) : WInv st (invalidate p s k) := by
  unfold invalidate
  split
  · exact h
  · rename_i ve _
    dsimp only
    rw [scheduleWriteOp_enqueues p 2 (s := { s with map := AL.erase s.map k }) (qinv_of_eq hi.q rfl rfl rfl)]
    intro hv b hb
    obtain ⟨N, u, d, h1, h2, h3, h4⟩ := h hv b hb
    have h3' := h3.erase hi.top.map.kn k
    obtain ⟨d', a1, a2⟩ := (SI.housekeep hq (H := Pend d u s) (hi.top.eraseMap k) h3'
      fun x => x.of_eq rfl rfl).1
    obtain ⟨b1, b2⟩ := a1.push_remove (a2 h4) k ve
    exact ⟨N, u, d', h1, h2, b1, b2⟩

theorem WInv.miss {p : Params} (hq : NoQuirks p) {st : RecSt} {s : SState} (hi : AInv p s)
    (h : WInv st s) (hash : UInt64) : WInv st (recordReadOp p s (.miss hash)) := by
  rw [recordReadOp_enqueues p hi.q]
  intro hv b hb
  obtain ⟨N, u, d, h1, h2, h3, h4⟩ := h hv b hb
  obtain ⟨d', a1, a2⟩ := (SI.housekeep hq (H := Pend d u s) hi.top h3 id).2
  obtain ⟨b1, b2⟩ := a1.push_miss (a2 h4) hash
  exact ⟨N, u, d', h1, h2, b1, b2⟩

theorem useSt_valid {st : RecSt} {k : Nat} (h : (useSt st k).valid = true) :
    st.valid = true ∧ st.moved = [] ∧ (useSt st k).moved = [k] := by
  unfold useSt at h ⊢
  simp only [Bool.false_or, Bool.and_eq_true, List.isEmpty_iff] at h
  refine ⟨h.1, h.2, ?_⟩
  simp [h.2]

theorem WInv.hit {p : Params} (hq : NoQuirks p) {st : RecSt} {s : SState} (hr : RInv p s)
    (h : WInv st s) (k : Nat) (hash : UInt64) (ve : VE) (ts : Nat)
    (hg : AL.get? s.map k = some ve) :
    WInv (useSt st k) (recordReadOp p s (.hit hash ve ts)) := by
  have hi := hr.ainv
  rw [recordReadOp_enqueues p hi.q]
  intro hv b hb
  obtain ⟨v1, v2, v3⟩ := useSt_valid hv
  obtain ⟨N, u, d, h1, h2, h3, h4⟩ := h v1 b hb
  rw [v2] at h3
  have hu := h3.no_use
  subst hu
  obtain ⟨d', a1, _⟩ := (SI.housekeep hq (H := False) hi.top h3 False.elim).2
  have hf := housekeepR_frame hq s
  have hg' : ∀ e, AL.get? (housekeepR p s).map k = some e → e = ve := by
    intro e he
    have := hf.mapSub hi.top.map.kn k e he
    rw [hg] at this
    exact (Option.some.inj this).symm
  have hkey : (getInfo (housekeepR p s) ve.info).key = k := by
    rw [hf.key]; exact hr.key.map k ve hg
  obtain ⟨b1, b2⟩ := a1.push_hit k hash ve ts hg' hkey
  rw [v3]
  exact ⟨N, some ve.info, false, h1, h2, b1, b2⟩

theorem WInv.getOp {p : Params} (hq : NoQuirks p) {st : RecSt} {s : SState} (hr : RInv p s)
    (h : WInv st s) (k : Nat) :
    ((get p s k).2 = none → WInv st (get p s k).1) ∧
    (∀ v, (get p s k).2 = some v → WInv (useSt st k) (get p s k).1) := by
  rw [ConcS.get_fst_eq, ConcS.get_snd_eq]
  rcases ConcS.lookup_cases p s k with ⟨e, _⟩ | ⟨ve, hg, _, e⟩
  · rw [e]
    exact ⟨fun _ => h.miss hq hr.ainv _, fun v e => by cases e⟩
  · rw [e]
    exact ⟨(fun e => by cases e), fun v _ => h.hit hq hr k _ ve _ hg⟩

theorem WInv.ins {p : Params} (hq : NoQuirks p) {st : RecSt} {s : SState}
    (hr : RInv p s) (h : WInv st s) (k v : Nat) : WInv (useSt st k) (insert p s k v) := by
  have hi := hr.ainv
  intro hv b hb
  obtain ⟨v1, v2, v3⟩ := useSt_valid hv
  obtain ⟨N, u, d, h1, h2, h3, _⟩ := h v1 b hb
  rw [v2] at h3
  have hu := h3.no_use
  subst hu
  rw [v3]
  obtain ⟨ve, o, e, hc⟩ := insertMap_step p s k v
  rw [ConcS.insert_eq, e, scheduleWriteOp_enqueues p 2 (ConcS.insertMap_qinv hi.q k v)]
  have hsi : SI N [k] (some ve.info) false (ConcS.insertMap p s k v).1 :=
    h3.put hc.prob hc.readQ hc.writeQ hc.map rfl hc.other (hc.key hr.key.map)
  obtain ⟨d', a1, _⟩ := (SI.housekeep hq (H := False) (insertMap_top hi.top k v) hsi False.elim).1
  obtain ⟨b1, b2⟩ := a1.push_upsert k (p.hash k) ve o (p.weigh k v) rfl
  exact ⟨N, some ve.info, d', h1, h2, b1, b2⟩

theorem le_one_of_same {α β : Type} (f : α → β) {T : List α} (hn : (T.map f).Nodup)
    (hsame : ∀ a, a ∈ T → ∀ b, b ∈ T → f a = f b) : T = [] ∨ ∃ n, T = [n] := by
  match T, hn, hsame with
  | [], _, _ => exact Or.inl rfl
  | [n], _, _ => exact Or.inr ⟨n, rfl⟩
  | n :: m :: rest, hn, hsame =>
    exfalso
    simp only [List.map_cons, List.nodup_cons, List.mem_cons] at hn
    exact hn.1 (Or.inl (hsame n List.mem_cons_self m (List.mem_cons_of_mem _ List.mem_cons_self)))

/-- The recency rule at a quiescent snapshot.  The order is `A ++ T` (`SI.seg`).  All nodes being
current, `T` holds only nodes of the used info, hence at most one (`info_inj`); `A`, a sublist of
the reference order `N`, holds no node of the used key once the use is applied (`SI.g`,
`d = true`), and with empty queues it is applied (`Pend`).  The rest is the algebra of `expOrd`. -/
theorem final_order {N : List AoNode} {mv : List Nat} {u : Option Nat} {d : Bool} {s : SState}
    (hnc : NodesCore s) (hkp : KP s) (hN : (N.map (·.key)).Nodup) (h : SI N mv u d s)
    (hp : Pend d u s) (hr : s.readQ = []) (hw : s.writeQ = []) (hcur : AllCur s s.prob) :
    s.prob.map (·.key) = expOrd (N.map (·.key)) (s.prob.map (·.key)) mv := by
  obtain ⟨A, T, e, hs, hT, hA⟩ := h.seg
  have hcurN : ∀ n, n ∈ s.prob → ¬ NonCur s n := fun n hn hnc' =>
    let ⟨x, hx, hxi⟩ := hcur n hn; hnc' x hx hxi
  have hTu : ∀ n, n ∈ T → some n.info = u := fun n hn =>
    (hT n hn).resolve_right (hcurN n (by rw [e]; exact List.mem_append_right _ hn))
  -- the survivors alone are in the reference order
  have hAo : A.map (·.key) = expOrd (N.map (·.key)) (A.map (·.key)) [] :=
    expOrd_sub (expOrd_refl _) hN (hs.map _)
  cases hu : u with
  | none =>
    have hT0 : T = [] := by
      cases hTl : T with
      | nil => rfl
      | cons n rest =>
        have := hTu n (by rw [hTl]; exact List.mem_cons_self)
        rw [hu] at this; cases this
    rw [h.mv0 hu, e, hT0, List.append_nil]
    exact hAo
  | some i =>
    have hdt : d = true := by
      cases hdd : d with
      | true => rfl
      | false =>
        rcases hp hdd with h1 | h1
        · rw [hu] at h1; cases h1
        · rw [hr, hw] at h1; cases h1
    have hmv := h.ku i hu
    generalize hk : (getInfo s i).key = k at hmv
    have hTk : ∀ n, n ∈ T → n.key = k := by
      intro n hn
      have hni : n.info = i := Option.some.inj ((hTu n hn).trans hu)
      rw [← hk, ← hni]
      exact (hkp n (by rw [e]; exact List.mem_append_right _ hn)).symm
    have hkA : k ∉ A.map (·.key) := by
      intro hin
      obtain ⟨m, hm, hmk⟩ := List.mem_map.mp hin
      have hmp : m ∈ s.prob := by rw [e]; exact List.mem_append_left _ hm
      rcases h.g m hmp (by rw [hmv]; simp; exact hmk) with h1 | h1
      · exact hA hdt m hm (by rw [hu] at h1 ⊢; exact h1)
      · exact hcurN m hmp h1
    have hT1 : T = [] ∨ ∃ n, T = [n] := by
      have hnd := hnc.probIds
      rw [e, List.map_append] at hnd
      refine le_one_of_same (·.id) (List.nodup_append.mp hnd).2.1 (fun a ha b hb => ?_)
      exact hnc.info_inj (by rw [e]; exact List.mem_append_right _ ha)
        (by rw [e]; exact List.mem_append_right _ hb)
        (Option.some.inj ((hTu a ha).trans (hTu b hb).symm))
    have hmv' : mv = useKey [] k := hmv
    rw [hmv', e, List.map_append]
    rcases hT1 with h0 | ⟨n, h1⟩
    · rw [h0, List.map_nil, List.append_nil]
      exact expOrd_use_absent hAo hkA
    · rw [h1, List.map_cons, List.map_nil, hTk n (by rw [h1]; exact List.mem_cons_self)]
      have := expOrd_use hAo k
      rwa [filter_ne_self hkA] at this

theorem WInv.reset {p : Params} {s : SState} (hr : RInv p s)
    (hq : quiescent (snapshot p s) = true) :
    WInv { prev := some (snapshot p s) } s := by
  simp only [quiescent, Bool.and_eq_true, beq_iff_eq] at hq
  obtain ⟨⟨hrq, hwq⟩, hcur⟩ := hq
  have hr0 : s.readQ = [] := List.length_eq_zero_iff.mp hrq
  have hw0 : s.writeQ = [] := List.length_eq_zero_iff.mp hwq
  have hnc := hr.ainv.top.nodes.toNodesCore
  intro _ b hb
  cases hb
  refine ⟨s.prob, none, true, lruOrder_snapshot p s,
    prob_keys_nodup hnc (allCur_of_snapshot hcur), ?_, fun h => by cases h⟩
  refine ⟨⟨s.prob, [], by simp, List.Sublist.refl _, (fun _ h => by cases h),
    fun _ _ _ e => by cases e⟩, ?_, ?_, ?_, ?_, (fun _ e => by cases e), fun _ => rfl⟩
  · rw [hr0]; intro _ _ _ hm; cases hm
  · rw [hw0]; intro _ _ _ _ _ hm; cases hm
  · intro k e he hd
    rcases hr.gd k e he hd with ⟨_, _, _, _, _, hm, _⟩ | h1
    · rw [hw0] at hm; cases hm
    · exact h1
  · intro n _ hk; cases hk

theorem WInv.check {p : Params} {st : RecSt} {s : SState} (hr : RInv p s) (h : WInv st s)
    (hq : quiescent (snapshot p s) = true) :
    (match st.prev with
     | some b => !st.valid || lruOrder (snapshot p s) == expectedOrder b (snapshot p s) st.moved
     | none => true) = true := by
  cases hb : st.prev with
  | none => rfl
  | some b =>
    dsimp only
    cases hv : st.valid with
    | false => rfl
    | true =>
      simp only [Bool.not_true, Bool.false_or, beq_iff_eq]
      obtain ⟨N, u, d, h1, h2, h3, h4⟩ := h hv b hb
      simp only [quiescent, Bool.and_eq_true, beq_iff_eq] at hq
      obtain ⟨⟨hrq, hwq⟩, hcur⟩ := hq
      have hr0 : s.readQ = [] := List.length_eq_zero_iff.mp hrq
      have hw0 : s.writeQ = [] := List.length_eq_zero_iff.mp hwq
      have := final_order hr.ainv.top.nodes.toNodesCore hr.key.prob h2 h3 h4 hr0 hw0
        (allCur_of_snapshot hcur)
      unfold expectedOrder
      dsimp only
      rw [lruOrder_snapshot, h1]
      exact this

/-- The recency walk over a model trace, started anywhere: every quiescent snapshot passes
(`WInv.check`) and starts a new segment (`WInv.reset`). -/
theorem recencyWalk_run {p : Params} (hq : NoQuirks p) (hsm : SmallSketch p) (h : List Op)
    (s : SState) (st : RecSt) (hr : RInv p s) (hw : WInv st s) :
    recencyWalk false st (run p s h) = true := by
  refine (recencyWalk_refWalk false).run (isRun p) (C := fun _ s st => RInv p s ∧ WInv st s)
    (fun s st op _ ⟨hr, hw⟩ => Or.inr ?_) h s st ⟨hr, hw⟩
  have hr1 := (rinv_stepInv hq hsm).state hr op
  rw [(rinv_stepInv hq hsm).eq s op hr]
  cases op with
  | ins k v => exact ⟨rfl, hr1, hw.ins hq hr k v⟩
  | get k =>
    obtain ⟨g1, g2⟩ := hw.getOp hq hr k
    show recChk st (.get k) (.val (get p s k).2) = true ∧ RInv p (get p s k).1 ∧
      WInv (recStep false st (.get k) (.val (get p s k).2)) (get p s k).1
    cases hg : (get p s k).2 with
    | none => exact ⟨rfl, hr1, g1 hg⟩
    | some v => exact ⟨rfl, hr1, g2 v hg⟩
  | has k => exact ⟨rfl, hr1, hw⟩
  | iter => exact ⟨rfl, hr1, hw⟩
  | inv k => exact ⟨rfl, hr1, hw.inv hq hr.ainv k⟩
  | invAll => exact ⟨rfl, hr1, hw.of_eq rfl rfl rfl rfl rfl⟩
  | invIf pr => exact ⟨rfl, hr1, hw⟩
  | sync => exact ⟨rfl, hr1, hw.sync hq hr.ainv.top⟩
  | adv d => exact ⟨rfl, hr1, hw.of_eq rfl rfl rfl rfl rfl⟩
  | snap =>
    show recChk st .snap (.snap (snapshot p s)) = true ∧ RInv p s ∧
      WInv (recStep false st .snap (.snap (snapshot p s))) s
    unfold recChk recStep
    dsimp only
    by_cases hqs : quiescent (snapshot p s) = true
    · rw [if_pos hqs, if_pos hqs]
      exact ⟨hw.check hr hqs, hr, WInv.reset hr hqs⟩
    · rw [if_neg hqs, if_neg hqs]
      exact ⟨rfl, hr, hw⟩
  | freq k => exact ⟨rfl, hr1, hw⟩

/-- **C12, recency on traces** (one-thread model of `sync::Cache`). -/
theorem recencyC12_trace {p : Params} (hq : NoQuirks p) (hsm : SmallSketch p) (h : List Op) :
    recencyC12 .sync (trace p h) = true := by
  unfold recencyC12 trace
  exact recencyWalk_run hq hsm h {} {} (init_rinv p)
    (fun _ b hb => by cases hb)

/-- **C12 on traces** (one-thread model of `sync::Cache`): the admission windows and the
recency walk. -/
theorem oracleC12_trace {p : Params} (hq : NoQuirks p) (hsm : SmallSketch p) (batch : Nat)
    (h : List Op) :
    oracleC12 .sync p.cap p.ttl p.tti p.weigh batch (trace p h) = true := by
  unfold oracleC12
  cases hcap : p.cap with
  | none => exact recencyC12_trace hq hsm h
  | some cap =>
    dsimp only
    rw [Bool.and_eq_true]
    refine ⟨?_, recencyC12_trace hq hsm h⟩
    unfold trace
    exact admitC13Sync_run hq hsm hcap _ ⟨{}, h, init_ainv p, rfl⟩

theorem get_sync_order {p : Params} (hq : NoQuirks p) (hsm : SmallSketch p) {s : SState}
    (hr : RInv p s) (hqs : quiescent (snapshot p s) = true) (k v : Nat)
    (hv : (get p s k).2 = some v)
    (hqs' : quiescent (snapshot p (syncRun p (get p s k).1)) = true) :
    lruOrder (snapshot p (syncRun p (get p s k).1)) =
      expectedOrder (snapshot p s) (snapshot p (syncRun p (get p s k).1)) [k] := by
  have h0 := WInv.reset hr hqs
  have h1 := (h0.getOp hq hr k).2 v hv
  have hr1 : RInv p (get p s k).1 := (rinv_stepInv hq hsm).state hr (.get k)
  have h2 := h1.sync hq (p := p) hr1.ainv.top
  have hr2 : RInv p (syncRun p (get p s k).1) := (rinv_stepInv hq hsm).state hr1 .sync
  have := h2.check hr2 hqs'
  simpa [useSt] using this

theorem insert_sync_order {p : Params} (hq : NoQuirks p) (hsm : SmallSketch p) {s : SState}
    (hr : RInv p s) (hqs : quiescent (snapshot p s) = true) (k v : Nat)
    (hqs' : quiescent (snapshot p (syncRun p (insert p s k v))) = true) :
    lruOrder (snapshot p (syncRun p (insert p s k v))) =
      expectedOrder (snapshot p s) (snapshot p (syncRun p (insert p s k v))) [k] := by
  have h0 := WInv.reset hr hqs
  have h1 := h0.ins hq hr k v
  have hr1 : RInv p (insert p s k v) := (rinv_stepInv hq hsm).state hr (.ins k v)
  have h2 := h1.sync hq (p := p) hr1.ainv.top
  have hr2 : RInv p (syncRun p (insert p s k v)) := (rinv_stepInv hq hsm).state hr1 .sync
  have := h2.check hr2 hqs'
  simpa [useSt] using this

end Admit
end Sync
end MiniMoka
