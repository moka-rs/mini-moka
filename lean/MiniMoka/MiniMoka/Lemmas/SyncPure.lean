/-
  The concurrent cache's traces are runs of its step function (`Sync.isRun`), and its
  observations `has`, `iter`, `snap`, `freq` do not change the state at all, so they can be added
  to or removed from a history without changing anything else (C15).
-/
import MiniMoka.Sync
import MiniMoka.Lemmas.IsRun

namespace MiniMoka

theorem Sync.isRun (p : Params) : IsRun (Sync.step p) (Sync.run p) := ⟨fun _ => rfl, fun _ _ _ => rfl⟩

/-- The observations of the concurrent cache that C15 is about (plus the two harness hooks). -/
def isPure : Op → Bool
  | .has _ => true
  | .iter => true
  | .snap => true
  | .freq _ => true
  | _ => false

namespace Sync

theorem step_pure (p : Params) (s : SState) (op : Op) (h : isPure op = true) :
    (step p s op).1 = s := by
  unfold step
  split
  · rfl
  · cases op <;> first
      | (exact absurd h Bool.false_ne_true)
      | (dsimp only; split <;> rfl)

theorem run_filter_pure (p : Params) (h : List Op) (s : SState) :
    (run p s h).filter (fun oo => !isPure oo.1) = run p s (h.filter (fun op => !isPure op)) :=
  (isRun p).filter (fun op => !isPure op)
    (fun s op hx => step_pure p s op (by simpa using hx)) h s

end Sync

end MiniMoka
