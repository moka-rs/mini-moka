/-
  What the start-of-operation maintenance of the unsync model may remove: only expired
  entries, unless the cache is over capacity.  An insert of a new key that fits evicts nothing
  (`Admit.insert_hasroom`, with the recency order after it, for `UnsyncRecency`, `Props/C12`,
  `Props/C13`).
-/
import MiniMoka.Lemmas.UnsyncLookup

namespace MiniMoka
namespace Unsync

/- `maintain p s` is a state like any other here (see the note in `UnsyncOps`). -/
attribute [local irreducible] maintain

def Dropped (s s' : UState) (k : Nat) (e : UEntry) : Prop :=
  AL.get? s.map k = some e ∧ AL.get? s'.map k = none

theorem removeExpiredWo_only_expired {p : Params} (hq : NoQuirks p) (fuel : Nat) :
    ∀ (s : UState) (c w : Nat), Struct p s → ∀ k e,
      Dropped s (removeExpiredWo p fuel s c w).1 k e →
      expiredAt p.ttl (entryLm s e) s.now = true := by
  have hd4 : p.q.d4 = false := by rw [hq]
  induction fuel with
  | zero => intro s c w _ k e ⟨h1, h2⟩; simp [removeExpiredWo, h1] at h2
  | succ fuel ih =>
    intro s c w hs k e ⟨h1, h2⟩
    unfold removeExpiredWo at h2
    cases hp : s.wo with
    | nil => simp [hp, h1] at h2
    | cons n rest =>
      simp only [hp] at h2
      by_cases hx : expiredAt p.ttl n.ts s.now = true
      · simp only [hx, if_true] at h2
        obtain ⟨e0, he0, hwo0⟩ := hs.woBack n (by rw [hp]; exact List.mem_cons_self)
        simp only [he0, hd4] at h2
        obtain ⟨hs', hto, _⟩ := takeOut_spec hs he0 (by simp)
        by_cases hk : n.key = k
        · -- this is the entry removed now: its write-order node is `n`
          subst hk
          rw [h1] at he0; cases he0
          have hfind := findWo_of_mem hs.woIds (show n ∈ s.wo by rw [hp]; exact List.mem_cons_self)
          simp [entryLm, hwo0, hfind, hx]
        · have h1' : AL.get? (takeOut s n.key e0).map k = some e := by
            rw [hto.map, AL.get?_erase_ne hk]; exact h1
          have := ih _ _ _ hs' k e ⟨h1', h2⟩
          rw [hto.shrinks.lm k e h1', hto.env.now] at this
          exact this
      · simp [hx, h1] at h2

theorem removeExpiredAo_only_expired {p : Params} (fuel : Nat) :
    ∀ (s : UState) (c w : Nat), Struct p s → ∀ k e,
      Dropped s (removeExpiredAo p fuel s c w).1 k e →
      expiredAt p.tti (entryLa s e) s.now = true := by
  induction fuel with
  | zero => intro s c w _ k e ⟨h1, h2⟩; simp [removeExpiredAo, h1] at h2
  | succ fuel ih =>
    intro s c w hs k e ⟨h1, h2⟩
    unfold removeExpiredAo at h2
    cases hp : s.prob with
    | nil => simp [hp, h1] at h2
    | cons n rest =>
      simp only [hp] at h2
      by_cases hx : expiredAt p.tti n.ts s.now = true
      · simp only [hx, if_true] at h2
        obtain ⟨e0, he0, hao0⟩ := hs.aoBack n (by rw [hp]; exact List.mem_cons_self)
        simp only [he0] at h2
        obtain ⟨hs', hto, _⟩ := takeOut_spec hs he0 (by simp)
        by_cases hk : n.key = k
        · subst hk
          rw [h1] at he0; cases he0
          have hfind := findAo_of_mem hs.probIds (show n ∈ s.prob by rw [hp]; exact List.mem_cons_self)
          simp [entryLa, hao0, hfind, hx]
        · have h1' : AL.get? (takeOut s n.key e0).map k = some e := by
            rw [hto.map, AL.get?_erase_ne hk]; exact h1
          have := ih _ _ _ hs' k e ⟨h1', h2⟩
          rw [hto.shrinks.la k e h1', hto.env.now] at this
          exact this
      · simp [hx, h1] at h2

theorem purgeWo_only_expired {p : Params} (hq : NoQuirks p) {s : UState} (hs : Struct p s)
    (k : Nat) (e : UEntry) (hd : Dropped s (purgeWo p s) k e) :
    expiredAt p.ttl (entryLm s e) s.now = true := by
  unfold purgeWo at hd
  split at hd
  · exact removeExpiredWo_only_expired hq _ s 0 0 hs k e ⟨hd.1, settleR_map _ ▸ hd.2⟩
  · cases hd.1.symm.trans hd.2

theorem purgeAo_only_expired {p : Params} {s : UState} (hs : Struct p s)
    (k : Nat) (e : UEntry) (hd : Dropped s (purgeAo p s) k e) :
    expiredAt p.tti (entryLa s e) s.now = true := by
  unfold purgeAo at hd
  split at hd
  · exact removeExpiredAo_only_expired _ s 0 0 hs k e ⟨hd.1, settleR_map _ ▸ hd.2⟩
  · cases hd.1.symm.trans hd.2

/-- `evict_expired` drops only expired entries: an entry that survived the write-order pass and
not the access-order pass has the access time it had. -/
theorem evictExpired_only_expired {p : Params} (hq : NoQuirks p) {s : UState} (hi : InvU p s)
    (k : Nat) (e : UEntry) (hd : Dropped s (evictExpired p s) k e) :
    isExpiredEntry p s e s.now = true := by
  rw [evictExpired_eq] at hd
  simp only [isExpiredEntry, Bool.or_eq_true]
  obtain ⟨hi1, hsh1, ha1⟩ := purgeWo_spec hq hi
  cases hg : AL.get? (purgeWo p s).map k with
  | none => exact Or.inl (purgeWo_only_expired hq hi.struct k e ⟨hd.1, hg⟩)
  | some e1 =>
    obtain rfl : e1 = e := Option.some.inj ((hsh1.sub k e1 hg).symm.trans hd.1)
    have := purgeAo_only_expired hi1.struct k e1 ⟨hg, hd.2⟩
    rw [hsh1.la k e1 hg, ha1.now] at this
    exact Or.inr this

/-- Not over capacity, the size eviction has nothing to do. -/
theorem maintain_only_expired {P : Sketch → Prop} {p : Params} (hq : NoQuirks p) {s : UState}
    (hi : Inv P p s) (hfit : ∀ c, p.cap = some c → s.ws ≤ c) (k : Nat) (e : UEntry)
    (hd : Dropped s (maintain p s) k e) : isExpiredEntry p s e s.now = true := by
  obtain ⟨h1, h2⟩ := hd
  have hnoevict : ∀ t : UState, t.ws ≤ s.ws → evictLru p t = t := by
    intro t ht
    apply evictLru_noop
    unfold weightsToEvict
    cases hc : p.cap with
    | none => rfl
    | some c => have := hfit c hc; simp; omega
  unfold maintain evictExpiredIfNeeded at h2
  split at h2
  · obtain ⟨he1, he2, _⟩ := evictExpired_spec hq hi.inv
    rw [hnoevict _ (by
      rw [he1.counted.ws, hi.inv.counted.ws]
      exact totalW_le_of_sub _ _ he1.struct.keysNodup he2.sub)] at h2
    exact evictExpired_only_expired hq hi.inv k e ⟨h1, h2⟩
  · rw [hnoevict s (Nat.le_refl _), h1] at h2; cases h2

theorem kept_by_maintain {P : Sketch → Prop} {p : Params} (hq : NoQuirks p) {s : UState}
    (hi : Inv P p s) (hfit : ∀ c, p.cap = some c → s.ws ≤ c) {k : Nat} {e : UEntry}
    (he : AL.get? s.map k = some e) (hx : isExpiredEntry p s e s.now = false) :
    AL.get? (maintain p s).map k = some e ∧
      isExpiredEntry p (maintain p s) e (maintain p s).now = false := by
  obtain ⟨_, h2, h3⟩ := maintain_spec hq hi.inv
  have hk : AL.get? (maintain p s).map k = some e := by
    cases h : AL.get? (maintain p s).map k with
    | none =>
      have := maintain_only_expired hq hi hfit k e ⟨he, h⟩
      rw [hx] at this; cases this
    | some e' =>
      have := h2.sub k e' h
      rw [he] at this
      rw [Option.some.inj this]
  refine ⟨hk, ?_⟩
  simp only [isExpiredEntry, h2.la k e hk, h2.lm k e hk, h3.now]
  exact hx

theorem insert_new_eq {p : Params} {s : UState} {k v : Nat}
    (hnew : AL.get? (maintain p s).map k = none) :
    insert p s k v =
      handleInsert p { maintain p s with
          map := AL.put (maintain p s).map k { val := v, weight := p.weigh k v } }
        k (p.hash k) (p.weigh k v) (opTs p (maintain p s)) := by
  rcases insertCore_cases p (maintain p s) k v with ⟨old, hg, _⟩ | ⟨_, h⟩
  · rw [hnew] at hg
    cases hg
  · exact h

/- `Admit` is the namespace of `UnsyncAdmit`, which continues from this lemma. -/
namespace Admit

/-- The node pushed for a candidate `k` by an insert into `s1` (the state after maintenance). -/
def candNode (p : Params) (s1 : UState) (k : Nat) : AoNode :=
  { id := s1.nextId, key := k, hash := p.hash k, ts := opTs p s1 }

theorem insert_hasroom {p : Params} (hq : NoQuirks p) {s : UState} (hi : InvU p s) (k v : Nat)
    (hnew : AL.get? (maintain p s).map k = none)
    (hfit : hasEnoughCapacity p (p.weigh k v) (maintain p s).ws = true) :
    (∃ e, AL.get? (insert p s k v).map k = some e ∧ e.val = v ∧ e.weight = p.weigh k v) ∧
    (∀ k', k' ≠ k → AL.get? (insert p s k v).map k' = AL.get? (maintain p s).map k') ∧
    (insert p s k v).prob = (maintain p s).prob ++ [candNode p (maintain p s) k] := by
  obtain ⟨h1, _, _⟩ := maintain_spec hq hi
  rw [insert_new_eq hnew]
  generalize maintain p s = s1 at *
  rcases handleInsert_new h1 (v := v) (opTs p s1) hnew with ⟨_, h⟩ | ⟨hno, _⟩
  · have ha := admitCore_spec h1 v hnew (opTs p s1) 0
    obtain ⟨m1, m2, _, _⟩ :=
      maybeEnableSketch_frame p (admitCore p s1 k v (opTs p s1) (s1.prob.take 0))
    obtain ⟨e, he, hv, hw, _⟩ := ha.entry
    rw [h, m1, m2, ha.prob]
    exact ⟨⟨e, he, hv, hw⟩, fun k' hne => (ha.others k' hne).trans (if_neg List.not_mem_nil), rfl⟩
  · rw [hfit] at hno; cases hno

end Admit

theorem insert_hasroom_keeps {P : Sketch → Prop} {p : Params} (hq : NoQuirks p)
    {s : UState} (hi : Inv P p s) (k v : Nat)
    (hnew : AL.get? (maintain p s).map k = none)
    (hfit : hasEnoughCapacity p (p.weigh k v) (maintain p s).ws = true) :
    (∃ e, AL.get? (insert p s k v).map k = some e ∧ e.val = v) ∧
    (∀ k' e', AL.get? (maintain p s).map k' = some e' →
      ∃ e'', AL.get? (insert p s k v).map k' = some e'' ∧ e''.val = e'.val) := by
  obtain ⟨⟨e, he, hv, _⟩, hmap, _⟩ := Admit.insert_hasroom hq hi.inv k v hnew hfit
  refine ⟨⟨e, he, hv⟩, fun k' e' h => ⟨e', ?_, rfl⟩⟩
  rw [hmap k' fun ek => by rw [ek, hnew] at h; cases h]
  exact h

end Unsync
end MiniMoka
