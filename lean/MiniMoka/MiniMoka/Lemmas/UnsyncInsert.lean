/-
  `handle_update` and `handle_insert` of the unsync model under the invariant.  An update is two
  touches and a weight adjustment.  The victim aggregation is `scanLen` of `Lemmas/Prefix.lean`
  (`Admit.admitLoop_scan`, closed formula `Admit.admitLoop_closed`), so an insert of a new key
  leaves the cache as it was or takes a prefix of the recency order out (`removeVictims_spec`) and
  gives the key its nodes (`pushCandidate`, described by `Pushed`); `handleInsert_new` is the
  four-way statement.  The accepting branch is described once, field by field (`Admitted`,
  `admitCore_spec`), for the invariant here and for `UnsyncAdmit`, `UnsyncNoLoss`, `UnsyncLookup`.
-/
import MiniMoka.Lemmas.UnsyncOps
import MiniMoka.Lemmas.Prefix

namespace MiniMoka
namespace Unsync

theorem struct_put_same_links {p : Params} {pend : Option Nat} {s : UState} {k : Nat}
    {old e : UEntry} (hs : StructP p pend s) (hk : AL.get? s.map k = some old)
    (hao : e.ao = old.ao) (hwo : e.wo = old.wo) :
    StructP p pend { s with map := AL.put s.map k e } := by
  have hmem := AL.mem_keys_of_get? hk
  refine ⟨?_, hs.probIds, hs.woIds, ?_, ?_, ?_, ?_, ?_, hs.freshAo, hs.freshWo, hs.noFault⟩
  · simp only; rw [AL.keys_put_of_mem e hmem]; exact hs.keysNodup
  · intro k' e' hk' hp
    simp only at hk'
    rw [AL.get?_put] at hk'
    by_cases hkk : k = k'
    · subst hkk
      simp at hk'; subst hk'
      rw [hao]; exact hs.aoLink k old hk hp
    · simp [hkk] at hk'; exact hs.aoLink k' e' hk' hp
  · intro n hn
    obtain ⟨e2, h1, h2⟩ := hs.aoBack n hn
    simp only
    rw [AL.get?_put]
    by_cases hkk : k = n.key
    · rw [← hkk, hk] at h1; cases h1
      exact ⟨e, by simp [hkk], by rw [hao]; exact h2⟩
    · exact ⟨e2, by simp [hkk, h1], h2⟩
  · intro k' e' hk' hp
    simp only at hk'
    rw [AL.get?_put] at hk'
    by_cases hkk : k = k'
    · subst hkk
      simp at hk'; subst hk'
      rw [hwo]; exact hs.woLink k old hk hp
    · simp [hkk] at hk'; exact hs.woLink k' e' hk' hp
  · intro n hn
    obtain ⟨e2, h1, h2⟩ := hs.woBack n hn
    simp only
    rw [AL.get?_put]
    by_cases hkk : k = n.key
    · rw [← hkk, hk] at h1; cases h1
      exact ⟨e, by simp [hkk], by rw [hwo]; exact h2⟩
    · exact ⟨e2, by simp [hkk, h1], h2⟩
  · intro kp hkp
    obtain ⟨ep, h1, h2⟩ := hs.pendIn kp hkp
    simp only
    rw [AL.get?_put]
    by_cases hkk : k = kp
    · subst hkk
      rw [hk] at h1; cases h1
      exact ⟨e, by simp, by rw [hao, hwo]; exact h2⟩
    · exact ⟨ep, by simp [hkk, h1], h2⟩

/-- In a well-structured state an entry has an access-order node, and a write-order node exactly
when there is a time-to-live, so `handle_update` is two touches and a weight adjustment. -/
theorem handleUpdate_touch {p : Params} {s : UState} {k : Nat} {old entry : UEntry}
    (hs : Struct p s) (hk : AL.get? s.map k = some old) (ts : Option Nat) (weight : Nat) :
    ∃ id n, old.ao = some id ∧ findAo s.prob id = some n ∧ n.key = k ∧
    handleUpdate p { s with map := AL.put s.map k entry } k ts weight old =
      (let e : UEntry := { entry with ao := old.ao, wo := old.wo, weight := weight }
       let s2 := touchAo { s with map := AL.put s.map k e } id ts
       let s3 := match old.wo with
         | some wid => touchWo s2 wid ts
         | none => s2
       { s3 with ws := s3.ws - old.weight + weight }) ∧
    (old.wo = none → p.ttl.isSome = false) ∧
    (∀ wid, old.wo = some wid → p.ttl.isSome = true ∧ ∃ wn, findWo s.wo wid = some wn) := by
  obtain ⟨id, n, hao, hf, hnk⟩ := hs.aoLink k old hk (by simp)
  refine ⟨id, n, hao, hf, hnk, ?_⟩
  have hwl := hs.woLink k old hk (by simp)
  unfold handleUpdate
  simp only [AL.get?_put_self, AL.put_put]
  cases httl : p.ttl.isSome with
  | false =>
    have hwo : old.wo = none := hwl.2 httl
    rw [hwo]
    refine ⟨?_, fun _ => rfl, fun _ h => nomatch h⟩
    cases ts with
    | none =>
      simp [hao, moveToBackAoE, hf, touchAo]
    | some t =>
      have : findAo (setTsAo s.prob id t) id = some { n with ts := some t } := by
        rw [findAo_setTsAo]; simp [hf]
      simp [hao, moveToBackAoE, this, touchAo]
  | true =>
    obtain ⟨wid, wn, hwo, hwf, hwk⟩ := hwl.1 httl
    rw [hwo]
    refine ⟨?_, fun h => (nomatch h), fun _ h => ⟨rfl, wn, Option.some.inj h ▸ hwf⟩⟩
    cases ts with
    | none =>
      simp [hao, moveToBackAoE, hf, touchAo, moveToBackWoE, hwf, touchWo]
    | some t =>
      have h1 : findAo (setTsAo s.prob id t) id = some { n with ts := some t } := by
        rw [findAo_setTsAo]; simp [hf]
      have h2 : findWo (setTsWo s.wo wid t) wid = some { wn with ts := some t } := by
        rw [findWo_setTsWo]; simp [hwf]
      simp [hao, moveToBackAoE, h1, touchAo, moveToBackWoE, h2, touchWo]

theorem handleUpdate_inv {P : Sketch → Prop} {p : Params} {s : UState} {k v : Nat} {old : UEntry}
    (hi : Inv P p s) (hk : AL.get? s.map k = some old) (ts : Option Nat) :
    Inv P p (handleUpdate p { s with map := AL.put s.map k { val := v, weight := p.weigh k v } }
      k ts (p.weigh k v) old) := by
  obtain ⟨id, n, hao, hf, hnk, heq, _, _⟩ := handleUpdate_touch
    (entry := { val := v, weight := p.weigh k v }) hi.inv.struct hk ts (p.weigh k v)
  rw [heq]
  dsimp only
  generalize he : ({ val := v, weight := p.weigh k v, ao := old.ao, wo := old.wo } : UEntry) = e
  have hew : e.weight = p.weigh k v := by rw [← he]
  have hev : e.val = v := by rw [← he]
  have hs2 := touchAo_struct (struct_put_same_links (e := e) hi.inv.struct hk (by rw [← he])
    (by rw [← he])) id ts
  have hold := weight_le_totalW hk
  have htw := totalW_put_some e hk
  have hws := hi.inv.counted.ws
  -- the touches leave the map and the counters alone
  suffices hs3 : Struct p (match old.wo with
      | some wid => touchWo (touchAo { s with map := AL.put s.map k e } id ts) wid ts
      | none => touchAo { s with map := AL.put s.map k e } id ts) by
    refine hi.of_aux ⟨structP_congr hs3 rfl rfl rfl rfl rfl, ⟨?_, ?_, ?_⟩⟩ ?_ ?_ <;>
      cases old.wo <;> simp only [touchAo, touchWo]
    · rw [AL.length_put_of_some e hk]; exact hi.inv.counted.ec
    · rw [AL.length_put_of_some e hk]; exact hi.inv.counted.ec
    · omega
    · omega
    all_goals exact weights_put hi.inv.counted.weights (by rw [hew, hev])
  cases old.wo with
  | none => exact hs2
  | some wid => exact touchWo_struct hs2 wid ts

theorem struct_put_pending {p : Params} {s : UState} {k : Nat} {entry : UEntry}
    (hs : Struct p s) (hk : AL.get? s.map k = none) (hao : entry.ao = none)
    (hwo : entry.wo = none) :
    StructP p (some k) { s with map := AL.put s.map k entry } := by
  refine ⟨AL.nodup_put k entry hs.keysNodup, hs.probIds, hs.woIds, ?_, ?_, ?_, ?_, ?_,
    hs.freshAo, hs.freshWo, hs.noFault⟩
  · intro k' e' hk' hp
    simp only at hk'
    have hkk : k ≠ k' := fun e => hp (by rw [e])
    rw [AL.get?_put_ne entry hkk] at hk'
    exact hs.aoLink k' e' hk' (by simp)
  · intro n hn
    obtain ⟨e2, h1, h2⟩ := hs.aoBack n hn
    have hkk : k ≠ n.key := fun e => by rw [e, h1] at hk; cases hk
    exact ⟨e2, by simp only; rw [AL.get?_put_ne entry hkk]; exact h1, h2⟩
  · intro k' e' hk' hp
    simp only at hk'
    have hkk : k ≠ k' := fun e => hp (by rw [e])
    rw [AL.get?_put_ne entry hkk] at hk'
    exact hs.woLink k' e' hk' (by simp)
  · intro n hn
    obtain ⟨e2, h1, h2⟩ := hs.woBack n hn
    have hkk : k ≠ n.key := fun e => by rw [e, h1] at hk; cases hk
    exact ⟨e2, by simp only; rw [AL.get?_put_ne entry hkk]; exact h1, h2⟩
  · intro kp hkp
    cases hkp
    exact ⟨entry, by simp [AL.get?_put_self], hao, hwo⟩

theorem pending_no_node_ao {p : Params} {s : UState} {k : Nat} (hs : StructP p (some k) s)
    {n : AoNode} (hn : n ∈ s.prob) : n.key ≠ k := by
  intro e
  obtain ⟨e2, h1, h2⟩ := hs.aoBack n hn
  obtain ⟨ep, h3, h4, _⟩ := hs.pendIn k rfl
  rw [e, h3] at h1; cases h1
  rw [h4] at h2; cases h2

theorem pending_no_node_wo {p : Params} {s : UState} {k : Nat} (hs : StructP p (some k) s)
    {n : WoNode} (hn : n ∈ s.wo) : n.key ≠ k := by
  intro e
  obtain ⟨e2, h1, h2⟩ := hs.woBack n hn
  obtain ⟨ep, h3, _, h4⟩ := hs.pendIn k rfl
  rw [e, h3] at h1; cases h1
  rw [h4] at h2; cases h2

/-- What `pushCandidate_pushed` says of the entry `e'`, the write-order list `wo'` and the next free id
`nid` that `pushCandidate` leaves. -/
structure Pushed (p : Params) (s : UState) (k : Nat) (ts : Option Nat) (entry e' : UEntry)
    (wo' : List WoNode) (nid : Nat) : Prop where
  val : e'.val = entry.val
  weight : e'.weight = entry.weight
  ao : e'.ao = some s.nextId
  nextId : s.nextId < nid
  woIds : (wo'.map (·.id)).Nodup
  woMem : ∀ n ∈ wo', n.id < nid ∧ (n ∈ s.wo ∨ n.key = k ∧ e'.wo = some n.id)
  woFind : ∀ id n, findWo s.wo id = some n → findWo wo' id = some n
  woOn : p.ttl.isSome = true →
    ∃ id n, e'.wo = some id ∧ findWo wo' id = some n ∧ n.key = k ∧ n.ts = ts
  woOff : p.ttl.isSome = false → e'.wo = none

theorem pushCandidate_pushed {p : Params} {s : UState} {k : Nat} (hash : UInt64) (ts : Option Nat)
    (hs : StructP p (some k) s) :
    ∃ entry, AL.get? s.map k = some entry ∧ ∃ e' wo' nid,
      pushCandidate p s k hash ts =
        { s with map := AL.put s.map k e',
                 prob := s.prob ++ [{ id := s.nextId, key := k, hash := hash, ts := ts }],
                 wo := wo', nextId := nid } ∧
      Pushed p s k ts entry e' wo' nid := by
  obtain ⟨entry, hk, _, hwo⟩ := hs.pendIn k rfl
  refine ⟨entry, hk, ?_⟩
  unfold pushCandidate
  simp only [hk]
  cases httl : p.ttl.isSome with
  | false =>
    exact ⟨{ entry with ao := some s.nextId }, s.wo, s.nextId + 1, by simp, rfl, rfl, rfl,
      Nat.lt_succ_self _, hs.woIds, fun n hn => ⟨Nat.lt_succ_of_lt (hs.freshWo n hn), Or.inl hn⟩,
      fun _ _ h => h, fun h => (nomatch httl.symm.trans h), fun _ => hwo⟩
  | true =>
    have hfw : findWo s.wo (s.nextId + 1) = none :=
      findWo_eq_none_of fun n hn => Nat.ne_of_lt (Nat.lt_succ_of_lt (hs.freshWo n hn))
    refine ⟨{ entry with ao := some s.nextId, wo := some (s.nextId + 1) },
      s.wo ++ [{ id := s.nextId + 1, key := k, ts := ts }], s.nextId + 1 + 1, by simp, rfl, rfl,
      rfl, by omega, ?_, ?_, ?_, ?_, fun h => (nomatch httl.symm.trans h)⟩
    · rw [List.map_append, List.nodup_append]
      refine ⟨hs.woIds, by simp, fun a ha b hb => ?_⟩
      obtain ⟨m, hm, rfl⟩ := List.mem_map.mp ha
      rw [List.map_singleton, List.mem_singleton] at hb
      exact hb ▸ Nat.ne_of_lt (Nat.lt_succ_of_lt (hs.freshWo m hm))
    · intro n hn
      rcases List.mem_append.mp hn with hn | hn
      · exact ⟨Nat.lt_succ_of_lt (Nat.lt_succ_of_lt (hs.freshWo n hn)), Or.inl hn⟩
      · rw [List.mem_singleton] at hn; subst hn
        exact ⟨Nat.lt_succ_self _, Or.inr ⟨rfl, rfl⟩⟩
    · intro id n h
      rw [findWo_append, h]; rfl
    · intro _
      exact ⟨s.nextId + 1, { id := s.nextId + 1, key := k, ts := ts }, rfl,
        by rw [findWo_append, hfw]; simp [findWo], rfl, rfl⟩

/-- From `pushCandidate_pushed`: with the pending key's nodes in place `StructP p (some k)` has become
`Struct`, and the other fields are named.  `pushCandidate_times` gives the timestamps,
`pushCandidate_only` the frame without hypotheses. -/
theorem pushCandidate_spec {p : Params} {s : UState} {k : Nat} (hash : UInt64) (ts : Option Nat)
    (hs : StructP p (some k) s) :
    ∃ entry, AL.get? s.map k = some entry ∧
    ∃ e' : UEntry, e'.val = entry.val ∧ e'.weight = entry.weight ∧
      (pushCandidate p s k hash ts).map = AL.put s.map k e' ∧
      Struct p (pushCandidate p s k hash ts) ∧
      (pushCandidate p s k hash ts).ec = s.ec ∧ (pushCandidate p s k hash ts).ws = s.ws ∧
      (pushCandidate p s k hash ts).sk = s.sk ∧ (pushCandidate p s k hash ts).skOn = s.skOn ∧
      (pushCandidate p s k hash ts).now = s.now ∧
      (pushCandidate p s k hash ts).prob =
        s.prob ++ [{ id := s.nextId, key := k, hash := hash, ts := ts }] := by
  obtain ⟨entry, hk, e', wo', nid, heq, hpush⟩ := pushCandidate_pushed hash ts hs
  refine ⟨entry, hk, e', hpush.val, hpush.weight, ?_⟩
  rw [heq]
  refine ⟨rfl, ?_, rfl, rfl, rfl, rfl, rfl, rfl⟩
  have hfa : findAo s.prob s.nextId = none :=
    findAo_eq_none_of fun n hn => Nat.ne_of_lt (hs.freshAo n hn)
  have hget : ∀ {k' e2}, AL.get? (AL.put s.map k e') k' = some e2 →
      (k' = k ∧ e2 = e') ∨ ((some k : Option Nat) ≠ some k' ∧ AL.get? s.map k' = some e2) := by
    intro k' e2 h
    rw [AL.get?_put] at h
    by_cases hkk : k = k'
    · rw [if_pos hkk] at h; cases h; exact Or.inl ⟨hkk.symm, rfl⟩
    · rw [if_neg hkk] at h; exact Or.inr ⟨fun e => hkk (Option.some.inj e), h⟩
  refine ⟨AL.nodup_put k _ hs.keysNodup, ?_, hpush.woIds, ?_, ?_, ?_, ?_, fun kp hkp => (nomatch hkp), ?_,
    fun n hn => (hpush.woMem n hn).1, hs.noFault⟩
  · show ((s.prob ++ _).map (·.id)).Nodup
    rw [List.map_append, List.nodup_append]
    refine ⟨hs.probIds, by simp, fun a ha b hb => ?_⟩
    obtain ⟨m, hm, rfl⟩ := List.mem_map.mp ha
    rw [List.map_singleton, List.mem_singleton] at hb
    exact hb ▸ Nat.ne_of_lt (hs.freshAo m hm)
  · intro k' e2 hk' _
    show ∃ id n, _ ∧ findAo (s.prob ++ _) id = some n ∧ _
    rcases hget hk' with ⟨rfl, rfl⟩ | ⟨hp, h⟩
    · exact ⟨s.nextId, { id := s.nextId, key := k', hash := hash, ts := ts }, hpush.ao,
        by rw [findAo_append, hfa]; simp [findAo], rfl⟩
    · obtain ⟨id, n, h1, h2, h3⟩ := hs.aoLink k' e2 h hp
      exact ⟨id, n, h1, by rw [findAo_append, h2]; rfl, h3⟩
  · intro n hn
    show ∃ e, AL.get? (AL.put s.map k e') n.key = some e ∧ _
    rcases List.mem_append.mp hn with hn | hn
    · obtain ⟨e2, h1, h2⟩ := hs.aoBack n hn
      exact ⟨e2, by rw [AL.get?_put_ne _ (Ne.symm (pending_no_node_ao hs hn))]; exact h1, h2⟩
    · rw [List.mem_singleton] at hn; subst hn
      exact ⟨e', AL.get?_put_self _ _ _, hpush.ao⟩
  · intro k' e2 hk' _
    show (_ → ∃ id n, _ ∧ findWo wo' id = some n ∧ _) ∧ _
    rcases hget hk' with ⟨rfl, rfl⟩ | ⟨hp, h⟩
    · exact ⟨fun ht => (hpush.woOn ht).imp fun _ h => h.imp fun _ h => ⟨h.1, h.2.1, h.2.2.1⟩, hpush.woOff⟩
    · refine ⟨fun ht => ?_, (hs.woLink k' e2 h hp).2⟩
      obtain ⟨id, n, h1, h2, h3⟩ := (hs.woLink k' e2 h hp).1 ht
      exact ⟨id, n, h1, hpush.woFind id n h2, h3⟩
  · intro n hn
    show ∃ e, AL.get? (AL.put s.map k e') n.key = some e ∧ _
    rcases (hpush.woMem n hn).2 with hn | ⟨hkey, hwo⟩
    · obtain ⟨e2, h1, h2⟩ := hs.woBack n hn
      exact ⟨e2, by rw [AL.get?_put_ne _ (Ne.symm (pending_no_node_wo hs hn))]; exact h1, h2⟩
    · exact ⟨e', by rw [hkey]; exact AL.get?_put_self _ _ _, hwo⟩
  · intro n hn
    rcases List.mem_append.mp hn with hn | hn
    · exact Nat.lt_trans (hs.freshAo n hn) hpush.nextId
    · rw [List.mem_singleton] at hn; subst hn; exact hpush.nextId

theorem pushCandidate_times {p : Params} {s : UState} {k : Nat} (hash : UInt64) (ts : Option Nat)
    (hs : StructP p (some k) s) :
    (∀ k' e', k' ≠ k → AL.get? (pushCandidate p s k hash ts).map k' = some e' →
      AL.get? s.map k' = some e' ∧ entryLa (pushCandidate p s k hash ts) e' = entryLa s e' ∧
      entryLm (pushCandidate p s k hash ts) e' = entryLm s e') ∧
    (∀ e', AL.get? (pushCandidate p s k hash ts).map k = some e' →
      entryLa (pushCandidate p s k hash ts) e' = ts ∧
      (p.ttl.isSome = true → entryLm (pushCandidate p s k hash ts) e' = ts)) := by
  obtain ⟨entry, hk, e', wo', nid, heq, hpush⟩ := pushCandidate_pushed hash ts hs
  rw [heq]
  have hfa : findAo s.prob s.nextId = none :=
    findAo_eq_none_of (fun n hn => Nat.ne_of_lt (hs.freshAo n hn))
  refine ⟨fun k' e2 hne h => ?_, fun e2 h => ?_⟩
  · have h : AL.get? (AL.put s.map k e') k' = some e2 := h
    rw [AL.get?_put_ne _ (Ne.symm hne)] at h
    have hp : (some k : Option Nat) ≠ some k' := fun e => hne (Option.some.inj e).symm
    obtain ⟨id, n, h1, h2, _⟩ := hs.aoLink k' e2 h hp
    refine ⟨h, by simp [entryLa, h1, findAo_append, h2], ?_⟩
    cases httl : p.ttl.isSome with
    | false => simp [entryLm, (hs.woLink k' e2 h hp).2 httl]
    | true =>
      obtain ⟨wid, wn, w1, w2, _⟩ := (hs.woLink k' e2 h hp).1 httl
      simp [entryLm, w1, hpush.woFind wid wn w2, w2]
  · have h : AL.get? (AL.put s.map k e') k = some e2 := h
    rw [AL.get?_put_self] at h; cases h
    refine ⟨by simp [entryLa, hpush.ao, findAo_append, hfa, findAo], fun ht => ?_⟩
    obtain ⟨id, n, h1, h2, _, h4⟩ := hpush.woOn ht
    simp [entryLm, h1, h2, h4]

theorem maybeEnableSketch_frame (p : Params) (s : UState) :
    (maybeEnableSketch p s).map = s.map ∧ (maybeEnableSketch p s).prob = s.prob ∧
    (maybeEnableSketch p s).wo = s.wo ∧ (maybeEnableSketch p s).now = s.now := by
  rw [maybeEnableSketch_only]; exact ⟨rfl, rfl, rfl, rfl⟩

/-- The weight the map records for `key`, 0 if absent: what `admit` adds up over the victims. -/
def wOf (s : UState) (key : Nat) : Nat :=
  match AL.get? s.map key with
  | some e => e.weight
  | none => 0

/-- The popularity estimate at the hash a node stores (that of its key under `HashOk`,
`Lemmas/UnsyncAdmit.lean`): what `admit` adds up over the victims. -/
def fOf (s : UState) (n : AoNode) : Nat := s.sk.frequency n.hash

namespace Admit

/-- `admitLoop` is `scanLen` over the nodes, read with the weights `wOf` and the popularities
`fOf`: what it ends with, from any accumulator. -/
theorem admitLoop_scan {p : Params} {s : UState} {cw cf : Nat}
    (hw : ∀ k e, AL.get? s.map k = some e → e.weight = p.weigh k e.val) :
    ∀ (l : List AoNode) (a : Admission), (∀ n ∈ l, ∃ e, AL.get? s.map n.key = some e) →
      (admitLoop p s cw cf l a).fault = a.fault ∧
      (admitLoop p s cw cf l a).vw = a.vw + ((l.map (fun n => wOf s n.key)).take
        (scanLen (fun n => wOf s n.key) (fOf s) cw cf l a.vw a.vf)).sum ∧
      (admitLoop p s cw cf l a).vf = a.vf + ((l.map (fOf s)).take
        (scanLen (fun n => wOf s n.key) (fOf s) cw cf l a.vw a.vf)).sum ∧
      (admitLoop p s cw cf l a).victims = a.victims ++
        l.take (scanLen (fun n => wOf s n.key) (fOf s) cw cf l a.vw a.vf) := by
  intro l
  induction l with
  | nil =>
    intro a _
    simp only [admitLoop, scanLen, List.map_nil, List.take_nil, List.sum_nil, Nat.add_zero,
      List.append_nil, and_self]
  | cons nd rest ih =>
    intro a hall
    unfold admitLoop
    by_cases hc : a.vw < cw ∧ ¬ cf < a.vf
    · obtain ⟨e, he⟩ := hall nd List.mem_cons_self
      have hwn : wOf s nd.key = p.weigh nd.key e.val := by
        simp only [wOf, he]; exact hw nd.key e he
      have hfn : fOf s nd = s.sk.frequency nd.hash := rfl
      rw [if_pos hc, scanLen_go hc, hwn, hfn]
      simp only [he]
      obtain ⟨i0, i1, i2, i3⟩ := ih
        { a with vw := a.vw + p.weigh nd.key e.val, vf := a.vf + s.sk.frequency nd.hash,
                 victims := a.victims ++ [nd] } (fun m hm => hall m (List.mem_cons_of_mem _ hm))
      dsimp only at i0 i1 i2 i3
      simp only [List.map_cons, List.take_succ_cons, List.sum_cons, hwn, hfn]
      refine ⟨i0, ?_, ?_, ?_⟩
      · rw [i1]; omega
      · rw [i2]; omega
      · rw [i3, List.append_assoc, List.singleton_append]
    · rw [if_neg hc, scanLen_stop hc]
      simp only [List.take_zero, List.sum_nil, Nat.add_zero, List.append_nil, and_self]

/-- **Closed formula of `admit`.** With `nodes` the probation list (LRU first), weights
`wOf s n.key` and popularities `fOf s n`: the candidate of weight `cw` and popularity `cf`
passes the final test iff the shortest prefix whose weight reaches `cw` exists and `cf`
exceeds its summed popularity; the victims are then that prefix (`cw = 0`: the empty
prefix, admitted iff `cf > 0`). -/
theorem admitLoop_closed {p : Params} {s : UState} {cw cf : Nat}
    (hw : ∀ k e, AL.get? s.map k = some e → e.weight = p.weigh k e.val)
    (nodes : List AoNode) (hall : ∀ n ∈ nodes, ∃ e, AL.get? s.map n.key = some e) :
    ((admitLoop p s cw cf nodes {}).vw ≥ cw ∧ cf > (admitLoop p s cw cf nodes {}).vf ↔
      ∃ n, shortestPre cw (nodes.map (fun n => wOf s n.key)) = some n ∧
        cf > ((nodes.map (fOf s)).take n).sum) ∧
    (∀ n, shortestPre cw (nodes.map (fun n => wOf s n.key)) = some n →
        cf > ((nodes.map (fOf s)).take n).sum →
        (admitLoop p s cw cf nodes {}).victims = nodes.take n ∧
        (admitLoop p s cw cf nodes {}).vw = ((nodes.map (fun n => wOf s n.key)).take n).sum ∧
        (admitLoop p s cw cf nodes {}).vf = ((nodes.map (fOf s)).take n).sum) := by
  obtain ⟨_, a1, a2, a3⟩ := admitLoop_scan (cw := cw) (cf := cf) hw nodes {} hall
  obtain ⟨c1, c2⟩ := scanLen_closed_zero (fun n => wOf s n.key) (fOf s) cw cf nodes
  simp only [Nat.zero_add, List.nil_append] at a1 a2 a3
  refine ⟨?_, fun n h1 h2 => ?_⟩
  · rw [a1, a2]; exact c1
  · rw [a1, a2, a3, c2 n h1 h2]; exact ⟨rfl, rfl, rfl⟩

end Admit

theorem two_keys_length {m : List (Nat × UEntry)} {a b : Nat} {ea eb : UEntry}
    (ha : AL.get? m a = some ea) (hb : AL.get? m b = some eb) (hab : a ≠ b) : 2 ≤ m.length := by
  have h1 := AL.length_erase_of_get? ha
  have h2 : AL.get? (AL.erase m a) b = some eb := by rw [AL.get?_erase_ne hab]; exact hb
  have h3 := AL.length_erase_of_get? h2
  omega

/-- The pending key is in the map but not yet counted (`handle_insert` adds it to `entry_count`
afterwards), hence `s.ec + 1 = s.map.length`, here and below. -/
theorem removeVictims_cons {p : Params} {k : Nat} {s : UState} (hs : StructP p (some k) s)
    {v : AoNode} (hv : v ∈ s.prob) (hc : s.ec + 1 = s.map.length) (rest : List AoNode) :
    ∃ e s2, AL.get? s.map v.key = some e ∧ e.ao = some v.id ∧
      removeVictims (v :: rest) s = removeVictims rest s2 ∧
      StructP p (some k) s2 ∧ s2.map = AL.erase s.map v.key ∧ s2.prob = eraseAo s.prob v.id ∧
      s2.ec + 1 = s2.map.length ∧ s2.ws = s.ws ∧ SameAux s s2 ∧
      Shrinks s s2 := by
  obtain ⟨e, he, heao⟩ := hs.aoBack v hv
  have hvk : v.key ≠ k := pending_no_node_ao hs hv
  have hpend : (some k : Option Nat) ≠ some v.key := fun h => hvk (Option.some.inj h).symm
  obtain ⟨hs', hto, id, n, hao, hfind, _, hprob⟩ := takeOut_spec hs he hpend
  obtain ⟨ep, hep, _⟩ := hs.pendIn k rfl
  have hlen := two_keys_length he hep hvk
  have hlen2 := AL.length_erase_of_get? he
  have hec : ¬ (takeOut s v.key e).ec < 1 := by rw [hto.env.ec]; omega
  have hsub : subEc (takeOut s v.key e) 1 =
      { takeOut s v.key e with ec := (takeOut s v.key e).ec - 1 } := by
    simp [subEc, hec]
  have hid : id = v.id := by rw [heao] at hao; exact (Option.some.inj hao).symm
  refine ⟨e, subEc (takeOut s v.key e) 1, he, heao, by simp only [removeVictims, he], ?_⟩
  rw [hsub]
  refine ⟨structP_congr hs' rfl rfl rfl rfl rfl, hto.map, by rw [← hid]; exact hprob, ?_,
    hto.env.ws, ⟨hto.env.sk, hto.env.skOn, hto.env.now, hto.env.nextId⟩,
    shrinks_congr hto.shrinks rfl rfl rfl⟩
  simp only; rw [hto.env.ec, hto.map]; omega

/-- Taking out a prefix of the access order while `k` is pending. -/
theorem removeVictims_spec {p : Params} {k : Nat} :
    ∀ (victims : List AoNode) (s : UState) (rest : List AoNode), StructP p (some k) s →
      s.prob = victims ++ rest → s.ec + 1 = s.map.length →
      StructP p (some k) (removeVictims victims s) ∧
      (removeVictims victims s).ec + 1 = (removeVictims victims s).map.length ∧
      totalW (removeVictims victims s).map + (victims.map (fun n => wOf s n.key)).sum = totalW s.map ∧
      (removeVictims victims s).ws = s.ws ∧ SameAux s (removeVictims victims s) ∧
      Shrinks s (removeVictims victims s) ∧ (removeVictims victims s).prob = rest ∧
      ∀ k', AL.get? (removeVictims victims s).map k' =
        if k' ∈ victims.map (·.key) then none else AL.get? s.map k' := by
  intro victims
  induction victims with
  | nil =>
    intro s rest hs hp hc
    exact ⟨hs, hc, rfl, rfl, SameAux.refl s, Shrinks.refl s, hp, fun _ => rfl⟩
  | cons v vs ih =>
    intro s rest hs hp hc
    have hmem : ∀ v' ∈ v :: vs, v' ∈ s.prob := fun v' hv' => hp ▸ List.mem_append_left _ hv'
    obtain ⟨e, s2, he, heao, hrv, hs2, hmap2, hprob2, hc2, hws2, haux2, hshr2⟩ :=
      removeVictims_cons hs (hmem v List.mem_cons_self) hc vs
    have hp2 : s2.prob = vs ++ rest := by
      rw [hprob2, hp, List.cons_append, eraseAo, if_pos rfl]
    obtain ⟨r1, r2, r3, r4, r5, r6, r7, r8⟩ := ih s2 rest hs2 hp2 hc2
    have hnd := hs.probIds
    rw [hp, List.cons_append, List.map_cons, List.nodup_cons] at hnd
    have hkey : ∀ v' ∈ vs, v.key ≠ v'.key := by
      intro v' hv' ek
      obtain ⟨e2, he2, hao2⟩ := hs.aoBack v' (hmem v' (List.mem_cons_of_mem _ hv'))
      rw [← ek, he] at he2; cases he2
      rw [heao] at hao2
      exact hnd.1 (Option.some.inj hao2 ▸ List.mem_map.mpr ⟨v', List.mem_append_left _ hv', rfl⟩)
    have hsum : (vs.map (fun n => wOf s2 n.key)).sum = (vs.map (fun n => wOf s n.key)).sum := by
      congr 1
      exact List.map_congr_left fun v' hv' => by
        simp only [wOf, hmap2, AL.get?_erase_ne (hkey v' hv')]
    rw [hrv]
    refine ⟨r1, r2, ?_, by rw [r4, hws2], haux2.trans r5, hshr2.trans r6, r7, fun k' => ?_⟩
    · rw [hsum, hmap2] at r3
      have := totalW_erase he
      have hwv : wOf s v.key = e.weight := by simp only [wOf, he]
      simp only [List.map_cons, List.sum_cons, hwv]
      omega
    · rw [r8, hmap2, AL.get?_erase v.key k' hs.keysNodup]
      by_cases h1 : v.key = k'
      · subst h1
        simp only [List.map_cons, List.mem_cons, true_or, if_true]
        split <;> rfl
      · by_cases h2 : k' ∈ vs.map (·.key)
        · simp only [List.map_cons, List.mem_cons, h2, or_true, if_true]
        · simp only [List.map_cons, List.mem_cons, h2, h1, Ne.symm h1, or_self, if_false]

theorem shouldEnableSketch_off {p : Params} {s : UState} (h : shouldEnableSketch p s = true) :
    s.skOn = false := by
  unfold shouldEnableSketch at h
  cases hs : s.skOn with
  | false => rfl
  | true => rw [hs] at h; simp at h

theorem maybeEnableSketch_inv {P : Sketch → Prop} (L : SketchLaws P) {p : Params}
    (hsm : SmallSketch p) {s : UState} (hi : Inv P p s) : Inv P p (maybeEnableSketch p s) := by
  unfold maybeEnableSketch
  split
  · rename_i hen
    have hsk0 := hi.skOff (shouldEnableSketch_off hen)
    unfold enableSketch
    cases hc : p.cap with
    | none => exact hi
    | some maxCap =>
      simp only
      refine ⟨invU_of hi.inv (structP_congr hi.inv.struct rfl rfl rfl rfl rfl) rfl rfl rfl, ?_,
        fun h => by simp at h⟩
      simp only
      rw [hsk0]
      apply L.ensure
      split
      · exact hsm.cap maxCap hc
      · exact hsm.capF _ _ _
  · exact hi

theorem state_restore {s : UState} {k : Nat} {entry : UEntry} (hk : AL.get? s.map k = none) :
    ({ ({ s with map := AL.put s.map k entry } : UState) with
        map := AL.erase (AL.put s.map k entry) k } : UState) = s := by
  rw [AL.erase_put_of_none entry hk]

/-- `handle_insert` of the new key `k` once it lets the key in, before `maybeEnableSketch`:
`victims` go and `k` gets its nodes (the key fits: no victims). -/
def admitCore (p : Params) (s : UState) (k v : Nat) (ts : Option Nat) (victims : List AoNode) :
    UState :=
  let s0 : UState := { s with map := AL.put s.map k { val := v, weight := p.weigh k v } }
  let s4 := pushCandidate p (removeVictims victims s0) k (p.hash k) ts
  { s4 with ec := s4.ec + 1,
            ws := s4.ws - (victims.map fun n => wOf s0 n.key).sum + p.weigh k v }

/-- What the later files read off an accepted insert into `s` of the new key `k`, the victims
being the first `n` nodes of the access order. -/
structure Admitted (p : Params) (s : UState) (k v : Nat) (ts : Option Nat) (n : Nat)
    (s' : UState) : Prop where
  inv : InvU p s'
  sk : s'.sk = s.sk
  skOn : s'.skOn = s.skOn
  now : s'.now = s.now
  entry : ∃ e, AL.get? s'.map k = some e ∧ e.val = v ∧ e.weight = p.weigh k v ∧
    entryLa s' e = ts ∧ (p.ttl.isSome = true → entryLm s' e = ts)
  others : ∀ k', k' ≠ k → AL.get? s'.map k' =
    if k' ∈ (s.prob.take n).map (·.key) then none else AL.get? s.map k'
  times : ∀ k' e', k' ≠ k → AL.get? s'.map k' = some e' →
    entryLa s' e' = entryLa s e' ∧ entryLm s' e' = entryLm s e'
  prob : s'.prob = s.prob.drop n ++ [{ id := s.nextId, key := k, hash := p.hash k, ts := ts }]

-- From here on the state after `pushCandidate` is described by `pushCandidate_spec` and
-- `pushCandidate_times` only: the unifier must not unfold it when it compares record updates.
attribute [local irreducible] pushCandidate

theorem admitCore_spec {p : Params} {s : UState} (hi : InvU p s) {k : Nat} (v : Nat)
    (hk : AL.get? s.map k = none) (ts : Option Nat) (n : Nat) :
    Admitted p s k v ts n (admitCore p s k v ts (s.prob.take n)) := by
  unfold admitCore
  generalize hent : ({ val := v, weight := p.weigh k v } : UEntry) = entry
  have hew : entry.weight = p.weigh k v := by rw [← hent]
  have hev : entry.val = v := by rw [← hent]
  have hsp : StructP p (some k) { s with map := AL.put s.map k entry } :=
    struct_put_pending hi.struct hk (by rw [← hent]) (by rw [← hent])
  obtain ⟨r1, r2, r3, r4, r5, r6, r7, r8⟩ := removeVictims_spec (s.prob.take n) _ (s.prob.drop n)
    hsp (List.take_append_drop n s.prob).symm
    (by simp only; rw [AL.length_put_of_none entry hk, hi.counted.ec])
  have hkv : k ∉ (s.prob.take n).map (·.key) := fun h => by
    obtain ⟨m, hm, hmk⟩ := List.mem_map.mp h
    exact pending_no_node_ao hsp (List.mem_of_mem_take hm) hmk
  have hk3 : AL.get? (removeVictims (s.prob.take n) { s with map := AL.put s.map k entry }).map k =
      some entry := by rw [r8, if_neg hkv]; exact AL.get?_put_self _ _ _
  obtain ⟨t1, t2⟩ := pushCandidate_times (p.hash k) ts r1
  obtain ⟨_, hk', e', hv', hw', hmap, hst, hec, hws, hsk, hon, hnow, hprob⟩ :=
    pushCandidate_spec (p.hash k) ts r1
  rw [hk3] at hk'; cases hk'
  have hself : AL.get? (pushCandidate p (removeVictims (s.prob.take n)
      { s with map := AL.put s.map k entry }) k (p.hash k) ts).map k = some e' := by
    rw [hmap]; exact AL.get?_put_self _ _ _
  refine ⟨⟨structP_congr hst rfl rfl rfl rfl rfl, ⟨?_, ?_, ?_⟩⟩, hsk.trans r5.sk, hon.trans r5.skOn,
    hnow.trans r5.now, ⟨e', hself, by rw [hv', hev], by rw [hw', hew], t2 e' hself⟩, ?_, ?_, ?_⟩
  · simp only; rw [hmap, AL.length_put_of_some e' hk3, hec]; exact r2
  · have := hi.counted.ws
    have := totalW_put_some e' hk3
    have := totalW_put_none entry hk
    have := weight_le_totalW hk3
    simp only
    rw [hmap, hws, r4]
    simp only at r3 ⊢
    omega
  · intro k' e2 h2
    simp only at h2
    rw [hmap, AL.get?_put] at h2
    by_cases hkk : k = k'
    · rw [if_pos hkk] at h2; cases h2; rw [hw', hv', hew, hev, hkk]
    · rw [if_neg hkk] at h2
      have h3 := r6.sub k' e2 h2
      rw [AL.get?_put_ne _ hkk] at h3
      exact hi.counted.weights k' e2 h3
  · intro k' hne
    simp only
    rw [hmap, AL.get?_put_ne _ (Ne.symm hne), r8]
    simp only
    rw [AL.get?_put_ne _ (Ne.symm hne)]
  · intro k' e2 hne h
    obtain ⟨a1, a2, a3⟩ := t1 k' e2 hne h
    exact ⟨a2.trans (r6.la k' e2 a1), a3.trans (r6.lm k' e2 a1)⟩
  · simp only; rw [hprob, r7, r5.nextId]

/-- `handle_insert` of a new key under the invariant: the key fits; or it is too big and the
state is as it was; or the shortest prefix of the access order whose weight makes room is less
popular than the key and goes; or there is no such prefix and the state is as it was. -/
theorem handleInsert_new {p : Params} {s : UState} (hi : InvU p s) {k v : Nat}
    (ts : Option Nat) (hk : AL.get? s.map k = none) :
    let r := handleInsert p { s with map := AL.put s.map k { val := v, weight := p.weigh k v } }
      k (p.hash k) (p.weigh k v) ts
    let adm := fun n => Admit.shortestPre (p.weigh k v) (s.prob.map fun n => wOf s n.key) = some n ∧
      s.sk.frequency (p.hash k) > ((s.prob.map (fOf s)).take n).sum
    (hasEnoughCapacity p (p.weigh k v) s.ws = true ∧
      r = maybeEnableSketch p (admitCore p s k v ts (s.prob.take 0))) ∨
    (hasEnoughCapacity p (p.weigh k v) s.ws = false ∧
      ((tooBig p (p.weigh k v) = true ∧ r = s) ∨
       (tooBig p (p.weigh k v) = false ∧
        ((∃ n, adm n ∧ r = maybeEnableSketch p (admitCore p s k v ts (s.prob.take n))) ∨
         ((¬ ∃ n, adm n) ∧ r = s))))) := by
  dsimp only
  have hsp : StructP p (some k)
      { s with map := AL.put s.map k { val := v, weight := p.weigh k v } } :=
    struct_put_pending hi.struct hk rfl rfl
  have hwts := weights_put (k := k) (e := { val := v, weight := p.weigh k v })
    hi.counted.weights rfl
  have hall : ∀ n ∈ s.prob,
      ∃ e, AL.get? (AL.put s.map k { val := v, weight := p.weigh k v }) n.key = some e :=
    fun n hn => (hsp.aoBack n hn).imp fun _ h => h.1
  -- the loop sees the weights of the residents: the pending key has no node
  have hW : (s.prob.map fun n =>
      wOf { s with map := AL.put s.map k { val := v, weight := p.weigh k v } } n.key) =
      s.prob.map fun n => wOf s n.key :=
    List.map_congr_left fun n hn => by
      simp only [wOf, AL.get?_put_ne _ (Ne.symm (pending_no_node_ao hsp hn))]
  obtain ⟨hf, _⟩ := Admit.admitLoop_scan
    (s := { s with map := AL.put s.map k { val := v, weight := p.weigh k v } })
    (cw := p.weigh k v) (cf := s.sk.frequency (p.hash k)) hwts s.prob {} hall
  obtain ⟨c1, c2⟩ := Admit.admitLoop_closed
    (s := { s with map := AL.put s.map k { val := v, weight := p.weigh k v } })
    (cw := p.weigh k v) (cf := s.sk.frequency (p.hash k)) hwts s.prob hall
  rw [hW] at c1 c2
  rcases handleInsert_cases p { s with map := AL.put s.map k { val := v, weight := p.weigh k v } }
    k (p.hash k) (p.weigh k v) ts with ⟨hcap, h⟩ | ⟨hcap, ⟨htb, h⟩ | ⟨htb, hrest⟩⟩
  · exact Or.inl ⟨hcap, h⟩
  · exact Or.inr ⟨hcap, Or.inl ⟨htb, h.trans (state_restore hk)⟩⟩
  · refine Or.inr ⟨hcap, Or.inr ⟨htb, ?_⟩⟩
    rcases hrest with ⟨hf', _⟩ | ⟨_, hadm, h⟩ | ⟨_, hadm, h⟩
    · rw [hf] at hf'; cases hf'
    · obtain ⟨n, hn1, hn2⟩ := c1.mp hadm
      obtain ⟨hvic, hvw, _⟩ := c2 n hn1 hn2
      rw [hvic, hvw, ← hW, ← List.map_take] at h
      exact Or.inl ⟨n, ⟨hn1, hn2⟩, h⟩
    · exact Or.inr ⟨fun hex => hadm (c1.mpr hex), h.trans (state_restore hk)⟩

theorem handleInsert_inv {P : Sketch → Prop} (L : SketchLaws P) {p : Params}
    (hsm : SmallSketch p) {s : UState} (hi : Inv P p s) {k v : Nat} (ts : Option Nat)
    (hk : AL.get? s.map k = none) :
    Inv P p (handleInsert p { s with map := AL.put s.map k { val := v, weight := p.weigh k v } }
      k (p.hash k) (p.weigh k v) ts) := by
  have hadm : ∀ n, Inv P p (maybeEnableSketch p (admitCore p s k v ts (s.prob.take n))) := by
    intro n
    have ha := admitCore_spec hi.inv v hk ts n
    exact maybeEnableSketch_inv L hsm ⟨ha.inv, by rw [ha.sk]; exact hi.sk,
      fun h => by rw [ha.sk]; exact hi.skOff (by rw [← ha.skOn]; exact h)⟩
  rcases handleInsert_new hi.inv ts hk with
    ⟨_, h⟩ | ⟨_, ⟨_, h⟩ | ⟨_, ⟨n, _, h⟩ | ⟨_, h⟩⟩⟩ <;> rw [h]
  · exact hadm 0
  · exact hi
  · exact hadm n
  · exact hi

end Unsync
end MiniMoka
