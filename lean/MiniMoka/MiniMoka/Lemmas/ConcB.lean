/-
  Lemmas about the flag model `MiniMoka/ConcB.lean`.  Through the byte encoding a modified copy
  differs from the byte in the one flag only, so both good variants step like
  `stepAtomic .separate` (`ConcB.step_good`); the invariant `BInv` (counted exactly when
  admitted) is proved for that one step function.
-/
import MiniMoka.ConcB
import MiniMoka.Lemmas.AL
import MiniMoka.Lemmas.IsPath

namespace MiniMoka
namespace Props

open ConcB

theorem ConcB.unpack_pack (a d : Bool) : unpack (pack a d) = (a, d) := by
  cases a <;> cases d <;> decide

theorem ConcB.modify_admitted (a d x : Bool) : modify a d .admitted x = (x, d) := by
  cases a <;> cases d <;> cases x <;> decide

theorem ConcB.modify_dirty (a d x : Bool) : modify a d .dirty x = (a, x) := by
  cases a <;> cases d <;> cases x <;> decide

theorem ConcB.writeFlag_eq (v : Variant) (a d : Bool) (f : Flag) (x : Bool) :
    writeFlag v a d f x = writeFlag .separate a d f x := by
  cases v <;> cases f <;> simp only [writeFlag, ConcB.modify_admitted, ConcB.modify_dirty]

theorem ConcB.stepAtomic_eq (v : Variant) (s : State) (e : Ev) :
    stepAtomic v s e = stepAtomic .separate s e := by
  cases e <;> simp only [stepAtomic, ConcB.writeFlag_eq v]

theorem ConcB.step_good {v : Variant} (hv : v ≠ .packedRacy) (s : State) (e : Ev) :
    step v s e = stepAtomic .separate s e := by
  cases v with
  | separate => rfl
  | packedAtomic => exact ConcB.stepAtomic_eq .packedAtomic s e
  | packedRacy => exact absurd rfl hv

theorem ConcB.isPath (v : Variant) : IsPath (step v) (runEvs v) :=
  ⟨fun _ => rfl, fun s e rest => by simp only [runEvs]; cases step v s e <;> rfl⟩

theorem ConcB.reach_of_runEvs {v : Variant} (evs : List Ev) (s s' : State) (hr : Reach v s)
    (h : runEvs v s evs = some s') : Reach v s' :=
  (ConcB.isPath v).inv (fun _ _ e hc hs => Reach.step e hc hs) evs s s' hr h

/-- `handle_upsert`, first access: the op is taken, `set_dirty(false)`. -/
def clearPart (s : State) : State := { s with dirty := false, queued := s.queued - 1 }

/-- `handle_upsert`, the rest: `if is_admitted()` update in place, else `handle_admit`. -/
def admitPart (s : State) : State :=
  if s.admitted then s else { s with admitted := true, count := s.count + 1 }

theorem ConcB.applyWrite_eq {s : State} (hq : s.queued ≠ 0) :
    stepAtomic .separate s .applyWrite = some (admitPart (clearPart s)) := by
  cases ha : s.admitted <;> simp [stepAtomic, writeFlag, hq, admitPart, clearPart, ha]

theorem ConcB.remove_eq (s : State) :
    stepAtomic .separate s .remove =
      some (if s.admitted then { s with admitted := false, count := s.count - 1 } else s) := by
  cases ha : s.admitted <;> simp [stepAtomic, writeFlag, ha]

/-- The invariant of the good variants; nothing is ever held there because the load / store
events are not enabled. -/
structure BInv (s : State) : Prop where
  counted : s.count = if s.admitted then 1 else 0
  noHeld : s.held = []
  idle : s.mpc = .idle

theorem ConcB.admitPart_inv {s : State} (hi : BInv s) : BInv (admitPart s) := by
  unfold admitPart
  split
  · exact hi
  · rename_i ha
    exact ⟨by simp [hi.counted, ha], hi.noHeld, hi.idle⟩

theorem ConcB.stepAtomic_inv {s s' : State} {e : Ev} (hi : BInv s)
    (hs : stepAtomic .separate s e = some s') : BInv s' := by
  cases e with
  | overwrite t => cases hs; exact ⟨hi.counted, hi.noHeld, hi.idle⟩
  | applyWrite =>
    by_cases hq : s.queued = 0
    · simp [stepAtomic, hq] at hs
    · rw [ConcB.applyWrite_eq hq] at hs
      cases hs
      exact ConcB.admitPart_inv ⟨hi.counted, hi.noHeld, hi.idle⟩
  | remove =>
    rw [ConcB.remove_eq] at hs
    cases hs
    split
    · rename_i ha
      exact ⟨by simp [hi.counted, ha], hi.noHeld, hi.idle⟩
    · exact hi
  | owLoad t => cases hs
  | owStore t => cases hs
  | mLoad => cases hs
  | mStore => cases hs

theorem ConcB.reach_inv {v : Variant} (hv : v ≠ .packedRacy) {s : State} (hr : Reach v s) :
    BInv s := by
  induction hr with
  | init => exact ⟨rfl, rfl, rfl⟩
  | step e _ hs ih =>
    rw [ConcB.step_good hv] at hs
    exact ConcB.stepAtomic_inv ih hs

theorem ConcB.reach_congr {v v' : Variant} (h : ∀ s e, step v s e = step v' s e) {s : State}
    (hr : Reach v s) : Reach v' s := by
  induction hr with
  | init => exact Reach.init
  | step e _ hs ih => exact Reach.step e ih (h _ _ ▸ hs)

end Props
end MiniMoka
