/-
  The calls of one thread as an invariant of the reachable states sees them: the map step
  (`ConcS.insertMap`, `invalidateMap`, `lookup`) decides a write operation that is held and not yet
  queued, then housekeeping, then the enqueue.  `CallInv p I` lists what `I ex s` has to survive,
  where `ex` is `[]` between calls and `[op]` between the map step and the enqueue of `op`;
  `CallInv.step` is the walk over `Sync.step`.  `QInv` is carried by the walk itself (`I` must ignore
  the housekeeper's flags, `QInv` does not): the map steps get it as a hypothesis, the run does not.
-/
import MiniMoka.Lemmas.SyncQueues

namespace MiniMoka
namespace Sync

structure CallInv (p : Params) (I : List WOp → SState → Prop) : Prop where
  flags : ∀ {ex s} b a, I ex s → I ex { s with running := b, syncAfter := a }
  run : ∀ {ex s}, I ex s → I ex (syncRun p s)
  enqW : ∀ {op s}, I [op] s → I [] { s with writeQ := s.writeQ ++ [op] }
  enqR : ∀ {s} op, I [] s → I [] { s with readQ := s.readQ ++ [op] }
  insMap : ∀ {s} k v, QInv s → I [] s →
    I [(ConcS.insertMap p s k v).2] (ConcS.insertMap p s k v).1
  invMap : ∀ {s} k op, QInv s → I [] s → (ConcS.invalidateMap s k).2 = some op →
    I [op] (ConcS.invalidateMap s k).1
  invAll : ∀ {s}, I [] s → I [] (invalidateAll s)
  adv : ∀ {s} d, I [] s → I [] { s with now := s.now + d }

namespace CallInv

variable {p : Params} {I : List WOp → SState → Prop} (C : CallInv p I)
include C

theorem housekeep {ex : List WOp} {s : SState} (h : I ex s) :
    I ex (trySync p s) ∧ I ex (housekeepW p s) ∧ I ex (housekeepR p s) :=
  housekeep_ind h fun _ => C.flags false _ (C.run (C.flags true _ h))

theorem scheduleWriteOp {s : SState} {op : WOp} (hq : QInv s) (h : I [op] s) (fuel : Nat) :
    I [] (scheduleWriteOp p (fuel + 1) s op) := by
  rw [scheduleWriteOp_enqueues p fuel hq]
  exact C.enqW (C.housekeep h).2.1

theorem recordReadOp {s : SState} (hq : QInv s) (h : I [] s) (op : ROp) :
    I [] (recordReadOp p s op) := by
  rw [recordReadOp_enqueues p hq]
  exact C.enqR op (C.housekeep h).2.2

theorem insert {s : SState} (hq : QInv s) (h : I [] s) (k v : Nat) : I [] (insert p s k v) := by
  rw [ConcS.insert_eq]
  exact C.scheduleWriteOp (ConcS.insertMap_qinv hq k v) (C.insMap k v hq h) 2

theorem invalidate {s : SState} (hq : QInv s) (h : I [] s) (k : Nat) :
    I [] (invalidate p s k) := by
  rw [ConcS.invalidate_eq]
  split
  · rename_i op hop
    exact C.scheduleWriteOp (ConcS.invalidateMap_qinv hq k) (C.invMap k op hq h hop) 2
  · exact h

theorem get {s : SState} (hq : QInv s) (h : I [] s) (k : Nat) : I [] (get p s k).1 := by
  rw [ConcS.get_fst_eq]
  exact C.recordReadOp hq h _

theorem step {s : SState} (hq : QInv s) (h : I [] s) (op : Op) : I [] (step p s op).1 := by
  rw [step_fst_ite]
  split
  · exact h
  · cases op with
    | ins k v => exact C.insert hq h k v
    | get k => exact C.get hq h k
    | inv k => exact C.invalidate hq h k
    | invAll => exact C.invAll h
    | sync => exact C.run h
    | adv d => exact C.adv d h
    | _ => exact h

end CallInv

end Sync
end MiniMoka
