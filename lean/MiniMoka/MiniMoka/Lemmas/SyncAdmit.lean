/-
  TinyLFU admission (C13) on the one-thread model of `sync::Cache`.  On a quiescent cache with
  nothing expired (`CalmS`) maintenance does nothing, so an insert only queues its write, and the
  run that follows is that one write and the size eviction (`syncRun_calm`).  For a new key that
  finds no room the write decides by the closed formula of `admit` over the access order
  (`Decides`; the victim scan is `scanLen` of `Lemmas/Prefix.lean` over the nodes that are not
  dangling, `admitLoop_scan`); the oracle's check on snapshots and its walk over a trace read that off.
-/
import MiniMoka.Lemmas.SyncAInv
import MiniMoka.Lemmas.SyncCounters
import MiniMoka.Lemmas.SnapView
import MiniMoka.Lemmas.Prefix
import MiniMoka.Spec.Oracles

namespace MiniMoka
namespace Sync
namespace Admit

open Nodes Spec
open Unsync.Admit (shortestPre sameKeys_iff shortestPre_eq_some_iff
  predictAdmission_lists scanLen scanLen_go scanLen_stop scanLen_closed_zero)

/- `syncRun p s` is a state like any other here (see the note in `SyncQueues`); so is
`insert p s k v`, which the admission theorems carry inside it. -/
attribute [local irreducible] syncRun insert

/-! ### a maintenance run that finds nothing expired -/

/-- No node of either list is past its deadline: both expiry loops stop at their first test. -/
structure NoExp (p : Params) (s : SState) : Prop where
  ao : ∀ n, n ∈ s.prob → expiredTs p.tti s.va (getInfo s n.info).la s.now = false
  wo : ∀ n, n ∈ s.wo → expiredTs p.ttl s.va (getInfo s n.info).lm s.now = false

theorem NoExp.of_eq {p : Params} {c g : SState} (h : NoExp p c) (gi : g.infos = c.infos)
    (gp : g.prob = c.prob) (gw : g.wo = c.wo) (gva : g.va = c.va) (gnow : g.now = c.now) :
    NoExp p g := by
  refine ⟨fun n hn => ?_, fun n hn => ?_⟩
  · rw [gva, getInfo_congr gi, gnow]; exact h.ao n (gp ▸ hn)
  · rw [gva, getInfo_congr gi, gnow]; exact h.wo n (gw ▸ hn)

theorem removeExpiredAo_noop {p : Params} {s : SState} (h : NoExp p s) (fuel : Nat) :
    removeExpiredAo p fuel s = s := by
  cases fuel with
  | zero => rfl
  | succ fuel =>
    unfold removeExpiredAo
    cases hp : s.prob with
    | nil => rfl
    | cons n rest =>
      dsimp only
      have := h.ao n (by rw [hp]; exact List.mem_cons_self)
      rw [this]
      rfl

theorem removeExpiredWo_noop {p : Params} {s : SState} (h : NoExp p s) (fuel : Nat) :
    removeExpiredWo p fuel s = s := by
  cases fuel with
  | zero => rfl
  | succ fuel =>
    unfold removeExpiredWo
    cases hp : s.wo with
    | nil => rfl
    | cons n rest =>
      dsimp only
      have := h.wo n (by rw [hp]; exact List.mem_cons_self)
      rw [this]
      rfl

theorem evictExpired_noop {p : Params} {s : SState} (h : NoExp p s) : evictExpired p s = s := by
  unfold evictExpired
  dsimp only
  have e1 : (if p.ttl.isSome = true then removeExpiredWo p Gen.SYNC_EVICTION_BATCH_SIZE s else s) = s := by
    split
    · exact removeExpiredWo_noop h _
    · rfl
  rw [e1]
  split
  · exact removeExpiredAo_noop h _
  · rfl

/-- Agreement on everything the cache's behaviour depends on: all but the local counters of a
maintenance run, the housekeeper's flags and the representation of the sketch (the estimates
agree). -/
structure Quiet (s s' : SState) : Prop where
  map : s'.map = s.map
  infos : s'.infos = s.infos
  prob : s'.prob = s.prob
  wo : s'.wo = s.wo
  readQ : s'.readQ = s.readQ
  writeQ : s'.writeQ = s.writeQ
  ec : s'.ec = s.ec
  ws : s'.ws = s.ws
  va : s'.va = s.va
  now : s'.now = s.now
  nextId : s'.nextId = s.nextId
  fault : s'.fault = s.fault
  freq : ∀ h, s'.sk.frequency h = s.sk.frequency h

theorem Quiet.refl (s : SState) : Quiet s s :=
  ⟨rfl, rfl, rfl, rfl, rfl, rfl, rfl, rfl, rfl, rfl, rfl, rfl, fun _ => rfl⟩

theorem Quiet.trans {a b c : SState} (h1 : Quiet a b) (h2 : Quiet b c) : Quiet a c :=
  ⟨h2.map.trans h1.map, h2.infos.trans h1.infos, h2.prob.trans h1.prob, h2.wo.trans h1.wo,
   h2.readQ.trans h1.readQ, h2.writeQ.trans h1.writeQ, h2.ec.trans h1.ec, h2.ws.trans h1.ws,
   h2.va.trans h1.va, h2.now.trans h1.now, h2.nextId.trans h1.nextId, h2.fault.trans h1.fault,
   fun h => (h2.freq h).trans (h1.freq h)⟩

theorem NoExp.quiet {p : Params} {s s' : SState} (h : NoExp p s) (hq : Quiet s s') :
    NoExp p s' :=
  h.of_eq hq.infos hq.prob hq.wo hq.va hq.now

theorem NoExp.same {p : Params} {s s' : SState} (h : NoExp p s) (hq : SameCore s s') :
    NoExp p s' :=
  h.of_eq hq.infos hq.prob hq.wo hq.va hq.now

theorem applyWrites_single (p : Params) (s : SState) (op : WOp) (hw : s.writeQ = [op]) :
    applyWrites p s.writeQ.length s = applyWrite p { s with writeQ := [] } op := by
  have : s.writeQ.length = 0 + 1 := by rw [hw]; rfl
  rw [this, applyWrites]
  simp only [hw]
  rfl

theorem syncPass_writes (p : Params) (t : SState) (hr : t.readQ = []) :
    syncPass p t =
      if shouldEnableSketch p (applyWrites p t.writeQ.length t)
      then enableSketch p (applyWrites p t.writeQ.length t)
      else applyWrites p t.writeQ.length t := by
  have e1 : applyReads p t.readQ.length t = t := by rw [hr]; rfl
  rw [syncPass_eq]
  dsimp only
  rw [e1]

theorem syncRun_calm {p : Params} {cap : Nat} (hcap : p.cap = some cap) {s W : SState}
    (hr : s.readQ = [])
    (hW : applyWrites p s.writeQ.length { s with cec := s.ec, cws := s.ws } = W)
    (hne : NoExp p W) :
    ∃ s2, (s2 = W ∨ shouldEnableSketch p W = true ∧ s2 = enableSketch p W) ∧
      syncRun p s =
        (let s3 := if s2.cws - cap > 0
           then evictLruLoop p Gen.SYNC_EVICTION_BATCH_SIZE s2 (s2.cws - cap) 0 else s2
         { s3 with ec := s3.cec, ws := s3.cws }) := by
  -- rewritten while the stages of the run are still `let`s: inlined, the pass occurs in every
  -- later stage
  rw [syncRun_eq, syncPass_writes p { s with cec := s.ec, cws := s.ws } hr, hW]
  have key : ∀ s2, SameCore W s2 →
      (let t := if (p.hasExpiry || s2.va.isSome) = true then evictExpired p s2 else s2
       let s3 := if weightsToEvict p t > 0
         then evictLruLoop p Gen.SYNC_EVICTION_BATCH_SIZE t (weightsToEvict p t) 0 else t
       ({ s3 with ec := s3.cec, ws := s3.cws } : SState)) =
      (let s3 := if s2.cws - cap > 0
         then evictLruLoop p Gen.SYNC_EVICTION_BATCH_SIZE s2 (s2.cws - cap) 0 else s2
       { s3 with ec := s3.cec, ws := s3.cws }) := by
    intro s2 hsame
    have e3 : (if (p.hasExpiry || s2.va.isSome) = true then evictExpired p s2 else s2) = s2 := by
      split
      · exact evictExpired_noop (hne.same hsame)
      · rfl
    dsimp only
    rw [e3, weightsToEvict_some hcap]
  by_cases hen : shouldEnableSketch p W = true
  · rw [if_pos hen]
    exact ⟨_, Or.inr ⟨hen, rfl⟩, key _ (enableSketch_same _ _)⟩
  · rw [if_neg hen]
    exact ⟨_, Or.inl rfl, key _ (SameCore.refl _)⟩

theorem syncRun_writes {p : Params} {cap : Nat} (hcap : p.cap = some cap) {s W : SState}
    (hr : s.readQ = [])
    (hW : applyWrites p s.writeQ.length { s with cec := s.ec, cws := s.ws } = W)
    (hne : NoExp p W) (hcws : W.cws ≤ cap) :
    SameCore W (syncRun p s) ∧ (syncRun p s).ws = W.cws := by
  obtain ⟨s2, h2, e⟩ := syncRun_calm hcap hr hW hne
  have h : SameCore W s2 := by
    rcases h2 with rfl | ⟨_, rfl⟩
    · exact SameCore.refl _
    · exact enableSketch_same _ _
  have hle : ¬ s2.cws - cap > 0 := by
    rw [h.cws]
    omega
  rw [e]
  dsimp only
  rw [if_neg hle]
  exact ⟨⟨h.map, h.infos, h.prob, h.wo, h.va, h.now, h.cws, h.cec⟩, h.cws⟩

theorem syncRun_quiet {p : Params} {cap : Nat} (hcap : p.cap = some cap) {s : SState}
    (hr : s.readQ = []) (hw : s.writeQ = []) (hne : NoExp p s) (hws : s.ws ≤ cap)
    (hsk : s.skOn = false → s.sk = {}) : Quiet s (syncRun p s) := by
  have hW : applyWrites p s.writeQ.length { s with cec := s.ec, cws := s.ws } =
      { s with cec := s.ec, cws := s.ws } := by
    rw [hw]
    rfl
  obtain ⟨s2, h2, e⟩ := syncRun_calm hcap hr hW ⟨hne.ao, hne.wo⟩
  have hq : Quiet s s2 ∧ s2.cws = s.ws ∧ s2.cec = s.ec := by
    rcases h2 with rfl | ⟨hen, rfl⟩
    · exact ⟨⟨rfl, rfl, rfl, rfl, rfl, rfl, rfl, rfl, rfl, rfl, rfl, rfl, fun _ => rfl⟩, rfl, rfl⟩
    · have hoff : s.skOn = false :=
        SkF.shouldEnableSketch_off (s := { s with cec := s.ec, cws := s.ws }) hen
      unfold enableSketch
      rw [hcap]
      refine ⟨⟨rfl, rfl, rfl, rfl, rfl, rfl, rfl, rfl, rfl, rfl, rfl, rfl, fun h => ?_⟩, rfl, rfl⟩
      -- `dsimp only`, not `show`: unifying through the unfolded `enableSketch` is slow to check
      dsimp only
      rw [hsk hoff]
      exact Sketch.frequency_init _ h
  obtain ⟨hq1, hc1, hc2⟩ := hq
  have hle : ¬ s2.cws - cap > 0 := by
    rw [hc1]
    omega
  rw [e]
  dsimp only
  rw [if_neg hle]
  exact ⟨hq1.map, hq1.infos, hq1.prob, hq1.wo, hq1.readQ, hq1.writeQ, hc2, hc1, hq1.va, hq1.now,
    hq1.nextId, hq1.fault, hq1.freq⟩

theorem housekeepW_quiet {p : Params} {cap : Nat} (hcap : p.cap = some cap) {s : SState}
    (hr : s.readQ = []) (hw : s.writeQ = []) (hne : NoExp p s) (hws : s.ws ≤ cap)
    (hsk : s.skOn = false → s.sk = {}) : Quiet s (housekeepW p s) := by
  refine (housekeep_ind (C := Quiet s) (Quiet.refl s) fun a => ?_).2.1
  have h0 : Quiet s { s with running := true, syncAfter := a } :=
    ⟨rfl, rfl, rfl, rfl, rfl, rfl, rfl, rfl, rfl, rfl, rfl, rfl, fun _ => rfl⟩
  have h1 := syncRun_quiet hcap (s := { s with running := true, syncAfter := a }) hr hw
    (hne.quiet h0) hws hsk
  exact (h0.trans h1).trans ⟨rfl, rfl, rfl, rfl, rfl, rfl, rfl, rfl, rfl, rfl, rfl, rfl, fun _ => rfl⟩

/-! ### `admit` over a list of nodes, few of them dangling: the closed form -/

def probWeights (s : SState) : List Nat := s.prob.map (fun n => (getInfo s n.info).weight)

def probFreqs (s : SState) : List Nat := s.prob.map (fun n => s.sk.frequency n.hash)

/-- Every node of `l` is current, that is, not dangling.  (The negation for one node is `NonCur`;
`Dangling.liveN` is the model's own test.) -/
def AllCur (s : SState) (l : List AoNode) : Prop :=
  ∀ n, n ∈ l → ∃ e, AL.get? s.map n.key = some e ∧ e.info = n.info

theorem prob_keys_nodup {s : SState} (hnc : NodesCore s) (hcur : AllCur s s.prob) :
    (s.prob.map (·.key)).Nodup := by
  refine nodup_map_of_inj (·.id) (·.key) s.prob hnc.probIds ?_
  intro a ha b hb hk
  obtain ⟨ea, h1, h2⟩ := hcur a ha
  obtain ⟨eb, h3, h4⟩ := hcur b hb
  have hk' : a.key = b.key := hk
  rw [hk', h3] at h1
  cases h1
  exact hnc.info_inj ha hb (h2.symm.trans h4)

theorem entryOfNode_cur {p : Params} (hd7 : p.q.d7 = false) {s : SState} {n : AoNode} {e : VE}
    (h1 : AL.get? s.map n.key = some e) (h2 : e.info = n.info) :
    entryOfNode p s n.key n.info = some e := by
  unfold entryOfNode
  rw [h1]
  dsimp only
  rw [hd7, Bool.false_or, h2, beq_self_eq_true, if_pos rfl]

/-- The node's entry is the map's entry of its key. -/
def _root_.MiniMoka.Sync.Dangling.liveN (p : Params) (s : SState) (n : AoNode) : Bool :=
  (entryOfNode p s n.key n.info).isSome

theorem admitLoop_stop (p : Params) (s : SState) (cw cf : Nat) (l : List AoNode) (a : Admission)
    (h : ¬ (a.vw < cw ∧ ¬ cf < a.vf)) : admitLoop p s cw cf l a = a := by
  cases l with
  | nil => rfl
  | cons n rest => unfold admitLoop; rw [if_neg h]

theorem admitLoop_cons_live (p : Params) (s : SState) (cw cf : Nat) (nd : AoNode)
    (rest : List AoNode) (a : Admission) (ve : VE) (h : a.vw < cw ∧ ¬ cf < a.vf)
    (he : entryOfNode p s nd.key nd.info = some ve) :
    admitLoop p s cw cf (nd :: rest) a =
      admitLoop p s cw cf rest
        { a with vw := a.vw + (getInfo s ve.info).weight, vf := a.vf + s.sk.frequency nd.hash,
                 victims := a.victims ++ [nd], retries := 0 } := by
  rw [admitLoop, if_pos h, he]

theorem admitLoop_cons_skip (p : Params) (s : SState) (cw cf : Nat) (nd : AoNode)
    (rest : List AoNode) (a : Admission) (h : a.vw < cw ∧ ¬ cf < a.vf)
    (he : entryOfNode p s nd.key nd.info = none)
    (hr : a.retries + 1 ≤ Gen.MAX_CONSECUTIVE_RETRIES) :
    admitLoop p s cw cf (nd :: rest) a =
      admitLoop p s cw cf rest
        { a with skipped := a.skipped ++ [nd], retries := a.retries + 1 } := by
  rw [admitLoop, if_pos h, he]
  dsimp only
  rw [if_neg (by omega)]

/-- The scan of `admit` over `l`, few of whose nodes are dangling, is `scanLen` over the others
(`w`: the weight of a node's entry).  The code gives up after `MAX_CONSECUTIVE_RETRIES` CONSECUTIVE
skips (a live node resets `retries`); bounding the total number of nodes to skip is a cruder
condition that suffices here. -/
theorem admitLoop_scan {p : Params} {s : SState} {cw cf : Nat} {w : AoNode → Nat} :
    ∀ (l : List AoNode) (a : Admission),
      (∀ n ∈ l, ∀ ve, entryOfNode p s n.key n.info = some ve → (getInfo s ve.info).weight = w n) →
      (l.filter (fun n => !Dangling.liveN p s n)).length + a.retries ≤
        Gen.MAX_CONSECUTIVE_RETRIES →
      (admitLoop p s cw cf l a).vw = a.vw + (((l.filter (Dangling.liveN p s)).map w).take
        (scanLen w (fun n => s.sk.frequency n.hash) cw cf (l.filter (Dangling.liveN p s))
          a.vw a.vf)).sum ∧
      (admitLoop p s cw cf l a).vf = a.vf +
        (((l.filter (Dangling.liveN p s)).map (fun n => s.sk.frequency n.hash)).take
          (scanLen w (fun n => s.sk.frequency n.hash) cw cf (l.filter (Dangling.liveN p s))
            a.vw a.vf)).sum ∧
      (admitLoop p s cw cf l a).victims = a.victims ++ (l.filter (Dangling.liveN p s)).take
        (scanLen w (fun n => s.sk.frequency n.hash) cw cf (l.filter (Dangling.liveN p s))
          a.vw a.vf) ∧
      ((∀ n ∈ l, Dangling.liveN p s n = true) →
        (admitLoop p s cw cf l a).skipped = a.skipped) := by
  intro l
  induction l with
  | nil =>
    intro a _ _
    simp only [admitLoop, scanLen, List.filter_nil, List.map_nil, List.take_nil, List.sum_nil,
      Nat.add_zero, List.append_nil, implies_true, and_self]
  | cons nd rest ih =>
    intro a hw hcnt
    have hw' : ∀ n ∈ rest, ∀ ve, entryOfNode p s n.key n.info = some ve →
        (getInfo s ve.info).weight = w n := fun n hn => hw n (List.mem_cons_of_mem _ hn)
    by_cases hc : a.vw < cw ∧ ¬ cf < a.vf
    · cases hl : Dangling.liveN p s nd with
      | true =>
        obtain ⟨ve, he⟩ : ∃ ve, entryOfNode p s nd.key nd.info = some ve :=
          Option.isSome_iff_exists.mp hl
        rw [List.filter_cons_of_neg (by rw [hl]; exact Bool.false_ne_true)] at hcnt
        rw [admitLoop_cons_live p s cw cf nd rest a ve hc he, List.filter_cons_of_pos hl,
          scanLen_go hc, hw nd List.mem_cons_self ve he]
        obtain ⟨i1, i2, i3, i4⟩ := ih
          { a with vw := a.vw + w nd, vf := a.vf + s.sk.frequency nd.hash,
                   victims := a.victims ++ [nd], retries := 0 } hw' (by show _ + 0 ≤ _; omega)
        dsimp only at i1 i2 i3 i4
        simp only [List.map_cons, List.take_succ_cons, List.sum_cons]
        refine ⟨?_, ?_, ?_, fun h => i4 (fun n hn => h n (List.mem_cons_of_mem _ hn))⟩
        · rw [i1]; omega
        · rw [i2]; omega
        · rw [i3, List.append_assoc, List.singleton_append]
      | false =>
        have he : entryOfNode p s nd.key nd.info = none := by
          cases h : entryOfNode p s nd.key nd.info with
          | none => rfl
          | some _ => unfold Dangling.liveN at hl; rw [h] at hl; cases hl
        rw [List.filter_cons_of_pos (by rw [hl]; rfl)] at hcnt
        simp only [List.length_cons] at hcnt
        rw [admitLoop_cons_skip p s cw cf nd rest a hc he (by omega),
          List.filter_cons_of_neg (by rw [hl]; exact Bool.false_ne_true)]
        obtain ⟨i1, i2, i3, -⟩ := ih { a with skipped := a.skipped ++ [nd], retries := a.retries + 1 }
          hw' (by show _ + (a.retries + 1) ≤ _; omega)
        exact ⟨i1, i2, i3, fun h => by rw [h nd List.mem_cons_self] at hl; cases hl⟩
    · rw [admitLoop_stop _ _ _ _ _ _ hc, scanLen_stop hc]
      simp only [List.take_zero, List.sum_nil, Nat.add_zero, List.append_nil, implies_true,
        and_self]

theorem live_iff_cur {p : Params} (hd7 : p.q.d7 = false) {s : SState} {n : AoNode} :
    Dangling.liveN p s n = true ↔ ∃ e, AL.get? s.map n.key = some e ∧ e.info = n.info := by
  constructor
  · intro h
    obtain ⟨ve, he⟩ := Option.isSome_iff_exists.mp h
    exact ⟨ve, Counters.entryOfNode_get he, entryOfNode_info hd7 he⟩
  · rintro ⟨e, he, hei⟩
    unfold Dangling.liveN
    rw [entryOfNode_cur hd7 he hei]
    rfl

/-- **Closed formula of `admit`** over `l`, few of whose nodes are dangling, `L` the others: the
final test passes iff the shortest prefix of `L` whose weights reach `cw` exists and `cf` exceeds
its summed estimate; the victims are then that prefix. -/
theorem admitLoop_closed_list {p : Params} (hd7 : p.q.d7 = false) {s : SState} {cw cf : Nat}
    (l : List AoNode)
    (hcnt : (l.filter (fun n => !Dangling.liveN p s n)).length ≤ Gen.MAX_CONSECUTIVE_RETRIES) :
    ((∀ n ∈ l, Dangling.liveN p s n = true) → (admitLoop p s cw cf l {}).skipped = []) ∧
    ((admitLoop p s cw cf l {}).vw ≥ cw ∧ cf > (admitLoop p s cw cf l {}).vf ↔
      ∃ n, shortestPre cw ((l.filter (Dangling.liveN p s)).map
          (fun n => (getInfo s n.info).weight)) = some n ∧
        cf > (((l.filter (Dangling.liveN p s)).map (fun n => s.sk.frequency n.hash)).take n).sum) ∧
    (∀ n, shortestPre cw ((l.filter (Dangling.liveN p s)).map
          (fun n => (getInfo s n.info).weight)) = some n →
        cf > (((l.filter (Dangling.liveN p s)).map (fun n => s.sk.frequency n.hash)).take n).sum →
        (admitLoop p s cw cf l {}).victims = (l.filter (Dangling.liveN p s)).take n) := by
  obtain ⟨a1, a2, a3, a4⟩ := admitLoop_scan (p := p) (s := s) (cw := cw) (cf := cf)
    (w := fun n => (getInfo s n.info).weight) l {}
    (fun n _ ve he => by rw [entryOfNode_info hd7 he]) (by show _ + 0 ≤ _; omega)
  obtain ⟨c1, c2⟩ := scanLen_closed_zero (fun n : AoNode => (getInfo s n.info).weight)
    (fun n => s.sk.frequency n.hash) cw cf (l.filter (Dangling.liveN p s))
  simp only [Nat.zero_add, List.nil_append] at a1 a2 a3
  refine ⟨a4, ?_, fun n h1 h2 => ?_⟩
  · rw [a1, a2]; exact c1
  · rw [a3, c2 n h1 h2]

theorem eraseAo_head (n : AoNode) (rest : List AoNode) : eraseAo (n :: rest) n.id = rest := by
  simp [eraseAo]

theorem handleRemove_exact {s : SState} (h : Safe s) (ve : VE) {n : AoNode} (hn : n ∈ s.prob)
    (hinfo : n.info = ve.info) :
    (handleRemove s ve).prob = eraseAo s.prob n.id ∧ (handleRemove s ve).map = s.map ∧
    (handleRemove s ve).cws = s.cws - (getInfo s ve.info).weight ∧
    (∀ j, j ≠ ve.info → getInfo (handleRemove s ve) j = getInfo s j) := by
  have hr := handleRemove_removed h ve
  have hadm : (getInfo s ve.info).admitted = true := by
    rw [← hinfo]
    exact h.probAdm hn
  have hao : (getInfo s ve.info).ao = some n.id := by
    rw [← hinfo]
    exact h.probOwn n hn
  refine ⟨?_, hr.map, ?_, fun j hj => hr.info_ne hj⟩
  · rw [hr.prob, hao]
  · rw [hr.cws, hadm, if_pos rfl]

def eraseKeys (m : List (Nat × VE)) (ks : List Nat) : List (Nat × VE) :=
  ks.foldl (fun m k => AL.erase m k) m

theorem nodup_eraseKeys {m : List (Nat × VE)} (hn : (AL.keys m).Nodup) (ks : List Nat) :
    (AL.keys (eraseKeys m ks)).Nodup := by
  induction ks generalizing m with
  | nil => exact hn
  | cons k ks ih => exact ih (m := AL.erase m k) (AL.nodup_erase k hn)

theorem get?_eraseKeys {m : List (Nat × VE)} (hn : (AL.keys m).Nodup) (ks : List Nat) (x : Nat) :
    AL.get? (eraseKeys m ks) x = if x ∈ ks then none else AL.get? m x :=
  AL.get?_foldl_erase hn ks x

theorem mem_keys_eraseKeys {m : List (Nat × VE)} (hn : (AL.keys m).Nodup) {V : List Nat} {x : Nat} :
    x ∈ AL.keys (eraseKeys m V) ↔ x ∈ AL.keys m ∧ x ∉ V := by
  rw [← AL.get?_isSome_iff, ← AL.get?_isSome_iff, get?_eraseKeys hn]
  by_cases h : x ∈ V
  · rw [if_pos h]; exact ⟨fun h' => (by cases h'), fun h' => absurd h h'.2⟩
  · rw [if_neg h]; exact ⟨fun h' => ⟨h', h⟩, fun h' => h'.1⟩

theorem removeCur {s : SState} (h : Safe s) (hkn : (AL.keys s.map).Nodup) {v : AoNode}
    (hv : v ∈ s.prob) {e : VE} (he : AL.get? s.map v.key = some e) (hei : e.info = v.info) :
    ∃ s1, handleRemove { s with map := AL.erase s.map v.key } e = s1 ∧ Safe s1 ∧
      (AL.keys s1.map).Nodup ∧ s1.prob = eraseAo s.prob v.id ∧ s1.map = AL.erase s.map v.key ∧
      s1.cws = s.cws - (getInfo s v.info).weight ∧
      ∀ n, n ∈ s.prob → n.id ≠ v.id →
        n ∈ s1.prob ∧ getInfo s1 n.info = getInfo s n.info ∧
        ∀ e2, AL.get? s.map n.key = some e2 → e2.info = n.info →
          AL.get? s1.map n.key = some e2 := by
  have h0 := safe_eraseMap h v.key
  obtain ⟨x1, x2, x3, x4⟩ := handleRemove_exact h0 e (n := v) hv hei.symm
  refine ⟨_, rfl, (handleRemove_safe h0 e).1, ?_, x1, x2, ?_, ?_⟩
  · rw [x2]; exact AL.nodup_erase _ hkn
  · rw [x3, hei]; rfl
  · intro n hn hid
    have hi : n.info ≠ v.info := fun e' => hid (h.info_inj hn hv e')
    refine ⟨?_, ?_, ?_⟩
    · rw [x1]
      exact (mem_eraseAo_iff h.probIds n).mpr ⟨hn, hid⟩
    · exact x4 _ (by rw [hei]; exact hi)
    · intro e2 he2 hei2
      -- another key: the same key would mean the same entry, hence the same info
      have hk : v.key ≠ n.key := by
        intro e'
        rw [← e', he] at he2
        cases he2
        exact hi (hei2.symm.trans hei)
      rw [x2]
      show AL.get? (AL.erase s.map v.key) n.key = some e2
      rw [AL.get?_erase_ne hk]
      exact he2

theorem eraseAo_prefix : ∀ (vs rest : List AoNode),
    vs.foldl (fun l v => eraseAo l v.id) (vs ++ rest) = rest
  | [], _ => rfl
  | v :: vs, rest => by
    rw [List.cons_append, List.foldl_cons, eraseAo_head]
    exact eraseAo_prefix vs rest

theorem removeVictims_cur {p : Params} (hd7 : p.q.d7 = false) :
    ∀ (vs : List AoNode) (s : SState) (sk0 : List AoNode), Safe s → (∀ v ∈ vs, v ∈ s.prob) →
      (vs.map (·.id)).Nodup → AllCur s vs → (AL.keys s.map).Nodup →
      (removeVictims p vs s sk0).2 = sk0 ∧
      (removeVictims p vs s sk0).1.prob = vs.foldl (fun l v => eraseAo l v.id) s.prob ∧
      (removeVictims p vs s sk0).1.map = eraseKeys s.map (vs.map (·.key)) ∧
      (removeVictims p vs s sk0).1.cws =
        s.cws - (vs.map (fun n => (getInfo s n.info).weight)).sum := by
  intro vs
  induction vs with
  | nil =>
    intro s sk0 _ _ _ _ _
    exact ⟨rfl, rfl, rfl, by simp [removeVictims]⟩
  | cons v vs ih =>
    intro s sk0 h hmem hids hcur hkn
    have hv : v ∈ s.prob := hmem v List.mem_cons_self
    obtain ⟨e, he, hei⟩ := hcur v List.mem_cons_self
    rw [removeVictims, findAo_of_mem h.probIds hv]
    dsimp only
    rw [entryOfNode_cur hd7 he hei]
    dsimp only
    obtain ⟨s1, hs1, hsafe1, hkn1, hp1, hm1, hc1, hoth⟩ := removeCur h hkn hv he hei
    rw [hs1]
    rw [List.map_cons, List.nodup_cons] at hids
    have hrest : ∀ n, n ∈ vs → n ∈ s.prob ∧ n.id ≠ v.id := fun n hn =>
      ⟨hmem n (List.mem_cons_of_mem _ hn), fun e' => hids.1 (e' ▸ List.mem_map.mpr ⟨n, hn, rfl⟩)⟩
    have hcur1 : AllCur s1 vs := by
      intro n hn
      obtain ⟨e2, he2, hei2⟩ := hcur n (List.mem_cons_of_mem _ hn)
      exact ⟨e2, (hoth n (hrest n hn).1 (hrest n hn).2).2.2 e2 he2 hei2, hei2⟩
    obtain ⟨r1, r2, r3, r5⟩ := ih s1 sk0 hsafe1
      (fun n hn => (hoth n (hrest n hn).1 (hrest n hn).2).1) hids.2 hcur1 hkn1
    refine ⟨r1, ?_, ?_, ?_⟩
    · rw [r2, hp1]; rfl
    · rw [r3, hm1]; rfl
    · have hw : vs.map (fun n => (getInfo s1 n.info).weight) =
          vs.map (fun n => (getInfo s n.info).weight) :=
        List.map_congr_left (fun n hn => by rw [(hoth n (hrest n hn).1 (hrest n hn).2).2.1])
      rw [r5, hc1, hw, List.map_cons, List.sum_cons]
      omega

theorem moveSkipped_nil (s : SState) : moveSkipped [] s = s := rfl

/-- The admission decision over the nodes `L` (weights and estimates read in `s`) for a candidate
of weight `w` and estimate `f`, as a case split with two continuations: `adm n` holds if the
shortest prefix of `L` whose weights cover `w` has length `n` and its summed estimate is below
`f`, `rej` if there is no such prefix. -/
def Decides (s : SState) (L : List AoNode) (w f : Nat) (adm : Nat → Prop) (rej : Prop) : Prop :=
  (∀ n, shortestPre w (L.map (fun n => (getInfo s n.info).weight)) = some n →
    f > ((L.map (fun n => s.sk.frequency n.hash)).take n).sum → adm n) ∧
  ((¬ ∃ n, shortestPre w (L.map (fun n => (getInfo s n.info).weight)) = some n ∧
    f > ((L.map (fun n => s.sk.frequency n.hash)).take n).sum) → rej)

theorem Decides.imp {s : SState} {L : List AoNode} {w f : Nat} {A A' : Nat → Prop} {B B' : Prop}
    (h : Decides s L w f A B) (ha : ∀ n, A n → A' n) (hb : B → B') : Decides s L w f A' B' :=
  ⟨fun n h1 h2 => ha n (h.1 n h1 h2), fun hno => hb (h.2 hno)⟩

theorem Decides.congr {s s' : SState} {L : List AoNode} {w f : Nat} {A : Nat → Prop} {B : Prop}
    (h : Decides s' L w f A B)
    (hw : ∀ n ∈ L, (getInfo s' n.info).weight = (getInfo s n.info).weight)
    (hf : ∀ h, s'.sk.frequency h = s.sk.frequency h) : Decides s L w f A B := by
  have e1 : L.map (fun n => (getInfo s' n.info).weight) =
      L.map (fun n => (getInfo s n.info).weight) := List.map_congr_left hw
  have e2 : L.map (fun n => s'.sk.frequency n.hash) = L.map (fun n => s.sk.frequency n.hash) :=
    List.map_congr_left (fun n _ => hf n.hash)
  unfold Decides at h ⊢
  rw [e1, e2] at h
  exact h

theorem Decides.elim {s : SState} {L : List AoNode} {w f : Nat} {A : Nat → Prop} {B P : Prop}
    (h : Decides s L w f A B)
    (ha : ∀ n, w ≤ ((L.map (fun n => (getInfo s n.info).weight)).take n).sum → A n → P)
    (hb : B → P) : P := by
  by_cases hex : ∃ n, shortestPre w (L.map (fun n => (getInfo s n.info).weight)) = some n ∧
      f > ((L.map (fun n => s.sk.frequency n.hash)).take n).sum
  · obtain ⟨n, hn1, hn2⟩ := hex
    exact ha n ((shortestPre_eq_some_iff _ _ _).mp hn1).2.1 (h.1 n hn1 hn2)
  · exact hb (h.2 hex)

/-- `admitOrReject`: the scan decides over the nodes that are not dangling and moves the others,
which it skipped, to the back. -/
theorem admitOrReject_scan {p : Params} (hd7 : p.q.d7 = false) {s : SState} {k : Nat}
    {hash : UInt64} {ve : VE} {w : Nat} (hs : Safe s) (hkn : (AL.keys s.map).Nodup)
    (hcand : AL.get? s.map k = some ve)
    (hcnt : (s.prob.filter (fun n => !Dangling.liveN p s n)).length ≤
      Gen.MAX_CONSECUTIVE_RETRIES) :
    Decides s (s.prob.filter (Dangling.liveN p s)) w (s.sk.frequency hash)
      (fun n => ∃ s2, admitOrReject p s k hash ve w =
          moveSkipped (admitLoop p s w (s.sk.frequency hash) s.prob {}).skipped
            (handleAdmit p s2 k hash ve w) ∧
        s2.prob = ((s.prob.filter (Dangling.liveN p s)).take n).foldl
          (fun l v => eraseAo l v.id) s.prob ∧
        s2.map = eraseKeys s.map (((s.prob.filter (Dangling.liveN p s)).take n).map (·.key)) ∧
        s2.cws = s.cws - (((s.prob.filter (Dangling.liveN p s)).take n).map
          (fun n => (getInfo s n.info).weight)).sum)
      (admitOrReject p s k hash ve w =
        moveSkipped (admitLoop p s w (s.sk.frequency hash) s.prob {}).skipped
          { s with map := AL.erase s.map k }) := by
  obtain ⟨-, c1, c2⟩ := admitLoop_closed_list (p := p) hd7 (s := s) (cw := w)
    (cf := s.sk.frequency hash) s.prob hcnt
  have hsub : (s.prob.filter (Dangling.liveN p s)).Sublist s.prob := List.filter_sublist
  have hcur : AllCur s (s.prob.filter (Dangling.liveN p s)) :=
    fun n hn => (live_iff_cur hd7).mp (List.mem_filter.mp hn).2
  generalize s.prob.filter (Dangling.liveN p s) = L at c1 c2 hsub hcur ⊢
  refine ⟨fun n hn1 hn2 => ?_, fun hno => ?_⟩
  · unfold admitOrReject
    dsimp only
    rw [if_pos (c1.mpr ⟨n, hn1, hn2⟩), c2 n hn1 hn2]
    generalize (admitLoop p s w (s.sk.frequency hash) s.prob {}).skipped = sk0
    obtain ⟨r1, r2, r3, r5⟩ := removeVictims_cur hd7 (L.take n) s sk0 hs
      (fun v hv => hsub.subset (List.mem_of_mem_take hv))
      (List.Nodup.sublist (((List.take_sublist n _).trans hsub).map _) hs.probIds)
      (fun m hm => hcur m (List.mem_of_mem_take hm)) hkn
    generalize removeVictims p (L.take n) s sk0 = rv at r1 r2 r3 r5 ⊢
    obtain ⟨s2, sk2⟩ := rv
    dsimp only at r1 r2 r3 r5 ⊢
    subst r1
    exact ⟨s2, rfl, r2, r3, r5⟩
  · unfold admitOrReject
    dsimp only
    rw [if_neg (fun h => hno (c1.mp h))]
    have : removeCandidate p s k ve = { s with map := AL.erase s.map k } := by
      unfold removeCandidate
      rw [hcand]
      dsimp only
      rw [hd7, Bool.false_or, beq_self_eq_true, if_pos rfl]
    rw [this]

theorem admitOrReject_cand {p : Params} (hd7 : p.q.d7 = false) {s : SState} {k : Nat}
    {hash : UInt64} {ve : VE} {w : Nat} (hs : Safe s) (hkn : (AL.keys s.map).Nodup)
    (hcand : AL.get? s.map k = some ve) (hcur : AllCur s s.prob) :
    Decides s s.prob w (s.sk.frequency hash)
      (fun n =>
        (admitOrReject p s k hash ve w).map = eraseKeys s.map ((s.prob.take n).map (·.key)) ∧
        (∃ node : AoNode, node.key = k ∧ node.info = ve.info ∧
          (admitOrReject p s k hash ve w).prob = s.prob.drop n ++ [node]) ∧
        (admitOrReject p s k hash ve w).cws = s.cws - ((probWeights s).take n).sum + w)
      ((admitOrReject p s k hash ve w).map = AL.erase s.map k ∧
        (admitOrReject p s k hash ve w).prob = s.prob ∧
        (admitOrReject p s k hash ve w).cws = s.cws ∧
        Sub s (admitOrReject p s k hash ve w)) := by
  have hlive : ∀ n ∈ s.prob, Dangling.liveN p s n = true :=
    fun n hn => (live_iff_cur hd7).mpr (hcur n hn)
  have hcnt : (s.prob.filter (fun n => !Dangling.liveN p s n)).length ≤
      Gen.MAX_CONSECUTIVE_RETRIES := by
    rw [List.filter_eq_nil_iff.mpr (fun n hn => by rw [hlive n hn]; exact Bool.false_ne_true)]
    exact Nat.zero_le _
  have c0 := (admitLoop_closed_list (p := p) hd7 (s := s) (cw := w) (cf := s.sk.frequency hash)
    s.prob hcnt).1 hlive
  have h := admitOrReject_scan (k := k) (hash := hash) (ve := ve) (w := w) hd7 hs hkn hcand hcnt
  rw [List.filter_eq_self.mpr hlive] at h
  refine h.imp ?_ ?_
  · rintro n ⟨s2, e, hp, hm, hc⟩
    rw [c0, moveSkipped_nil] at e
    have A := handleAdmit_admitted p s2 k hash ve w
    have hpre := eraseAo_prefix (s.prob.take n) (s.prob.drop n)
    rw [List.take_append_drop] at hpre
    rw [e]
    refine ⟨by rw [A.map, hm], ⟨_, rfl, rfl, by rw [A.prob, hp, hpre]⟩, ?_⟩
    rw [A.cws, hc, List.map_take]
    rfl
  · intro e
    rw [c0, moveSkipped_nil] at e
    rw [e]
    exact ⟨rfl, rfl, rfl, sub_of_eq rfl rfl rfl⟩

theorem handleUpsert_new {p : Params} (hq : NoQuirks p) {s : SState} {k : Nat} {ve : VE}
    (hash : UInt64) (oldW w0 : Nat) (hcand : AL.get? s.map k = some ve)
    (hna : (getInfo s ve.info).admitted = false) :
    handleUpsert p s k hash ve oldW w0 =
      (let s1 := withInfo s ve.info (fun i => { i with dirty := false })
       if hasEnoughCapacity p (p.weigh k ve.val) s1
       then handleAdmit p s1 k hash ve (p.weigh k ve.val)
       else if tooBig p (p.weigh k ve.val) then removeCandidate p s1 k ve
       else admitOrReject p s1 k hash ve (p.weigh k ve.val)) := by
  have hd7 : p.q.d7 = false := by rw [hq]
  unfold handleUpsert
  dsimp only
  rw [currentWeight_of_cur (by rw [hq]) hcand rfl]
  have hna1 : ¬ (getInfo (withInfo s ve.info (fun i => { i with dirty := false })) ve.info).admitted
      = true := by
    rw [getInfo_withInfo, if_pos rfl]
    show ¬ (getInfo s ve.info).admitted = true
    rw [hna]; exact Bool.false_ne_true
  have hcurE : isCurrentEntry (withInfo s ve.info (fun i => { i with dirty := false })) k ve
      = true := isCurrentEntry_iff.mpr ⟨ve, hcand, rfl⟩
  rw [if_neg hna1, hd7, hcurE]
  simp only [Bool.not_false, Bool.not_true, Bool.and_false, Bool.false_eq_true, if_false]

theorem handleUpsert_noroom {p : Params} (hq : NoQuirks p) {cap : Nat} (hcap : p.cap = some cap)
    {s : SState} {k : Nat} {ve : VE} (hash : UInt64) (oldW w0 : Nat)
    (hcand : AL.get? s.map k = some ve) (hna : (getInfo s ve.info).admitted = false)
    (hroom : s.cws + p.weigh k ve.val > cap) (hfit : p.weigh k ve.val ≤ cap) :
    handleUpsert p s k hash ve oldW w0 =
      admitOrReject p (withInfo s ve.info (fun i => { i with dirty := false })) k hash ve
        (p.weigh k ve.val) := by
  rw [handleUpsert_new hq hash oldW w0 hcand hna]
  dsimp only
  have hroom1 : ¬ hasEnoughCapacity p (p.weigh k ve.val)
      (withInfo s ve.info (fun i => { i with dirty := false })) = true := by
    rw [hasEnoughCapacity_some hcap, decide_eq_true_eq]
    show ¬ s.cws + p.weigh k ve.val ≤ cap
    omega
  have hbig : ¬ tooBig p (p.weigh k ve.val) = true := by
    unfold tooBig
    rw [hcap]
    simp only [decide_eq_true_eq]
    omega
  rw [if_neg hroom1, if_neg hbig]

theorem weight_clean (s : SState) (i j : Nat) :
    (getInfo (withInfo s i (fun x => { x with dirty := false })) j).weight =
      (getInfo s j).weight := by
  rw [getInfo_withInfo]
  by_cases e : i = j
  · rw [if_pos e, e]
  · rw [if_neg e]

theorem Decides.of_clean {s : SState} {i : Nat} {L : List AoNode} {w f : Nat} {A : Nat → Prop}
    {B : Prop} (h : Decides (withInfo s i (fun x => { x with dirty := false })) L w f A B) :
    Decides s L w f A B :=
  h.congr (fun n _ => weight_clean s i n.info) (fun _ => rfl)

theorem handleUpsert_cand {p : Params} (hq : NoQuirks p) {cap : Nat} (hcap : p.cap = some cap)
    {s : SState} {k v : Nat} {ve : VE} (oldW w0 : Nat) (hs : Safe s)
    (hkn : (AL.keys s.map).Nodup) (hcand : AL.get? s.map k = some ve) (hval : ve.val = v)
    (hna : (getInfo s ve.info).admitted = false) (hcur : AllCur s s.prob)
    (hroom : s.cws + p.weigh k v > cap) (hfit : p.weigh k v ≤ cap) :
    Decides s s.prob (p.weigh k v) (s.sk.frequency (p.hash k))
      (fun n =>
        (handleUpsert p s k (p.hash k) ve oldW w0).map =
          eraseKeys s.map ((s.prob.take n).map (·.key)) ∧
        (∃ node : AoNode, node.key = k ∧ node.info = ve.info ∧
          (handleUpsert p s k (p.hash k) ve oldW w0).prob = s.prob.drop n ++ [node]) ∧
        (handleUpsert p s k (p.hash k) ve oldW w0).cws =
          s.cws - ((probWeights s).take n).sum + p.weigh k v)
      ((handleUpsert p s k (p.hash k) ve oldW w0).map = AL.erase s.map k ∧
        (handleUpsert p s k (p.hash k) ve oldW w0).prob = s.prob ∧
        (handleUpsert p s k (p.hash k) ve oldW w0).cws = s.cws ∧
        Sub s (handleUpsert p s k (p.hash k) ve oldW w0)) := by
  subst hval
  rw [handleUpsert_noroom hq hcap (p.hash k) oldW w0 hcand hna hroom hfit]
  have h := admitOrReject_cand (p := p) (by rw [hq])
    (s := withInfo s ve.info (fun i => { i with dirty := false })) (k := k) (hash := p.hash k)
    (ve := ve) (w := p.weigh k ve.val) (hs.withInfo _ _ rfl rfl rfl) hkn hcand hcur
  have hW : probWeights (withInfo s ve.info (fun i => { i with dirty := false })) =
      probWeights s := List.map_congr_left (fun n _ => weight_clean s ve.info n.info)
  rw [hW] at h
  exact h.of_clean.imp (fun _ h => h)
    (fun ⟨r1, r2, r3, r4⟩ => ⟨r1, r2, r3, (sub_withInfo _ _ _).trans r4⟩)

/-! ### a quiescent calm cache, the insert of a new key, a maintenance run -/

/-- The oracle's `calm` of a snapshot with empty queues, on states (`calmS_of_snapshot`). -/
structure CalmS (p : Params) (cap : Nat) (s : SState) : Prop where
  readQ : s.readQ = []
  writeQ : s.writeQ = []
  ws : s.ws ≤ cap
  cur : AllCur s s.prob
  live : ∀ k ve, AL.get? s.map k = some ve →
    isExpiredInfo p s (getInfo s ve.info) s.now = false

theorem CalmS.stamps {p : Params} {cap : Nat} {s : SState} (hc : CalmS p cap s) {k : Nat} {ve : VE}
    (he : AL.get? s.map k = some ve) :
    expiredTs p.ttl s.va (getInfo s ve.info).lm s.now = false ∧
    expiredTs p.tti s.va (getInfo s ve.info).la s.now = false := by
  have := hc.live _ _ he
  unfold isExpiredInfo at this
  rw [Bool.or_eq_false_iff] at this
  exact this

theorem CalmS.noExp {p : Params} {cap : Nat} {s : SState} (hc : CalmS p cap s)
    (hn : NodesCore s) : NoExp p s := by
  refine ⟨?_, ?_⟩
  · intro n hnp
    obtain ⟨e, he, hei⟩ := hc.cur n hnp
    rw [← hei]
    exact (hc.stamps he).2
  · intro n hnw
    have h1 := hn.woOwn n hnw
    have h2 := hn.woAdm n.info (by rw [h1]; rfl)
    obtain ⟨id, h3⟩ := hn.adm_ao h2
    obtain ⟨m, hm, _, hmi⟩ := hn.aoNode _ _ h3
    obtain ⟨e, he, hei⟩ := hc.cur m hm
    rw [← hmi, ← hei]
    exact (hc.stamps he).1

theorem insert_fresh (p : Params) {s : SState} (hq : QInv s) {k : Nat} (v : Nat)
    (hnew : AL.get? s.map k = none) :
    insert p s k v =
      { housekeepW p (withCand p s k v) with
        writeQ := (housekeepW p (withCand p s k v)).writeQ ++ [candOp p s k v] } := by
  unfold insert
  dsimp only
  rw [hnew]
  dsimp only
  exact scheduleWriteOp_enqueues p 2 (s := withCand p s k v) (qinv_of_eq hq rfl rfl rfl) _

theorem NoExp.of_frame_sub {p : Params} {s s' : SState} (h : NoExp p s) (hf : Frame0 s s')
    (hs : Sub s s') : NoExp p s' := by
  refine ⟨?_, ?_⟩
  · intro n hn
    rw [hf.va, hf.la, hf.now]
    exact h.ao n (hs.prob n hn)
  · intro n hn
    rw [hf.va, hf.lm, hf.now]
    exact h.wo n (hs.wo n hn)

theorem NoExp.of_frame_subc {p : Params} {s s' : SState} {key info : Nat} {hash : UInt64}
    (h : NoExp p s) (hf : Frame0 s s') (hs : SubC key hash info s s')
    (hao : expiredTs p.tti s.va (getInfo s info).la s.now = false)
    (hwo : expiredTs p.ttl s.va (getInfo s info).lm s.now = false) : NoExp p s' := by
  refine ⟨?_, ?_⟩
  · intro n hn
    rw [hf.va, hf.la, hf.now]
    rcases hs.prob n hn with h1 | ⟨_, _, h1⟩
    · exact h.ao n h1
    · rw [h1]; exact hao
  · intro n hn
    rw [hf.va, hf.lm, hf.now]
    rcases hs.wo n hn with h1 | h1
    · exact h.wo n h1
    · rw [h1]; exact hwo

theorem sum_take_pos_ne_nil {l : List Nat} {n : Nat} (h : 0 < (l.take n).sum) : l ≠ [] := by
  intro e; rw [e] at h; simp at h

/-- `g` is what a maintenance run started from `H` sees when it applies the first queued write,
the map and the queues aside; `cws = H.ws` because `syncRun` starts by copying the published
counters into its local ones. -/
structure RunOn (H g : SState) : Prop where
  infos : g.infos = H.infos
  prob : g.prob = H.prob
  wo : g.wo = H.wo
  va : g.va = H.va
  now : g.now = H.now
  cws : g.cws = H.ws
  cec : g.cec = H.ec
  sk : g.sk = H.sk
  nextId : g.nextId = H.nextId
  fault : g.fault = H.fault

/-- `g` is a state in which a maintenance run applies a queued write after the map step that
led to `c`. -/
structure Sees (p : Params) (c g : SState) : Prop where
  prob : g.prob = c.prob
  va : g.va = c.va
  now : g.now = c.now
  cws : g.cws = c.ws
  info : ∀ j, getInfo g j = getInfo c j
  freq : ∀ h, g.sk.frequency h = c.sk.frequency h
  safe : Safe g
  noExp : NoExp p g

theorem Sees.upsert_noExp {p : Params} {c g : SState} (h : Sees p c g) (key : Nat) (hash : UInt64)
    (ve : VE) (o w : Nat) (hla : expiredTs p.tti c.va (getInfo c ve.info).la c.now = false)
    (hlm : expiredTs p.ttl c.va (getInfo c ve.info).lm c.now = false) :
    NoExp p (handleUpsert p g key hash ve o w) := by
  refine h.noExp.of_frame_subc (handleUpsert_maint p g key hash ve o w).frame0
    (handleUpsert_subc p g key hash ve o w) ?_ ?_
  · rw [h.va, h.now, h.info]
    exact hla
  · rw [h.va, h.now, h.info]
    exact hlm

/-- Whatever maintenance `housekeepW` runs after the map step `c` and before the write `op` is
queued changes nothing (`housekeepW_quiet`); `H` is the state it leaves, `g` any state in which a
later run applies `op`. -/
theorem insert_quiet {p : Params} (hq : NoQuirks p) (hsm : SmallSketch p) {cap : Nat}
    (hcap : p.cap = some cap) {s : SState} (hi : AInv p s) (k v : Nat) {c : SState} {op : WOp}
    (hins : insert p s k v = { housekeepW p c with writeQ := (housekeepW p c).writeQ ++ [op] })
    (hr : c.readQ = []) (hw : c.writeQ = []) (hws : c.ws ≤ cap)
    (hsk : c.skOn = false → c.sk = {}) (hne : NoExp p c) :
    ∃ H : SState, insert p s k v = { H with writeQ := [op] } ∧ H.readQ = [] ∧ H.map = c.map ∧
      ∀ g, RunOn H g → Sees p c g := by
  have hi2 : AInv p (insert p s k v) := insert_ainv hq hsm hi k v
  have hQ := housekeepW_quiet hcap hr hw hne hws hsk
  generalize housekeepW p c = H at hins hQ
  rw [hQ.writeQ.trans hw, List.nil_append] at hins
  rw [hins] at hi2
  refine ⟨H, hins, hQ.readQ.trans hr, hQ.map, fun g hg => ?_⟩
  exact ⟨hg.prob.trans hQ.prob, hg.va.trans hQ.va, hg.now.trans hQ.now, hg.cws.trans hQ.ws,
    fun j => (getInfo_congr hg.infos j).trans (getInfo_congr hQ.infos j),
    fun h => by rw [hg.sk]; exact hQ.freq h,
    hi2.top.run.safe.of_eq hg.infos hg.prob hg.wo (Nat.le_of_eq hg.nextId.symm) hg.cec hg.fault,
    (hne.quiet hQ).of_eq hg.infos hg.prob hg.wo hg.va hg.now⟩

theorem insert_new_state {p : Params} (hq : NoQuirks p) (hsm : SmallSketch p) {cap : Nat}
    (hcap : p.cap = some cap) {s : SState} (hi : AInv p s) (hc : CalmS p cap s) (k v : Nat)
    (hnew : AL.get? s.map k = none) :
    ∃ H : SState, insert p s k v = { H with writeQ := [candOp p s k v] } ∧ H.readQ = [] ∧
      H.map = AL.put s.map k (candVE s v) ∧
      ∀ g, RunOn H g → Sees p (withCand p s k v) g := by
  have hnc := hi.top.nodes.toNodesCore
  have hne := hc.noExp hnc
  have c_info := getInfo_withCand p s k v
  have hne_c : NoExp p (withCand p s k v) := by
    refine ⟨?_, ?_⟩
    · intro n hn
      rw [c_info, if_neg (Nat.ne_of_gt (hnc.node_info_lt hn))]
      exact hne.ao n hn
    · intro n hn
      rw [c_info, if_neg (Nat.ne_of_gt (hnc.wo_info_lt hn))]
      exact hne.wo n hn
  exact insert_quiet hq hsm hcap hi k v (insert_fresh p hi.q v hnew) hc.readQ hc.writeQ hc.ws
    hi.top.sk.skOff hne_c

theorem getInfo_withCand_self (p : Params) (s : SState) (k v : Nat) :
    getInfo (withCand p s k v) (candVE s v).info = candInfo p s k v :=
  (getInfo_withCand p s k v _).trans (if_pos rfl)

theorem Sees.cand {p : Params} {s g : SState} {k v : Nat} (h : Sees p (withCand p s k v) g) :
    getInfo g (candVE s v).info = candInfo p s k v :=
  (h.info _).trans (getInfo_withCand_self p s k v)

theorem Sees.node {p : Params} {s g : SState} {k v : Nat} (h : Sees p (withCand p s k v) g)
    (hnc : NodesCore s) {n : AoNode} (hn : n ∈ s.prob) : getInfo g n.info = getInfo s n.info :=
  (h.info _).trans
    ((getInfo_withCand p s k v _).trans (if_neg (Nat.ne_of_gt (hnc.node_info_lt hn))))

/-- A resident that has not expired bears witness that stamps of this instant have not. -/
theorem CalmS.fresh {p : Params} {cap : Nat} {s : SState} (hi : AInv p s) (hc : CalmS p cap s)
    {k : Nat} {ve : VE} (he : AL.get? s.map k = some ve) :
    expiredTs p.ttl s.va s.now s.now = false ∧ expiredTs p.tti s.va s.now s.now = false :=
  ⟨expiredTs_now_of_le hi.ts.va (hi.ts.lm _) (hc.stamps he).1,
    expiredTs_now_of_le hi.ts.va (hi.ts.la _) (hc.stamps he).2⟩

theorem Sees.cand_noExp {p : Params} {s g : SState} {k v : Nat} (h : Sees p (withCand p s k v) g)
    (o w : Nat)
    (hf : expiredTs p.ttl s.va s.now s.now = false ∧ expiredTs p.tti s.va s.now s.now = false) :
    NoExp p (handleUpsert p g k (p.hash k) (candVE s v) o w) :=
  h.upsert_noExp _ _ _ _ _ (by rw [getInfo_withCand_self]; exact hf.2)
    (by rw [getInfo_withCand_self]; exact hf.1)

theorem AllCur.of_get {s g : SState} {L : List AoNode} (h : AllCur s L)
    (hm : ∀ n, n ∈ L → AL.get? g.map n.key = AL.get? s.map n.key) : AllCur g L :=
  fun n hn => let ⟨e, he, hei⟩ := h n hn; ⟨e, (hm n hn).trans he, hei⟩

theorem insert_new_sync {p : Params} (hq : NoQuirks p) (hsm : SmallSketch p) {cap : Nat}
    (hcap : p.cap = some cap) {s : SState} (hi : AInv p s) (hc : CalmS p cap s) (k v : Nat)
    (hnew : AL.get? s.map k = none) :
    ∃ g : SState, g.map = AL.put s.map k (candVE s v) ∧ Sees p (withCand p s k v) g ∧
      (NoExp p (handleUpsert p g k (p.hash k) (candVE s v) 0 (p.weigh k v)) →
        (handleUpsert p g k (p.hash k) (candVE s v) 0 (p.weigh k v)).cws ≤ cap →
        (syncRun p (insert p s k v)).map =
          (handleUpsert p g k (p.hash k) (candVE s v) 0 (p.weigh k v)).map ∧
        (syncRun p (insert p s k v)).prob =
          (handleUpsert p g k (p.hash k) (candVE s v) 0 (p.weigh k v)).prob) := by
  obtain ⟨H, hins, hHr, hHm, hrun⟩ := insert_new_state hq hsm hcap hi hc k v hnew
  refine ⟨{ { H with writeQ := [candOp p s k v] } with cec := H.ec, cws := H.ws, writeQ := [] },
    hHm, hrun _ ⟨rfl, rfl, rfl, rfl, rfl, rfl, rfl, rfl, rfl, rfl⟩, fun h1 h2 => ?_⟩
  rw [hins]
  obtain ⟨hsame, _⟩ := syncRun_writes hcap (s := { H with writeQ := [candOp p s k v] }) hHr
    (applyWrites_single p { H with writeQ := [candOp p s k v], cec := H.ec, cws := H.ws } _ rfl) h1 h2
  exact ⟨hsame.map, hsame.prob⟩

/-- State-level form of `Props.C13_sync_admission`. -/
theorem insert_sync_calm {p : Params} (hq : NoQuirks p) (hsm : SmallSketch p) {cap : Nat}
    (hcap : p.cap = some cap) {s : SState} (hi : AInv p s) (hc : CalmS p cap s) (k v : Nat)
    (hnew : AL.get? s.map k = none) (hfit : p.weigh k v ≤ cap)
    (hroom : s.ws + p.weigh k v > cap) :
    Decides s s.prob (p.weigh k v) (s.sk.frequency (p.hash k))
      (fun n =>
        (syncRun p (insert p s k v)).map =
          eraseKeys (AL.put s.map k (candVE s v)) ((s.prob.take n).map (·.key)) ∧
        ∃ node : AoNode, node.key = k ∧
          (syncRun p (insert p s k v)).prob = s.prob.drop n ++ [node])
      ((syncRun p (insert p s k v)).map = AL.erase (AL.put s.map k (candVE s v)) k ∧
        (syncRun p (insert p s k v)).prob = s.prob) := by
  obtain ⟨g, hgm, hS, hrun⟩ := insert_new_sync hq hsm hcap hi hc k v hnew
  have hgp : g.prob = s.prob := hS.prob
  have hgc : g.cws = s.ws := hS.cws
  have hnc := hi.top.nodes.toNodesCore
  have hwpos : 0 < p.weigh k v := by have := hc.ws; omega
  have hkn : (AL.keys g.map).Nodup := by rw [hgm]; exact AL.nodup_put _ _ hi.top.map.kn
  have hcand : AL.get? g.map k = some (candVE s v) := by rw [hgm]; exact AL.get?_put_self _ _ _
  have hcur : AllCur g g.prob := by
    rw [hgp]
    refine hc.cur.of_get (fun n hn => ?_)
    obtain ⟨e, he, _⟩ := hc.cur n hn
    have hne' : k ≠ n.key := by
      intro e'; rw [← e', hnew] at he; cases he
    rw [hgm, AL.get?_put_ne _ hne']
  have hw : ∀ n ∈ s.prob, (getInfo g n.info).weight = (getInfo s n.info).weight := fun n hn => by
    rw [hS.node hnc hn]
  have hW : probWeights g = probWeights s := by
    unfold probWeights
    rw [hgp]
    exact List.map_congr_left hw
  have hdec := handleUpsert_cand hq hcap (s := g) (k := k) (v := v) (ve := candVE s v)
    0 (p.weigh k v) hS.safe hkn hcand rfl (by rw [hS.cand]; rfl) hcur (by rw [hgc]; exact hroom) hfit
  rw [hW, hS.freq, hgm, hgp, hgc] at hdec
  obtain ⟨adm, rej⟩ := hdec.congr (s := s) hw hS.freq
  refine ⟨?_, ?_⟩
  · intro n hn1 hn2
    obtain ⟨m1, ⟨node, a1, _, a3⟩, m3⟩ := adm n hn1 hn2
    obtain ⟨_, hsum, _⟩ := (shortestPre_eq_some_iff _ _ _).mp hn1
    replace hsum : p.weigh k v ≤ ((probWeights s).take n).sum := hsum
    -- a resident exists, so the fresh time stamps are not expired either
    have hnil : s.prob ≠ [] := by
      intro e
      have : probWeights s = [] := by unfold probWeights; rw [e]; rfl
      exact sum_take_pos_ne_nil (Nat.lt_of_lt_of_le hwpos hsum) this
    obtain ⟨m, hm⟩ := List.exists_mem_of_ne_nil _ hnil
    obtain ⟨e, he, _⟩ := hc.cur m hm
    obtain ⟨e1, e2⟩ := hrun (hS.cand_noExp _ _ (hc.fresh hi he))
      (by rw [m3]; have := hc.ws; omega)
    exact ⟨e1.trans m1, node, a1, e2.trans a3⟩
  · intro hno
    obtain ⟨r1, r2, r3, r4⟩ := rej hno
    obtain ⟨e1, e2⟩ := hrun
      (hS.noExp.of_frame_sub (handleUpsert_maint p g k (p.hash k) (candVE s v) 0 (p.weigh k v)).frame0 r4)
      (by rw [r3]; exact hc.ws)
    exact ⟨e1.trans r1, e2.trans r2⟩

theorem handleUpsert_fits {p : Params} (hq : NoQuirks p) {cap : Nat} (hcap : p.cap = some cap)
    {s : SState} {k v : Nat} {ve : VE} (oldW w0 : Nat)
    (hcand : AL.get? s.map k = some ve) (hval : ve.val = v)
    (hna : (getInfo s ve.info).admitted = false) (hroom : s.cws + p.weigh k v ≤ cap) :
    (handleUpsert p s k (p.hash k) ve oldW w0).map = s.map ∧
    (∃ node : AoNode, node.key = k ∧
      (handleUpsert p s k (p.hash k) ve oldW w0).prob = s.prob ++ [node]) ∧
    (handleUpsert p s k (p.hash k) ve oldW w0).cws = s.cws + p.weigh k v := by
  subst hval
  rw [handleUpsert_new hq (p.hash k) oldW w0 hcand hna]
  dsimp only
  have hroom1 : hasEnoughCapacity p (p.weigh k ve.val)
      (withInfo s ve.info (fun i => { i with dirty := false })) = true := by
    rw [hasEnoughCapacity_some hcap, decide_eq_true_eq]
    exact hroom
  rw [if_pos hroom1]
  have A := handleAdmit_admitted p
    (withInfo s ve.info (fun i => { i with dirty := false })) k (p.hash k) ve (p.weigh k ve.val)
  exact ⟨A.map, ⟨_, rfl, A.prob⟩, A.cws⟩

/-- State-level form of `Props.C13_sync_has_room`.  `httl`/`htti`: the new entry must not expire
the moment it is stamped; `insert_sync_calm` needs no such hypothesis because there a resident
that has not expired bears witness (`CalmS.fresh`), here the cache may be empty. -/
theorem insert_sync_fits {p : Params} (hq : NoQuirks p) (hsm : SmallSketch p) {cap : Nat}
    (hcap : p.cap = some cap) {s : SState} (hi : AInv p s) (hc : CalmS p cap s) (k v : Nat)
    (hnew : AL.get? s.map k = none) (hroom : s.ws + p.weigh k v ≤ cap)
    (httl : p.ttl ≠ some 0) (htti : p.tti ≠ some 0) :
    (syncRun p (insert p s k v)).map = AL.put s.map k (candVE s v) ∧
    ∃ node : AoNode, node.key = k ∧ (syncRun p (insert p s k v)).prob = s.prob ++ [node] := by
  obtain ⟨g, hgm, hS, hrun⟩ := insert_new_sync hq hsm hcap hi hc k v hnew
  have hgc : g.cws = s.ws := hS.cws
  have hcand : AL.get? g.map k = some (candVE s v) := by rw [hgm]; exact AL.get?_put_self _ _ _
  obtain ⟨m1, ⟨node, a1, a2⟩, m3⟩ := handleUpsert_fits hq hcap (s := g) (k := k) (v := v)
    (ve := candVE s v) 0 (p.weigh k v) hcand rfl (by rw [hS.cand]; rfl) (by rw [hgc]; exact hroom)
  obtain ⟨e1, e2⟩ := hrun
    (hS.cand_noExp _ _ ⟨expiredTs_now hi.ts.va httl, expiredTs_now hi.ts.va htti⟩)
    (by rw [m3, hgc]; exact hroom)
  exact ⟨e1.trans (m1.trans hgm), node, a1, e2.trans (a2.trans (by rw [hS.prob]; rfl))⟩

/-! ### the oracle's check on snapshots -/

theorem weightOfKey_snapshot {p : Params} {s : SState} (hkn : (AL.keys s.map).Nodup) {k : Nat}
    {ve : VE} (he : AL.get? s.map k = some ve) :
    weightOfKey (snapshot p s) k = (getInfo s ve.info).weight := by
  rw [(shows p s).weightOfKey_eq hkn, he]
  rfl

theorem freqOfKey_snapshot {p : Params} {s : SState} (hkn : (AL.keys s.map).Nodup) {k : Nat}
    {ve : VE} (he : AL.get? s.map k = some ve) :
    freqOfKey (snapshot p s) k = s.sk.frequency (p.hash k) := by
  rw [(shows p s).freqOfKey_eq hkn, he]
  rfl

theorem lruOrder_snapshot (p : Params) (s : SState) :
    lruOrder (snapshot p s) = s.prob.map (·.key) := by
  simp [lruOrder, snapshot, List.map_map, Function.comp_def]

theorem get?_none_of_fresh {p : Params} {s : SState} {k : Nat}
    (h : (keysOf (snapshot p s)).contains k = false) : AL.get? s.map k = none := by
  cases hg : AL.get? s.map k with
  | none => rfl
  | some e =>
    have : k ∈ keysOf (snapshot p s) := ((shows p s).mem_keysOf_get? k).mpr ⟨e, hg⟩
    rw [← List.contains_iff_mem, h] at this
    cases this

theorem allCur_of_snapshot {p : Params} {s : SState}
    (h : (snapshot p s).prob.all (·.current) = true) : AllCur s s.prob := by
  intro n hn
  simp only [snapshot, List.all_eq_true, List.mem_map] at h
  have := h _ ⟨n, hn, rfl⟩
  cases hg : AL.get? s.map n.key with
  | none => rw [hg] at this; cases this
  | some e =>
    rw [hg] at this
    exact ⟨e, rfl, eq_of_beq this⟩

theorem calmS_of_snapshot {p : Params} {cap : Nat} {s : SState}
    (hcalm : calm cap p.ttl p.tti (snapshot p s) = true) (hr : (snapshot p s).rq = 0)
    (hw : (snapshot p s).wq = 0) : CalmS p cap s := by
  simp only [calm, Bool.and_eq_true, decide_eq_true_eq] at hcalm
  obtain ⟨⟨⟨hws, hlive⟩, _⟩, hcur⟩ := hcalm
  rw [(shows p s).entries_all] at hlive
  refine ⟨List.length_eq_zero_iff.mp hr, List.length_eq_zero_iff.mp hw, hws,
    allCur_of_snapshot hcur, ?_⟩
  intro k ve he
  have h : entryLiveAt p.ttl p.tti s.now s.va (entryView s (k, ve)) = true :=
    hlive (k, ve) (AL.mem_of_get? he)
  rwa [entryLiveAt_entryView, Bool.not_eq_true'] at h

/-- The oracle's `predictAdmission`, read in a state over the nodes `L` (`predictAdmission_eq`). -/
def predicted (s : SState) (L : List AoNode) (w f : Nat) : Option (List Nat) :=
  match shortestPre w (L.map (fun n => (getInfo s n.info).weight)) with
  | none => none
  | some n =>
    if f > ((L.map (fun n => s.sk.frequency n.hash)).take n).sum
    then some ((L.take n).map (·.key)) else none

theorem Decides.predict {s : SState} {L : List AoNode} {w f : Nat} {A : Nat → Prop} {B : Prop}
    (h : Decides s L w f A B) :
    (∃ n, predicted s L w f = some ((L.take n).map (·.key)) ∧ A n) ∨
      (predicted s L w f = none ∧ B) := by
  unfold predicted
  cases hsp : shortestPre w (L.map (fun n => (getInfo s n.info).weight)) with
  | none => exact Or.inr ⟨rfl, h.2 (fun ⟨n, h1, _⟩ => by rw [hsp] at h1; cases h1)⟩
  | some n =>
    dsimp only
    by_cases hf : f > ((L.map (fun n => s.sk.frequency n.hash)).take n).sum
    · rw [if_pos hf]
      exact Or.inl ⟨n, rfl, h.1 n hsp hf⟩
    · rw [if_neg hf]
      refine Or.inr ⟨rfl, h.2 ?_⟩
      rintro ⟨n', h1, h2⟩
      rw [hsp] at h1
      cases h1
      exact hf h2

theorem predictAdmission_eq {sn : Snap} {s : SState} {L : List AoNode}
    (ho : lruOrder sn = L.map (·.key))
    (hW : ∀ n ∈ L, weightOfKey sn n.key = (getInfo s n.info).weight)
    (hF : ∀ n ∈ L, freqOfKey sn n.key = s.sk.frequency n.hash) (w f : Nat) :
    predictAdmission sn w f = predicted s L w f := by
  have hW' : (L.map (·.key)).map (weightOfKey sn) =
      L.map (fun n => (getInfo s n.info).weight) := by
    rw [List.map_map]
    exact List.map_congr_left hW
  have hF' : (L.map (·.key)).map (freqOfKey sn) = L.map (fun n => s.sk.frequency n.hash) := by
    rw [List.map_map]
    exact List.map_congr_left hF
  rw [predictAdmission_lists ho hW' hF' w f]
  unfold predicted
  cases shortestPre w (L.map (fun n => (getInfo s n.info).weight)) with
  | none => rfl
  | some n =>
    dsimp only
    rw [List.map_take]

theorem predictAdmission_snapshot {p : Params} {s : SState} (hkn : (AL.keys s.map).Nodup)
    (hcur : AllCur s s.prob) (hh : PH p s) (w f : Nat) :
    predictAdmission (snapshot p s) w f = predicted s s.prob w f := by
  refine predictAdmission_eq (lruOrder_snapshot p s) (fun n hn => ?_) (fun n hn => ?_) w f
  · obtain ⟨e, he, hei⟩ := hcur n hn
    rw [weightOfKey_snapshot hkn he, hei]
  · obtain ⟨e, he, _⟩ := hcur n hn
    rw [freqOfKey_snapshot hkn he, hh n hn]

theorem admissionOk_model {p : Params} (hq : NoQuirks p) (hsm : SmallSketch p) {cap : Nat}
    (hcap : p.cap = some cap) {s : SState} (hi : AInv p s) (hr : (snapshot p s).rq = 0)
    (hw : (snapshot p s).wq = 0) (k v : Nat) :
    admissionOk cap p.ttl p.tti p.weigh (snapshot p s) k v (s.sk.frequency (p.hash k))
      (snapshot p (syncRun p (insert p s k v))) = true := by
  unfold admissionOk
  dsimp only
  cases happ : (!(keysOf (snapshot p s)).contains k && calm cap p.ttl p.tti (snapshot p s) &&
      decide (p.weigh k v ≤ cap) && decide ((snapshot p s).ws + p.weigh k v > cap)) with
  | false => rfl
  | true =>
  simp only [Bool.not_true, Bool.false_or]
  simp only [Bool.and_eq_true, Bool.not_eq_true', decide_eq_true_eq] at happ
  obtain ⟨⟨⟨hfresh, hcalm⟩, hle⟩, hgt⟩ := happ
  have hnew := get?_none_of_fresh hfresh
  have hc := calmS_of_snapshot hcalm hr hw
  have hkn := hi.top.map.kn
  have hkn2 : (AL.keys (AL.put s.map k (candVE s v))).Nodup := AL.nodup_put _ _ hkn
  rw [predictAdmission_snapshot hkn hc.cur hi.hash.prob]
  have hk : k ∉ AL.keys s.map := fun h => by
    rw [← AL.get?_isSome_iff, hnew] at h; cases h
  rcases (insert_sync_calm hq hsm hcap hi hc k v hnew hle hgt).predict with
    ⟨n, e, hmap, _⟩ | ⟨e, hmap, _⟩
  · rw [e]
    dsimp only
    rw [sameKeys_iff]
    intro x
    rw [(shows p _).mem_keysOf, hmap, mem_keys_eraseKeys hkn2, AL.mem_keys_put, List.mem_cons,
      mem_filter_not_contains, (shows p _).mem_keysOf]
    have hkv : k ∉ (s.prob.take n).map (·.key) := by
      intro hin
      obtain ⟨m, hm, hmk⟩ := List.mem_map.mp hin
      obtain ⟨e, he, _⟩ := hc.cur m (List.mem_of_mem_take hm)
      exact hk (hmk ▸ AL.mem_keys_of_get? he)
    exact ⟨fun h => h.1.imp_right (fun h1 => ⟨h1, h.2⟩),
      fun h => h.elim (fun e => ⟨Or.inl e, e ▸ hkv⟩) (fun h1 => ⟨Or.inr h1.1, h1.2⟩)⟩
  · rw [e]
    dsimp only
    rw [sameKeys_iff]
    intro x
    rw [(shows p _).mem_keysOf, (shows p _).mem_keysOf, hmap, AL.mem_keys_erase hkn2,
      AL.mem_keys_put]
    exact ⟨fun h => h.2.resolve_left h.1, fun h => ⟨fun e => hk (e ▸ h), Or.inr h⟩⟩

/-- The conjunct `admitC13Sync` forms for a window. -/
theorem window_ok {p : Params} (hq : NoQuirks p) (hsm : SmallSketch p) {cap : Nat}
    (hcap : p.cap = some cap) {s : SState} (hi : AInv p s) (k k' v : Nat) :
    (k != k' ||
      !((snapshot p s).rq == 0 && (snapshot p s).wq == 0 &&
        (snapshot p (syncRun p (insert p s k' v))).rq == 0 &&
        (snapshot p (syncRun p (insert p s k' v))).wq == 0) ||
      admissionOk cap p.ttl p.tti p.weigh (snapshot p s) k v (s.sk.frequency (p.hash k))
        (snapshot p (syncRun p (insert p s k' v)))) = true := by
  by_cases hk : k = k'
  · subst hk
    cases hquiet : ((snapshot p s).rq == 0 && (snapshot p s).wq == 0 &&
        (snapshot p (syncRun p (insert p s k v))).rq == 0 &&
        (snapshot p (syncRun p (insert p s k v))).wq == 0) with
    | false => simp
    | true =>
      simp only [Bool.and_eq_true, beq_iff_eq] at hquiet
      rw [admissionOk_model hq hsm hcap hi hquiet.1.1.1 hquiet.1.1.2 k v]
      simp
  · simp [hk]

/-! ### the walk of the trace oracle -/

/-- `IsRun.StepInv.uncons` with the next state written `stepState p s op`.  In the form
`(stepState p s op, stepObs p s op).1` a window of n steps nests n pairs, each holding the state
before it twice, and to see through such a pair against `insert p s k v` the unifier unfolds
`insert`. -/
theorem StepInv.walk {p : Params} {I : SState → Prop} (H : StepInv p I) {s : SState} (hs : I s)
    {h : List Op} {op : Op} {ob : Obs} {t : List (Op × Obs)} (e : run p s h = (op, ob) :: t) :
    ob = stepObs p s op ∧ I (stepState p s op) ∧ ∃ rest, run p (stepState p s op) rest = t :=
  H.uncons (isRun p) hs e

theorem admitC13Sync_run {p : Params} (hq : NoQuirks p) (hsm : SmallSketch p) {cap : Nat}
    (hcap : p.cap = some cap) : ∀ t, Runs p (AInv p) t →
      admitC13Sync cap p.ttl p.tti p.weigh t = true := by
  have H := ainv_stepInv hq hsm
  apply IsRun.Runs.induction
  intro t ht ih
  unfold admitC13Sync
  split
  · -- sync, snap, freq, ins, sync, snap
    rename_i before k f k' v after rest
    obtain ⟨s, _, hi, e⟩ := ht
    obtain ⟨-, hi1, _, e1⟩ := H.walk hi e
    obtain ⟨hb, hi2, _, e2⟩ := H.walk hi1 e1
    obtain ⟨hf, hi3, _, e3⟩ := H.walk hi2 e2
    obtain ⟨-, hi4, _, e4⟩ := H.walk hi3 e3
    obtain ⟨-, hi5, _, e5⟩ := H.walk hi4 e4
    obtain ⟨ha, -, -, -⟩ := H.walk hi5 e5
    rw [Bool.and_eq_true]
    refine ⟨?_, ih _ ⟨_, _, hi4, e4⟩ (by simp only [List.length_cons]; omega)⟩
    rw [Obs.snap.inj hb, Obs.freq.inj hf, Obs.snap.inj ha]
    exact window_ok hq hsm hcap hi1 k k' v
  · -- sync, snap, freq, ins, snap, sync, snap
    rename_i before k f k' v mid after rest
    obtain ⟨s, _, hi, e⟩ := ht
    obtain ⟨-, hi1, _, e1⟩ := H.walk hi e
    obtain ⟨hb, hi2, _, e2⟩ := H.walk hi1 e1
    obtain ⟨hf, hi3, _, e3⟩ := H.walk hi2 e2
    obtain ⟨-, hi4, _, e4⟩ := H.walk hi3 e3
    obtain ⟨-, hi5, _, e5⟩ := H.walk hi4 e4
    obtain ⟨-, hi6, _, e6⟩ := H.walk hi5 e5
    obtain ⟨ha, -, -, -⟩ := H.walk hi6 e6
    rw [Bool.and_eq_true]
    refine ⟨?_, ih _ ⟨_, _, hi4, e4⟩ (by simp only [List.length_cons]; omega)⟩
    rw [Obs.snap.inj hb, Obs.freq.inj hf, Obs.snap.inj ha]
    exact window_ok hq hsm hcap hi1 k k' v
  · exact ih _ (H.tail (isRun p) ht) (Nat.lt_succ_self _)
  · rfl

/-- **C13 on traces** (one-thread model of `sync::Cache`): the oracle accepts every trace
of the model. -/
theorem oracleC13_trace {p : Params} (hq : NoQuirks p) (hsm : SmallSketch p) (h : List Op) :
    oracleC13 .sync p.cap p.ttl p.tti p.weigh (trace p h) = true := by
  unfold oracleC13 trace
  cases hcap : p.cap with
  | none => rfl
  | some cap =>
    dsimp only
    exact admitC13Sync_run hq hsm hcap _ ⟨{}, h, init_ainv p, rfl⟩

end Admit
end Sync
end MiniMoka
