/-
  The oracles that judge every window `snapshot, operation, snapshot` of a trace by a rule and
  skip everything else (`Spec.Win3`): such an oracle accepts a trace all of whose windows pass the
  rule (`Win3.of_windows`), hence every trace of a step function from the states of an invariant
  across whose steps the rule holds (`Win3.run`).  `onlyGetC14` is one (`win3_onlyGetC14`).  Also:
  `noFreq` of a trace is the trace of the history without its `freq` readings (`noFreq_run`).
-/
import MiniMoka.Spec.Oracles
import MiniMoka.Lemmas.IsRun

namespace MiniMoka
namespace Spec

/-- `O` judges every window `snap, op, snap` by `chk`, stops at a panic, skips everything else. -/
structure Win3 (O : Trace → Bool) (chk : Snap → Op → Snap → Bool) : Prop where
  nil : O [] = true
  win : ∀ b op ob a rest, O ((.snap, .snap b) :: (op, ob) :: (.snap, .snap a) :: rest) =
    (chk b op a && (match ob with
      | .panic _ => true
      | _ => O ((.snap, .snap a) :: rest)))
  skip : ∀ x tr, (∀ b op ob a rest,
    x :: tr ≠ (.snap, .snap b) :: (op, ob) :: (.snap, .snap a) :: rest) → O (x :: tr) = O tr

namespace Win3

variable {O : Trace → Bool} {chk : Snap → Op → Snap → Bool} (hO : Win3 O chk)
include hO

/-- The bound `n` on the length carries the induction: after a window the walk resumes at the
window's closing snapshot. -/
theorem of_windows_le : ∀ (n : Nat) (t : Trace), t.length ≤ n →
    (∀ pre b op ob a rest,
      t = pre ++ (Op.snap, Obs.snap b) :: (op, ob) :: (Op.snap, Obs.snap a) :: rest →
      chk b op a = true) → O t = true := by
  intro n
  induction n with
  | zero =>
    intro t hl _
    rw [List.eq_nil_of_length_eq_zero (Nat.le_zero.mp hl)]
    exact hO.nil
  | succ n ih =>
    intro t hl H
    cases t with
    | nil => exact hO.nil
    | cons x tr =>
      simp only [List.length_cons] at hl
      by_cases hm : ∃ b op ob a rest,
          x :: tr = (Op.snap, Obs.snap b) :: (op, ob) :: (Op.snap, Obs.snap a) :: rest
      · obtain ⟨b, op, ob, a, rest, e⟩ := hm
        rw [e, hO.win, Bool.and_eq_true]
        refine ⟨H [] b op ob a rest e, ?_⟩
        have hlen : ((Op.snap, Obs.snap a) :: rest).length ≤ n := by
          have := congrArg List.length e
          simp only [List.length_cons] at this ⊢
          omega
        have ih' := ih _ hlen (fun pre b' op' ob' a' rest' h =>
          H ((Op.snap, Obs.snap b) :: (op, ob) :: pre) b' op' ob' a' rest' (by rw [e, h]; rfl))
        split
        · rfl
        · exact ih'
      · rw [hO.skip x tr (fun b op ob a rest e => hm ⟨b, op, ob, a, rest, e⟩)]
        exact ih tr (by omega)
          (fun pre b op ob a rest h => H (x :: pre) b op ob a rest (by rw [h]; rfl))

theorem of_windows (t : Trace)
    (H : ∀ pre b op ob a rest,
      t = pre ++ (Op.snap, Obs.snap b) :: (op, ob) :: (Op.snap, Obs.snap a) :: rest →
      chk b op a = true) : O t = true :=
  hO.of_windows_le _ t (Nat.le_refl _) H

theorem run {σ : Type} {step : σ → Op → σ × Obs} {run : σ → List Op → Trace}
    (hr : IsRun step run) {I : σ → Prop} (hI : ∀ s op, I s → I (step s op).1) (snapOf : σ → Snap)
    (hsnap : ∀ s, I s → step s .snap = (s, .snap (snapOf s)))
    (hchk : ∀ s op, I s → chk (snapOf s) op (snapOf (step s op).1) = true)
    (h : List Op) (s : σ) (hs : I s) : O (run s h) = true := by
  apply hO.of_windows
  intro pre b op ob a rest e
  obtain ⟨s1, h1, hs1, e1⟩ := hr.suffix hI pre h s _ hs e
  obtain ⟨op1, h2, _, x1, e2⟩ := hr.eq_cons e1
  obtain ⟨op2, h3, _, x2, e3⟩ := hr.eq_cons e2
  obtain ⟨op3, _, _, x3, _⟩ := hr.eq_cons e3
  obtain ⟨rfl, hb⟩ := Prod.mk.inj x1
  rw [hsnap s1 hs1] at hb x2 x3
  obtain ⟨rfl, _⟩ := Prod.mk.inj x2
  obtain ⟨rfl, ha⟩ := Prod.mk.inj x3
  rw [hsnap _ (hI s1 op hs1)] at ha
  cases hb
  cases ha
  exact hchk s1 op hs1

end Win3

/-- The check `onlyGetC14` applies to one window `snapshot, operation, snapshot`. -/
def checkC14 (b : Snap) (op : Op) (a : Snap) : Bool :=
  (match op with
    | .get _ => true
    | _ => false) || !(b.rq == 0) || freqsKept b a

theorem win3_onlyGetC14 : Win3 onlyGetC14 checkC14 where
  nil := rfl
  win := fun _ _ _ _ _ => rfl
  skip := fun x tr hn => by
    rw [onlyGetC14]
    exact fun b op ob a rest h1 h2 => hn b op ob a rest (by rw [h1, h2])

theorem checkC14_of_nonget {b a : Snap} {op : Op}
    (h : (∀ k, op ≠ .get k) → b.rq ≠ 0 ∨ freqsKept b a = true) : checkC14 b op a = true := by
  unfold checkC14
  by_cases hop : ∀ k, op ≠ .get k
  · rcases h hop with hrq | hk
    · rw [beq_false_of_ne hrq, Bool.not_false, Bool.or_true, Bool.true_or]
    · rw [hk, Bool.or_true]
  · cases op with
    | get k => rfl
    | _ => exact absurd (fun k hk => Op.noConfusion hk) hop

theorem noFreq_run {σ : Type} {step : σ → Op → σ × Obs} {run : σ → List Op → Trace}
    (hr : IsRun step run) (hfreq : ∀ s k, (step s (.freq k)).1 = s) (h : List Op) (s : σ) :
    noFreq (run s h) = run s (h.filter (fun op => match op with
      | .freq _ => false
      | _ => true)) :=
  hr.filter (fun op => match op with
      | .freq _ => false
      | _ => true)
    (fun s op hx => by
      cases op with
      | freq k => exact hfreq s k
      | _ => cases hx) h s

end Spec
end MiniMoka
