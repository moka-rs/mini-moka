/-
  Lemmas about the watermark model `MiniMoka/ConcV.lean`.  One case analysis of a step
  (`ConcV.step_cases`: only `invStore` touches the watermark and the log of completed readings)
  carries the rest: the invariant `VInv` of both stores (neither the watermark nor a held reading
  lies in the future) and, for the monotone store, that the watermark never decreases and the
  completed readings stay below it.
-/
import MiniMoka.ConcV
import MiniMoka.Lemmas.AL
import MiniMoka.Lemmas.IsPath

namespace MiniMoka
namespace Props

open ConcV

theorem ConcV.vaLe_refl (a : Option Nat) : vaLe a a := by
  cases a with
  | none => trivial
  | some a => exact Nat.le_refl a

theorem ConcV.vaLe_trans {a b c : Option Nat} (h1 : vaLe a b) (h2 : vaLe b c) : vaLe a c := by
  cases a with
  | none => trivial
  | some a =>
    cases b with
    | none => exact h1.elim
    | some b =>
      cases c with
      | none => exact h2.elim
      | some c => exact Nat.le_trans h1 h2

theorem ConcV.vaLe_maxVa (va : Option Nat) (r : Nat) : vaLe va (maxVa va r) := by
  cases va with
  | none => trivial
  | some w => exact Nat.le_max_left w r

theorem ConcV.le_maxVa (va : Option Nat) (r : Nat) : vaLe (some r) (maxVa va r) := by
  cases va with
  | none => exact Nat.le_refl r
  | some w => exact Nat.le_max_right w r

theorem ConcV.vaLe_of_not_hidden {va : Option Nat} {ts : Nat} (h : hidden va ts = false) :
    vaLe va (some ts) := by
  cases va with
  | none => trivial
  | some w =>
    simp only [hidden, decide_eq_false_iff_not, Nat.not_lt] at h
    exact h

structure VInv (s : State) : Prop where
  vaNow : ∀ w, s.va = some w → w ≤ s.now
  heldNow : ∀ p ∈ s.held, p.2 ≤ s.now

theorem ConcV.storeVa_le_now {mono : Bool} {va : Option Nat} {r now : Nat}
    (hva : ∀ w, va = some w → w ≤ now) (hr : r ≤ now) :
    ∀ w, storeVa mono va r = some w → w ≤ now := by
  intro w hw
  cases mono with
  | false =>
    simp only [storeVa, Bool.false_eq_true, if_false, Option.some.injEq] at hw
    omega
  | true =>
    cases va with
    | none =>
      simp only [storeVa, if_true, maxVa, Option.some.injEq] at hw
      omega
    | some v =>
      have := hva v rfl
      simp only [storeVa, if_true, maxVa, Option.some.injEq] at hw
      rw [← hw]
      exact Nat.max_le.2 ⟨this, hr⟩

theorem ConcV.step_cases {mono : Bool} {s s' : State} {e : Ev} (hs : step mono s e = some s') :
    (s'.va = s.va ∧ s'.completed = s.completed ∧ s.now ≤ s'.now ∧
      ∀ p ∈ s'.held, p ∈ s.held ∨ p.2 = s.now) ∨
    (∃ t r, (t, r) ∈ s.held ∧ s'.va = storeVa mono s.va r ∧ s'.completed = r :: s.completed ∧
      s'.now = s.now ∧ ∀ p ∈ s'.held, p ∈ s.held) := by
  cases e with
  | tick d => cases hs; exact Or.inl ⟨rfl, rfl, Nat.le_add_right _ _, fun _ hp => Or.inl hp⟩
  | insert t k v => cases hs; exact Or.inl ⟨rfl, rfl, Nat.le_refl _, fun _ hp => Or.inl hp⟩
  | get t k => cases hs; exact Or.inl ⟨rfl, rfl, Nat.le_refl _, fun _ hp => Or.inl hp⟩
  | invRead t =>
    simp only [step] at hs
    split at hs
    · cases hs
    · cases hs
      refine Or.inl ⟨rfl, rfl, Nat.le_refl _, fun p hp => ?_⟩
      exact (AL.mem_or_eq_of_mem_put hp).imp_right (fun h => by rw [h])
  | invStore t =>
    simp only [step] at hs
    split at hs
    · cases hs
    · rename_i r hg
      cases hs
      exact Or.inr ⟨t, r, AL.mem_of_get? hg, rfl, rfl, rfl, fun _ hp => AL.mem_of_mem_erase hp⟩

theorem ConcV.step_vinv {mono : Bool} {s s' : State} {e : Ev} (hi : VInv s)
    (hs : step mono s e = some s') : VInv s' := by
  rcases ConcV.step_cases hs with ⟨hva, _, hnow, hheld⟩ | ⟨t, r, hr, hva, _, hnow, hheld⟩
  · refine ⟨fun w hw => Nat.le_trans (hi.vaNow w (hva ▸ hw)) hnow, fun p hp => ?_⟩
    rcases hheld p hp with h | h
    · exact Nat.le_trans (hi.heldNow p h) hnow
    · rw [h]; exact hnow
  · refine ⟨?_, fun p hp => hnow ▸ hi.heldNow p (hheld p hp)⟩
    rw [hva, hnow]
    exact ConcV.storeVa_le_now hi.vaNow (hi.heldNow _ hr)

theorem ConcV.reach_vinv {mono : Bool} {s : State} (hr : Reach mono s) : VInv s := by
  induction hr with
  | init => exact ⟨fun w hw => by simp at hw, fun p hp => by simp at hp⟩
  | step e _ hs ih => exact ConcV.step_vinv ih hs

theorem ConcV.isPath (mono : Bool) : IsPath (step mono) (runEvs mono) :=
  ⟨fun _ => rfl, fun s e rest => by simp only [runEvs]; cases step mono s e <;> rfl⟩

theorem ConcV.runEvs_rel {mono : Bool} {R : State → State → Prop} (hrefl : ∀ s, R s s)
    (htrans : ∀ {a b c}, R a b → R b c → R a c)
    (hstep : ∀ {s s' e}, Reach mono s → step mono s e = some s' → R s s') :
    ∀ (evs : List Ev) (s s' : State), Reach mono s → runEvs mono s evs = some s' →
      Reach mono s' ∧ R s s' :=
  fun evs s s' hr h =>
    (ConcV.isPath mono).inv (P := fun x => Reach mono x ∧ R s x)
      (fun _ _ e hc hs => ⟨Reach.step e hc.1 hs, htrans hc.2 (hstep hc.1 hs)⟩) evs s s'
      ⟨hr, hrefl s⟩ h

theorem ConcV.reach_of_runEvs {mono : Bool} (evs : List Ev) (s s' : State) (hr : Reach mono s)
    (h : runEvs mono s evs = some s') : Reach mono s' :=
  (ConcV.isPath mono).inv (fun _ _ e hc hs => Reach.step e hc hs) evs s s' hr h

theorem ConcV.step_va_mono {s s' : State} {e : Ev} (hs : step true s e = some s') :
    vaLe s.va s'.va := by
  rcases ConcV.step_cases hs with ⟨hva, _⟩ | ⟨_, r, _, hva, _⟩
  · rw [hva]; exact ConcV.vaLe_refl _
  · rw [hva]; exact ConcV.vaLe_maxVa _ _

theorem ConcV.step_completed_sub {mono : Bool} {s s' : State} {e : Ev}
    (hs : step mono s e = some s') : ∀ r ∈ s.completed, r ∈ s'.completed := by
  intro r hr
  rcases ConcV.step_cases hs with ⟨_, hc, _⟩ | ⟨_, _, _, _, hc, _⟩
  · rw [hc]; exact hr
  · rw [hc]; exact List.mem_cons_of_mem _ hr

theorem ConcV.step_completed_le {s s' : State} {e : Ev} (hi : ∀ r ∈ s.completed, vaLe (some r) s.va)
    (hs : step true s e = some s') : ∀ r ∈ s'.completed, vaLe (some r) s'.va := by
  rcases ConcV.step_cases hs with ⟨hva, hc, _⟩ | ⟨_, r', _, hva, hc, _⟩
  · rw [hva, hc]; exact hi
  · rw [hva, hc]
    intro r hr
    rcases List.mem_cons.1 hr with h | h
    · rw [h]; exact ConcV.le_maxVa _ _
    · exact ConcV.vaLe_trans (hi r h) (ConcV.vaLe_maxVa _ _)

theorem ConcV.storeVa_now (mono : Bool) (va : Option Nat) (now : Nat)
    (hva : ∀ w, va = some w → w ≤ now) : storeVa mono va now = some now := by
  cases mono with
  | false => rfl
  | true =>
    cases va with
    | none => rfl
    | some w =>
      have := hva w rfl
      simp only [storeVa, if_true, maxVa, Option.some.injEq]
      exact Nat.max_eq_right this

end Props
end MiniMoka
