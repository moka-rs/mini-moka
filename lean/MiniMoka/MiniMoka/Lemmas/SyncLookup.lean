/-
  Coupling between the one-thread model (`Sync.lean`) and the reference bookkeeping of the lookup
  oracles (C01, C05, C06, C07, C16), for any placement of `sync` and any queue state.  A call of one
  thread is its map step followed by housekeeping and the enqueue: the map steps keep the coupling
  (`Lemmas/ConcSLookup.lean`), and what follows is a frame (`coupledS_frame`).
-/
import MiniMoka.Lemmas.ConcSLookup
import MiniMoka.Lemmas.Sort
import MiniMoka.Lemmas.RefWalk
import MiniMoka.Lemmas.SyncQueues

namespace MiniMoka
namespace Sync

open Spec

/-- `record_read_op`: housekeeping is a frame, and a read that is dropped is not missed. -/
theorem recordReadOp_coupled {p : Params} (hq : NoQuirks p) {s : SState} {g : Ghost} {op : ROp}
    (hc : CoupledS p { s with readQ := s.readQ ++ [op] } g) :
    CoupledS p (recordReadOp p s op) g := by
  have h1 := coupledS_frame hc (frame_append_readQ (housekeepR_frame hq s) [op])
  rw [recordReadOp_eq]
  split
  · exact h1
  · exact coupledS_readQ_sub h1 _ (fun _ h => List.mem_append_left _ h)

theorem get_coupled {p : Params} (hq : NoQuirks p) {s : SState} {g : Ghost}
    (hc : CoupledS p s g) (k : Nat) :
    (yields (.get k) (.val (get p s k).2)).all (allChecks p g) = true ∧
    CoupledS p (get p s k).1 (ghostStep .sync g (.get k) (.val (get p s k).2)) := by
  rw [ConcS.get_fst_eq, ConcS.get_snd_eq]
  exact ⟨(ConcS.lookup_coupled hc k).1, recordReadOp_coupled hq (ConcS.lookup_coupled hc k).2⟩

theorem containsKey_checks {p : Params} {s : SState} {g : Ghost} (hc : CoupledS p s g) (k : Nat) :
    (yields (.has k) (.bool (containsKey p s k))).all (allChecks p g) = true := by
  unfold containsKey
  cases hk : AL.get? s.map k with
  | none => simp [yields]
  | some ve =>
    dsimp only
    cases hx : isExpiredInfo p s (getInfo s ve.info) s.now with
    | true => simp [yields]
    | false =>
      simp only [Bool.not_false, yields, List.all_cons, List.all_nil, Bool.and_true]
      exact allChecks_of_entry hc hk hx _ (Or.inl rfl)

theorem iter_checks {p : Params} {s : SState} {g : Ghost} (hc : CoupledS p s g) :
    (yields .iter (.iter (sortBy (·.1) (iter p s)))).all (allChecks p g) = true := by
  simp only [yields, List.all_eq_true, List.mem_map]
  rintro ⟨k, ov⟩ ⟨⟨k', v⟩, hmem, heq⟩
  simp only [Prod.mk.injEq] at heq
  obtain ⟨rfl, rfl⟩ := heq
  rw [mem_sortBy] at hmem
  simp only [iter, List.mem_map, List.mem_filter] at hmem
  obtain ⟨⟨k2, ve⟩, ⟨hin, hne⟩, heq2⟩ := hmem
  simp only [Prod.mk.injEq] at heq2
  obtain ⟨rfl, rfl⟩ := heq2
  have hk := AL.get?_of_mem hc.kn hin
  exact allChecks_of_entry hc hk (by simpa using hne) _ (Or.inr rfl)

theorem invalidate_coupled {p : Params} (hq : NoQuirks p) {s : SState} {g : Ghost}
    (hc : CoupledS p s g) (k : Nat) :
    CoupledS p (invalidate p s k) (ghostStep .sync g (.inv k) .ok) := by
  have h := ConcS.invalidateMap_coupled hc k
  rw [ConcS.invalidate_eq]
  split
  · exact coupledS_frame h (scheduleWriteOp_frame hq 3 _ _)
  · rename_i ho
    rw [ConcS.invalidateMap_fst_of_none ho] at h
    exact h

theorem insert_coupled {p : Params} (hq : NoQuirks p) {s : SState} {g : Ghost}
    (hc : CoupledS p s g) (k v : Nat) :
    CoupledS p (insert p s k v) (ghostStep .sync g (.ins k v) .ok) := by
  rw [ConcS.insert_eq]
  exact coupledS_frame (ConcS.insertMap_coupled hc k v) (scheduleWriteOp_frame hq 3 _ _)

/-- No invariant of the queues is assumed (hence not an instance of `CallInv`): the coupling
survives a call from any queue state. -/
theorem step_coupled {p : Params} (hq : NoQuirks p) {s : SState} {g : Ghost}
    (hc : CoupledS p s g) (op : Op) :
    stops (step p s op).2 = true ∨
    ((yields op (step p s op).2).all (allChecks p g) = true ∧
     CoupledS p (step p s op).1 (ghostStep .sync g op (step p s op).2)) := by
  rcases step_plain_or_stops p s op with h | h
  · exact Or.inl h
  · rw [h]
    cases op with
    | ins k v => exact Or.inr ⟨by simp [yields], insert_coupled hq hc k v⟩
    | get k => exact Or.inr (get_coupled hq hc k)
    | has k => exact Or.inr ⟨containsKey_checks hc k, by simpa [ghostStep, stepState] using hc⟩
    | iter => exact Or.inr ⟨iter_checks hc, by simpa [ghostStep, stepState] using hc⟩
    | inv k => exact Or.inr ⟨by simp [yields], invalidate_coupled hq hc k⟩
    | invAll => exact Or.inr ⟨by simp [yields], invalidateAll_coupled hc⟩
    | invIf pr => exact Or.inl rfl
    | sync =>
      exact Or.inr ⟨by simp [yields],
        by simpa [ghostStep, stepState] using coupledS_frame hc (syncRun_frame hq s)⟩
    | adv d => exact Or.inr ⟨by simp [yields], adv_coupled hc d⟩
    | snap => exact Or.inr ⟨by simp [yields], by simpa [ghostStep, stepState] using hc⟩
    | freq k => exact Or.inr ⟨by simp [yields], by simpa [ghostStep, stepState] using hc⟩

theorem lookupOracle_of_coupled {p : Params} (hq : NoQuirks p)
    (check : Ghost → Nat × Option Nat → Bool)
    (himp : ∀ g kv, allChecks p g kv = true → check g kv = true) :
    ∀ (h : List Op) (s : SState) (g : Ghost), CoupledS p s g →
      lookupOracle .sync check g (run p s h) = true :=
  (lookupOracle_refWalk .sync check).run (isRun p) (C := fun _ s g => CoupledS p s g)
    fun s g op _ hc => (step_coupled hq hc op).imp_right fun ⟨h1, h2⟩ =>
      ⟨List.all_eq_true.mpr fun kv hkv => himp g kv (List.all_eq_true.mp h1 kv hkv), h2⟩

end Sync
end MiniMoka
