/-
  The invariant of `MiniMoka/ConcS.lean`: the node-ownership invariant (`Lemmas/SyncNodes.lean`) and
  the counters invariant (`Lemmas/SyncCounters.lean`) for the logical write queue "physical write
  queue ++ the write operations threads hold".  `CInv` mentions its queue through membership only,
  so the order of the map steps and the order of the enqueues are irrelevant.  The invariant is
  proved with a parameter `ex` of further operations held (`CSInvX`, `step_csinvX`): `ConcF` puts
  there the `Upsert` its maintenance run is applying; `ex = []` is `CSInv`.  `Step` inverts
  `ConcS.step` once, so that a proof about a step is a `cases`.
-/
import MiniMoka.ConcS
import MiniMoka.Lemmas.IsPath
import MiniMoka.Lemmas.SyncCounters
import MiniMoka.Lemmas.SyncSnapshot

namespace MiniMoka

namespace ConcS

open Sync Sync.Nodes Sync.Counters

theorem pendOf_eq_get? (l : List (Tid × Pend)) (t : Tid) : pendOf l t = AL.get? l t := by
  induction l with
  | nil => rfl
  | cons x l ih => obtain ⟨k, v⟩ := x; simp only [pendOf, AL.get?_cons, ih]

theorem dropPend_eq_filter (l : List (Tid × Pend)) (t : Tid) :
    dropPend l t = l.filter fun x => x.1 != t := by
  induction l with
  | nil => rfl
  | cons x l ih => simp only [dropPend, List.filter_cons, ih, bne_iff_ne, ne_eq, ite_not]

theorem pendOf_nil (t : Tid) : pendOf [] t = none := rfl

theorem pendOf_head (t : Tid) (pd : Pend) (l : List (Tid × Pend)) :
    pendOf ((t, pd) :: l) t = some pd := by
  simp only [pendOf, if_true]

theorem pendOf_single (t : Tid) (x : Pend) : pendOf [(t, x)] t = some x := pendOf_head t x []

theorem dropPend_single (t : Tid) (x : Pend) : dropPend [(t, x)] t = [] := by
  simp [dropPend]

theorem pendOf_none {l : List (Tid × Pend)} {t : Tid} (h : pendOf l t = none) :
    t ∉ l.map (·.1) := by
  rw [pendOf_eq_get?, AL.get?_eq_none_iff, AL.keys_eq_map] at h
  exact h

theorem pendOf_dropPend (l : List (Tid × Pend)) (t t' : Tid) :
    pendOf (dropPend l t) t' = if t = t' then none else pendOf l t' := by
  rw [pendOf_eq_get?, pendOf_eq_get?, dropPend_eq_filter, AL.get?_filter_ne]

theorem mem_dropPend {l : List (Tid × Pend)} {t : Tid} {x : Tid × Pend} :
    x ∈ dropPend l t ↔ x ∈ l ∧ x.1 ≠ t := by
  rw [dropPend_eq_filter, List.mem_filter, bne_iff_ne]

theorem dropPend_tids_nodup {l : List (Tid × Pend)} (t : Tid) (h : (l.map (·.1)).Nodup) :
    ((dropPend l t).map (·.1)).Nodup := by
  rw [dropPend_eq_filter]
  exact h.sublist (List.filter_sublist.map _)

theorem dropPend_length_le (l : List (Tid × Pend)) (t : Tid) : (dropPend l t).length ≤ l.length := by
  rw [dropPend_eq_filter]
  exact List.length_filter_le _ _

theorem dropPend_head_length (t : Tid) (pd : Pend) (l : List (Tid × Pend)) :
    (dropPend ((t, pd) :: l) t).length ≤ l.length := by
  simp only [dropPend, if_true]
  exact dropPend_length_le l t

theorem mem_of_pendOf {l : List (Tid × Pend)} {t : Tid} {pd : Pend} (hn : (l.map (·.1)).Nodup)
    (h : pendOf l t = some pd) (x : Tid × Pend) : x ∈ l ↔ x = (t, pd) ∨ x ∈ dropPend l t := by
  rw [pendOf_eq_get?] at h
  rw [← AL.keys_eq_map] at hn
  rw [mem_dropPend]
  constructor
  · intro hx
    by_cases e : x.1 = t
    · have hg : AL.get? l x.1 = some x.2 := AL.get?_of_mem hn hx
      rw [e, h] at hg
      exact Or.inl (Prod.ext e (Option.some.inj hg).symm)
    · exact Or.inr ⟨hx, e⟩
  · rintro (rfl | ⟨hx, _⟩)
    · exact AL.mem_of_get? h
    · exact hx

theorem append_eq_put {l : List (Tid × Pend)} {t : Tid} (x : Pend) (h : pendOf l t = none) :
    l ++ [(t, x)] = AL.put l t x :=
  (AL.put_eq_append x (by rw [← pendOf_eq_get?]; exact h)).symm

theorem tids_append {l : List (Tid × Pend)} {t : Tid} (x : Pend) (hn : (l.map (·.1)).Nodup)
    (h : pendOf l t = none) : ((l ++ [(t, x)]).map (·.1)).Nodup := by
  rw [append_eq_put x h, ← AL.keys_eq_map]
  rw [← AL.keys_eq_map] at hn
  exact AL.nodup_put t x hn

theorem pendWrites_append (l1 l2 : List (Tid × Pend)) :
    pendWrites (l1 ++ l2) = pendWrites l1 ++ pendWrites l2 := by
  induction l1 with
  | nil => rfl
  | cons x l ih =>
    obtain ⟨t', pd⟩ := x
    cases pd <;> simp only [List.cons_append, pendWrites, ih]

theorem pendWrites_append_write (l : List (Tid × Pend)) (t : Tid) (op : WOp) :
    pendWrites (l ++ [(t, .write op)]) = pendWrites l ++ [op] := pendWrites_append l _

theorem pendWrites_append_read (l : List (Tid × Pend)) (t : Tid) (op : ROp) :
    pendWrites (l ++ [(t, .read op)]) = pendWrites l := by
  rw [pendWrites_append]; exact List.append_nil _

theorem mem_pendWrites {l : List (Tid × Pend)} {op : WOp} :
    op ∈ pendWrites l ↔ ∃ t, (t, Pend.write op) ∈ l := by
  induction l with
  | nil => simp [pendWrites]
  | cons x l ih =>
    obtain ⟨t', pd⟩ := x
    cases pd <;> simp [pendWrites, ih, exists_or]

theorem mem_pendWrites_of_write {l : List (Tid × Pend)} {t : Tid} {op : WOp}
    (hn : (l.map (·.1)).Nodup) (h : pendOf l t = some (.write op)) (o : WOp) :
    o ∈ pendWrites l ↔ o = op ∨ o ∈ pendWrites (dropPend l t) := by
  simp only [mem_pendWrites, mem_of_pendOf hn h, Prod.mk.injEq, Pend.write.injEq, exists_or,
    exists_eq_left]

theorem mem_pendWrites_of_read {l : List (Tid × Pend)} {t : Tid} {op : ROp}
    (hn : (l.map (·.1)).Nodup) (h : pendOf l t = some (.read op)) (o : WOp) :
    o ∈ pendWrites l ↔ o ∈ pendWrites (dropPend l t) := by
  simp only [mem_pendWrites, mem_of_pendOf hn h, Prod.mk.injEq, reduceCtorEq, and_false, false_or]

/-- `step p c e = some c'`, one constructor per way an event is enabled. -/
inductive Step (p : Params) (c : CState) : Ev → CState → Prop where
  | insMap (t : Tid) (k v : Nat) : pendOf c.pending t = none →
    Step p c (.insMap t k v)
      ⟨(insertMap p c.s k v).1, c.pending ++ [(t, .write (insertMap p c.s k v).2)]⟩
  | invMap (t : Tid) (k : Nat) (op : WOp) : pendOf c.pending t = none →
    (invalidateMap c.s k).2 = some op →
    Step p c (.invMap t k) ⟨(invalidateMap c.s k).1, c.pending ++ [(t, .write op)]⟩
  | invNone (t : Tid) (k : Nat) : pendOf c.pending t = none → (invalidateMap c.s k).2 = none →
    Step p c (.invMap t k) c
  | getMap (t : Tid) (k : Nat) : pendOf c.pending t = none →
    Step p c (.getMap t k) { c with pending := c.pending ++ [(t, .read (lookup p c.s k).1)] }
  | maint (t : Tid) : c.s.running = false → Step p c (.maint t) { c with s := trySync p c.s }
  | sync (t : Tid) : c.s.running = false → Step p c (.sync t) { c with s := syncRun p c.s }
  | enqWrite (t : Tid) (op : WOp) : pendOf c.pending t = some (.write op) →
    c.s.writeQ.length < Gen.WRITE_LOG_SIZE →
    Step p c (.enq t) ⟨{ c.s with writeQ := c.s.writeQ ++ [op] }, dropPend c.pending t⟩
  | enqRead (t : Tid) (op : ROp) : pendOf c.pending t = some (.read op) →
    c.s.readQ.length < Gen.READ_LOG_SIZE →
    Step p c (.enq t) ⟨{ c.s with readQ := c.s.readQ ++ [op] }, dropPend c.pending t⟩
  | enqDrop (t : Tid) (op : ROp) : pendOf c.pending t = some (.read op) →
    ¬ c.s.readQ.length < Gen.READ_LOG_SIZE →
    Step p c (.enq t) { c with pending := dropPend c.pending t }
  | tick (d : Nat) : Step p c (.tick d) { c with s := { c.s with now := c.s.now + d } }
  | invAll (t : Tid) : Step p c (.invAll t) { c with s := invalidateAll c.s }

theorem Step.of_eq {p : Params} {c c' : CState} {e : Ev} (hs : step p c e = some c') :
    Step p c e c' := by
  cases e with
  | insMap t k v =>
    simp only [step] at hs
    split at hs
    · cases hs
    · cases hs; exact .insMap t k v ‹_›
  | invMap t k =>
    simp only [step] at hs
    split at hs
    · cases hs
    · split at hs
      · cases hs; exact .invMap t k _ ‹_› ‹_›
      · cases hs; exact .invNone t k ‹_› ‹_›
  | getMap t k =>
    simp only [step] at hs
    split at hs
    · cases hs
    · cases hs; exact .getMap t k ‹_›
  | maint t =>
    simp only [step] at hs
    split at hs
    · cases hs
    · cases hs; exact .maint t (Bool.eq_false_iff.mpr ‹_›)
  | sync t =>
    simp only [step] at hs
    split at hs
    · cases hs
    · cases hs; exact .sync t (Bool.eq_false_iff.mpr ‹_›)
  | enq t =>
    simp only [step] at hs
    split at hs
    · cases hs
    · split at hs
      · cases hs; exact .enqWrite t _ ‹_› ‹_›
      · cases hs
    · split at hs
      · cases hs; exact .enqRead t _ ‹_› ‹_›
      · cases hs; exact .enqDrop t _ ‹_› ‹_›
  | tick d => simp only [step] at hs; cases hs; exact .tick d
  | invAll t => simp only [step] at hs; cases hs; exact .invAll t

theorem insertMap_infos (p : Params) (s : SState) (k v : Nat) :
    ∃ (ve : VE) (inf : Info) (oldW : Nat),
    (insertMap p s k v).2 = .upsert k (p.hash k) ve oldW (p.weigh k v) ∧
    (insertMap p s k v).1.map = AL.put s.map k ve ∧ ve.val = v ∧
    (∀ j, getInfo (insertMap p s k v).1 j = if ve.info = j then inf else getInfo s j) ∧
    inf.lm = s.now ∧ inf.la = s.now ∧
    ((∃ old, AL.get? s.map k = some old ∧ ve.info = old.info ∧
        inf.admitted = (getInfo s old.info).admitted ∧
        (p.q.d8 = false → inf.weight = (getInfo s old.info).weight) ∧
        inf.key = (getInfo s old.info).key ∧ (insertMap p s k v).1.nextId = s.nextId + 1) ∨
      (AL.get? s.map k = none ∧ ve.info = s.nextId ∧ inf.admitted = false ∧
        inf.weight = p.weigh k v ∧ inf.key = k ∧
        (insertMap p s k v).1.nextId = s.nextId + 2)) := by
  obtain ⟨ve, inf, n, oldW, e, hcase⟩ := insertMap_eq p s k v
  rw [e]
  refine ⟨ve, inf, oldW, rfl, rfl, ?_, getInfo_of_infos_put rfl, ?_⟩
  · rcases hcase with ⟨_, _, rfl, _⟩ | ⟨_, rfl, _⟩ <;> rfl
  · rcases hcase with ⟨old, hg, rfl, rfl, rfl, _⟩ | ⟨hg, rfl, rfl, rfl, _⟩
    · refine ⟨rfl, rfl, Or.inl ⟨old, hg, rfl, rfl, fun hd8 => ?_, rfl, rfl⟩⟩
      show (if p.q.d8 = true then p.weigh k v else (getInfo s old.info).weight) = _
      rw [hd8]
      rfl
    · exact ⟨rfl, rfl, Or.inr ⟨hg, rfl, rfl, rfl, rfl, rfl⟩⟩

theorem insertMap_map (p : Params) (s : SState) (k v : Nat) :
    ∃ ve, (insertMap p s k v).1.map = AL.put s.map k ve ∧ ve.val = v ∧
      ∀ old, AL.get? s.map k = some old → ve.info = old.info := by
  obtain ⟨ve, _, _, _, hmap, hval, _, _, _, hcase⟩ := insertMap_infos p s k v
  refine ⟨ve, hmap, hval, fun old ho => ?_⟩
  rcases hcase with ⟨old', ho', hi, _⟩ | ⟨hn, _⟩
  · rw [ho] at ho'; cases ho'; exact hi
  · rw [ho] at hn; cases hn

theorem invalidateMap_map (s : SState) (k : Nat) :
    (invalidateMap s k).1.map = AL.erase s.map k := by
  unfold invalidateMap
  split
  · rename_i hg; exact (AL.erase_of_get?_none hg).symm
  · rfl

theorem invalidateMap_fst_of_none {s : SState} {k : Nat} (h : (invalidateMap s k).2 = none) :
    (invalidateMap s k).1 = s := by
  rcases invalidateMap_cases s k with ⟨_, e⟩ | ⟨_, _, e⟩
  · rw [e]
  · rw [e] at h; cases h

theorem step_no_spurious (p : Params) {c c' : CState} (e : Ev) (hs : step p c e = some c')
    (k : Nat) (ve : VE) (hk : AL.get? c.s.map k = some ve) :
    AL.get? c'.s.map k = some ve ∨
    (∃ t v, e = .insMap t k v ∧
      ∃ ve', AL.get? c'.s.map k = some ve' ∧ ve'.info = ve.info ∧ ve'.val = v) ∨
    (∃ t, e = .invMap t k) ∨ (∃ t, e = .maint t ∨ e = .sync t) := by
  cases Step.of_eq hs with
  | insMap t k' v =>
    obtain ⟨ve', hm, hv, hi⟩ := insertMap_map p c.s k' v
    show AL.get? (insertMap p c.s k' v).1.map k = some ve ∨ _
    rw [hm]
    by_cases hkk : k' = k
    · subst hkk
      exact Or.inr (Or.inl ⟨t, v, rfl, ve', AL.get?_put_self _ _ _, hi ve hk, hv⟩)
    · rw [AL.get?_put_ne _ hkk]
      exact Or.inl hk
  | invMap t k' =>
    show AL.get? (invalidateMap c.s k').1.map k = some ve ∨ _
    rw [invalidateMap_map]
    by_cases hkk : k' = k
    · subst hkk
      exact Or.inr (Or.inr (Or.inl ⟨t, rfl⟩))
    · rw [AL.get?_erase_ne hkk]
      exact Or.inl hk
  | maint t => exact Or.inr (Or.inr (Or.inr ⟨t, Or.inl rfl⟩))
  | sync t => exact Or.inr (Or.inr (Or.inr ⟨t, Or.inr rfl⟩))
  | invNone | getMap | enqWrite | enqRead | enqDrop | tick | invAll => exact Or.inl hk

theorem insertMap_inv {p : Params} (hq : NoQuirks p) {s : SState} {Q : List WOp}
    (ht : TopInv Sketch.Good s) (hc : CTop p s Q) (k v : Nat) :
    TopInv Sketch.Good (insertMap p s k v).1 ∧
    CTop p (insertMap p s k v).1 (Q ++ [(insertMap p s k v).2]) ∧
    (insertMap p s k v).1.writeQ = s.writeQ ∧ (insertMap p s k v).1.readQ = s.readQ ∧
    (insertMap p s k v).1.running = s.running :=
  have hf := insertMap_fields p s k v
  ⟨insertMap_top ht k v, insertMap_ctop hq ht hc k v, hf.1, hf.2.1, hf.2.2.1⟩

theorem invalidateMap_inv {p : Params} {s : SState} {Q : List WOp}
    (ht : TopInv Sketch.Good s) (hc : CTop p s Q) (k : Nat) (op : WOp)
    (hop : (invalidateMap s k).2 = some op) :
    TopInv Sketch.Good (invalidateMap s k).1 ∧ CTop p (invalidateMap s k).1 (Q ++ [op]) ∧
    (invalidateMap s k).1.writeQ = s.writeQ ∧ (invalidateMap s k).1.readQ = s.readQ ∧
    (invalidateMap s k).1.running = s.running :=
  have hf := invalidateMap_fields s k
  ⟨invalidateMap_top ht k, invalidateMap_ctop ht hc hop, hf.1, hf.2.1, hf.2.2.1⟩

theorem trySync_inv {p : Params} (hq : NoQuirks p) (hsm : SmallSketch p) {s : SState}
    (ex : List WOp) (ht : TopInv Sketch.Good s) (hr : s.running = false)
    (hc : CTop p s (s.writeQ ++ ex)) :
    TopInv Sketch.Good (trySync p s) ∧ CTop p (trySync p s) ((trySync p s).writeQ ++ ex) ∧
    (trySync p s).writeQ = [] ∧ (trySync p s).readQ = [] ∧ (trySync p s).running = false :=
  have hs := trySync_spec p s hr
  have ⟨a, b⟩ := ((t_callInv hq hsm).housekeep (ex := ex) ⟨ht, hc⟩).1
  ⟨a, b, hs.writeQ, hs.readQ, hs.running⟩

/-- The invariant of the reachable states of `ConcS`: `TopInv` and `CTop` of the one-thread model,
the latter for the logical write queue.  No run is in progress because runs are atomic here; `wq`
and `rq` bound the channels by their capacities (`Gen.*_LOG_SIZE`): the one-thread `QInv` has the
flush points there, which many threads do not keep. -/
structure CSInv (p : Params) (c : CState) : Prop where
  top : TopInv Sketch.Good c.s
  running : c.s.running = false
  tids : (c.pending.map (·.1)).Nodup
  cinv : CTop p c.s (c.s.writeQ ++ pendWrites c.pending)
  wq : c.s.writeQ.length ≤ Gen.WRITE_LOG_SIZE
  rq : c.s.readQ.length ≤ Gen.READ_LOG_SIZE

theorem csinv_init (p : Params) : CSInv p {} :=
  ⟨init_inv sketchLaws, rfl, List.nodup_nil, (init_t p).c, Nat.zero_le _, Nat.zero_le _⟩

/-- `CSInv` with further write operations `ex` counted as held: a run of `ConcF` that is applying
an `Upsert` holds it exactly as a thread holds a write between its map step and its enqueue. -/
structure CSInvX (p : Params) (ex : List WOp) (c : CState) : Prop where
  top : TopInv Sketch.Good c.s
  running : c.s.running = false
  tids : (c.pending.map (·.1)).Nodup
  cinv : CTop p c.s (c.s.writeQ ++ (pendWrites c.pending ++ ex))
  wq : c.s.writeQ.length ≤ Gen.WRITE_LOG_SIZE
  rq : c.s.readQ.length ≤ Gen.READ_LOG_SIZE

theorem csinvX_nil {p : Params} {c : CState} : CSInvX p [] c ↔ CSInv p c :=
  ⟨fun h => ⟨h.top, h.running, h.tids, by have := h.cinv; rwa [List.append_nil] at this, h.wq, h.rq⟩,
   fun h => ⟨h.top, h.running, h.tids, by rw [List.append_nil]; exact h.cinv, h.wq, h.rq⟩⟩

theorem CSInvX.hold_write {p : Params} {ex : List WOp} {c : CState} (h : CSInvX p ex c) {t : Tid}
    (hp : pendOf c.pending t = none) {s' : SState} {op : WOp}
    (hi : TopInv Sketch.Good s' ∧
      CTop p s' ((c.s.writeQ ++ (pendWrites c.pending ++ ex)) ++ [op]) ∧
      s'.writeQ = c.s.writeQ ∧ s'.readQ = c.s.readQ ∧ s'.running = c.s.running) :
    CSInvX p ex ⟨s', c.pending ++ [(t, .write op)]⟩ := by
  obtain ⟨a1, a2, a3, a4, a5⟩ := hi
  refine ⟨a1, a5.trans h.running, tids_append _ h.tids hp, ?_, ?_, ?_⟩
  · -- `Pend.write` in full: with `.write op` still to be resolved the first unification fails, slowly
    show CTop p s' (s'.writeQ ++ (pendWrites (c.pending ++ [(t, Pend.write op)]) ++ ex))
    rw [a3, pendWrites_append_write]
    refine CTop.of_mem a2 fun o => ?_
    simp only [List.mem_append, List.mem_singleton, or_comm, or_left_comm]
  · show s'.writeQ.length ≤ _
    rw [a3]; exact h.wq
  · show s'.readQ.length ≤ _
    rw [a4]; exact h.rq

theorem CSInvX.of_run {p : Params} {ex : List WOp} {c : CState} (h : CSInvX p ex c) {s' : SState}
    (hi : TopInv Sketch.Good s' ∧ CTop p s' (s'.writeQ ++ (pendWrites c.pending ++ ex)) ∧
      s'.writeQ = [] ∧ s'.readQ = [] ∧ s'.running = false) : CSInvX p ex { c with s := s' } := by
  obtain ⟨a1, a2, a3, a4, a5⟩ := hi
  refine ⟨a1, a5, h.tids, a2, ?_, ?_⟩
  · show s'.writeQ.length ≤ _
    rw [a3]; exact Nat.zero_le _
  · show s'.readQ.length ≤ _
    rw [a4]; exact Nat.zero_le _

/-- The enqueues, `tick` and `invAll` change only `writeQ`, `readQ`, `now` and `va`, none of which
is among the nine fields `TopInv` or the six fields `CTop` read: that is what the
`of_eq rfl … rfl` say. -/
theorem step_csinvX {p : Params} (hq : NoQuirks p) (hsm : SmallSketch p) {ex : List WOp}
    {c c' : CState} (h : CSInvX p ex c) (e : Ev) (hs : step p c e = some c') : CSInvX p ex c' := by
  cases Step.of_eq hs with
  | insMap t k v hp => exact h.hold_write hp (insertMap_inv hq h.top h.cinv k v)
  | invMap t k op hp ho => exact h.hold_write hp (invalidateMap_inv h.top h.cinv k op ho)
  | invNone => exact h
  | getMap t k hp =>
    refine ⟨h.top, h.running, tids_append _ h.tids hp, ?_, h.wq, h.rq⟩
    show CTop p c.s
      (c.s.writeQ ++ (pendWrites (c.pending ++ [(t, Pend.read (lookup p c.s k).1)]) ++ ex))
    rw [pendWrites_append_read]
    exact h.cinv
  | maint => exact h.of_run (trySync_inv hq hsm _ h.top h.running h.cinv)
  | sync =>
    refine h.of_run ⟨syncRun_inv sketchLaws hq hsm h.top, ?_, syncRun_writeQ p c.s,
      syncRun_readQ p c.s, (syncRun_running p c.s).trans h.running⟩
    rw [syncRun_writeQ, List.nil_append]
    exact syncRun_ctop sketchLaws hq hsm _ h.top h.cinv
  | enqWrite t op hp hl =>
    refine ⟨h.top.of_eq rfl rfl rfl rfl rfl rfl rfl rfl rfl, h.running,
      dropPend_tids_nodup t h.tids, ?_, ?_, h.rq⟩
    · refine (CTop.of_mem (Q' := (c.s.writeQ ++ [op]) ++ (pendWrites (dropPend c.pending t) ++ ex))
        h.cinv ?_).of_eq rfl rfl rfl rfl rfl rfl
      intro o
      simp only [List.mem_append, List.mem_singleton, mem_pendWrites_of_write h.tids hp, or_assoc]
    · show (c.s.writeQ ++ [op]).length ≤ _
      rw [List.length_append]
      exact hl
  | enqRead t op hp hl =>
    refine ⟨h.top.of_eq rfl rfl rfl rfl rfl rfl rfl rfl rfl, h.running,
      dropPend_tids_nodup t h.tids, ?_, h.wq, ?_⟩
    · refine (CTop.of_mem (Q' := c.s.writeQ ++ (pendWrites (dropPend c.pending t) ++ ex))
        h.cinv ?_).of_eq rfl rfl rfl rfl rfl rfl
      intro o
      simp only [List.mem_append, mem_pendWrites_of_read h.tids hp]
    · show (c.s.readQ ++ [op]).length ≤ _
      rw [List.length_append]
      exact hl
  | enqDrop t op hp =>
    refine ⟨h.top, h.running, dropPend_tids_nodup t h.tids, CTop.of_mem h.cinv ?_, h.wq, h.rq⟩
    intro o
    simp only [List.mem_append, mem_pendWrites_of_read h.tids hp]
  | tick d =>
    exact ⟨h.top.of_eq rfl rfl rfl rfl rfl rfl rfl rfl rfl, h.running, h.tids,
      h.cinv.of_eq rfl rfl rfl rfl rfl rfl, h.wq, h.rq⟩
  | invAll t =>
    exact ⟨h.top.of_eq rfl rfl rfl rfl rfl rfl rfl rfl rfl, h.running, h.tids,
      h.cinv.of_eq rfl rfl rfl rfl rfl rfl, h.wq, h.rq⟩

theorem step_csinv {p : Params} (hq : NoQuirks p) (hsm : SmallSketch p) {c c' : CState}
    (h : CSInv p c) (e : Ev) (hs : step p c e = some c') : CSInv p c' :=
  csinvX_nil.1 (step_csinvX hq hsm (csinvX_nil.2 h) e hs)

theorem reach_csinv {p : Params} (hq : NoQuirks p) (hsm : SmallSketch p) {c : CState}
    (h : Reach p c) : CSInv p c := by
  induction h with
  | init => exact csinv_init p
  | step e _ hs ih => exact step_csinv hq hsm ih e hs

theorem isPath (p : Params) : IsPath (step p) (runEvs p) :=
  ⟨fun _ => rfl, fun c e rest => by simp only [runEvs]; cases step p c e <;> rfl⟩

theorem reach_of_runEvs {p : Params} : ∀ (evs : List Ev) (c c' : CState), Reach p c →
    runEvs p c evs = some c' → Reach p c' :=
  (isPath p).inv fun _ _ e h hs => Reach.step e h hs

theorem CSInvX.map_length_le {p : Params} {ex : List WOp} {c : CState} (h : CSInvX p ex c) :
    c.s.map.length ≤
      c.s.prob.length + c.s.writeQ.length + (pendWrites c.pending).length + ex.length := by
  have this : c.s.map.length ≤
      c.s.prob.length + (c.s.writeQ ++ (pendWrites c.pending ++ ex)).length :=
    CInv.map_length_le (s := { c.s with cec := c.s.ec, cws := c.s.ws }) h.cinv
      h.top.nodes.toNodesCore.adm_node h.top.map.kn
  rw [List.length_append, List.length_append] at this
  omega

theorem csinv_map_length_le {p : Params} {c : CState} (h : CSInv p c) :
    c.s.map.length ≤ c.s.ec + c.s.writeQ.length + (pendWrites c.pending).length := by
  rw [h.top.nodes.count]
  exact (csinvX_nil.2 h).map_length_le

theorem csinv_tinv_of_no_write {p : Params} {c : CState} (h : CSInv p c)
    (hp : pendWrites c.pending = []) (hw : c.s.writeQ = []) :
    TInv p { c.s with readQ := [] } [] := by
  refine ⟨h.top.of_eq rfl rfl rfl rfl rfl rfl rfl rfl rfl, ⟨h.running, ?_, Nat.zero_le _⟩, ?_⟩
  · show c.s.writeQ.length ≤ _
    rw [hw]; exact Nat.zero_le _
  · have h1 := h.cinv
    rw [hp] at h1
    exact h1.of_eq rfl rfl rfl rfl rfl rfl

theorem csinv_quiescent_tinv {p : Params} {c : CState} (h : CSInv p c) (hp : c.pending = [])
    (hw : c.s.writeQ = []) : TInv p { c.s with readQ := [] } [] :=
  csinv_tinv_of_no_write h (by rw [hp]; rfl) hw

theorem runEvs_append (p : Params) (c : CState) (l1 l2 : List Ev) :
    runEvs p c (l1 ++ l2) = match runEvs p c l1 with
      | some c' => runEvs p c' l2
      | none => none := by
  rw [(isPath p).append]
  cases runEvs p c l1 <;> rfl

theorem step_maint_eq (p : Params) {c : CState} (hr : c.s.running = false) (t : Tid) :
    step p c (.maint t) = some { c with s := trySync p c.s } := by
  simp only [step, hr, Bool.false_eq_true, if_false]

/-- Primed because `Sync.step_sync_eq`, open here, is the one-thread counterpart. -/
theorem step_sync_eq' (p : Params) {c : CState} (hr : c.s.running = false) (t : Tid) :
    step p c (.sync t) = some { c with s := syncRun p c.s } := by
  simp only [step, hr, Bool.false_eq_true, if_false]

theorem path_housekeep_enq (p : Params) {s : SState} (hr : s.running = false) (t : Tid)
    (pd : Pend) (due : Prop) [Decidable due] {c' : CState}
    (he : step p ⟨if due then trySync p s else s, [(t, pd)]⟩ (.enq t) = some c') :
    ∃ evs, runEvs p ⟨s, [(t, pd)]⟩ evs = some c' := by
  by_cases hd : due
  · rw [if_pos hd] at he
    exact ⟨[.maint t, .enq t], by simp only [runEvs, step_maint_eq p (c := ⟨s, _⟩) hr, he]⟩
  · rw [if_neg hd] at he
    exact ⟨[.enq t], by simp only [runEvs, he]⟩

/-- `3` is the fuel `Sync.insert` and `Sync.invalidate` give the retry loop; by `hlt` the first
round succeeds, so any positive fuel would do. -/
theorem path_scheduleWriteOp (p : Params) {s : SState} (hr : s.running = false) (t : Tid)
    (op : WOp) :
    ∃ evs, runEvs p ⟨s, [(t, .write op)]⟩ evs = some ⟨scheduleWriteOp p 3 s op, []⟩ := by
  refine path_housekeep_enq p hr t _
    (shouldApply s s.writeQ.length Gen.WRITE_LOG_FLUSH_POINT = true) ?_
  have hlt : (housekeepW p s).writeQ.length < Gen.WRITE_LOG_SIZE := by
    unfold housekeepW
    split
    · rw [(trySync_spec p s hr).writeQ]; decide
    · rename_i ha
      simp only [shouldApply, Bool.or_eq_true, decide_eq_true_eq, not_or, Nat.not_le] at ha
      exact Nat.lt_trans ha.1 wfp_lt_size
  show step p ⟨housekeepW p s, _⟩ (.enq t) = some ⟨
    (if (housekeepW p s).writeQ.length < Gen.WRITE_LOG_SIZE
      then { housekeepW p s with writeQ := (housekeepW p s).writeQ ++ [op] }
      else scheduleWriteOp p 2 (housekeepW p s) op), []⟩
  simp only [step, pendOf_single, if_pos hlt, dropPend_single]

/-- No hypothesis on the length: a full read queue drops the operation in both systems. -/
theorem path_recordReadOp (p : Params) {s : SState} (hr : s.running = false) (t : Tid)
    (op : ROp) :
    ∃ evs, runEvs p ⟨s, [(t, .read op)]⟩ evs = some ⟨recordReadOp p s op, []⟩ := by
  refine path_housekeep_enq p hr t _
    (shouldApply s s.readQ.length Gen.READ_LOG_FLUSH_POINT = true) ?_
  show step p ⟨housekeepR p s, _⟩ (.enq t) = some ⟨
    (if (housekeepR p s).readQ.length < Gen.READ_LOG_SIZE
      then { housekeepR p s with readQ := (housekeepR p s).readQ ++ [op] }
      else housekeepR p s), []⟩
  simp only [step, pendOf_single, dropPend_single]
  split <;> rfl

theorem path_of_step (p : Params) {s : SState} (hr : s.running = false) (op : Op) (t : Tid) :
    ∃ evs, runEvs p ⟨s, []⟩ evs = some ⟨(Sync.step p s op).1, []⟩ := by
  rw [step_fst_ite]
  split
  · exact ⟨[], rfl⟩
  · cases op with
    | ins k v =>
      show ∃ evs, runEvs p ⟨s, []⟩ evs = some ⟨Sync.insert p s k v, []⟩
      rw [insert_eq]
      obtain ⟨evs, he⟩ := path_scheduleWriteOp p ((insertMap_fields p s k v).2.2.1.trans hr) t
        (insertMap p s k v).2
      exact ⟨.insMap t k v :: evs, by simp only [runEvs, step, pendOf_nil, List.nil_append]; exact he⟩
    | get k =>
      show ∃ evs, runEvs p ⟨s, []⟩ evs = some ⟨(Sync.get p s k).1, []⟩
      rw [get_fst_eq]
      obtain ⟨evs, he⟩ := path_recordReadOp p hr t (lookup p s k).1
      exact ⟨.getMap t k :: evs, by simp only [runEvs, step, pendOf_nil, List.nil_append]; exact he⟩
    | inv k =>
      show ∃ evs, runEvs p ⟨s, []⟩ evs = some ⟨Sync.invalidate p s k, []⟩
      rw [invalidate_eq]
      cases ho : (invalidateMap s k).2 with
      | none => exact ⟨[.invMap t k], by simp only [runEvs, step, pendOf_nil, ho]⟩
      | some wop =>
        obtain ⟨evs, he⟩ := path_scheduleWriteOp p ((invalidateMap_fields s k).2.2.1.trans hr) t wop
        exact ⟨.invMap t k :: evs,
          by simp only [runEvs, step, pendOf_nil, ho, List.nil_append]; exact he⟩
    | invAll => exact ⟨[.invAll t], rfl⟩
    | sync =>
      show ∃ evs, runEvs p ⟨s, []⟩ evs = some ⟨syncRun p s, []⟩
      exact ⟨[.sync t], by simp only [runEvs, step_sync_eq' p (c := ⟨s, _⟩) hr]⟩
    | adv d => exact ⟨[.tick d], rfl⟩
    | has k | iter | invIf pr | snap | freq k => exact ⟨[], rfl⟩

theorem step_enq_enabled (p : Params) {c : CState} {t : Tid} {pd : Pend}
    (hp : pendOf c.pending t = some pd)
    (hroom : ∀ op, pd = .write op → c.s.writeQ.length < Gen.WRITE_LOG_SIZE) :
    ∃ c', step p c (.enq t) = some c' ∧ c'.pending = dropPend c.pending t := by
  simp only [step, hp]
  cases pd with
  | write op =>
    dsimp only
    rw [if_pos (hroom op rfl)]
    exact ⟨_, rfl, rfl⟩
  | read op =>
    dsimp only
    by_cases hl : c.s.readQ.length < Gen.READ_LOG_SIZE
    · rw [if_pos hl]; exact ⟨_, rfl, rfl⟩
    · rw [if_neg hl]; exact ⟨_, rfl, rfl⟩

theorem maint_then_enq (p : Params) {c : CState} (hr : c.s.running = false) {t : Tid} {pd : Pend}
    (hp : pendOf c.pending t = some pd) (t' : Tid) :
    ∃ c1 c2, step p c (.maint t') = some c1 ∧ step p c1 (.enq t) = some c2 ∧
      c2.pending = dropPend c.pending t := by
  refine ⟨{ c with s := trySync p c.s }, ?_⟩
  have hw := (trySync_spec p c.s hr).writeQ
  obtain ⟨c2, h2, h3⟩ := step_enq_enabled p (c := { c with s := trySync p c.s }) (t := t) hp
    (fun op _ => by
      show (trySync p c.s).writeQ.length < _
      rw [hw]; decide)
  exact ⟨c2, step_maint_eq p hr t', h2, h3⟩

theorem drain_own {p : Params} (hq : NoQuirks p) (hsm : SmallSketch p) : ∀ (n : Nat) (c : CState),
    Reach p c → c.pending.length ≤ n →
      ∃ evs c', evs.length ≤ 2 * n ∧ runEvs p c evs = some c' ∧ c'.pending = [] ∧ Reach p c' ∧
        ∀ e ∈ evs, ∃ t ∈ c.pending.map Prod.fst, e = .maint t ∨ e = .enq t := by
  intro n
  induction n with
  | zero =>
    intro c hr hn
    exact ⟨[], c, Nat.le_refl _, rfl, List.eq_nil_of_length_eq_zero (Nat.le_zero.mp hn), hr,
      fun _ h => by cases h⟩
  | succ n ih =>
    intro c hr hn
    cases hp : c.pending with
    | nil => exact ⟨[], c, Nat.zero_le _, rfl, hp, hr, fun _ h => by cases h⟩
    | cons x rest =>
      obtain ⟨t, pd⟩ := x
      have hrun := (reach_csinv hq hsm hr).running
      have hpo : pendOf c.pending t = some pd := by rw [hp]; exact pendOf_head t pd rest
      obtain ⟨c1, c2, h1, h2, h3⟩ := maint_then_enq p hrun hpo t
      have hr2 : Reach p c2 := Reach.step _ (Reach.step _ hr h1) h2
      have hlen : c2.pending.length ≤ n := by
        rw [h3, hp]
        have := dropPend_head_length t pd rest
        rw [hp, List.length_cons] at hn
        omega
      obtain ⟨evs, c', e1, e2, e3, e4, e5⟩ := ih c2 hr2 hlen
      have ht : t ∈ ((t, pd) :: rest).map Prod.fst := List.mem_cons_self
      refine ⟨.maint t :: .enq t :: evs, c', ?_, ?_, e3, e4, ?_⟩
      · simp only [List.length_cons]; omega
      · simp only [runEvs, h1, h2]
        exact e2
      · intro e he
        rcases List.mem_cons.1 he with he | he
        · exact ⟨t, ht, Or.inl he⟩
        rcases List.mem_cons.1 he with he | he
        · exact ⟨t, ht, Or.inr he⟩
        obtain ⟨t', ht', h'⟩ := e5 e he
        rw [h3, hp] at ht'
        obtain ⟨y, hy, rfl⟩ := List.mem_map.1 ht'
        exact ⟨y.1, List.mem_map.2 ⟨y, (mem_dropPend.mp hy).1, rfl⟩, h'⟩

theorem drain {p : Params} (hq : NoQuirks p) (hsm : SmallSketch p) : ∀ (n : Nat) (c : CState),
    Reach p c → c.pending.length ≤ n →
      ∃ evs c', evs.length ≤ 2 * n ∧ runEvs p c evs = some c' ∧ c'.pending = [] ∧ Reach p c' :=
  fun n c hr hn =>
    let ⟨evs, c', h1, h2, h3, h4, _⟩ := drain_own hq hsm n c hr hn
    ⟨evs, c', h1, h2, h3, h4⟩

end ConcS

namespace Props

open Sync Sync.Nodes Sync.Counters ConcS

/-- The oracle only asks something when both queues are empty, and then the one-thread invariant
`TInv p c.s []` holds (assembled here; `snapshot_liveOk` does the rest). -/
theorem csinv_liveOk {p : Params} {c : CState} (h : CSInv p c) (hp : c.pending = []) :
    Spec.liveOk (Sync.snapshot p c.s) = true := by
  cases hqz : ((Sync.snapshot p c.s).rq == 0 && (Sync.snapshot p c.s).wq == 0) with
  | false => unfold Spec.liveOk; rw [hqz]; rfl
  | true =>
    simp only [Sync.snapshot, Bool.and_eq_true, beq_iff_eq, List.length_eq_zero_iff] at hqz
    have hc := h.cinv
    rw [hp] at hc
    exact snapshot_liveOk ⟨h.top, ⟨h.running, by rw [hqz.2]; exact Nat.zero_le _,
      by rw [hqz.1]; exact Nat.zero_le _⟩, hc⟩

end Props
end MiniMoka
