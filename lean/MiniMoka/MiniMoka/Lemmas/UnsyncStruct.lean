/-
  The structural invariant of the unsync model: map entries and list nodes point at
  each other, node ids are distinct, no fault.  `pend` names a key that is in the map
  but does not have its nodes yet (the window inside `insert` between `cache.insert`
  and `push_back_*`).  `Struct` is `StructP` with no such key.  Removing an entry with its
  nodes keeps it (`takeOut_spec`), and it looks only at which nodes a list has, not at their order.
-/
import MiniMoka.Lemmas.UnsyncNodes

namespace MiniMoka
namespace Unsync

structure StructP (p : Params) (pend : Option Nat) (s : UState) : Prop where
  keysNodup : (AL.keys s.map).Nodup
  probIds : (s.prob.map (·.id)).Nodup
  woIds : (s.wo.map (·.id)).Nodup
  aoLink : ∀ k e, AL.get? s.map k = some e → pend ≠ some k →
    ∃ id n, e.ao = some id ∧ findAo s.prob id = some n ∧ n.key = k
  aoBack : ∀ n ∈ s.prob, ∃ e, AL.get? s.map n.key = some e ∧ e.ao = some n.id
  woLink : ∀ k e, AL.get? s.map k = some e → pend ≠ some k →
    (p.ttl.isSome = true → ∃ id n, e.wo = some id ∧ findWo s.wo id = some n ∧ n.key = k) ∧
    (p.ttl.isSome = false → e.wo = none)
  woBack : ∀ n ∈ s.wo, ∃ e, AL.get? s.map n.key = some e ∧ e.wo = some n.id
  pendIn : ∀ k, pend = some k → ∃ e, AL.get? s.map k = some e ∧ e.ao = none ∧ e.wo = none
  freshAo : ∀ n ∈ s.prob, n.id < s.nextId
  freshWo : ∀ n ∈ s.wo, n.id < s.nextId
  noFault : s.fault = none

abbrev Struct (p : Params) (s : UState) : Prop := StructP p none s

/-- The frame of `takeOut`.  The counters are in it: a removal settles them in a separate step
after the entry is gone (`SameAux` is the frame of a settled removal). -/
structure SameEnv (s s' : UState) : Prop where
  ec : s'.ec = s.ec
  ws : s'.ws = s.ws
  sk : s'.sk = s.sk
  skOn : s'.skOn = s.skOn
  now : s'.now = s.now
  nextId : s'.nextId = s.nextId

theorem SameEnv.refl (s : UState) : SameEnv s s := ⟨rfl, rfl, rfl, rfl, rfl, rfl⟩

theorem SameEnv.trans {a b c : UState} (h1 : SameEnv a b) (h2 : SameEnv b c) : SameEnv a c :=
  ⟨h2.ec.trans h1.ec, h2.ws.trans h1.ws, h2.sk.trans h1.sk, h2.skOn.trans h1.skOn,
   h2.now.trans h1.now, h2.nextId.trans h1.nextId⟩

structure Shrinks (s s' : UState) : Prop where
  sub : ∀ k e, AL.get? s'.map k = some e → AL.get? s.map k = some e
  la : ∀ k e, AL.get? s'.map k = some e → entryLa s' e = entryLa s e
  lm : ∀ k e, AL.get? s'.map k = some e → entryLm s' e = entryLm s e

theorem Shrinks.refl (s : UState) : Shrinks s s := ⟨fun _ _ h => h, fun _ _ _ => rfl, fun _ _ _ => rfl⟩

theorem Shrinks.absent {s s' : UState} (h : Shrinks s s') {k : Nat}
    (hk : AL.get? s.map k = none) : AL.get? s'.map k = none := by
  cases hg : AL.get? s'.map k with
  | none => rfl
  | some e => rw [h.sub k e hg] at hk; cases hk

theorem Shrinks.trans {a b c : UState} (h1 : Shrinks a b) (h2 : Shrinks b c) : Shrinks a c :=
  ⟨fun k e h => h1.sub k e (h2.sub k e h),
   fun k e h => (h2.la k e h).trans (h1.la k e (h2.sub k e h)),
   fun k e h => (h2.lm k e h).trans (h1.lm k e (h2.sub k e h))⟩

structure TakenOut (s : UState) (k : Nat) (s' : UState) : Prop where
  map : s'.map = AL.erase s.map k
  env : SameEnv s s'
  shrinks : Shrinks s s'
  probSub : ∀ n, n ∈ s'.prob → n ∈ s.prob
  woSub : ∀ n, n ∈ s'.wo → n ∈ s.wo

theorem ao_ne_of_key_ne {p : Params} {pend : Option Nat} {s : UState} (hs : StructP p pend s)
    {k k' : Nat} {e e' : UEntry} (hk : AL.get? s.map k = some e) (hk' : AL.get? s.map k' = some e')
    (hne : k ≠ k') {id : Nat} (hao : e.ao = some id) : e'.ao ≠ some id := by
  intro hao'
  by_cases hp : pend = some k
  · obtain ⟨ep, h1, h2, _⟩ := hs.pendIn k hp
    rw [hk] at h1; cases h1; rw [h2] at hao; cases hao
  · by_cases hp' : pend = some k'
    · obtain ⟨ep, h1, h2, _⟩ := hs.pendIn k' hp'
      rw [hk'] at h1; cases h1; rw [h2] at hao'; cases hao'
    · obtain ⟨i1, n1, a1, f1, k1⟩ := hs.aoLink k e hk hp
      obtain ⟨i2, n2, a2, f2, k2⟩ := hs.aoLink k' e' hk' hp'
      rw [hao] at a1; cases a1
      rw [hao'] at a2; cases a2
      rw [f1] at f2; cases f2
      exact hne (k1.symm.trans k2)

theorem wo_ne_of_key_ne {p : Params} {pend : Option Nat} {s : UState} (hs : StructP p pend s)
    {k k' : Nat} {e e' : UEntry} (hk : AL.get? s.map k = some e) (hk' : AL.get? s.map k' = some e')
    (hne : k ≠ k') {id : Nat} (hwo : e.wo = some id) : e'.wo ≠ some id := by
  intro hwo'
  by_cases hp : pend = some k
  · obtain ⟨ep, h1, _, h2⟩ := hs.pendIn k hp
    rw [hk] at h1; cases h1; rw [h2] at hwo; cases hwo
  · by_cases hp' : pend = some k'
    · obtain ⟨ep, h1, _, h2⟩ := hs.pendIn k' hp'
      rw [hk'] at h1; cases h1; rw [h2] at hwo'; cases hwo'
    · cases httl : p.ttl.isSome with
      | false =>
        have := (hs.woLink k e hk hp).2 httl
        rw [this] at hwo; cases hwo
      | true =>
        obtain ⟨i1, n1, a1, f1, k1⟩ := (hs.woLink k e hk hp).1 httl
        obtain ⟨i2, n2, a2, f2, k2⟩ := (hs.woLink k' e' hk' hp').1 httl
        rw [hwo] at a1; cases a1
        rw [hwo'] at a2; cases a2
        rw [f1] at f2; cases f2
        exact hne (k1.symm.trans k2)

theorem takeOut_spec {p : Params} {pend : Option Nat} {s : UState} {k : Nat} {e : UEntry}
    (hs : StructP p pend s) (hk : AL.get? s.map k = some e) (hp : pend ≠ some k) :
    StructP p pend (takeOut s k e) ∧ TakenOut s k (takeOut s k e) ∧
    (∃ id n, e.ao = some id ∧ findAo s.prob id = some n ∧ n.key = k ∧
      (takeOut s k e).prob = eraseAo s.prob id) := by
  obtain ⟨id, n, hao, hfind, hnk⟩ := hs.aoLink k e hk hp
  -- the state after `takeOut`: the write-order list loses the node of `e`, if `e` has one
  obtain ⟨wo', heq, hwoSub, hwoIds, hwoFind⟩ : ∃ wo',
      takeOut s k e = { s with map := AL.erase s.map k, prob := eraseAo s.prob id, wo := wo' } ∧
      (∀ n, n ∈ wo' → n ∈ s.wo ∧ e.wo ≠ some n.id) ∧ (wo'.map (·.id)).Nodup ∧
      (∀ id2, e.wo ≠ some id2 → findWo wo' id2 = findWo s.wo id2) := by
    have h1 : unlinkAo { s with map := AL.erase s.map k } e =
        { s with map := AL.erase s.map k, prob := eraseAo s.prob id } := by
      simp [unlinkAo, hao, hfind]
    cases hwo : e.wo with
    | none =>
      exact ⟨s.wo, by simp [takeOut, h1, unlinkWo, hwo], fun n hn => ⟨hn, by simp⟩, hs.woIds,
        fun _ _ => rfl⟩
    | some wid =>
      cases httl : p.ttl.isSome with
      | false => rw [(hs.woLink k e hk hp).2 httl] at hwo; cases hwo
      | true =>
        obtain ⟨_, wn, hwo2, hwf, _⟩ := (hs.woLink k e hk hp).1 httl
        rw [hwo] at hwo2; cases hwo2
        exact ⟨eraseWo s.wo wid, by simp [takeOut, h1, unlinkWo, hwo, hwf],
          fun n hn => ⟨mem_eraseWo hn,
            fun h => id_ne_of_mem_eraseWo hs.woIds hn (Option.some.inj h).symm⟩,
          nodup_eraseWo wid hs.woIds, fun id2 h => findWo_eraseWo_ne (fun e' => h (e' ▸ rfl))⟩
  rw [heq]
  have hsub : ∀ {k' e'}, AL.get? (AL.erase s.map k) k' = some e' →
      k ≠ k' ∧ AL.get? s.map k' = some e' := by
    intro k' e' h
    rw [AL.get?_erase k k' hs.keysNodup] at h
    by_cases hkk : k = k'
    · rw [if_pos hkk] at h; cases h
    · rw [if_neg hkk] at h; exact ⟨hkk, h⟩
  refine ⟨⟨AL.nodup_erase k hs.keysNodup, nodup_eraseAo id hs.probIds, hwoIds, ?_, ?_, ?_, ?_, ?_,
      fun n2 h => hs.freshAo n2 (mem_eraseAo h), fun n2 h => hs.freshWo n2 (hwoSub n2 h).1,
      hs.noFault⟩,
    ⟨rfl, ⟨rfl, rfl, rfl, rfl, rfl, rfl⟩, ⟨fun k' e' h => (hsub h).2, ?_, ?_⟩,
      fun _ h => mem_eraseAo h, fun n2 h => (hwoSub n2 h).1⟩,
    ⟨id, n, hao, hfind, hnk, rfl⟩⟩
  · intro k' e' hk' hp'
    obtain ⟨hne, hk'⟩ := hsub hk'
    obtain ⟨id2, n2, hao2, hf2, hk2⟩ := hs.aoLink k' e' hk' hp'
    refine ⟨id2, n2, hao2, ?_, hk2⟩
    show findAo (eraseAo s.prob id) id2 = some n2
    rw [findAo_eraseAo_ne fun (e2 : id2 = id) => ao_ne_of_key_ne hs hk hk' hne hao (e2 ▸ hao2)]
    exact hf2
  · intro n2 hn2
    obtain ⟨e2, he2, hao2⟩ := hs.aoBack n2 (mem_eraseAo hn2)
    refine ⟨e2, ?_, hao2⟩
    show AL.get? (AL.erase s.map k) n2.key = some e2
    rw [AL.get?_erase_ne]
    · exact he2
    · intro hkk
      rw [← hkk, hk] at he2; cases he2
      exact id_ne_of_mem_eraseAo hs.probIds hn2 (Option.some.inj (hao.symm.trans hao2)).symm
  · intro k' e' hk' hp'
    obtain ⟨hne, hk'⟩ := hsub hk'
    refine ⟨fun ht => ?_, (hs.woLink k' e' hk' hp').2⟩
    obtain ⟨id2, n2, hwo2, hf2, hk2⟩ := (hs.woLink k' e' hk' hp').1 ht
    refine ⟨id2, n2, hwo2, ?_, hk2⟩
    show findWo wo' id2 = some n2
    rw [hwoFind id2 (wo_ne_of_key_ne hs hk' hk (Ne.symm hne) hwo2)]
    exact hf2
  · intro n2 hn2
    obtain ⟨hn2', hne⟩ := hwoSub n2 hn2
    obtain ⟨e2, he2, hwo2⟩ := hs.woBack n2 hn2'
    refine ⟨e2, ?_, hwo2⟩
    show AL.get? (AL.erase s.map k) n2.key = some e2
    rw [AL.get?_erase_ne]
    · exact he2
    · intro hkk
      rw [← hkk, hk] at he2; cases he2
      exact hne hwo2
  · intro kp hkp
    obtain ⟨ep, hep, h3⟩ := hs.pendIn kp hkp
    refine ⟨ep, ?_, h3⟩
    show AL.get? (AL.erase s.map k) kp = some ep
    rw [AL.get?_erase_ne fun (e : k = kp) => hp (e ▸ hkp)]
    exact hep
  · intro k' e' hk'
    obtain ⟨hne, hk'⟩ := hsub hk'
    simp only [entryLa]
    cases hao' : e'.ao with
    | none => rfl
    | some id2 =>
      show (findAo (eraseAo s.prob id) id2).bind _ = _
      rw [findAo_eraseAo_ne fun (e2 : id2 = id) => ao_ne_of_key_ne hs hk hk' hne hao (e2 ▸ hao')]
  · intro k' e' hk'
    obtain ⟨hne, hk'⟩ := hsub hk'
    simp only [entryLm]
    cases hwo' : e'.wo with
    | none => rfl
    | some id2 =>
      show (findWo wo' id2).bind _ = _
      rw [hwoFind id2 (wo_ne_of_key_ne hs hk' hk (Ne.symm hne) hwo')]

/-- The probation list may be re-ordered and re-timed as long as every id keeps its key. -/
theorem struct_reorder_ao {p : Params} {pend : Option Nat} {s s' : UState} (hs : StructP p pend s)
    (hm : s'.map = s.map) (hw : s'.wo = s.wo) (hn : s'.nextId = s.nextId)
    (hf : s'.fault = s.fault) (hnd : (s'.prob.map (·.id)).Nodup)
    (hkeys : ∀ id, (findAo s'.prob id).map (·.key) = (findAo s.prob id).map (·.key)) :
    StructP p pend s' := by
  have bwd : ∀ n' ∈ s'.prob, ∃ n ∈ s.prob, n.id = n'.id ∧ n.key = n'.key := by
    intro n' hn'
    have h1 := hkeys n'.id
    rw [findAo_of_mem hnd hn', Option.map_some, eq_comm, Option.map_eq_some_iff] at h1
    obtain ⟨n, h2, h3⟩ := h1
    exact ⟨n, (findAo_some h2).1, (findAo_some h2).2, h3⟩
  refine ⟨hm ▸ hs.keysNodup, hnd, hw ▸ hs.woIds, ?_, ?_, hm ▸ hw ▸ hs.woLink, hm ▸ hw ▸ hs.woBack,
    hm ▸ hs.pendIn, ?_, hn ▸ hw ▸ hs.freshWo, hf ▸ hs.noFault⟩
  · intro k e hk hp
    obtain ⟨id, n, h1, h2, h3⟩ := hs.aoLink k e (hm ▸ hk) hp
    have h4 := hkeys id
    rw [h2, Option.map_some, Option.map_eq_some_iff] at h4
    obtain ⟨n', h5, h6⟩ := h4
    exact ⟨id, n', h1, h5, h6.trans h3⟩
  · intro n' hn'
    obtain ⟨n, h1, h2, h3⟩ := bwd n' hn'
    obtain ⟨e, h5, h6⟩ := hs.aoBack n h1
    exact ⟨e, by rw [hm, ← h3]; exact h5, by rw [h6, h2]⟩
  · intro n' hn'
    obtain ⟨n, h1, h2, _⟩ := bwd n' hn'
    rw [hn, ← h2]
    exact hs.freshAo n h1

theorem struct_reorder_wo {p : Params} {pend : Option Nat} {s s' : UState} (hs : StructP p pend s)
    (hm : s'.map = s.map) (hw : s'.prob = s.prob) (hn : s'.nextId = s.nextId)
    (hf : s'.fault = s.fault) (hnd : (s'.wo.map (·.id)).Nodup)
    (hkeys : ∀ id, (findWo s'.wo id).map (·.key) = (findWo s.wo id).map (·.key)) :
    StructP p pend s' := by
  have bwd : ∀ n' ∈ s'.wo, ∃ n ∈ s.wo, n.id = n'.id ∧ n.key = n'.key := by
    intro n' hn'
    have h1 := hkeys n'.id
    rw [findWo_of_mem hnd hn', Option.map_some, eq_comm, Option.map_eq_some_iff] at h1
    obtain ⟨n, h2, h3⟩ := h1
    exact ⟨n, (findWo_some h2).1, (findWo_some h2).2, h3⟩
  refine ⟨hm ▸ hs.keysNodup, hw ▸ hs.probIds, hnd, hm ▸ hw ▸ hs.aoLink, hm ▸ hw ▸ hs.aoBack, ?_, ?_,
    hm ▸ hs.pendIn, hn ▸ hw ▸ hs.freshAo, ?_, hf ▸ hs.noFault⟩
  · intro k e hk hp
    refine ⟨fun ht => ?_, (hs.woLink k e (hm ▸ hk) hp).2⟩
    obtain ⟨id, n, h1, h2, h3⟩ := (hs.woLink k e (hm ▸ hk) hp).1 ht
    have h4 := hkeys id
    rw [h2, Option.map_some, Option.map_eq_some_iff] at h4
    obtain ⟨n', h5, h6⟩ := h4
    exact ⟨id, n', h1, h5, h6.trans h3⟩
  · intro n' hn'
    obtain ⟨n, h1, h2, h3⟩ := bwd n' hn'
    obtain ⟨e, h5, h6⟩ := hs.woBack n h1
    exact ⟨e, by rw [hm, ← h3]; exact h5, by rw [h6, h2]⟩
  · intro n' hn'
    obtain ⟨n, h1, h2, _⟩ := bwd n' hn'
    rw [hn, ← h2]
    exact hs.freshWo n h1

end Unsync
end MiniMoka
