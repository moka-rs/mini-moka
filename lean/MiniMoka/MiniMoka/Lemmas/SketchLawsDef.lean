/-
  What the cache models assume of the sketch, stated below both of them: `SketchLaws P` and
  `SmallSketch p`.
-/
import MiniMoka.Sketch
import MiniMoka.Types

namespace MiniMoka

/-- What the cache models need to know about the sketch: a predicate that holds
initially and after the (single) `ensureCapacity` of the initially empty sketch (for
capacities whose table stays below 2^28 slots: `cap` is rounded up to a power of two, which may
double it), and under which `increment` neither faults nor leaves the predicate; an empty sketch
ignores increments.  Discharged for `Sketch.Good` by `sketchLaws` (`Lemmas/SketchLaws.lean`). -/
structure SketchLaws (P : Sketch → Prop) : Prop where
  init : P {}
  ensure : ∀ cap, cap ≤ 2 ^ 27 → P (({} : Sketch).ensureCapacity cap)
  incr : ∀ s h, P s → ∃ s', s.increment false h = .ok s' ∧ P s'
  incrDefault : ∀ h, ({} : Sketch).increment false h = .ok {}

/-- Configurations for which the sketch table stays below 2^28 slots (beyond that the
`count: u32` of `reset` could overflow; documented limit). -/
structure SmallSketch (p : Params) : Prop where
  cap : ∀ c, p.cap = some c → Sketch.sketchCapacity c ≤ 2 ^ 27
  capF : ∀ a b c, Sketch.sketchCapacity (p.capF a b c) ≤ 2 ^ 27

/-- For a configuration that leaves the float expression at its default (constantly 0), as the
example configurations do, only the capacity has to be looked at. -/
theorem SmallSketch.of_default_capF {p : Params} (hF : p.capF = fun _ _ _ => 0)
    (hcap : ∀ c, p.cap = some c → Sketch.sketchCapacity c ≤ 2 ^ 27) : SmallSketch p :=
  ⟨hcap, fun _ _ _ => by
    rw [hF]
    show Sketch.sketchCapacity 0 ≤ 2 ^ 27
    decide⟩

end MiniMoka
