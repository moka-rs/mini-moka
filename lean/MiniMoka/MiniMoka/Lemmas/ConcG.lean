/-
  Lemmas about the lookup model `MiniMoka/ConcG.lean`.  When no update of the key falls between
  fetch and test (atomic lookup, or the guard), what a thread holds is still the current value
  entry, whose write time is the `last_modified` the test reads (`GInv`); so a test that passes
  (`ConcG.of_live`) speaks about the value that is returned (`RetOk`).
-/
import MiniMoka.ConcG
import MiniMoka.Lemmas.AL
import MiniMoka.Lemmas.IsPath

namespace MiniMoka
namespace Props

open ConcG

theorem ConcG.hidden_maxVa {va : Option Nat} {n ts : Nat} (h : hidden (maxVa va n) ts = false) :
    n ≤ ts ∧ hidden va ts = false := by
  cases va with
  | none =>
    simp only [maxVa, hidden, decide_eq_false_iff_not, Nat.not_lt] at h
    exact ⟨h, rfl⟩
  | some w =>
    simp only [maxVa, hidden, decide_eq_false_iff_not, Nat.not_lt] at h ⊢
    exact ⟨Nat.le_trans (Nat.le_max_right w n) h, Nat.le_trans (Nat.le_max_left w n) h⟩

theorem ConcG.of_live {ttl : Option Nat} {s : State} (h : live ttl s = true) :
    hidden s.va s.lm = false ∧ ∀ d, ttl = some d → s.now < s.lm + d := by
  simp only [live, Bool.and_eq_true, Bool.not_eq_true'] at h
  refine ⟨h.1, fun d hd => ?_⟩
  have h2 := h.2
  rw [hd] at h2
  simp only [expired, decide_eq_false_iff_not, Nat.not_le] at h2
  exact h2

theorem ConcG.judge_cases (ttl : Option Nat) (s : State) (t : Tid) (p : Pending) :
    judge ttl s t p = s ∨
    ∃ v wr, p.entry = some (v, wr) ∧ live ttl s = true ∧
      judge ttl s t p =
        { s with returned := { tid := t, value := v, wr := wr, began := p.began, time := s.now,
                               invs := p.invs } :: s.returned } := by
  unfold judge
  cases he : p.entry with
  | none => exact Or.inl rfl
  | some e =>
    obtain ⟨v, wr⟩ := e
    by_cases hl : live ttl s = true
    · exact Or.inr ⟨v, wr, rfl, hl, by simp only [hl, if_true]⟩
    · exact Or.inl (by simp only [hl]; rfl)

/-- What is guaranteed of a value a lookup returned (`r`: the value with the ghosts of its
lookup). -/
structure RetOk (ttl : Option Nat) (s : State) (r : Ret) : Prop where
  written : (r.value, r.wr) ∈ s.written
  fresh : ∀ i ∈ r.invs, i ≤ r.wr
  unexpired : ∀ d, ttl = some d → r.time < r.wr + d
  /-- the ghost `r.invs` is what it claims: an older part of the log of completed calls -/
  invs : r.invs <:+ s.completedInv
  began : r.began ≤ r.time
  time : r.time ≤ s.now

/-- The invariant of the configurations in which no update falls between fetch and test. -/
structure GInv (cfg : Cfg) (s : State) : Prop where
  cur : ∀ v wr, s.cur = some (v, wr) → wr = s.lm ∧ (v, wr) ∈ s.written
  /-- the watermark covers every completed `invalidate_all` -/
  va : ∀ i ∈ s.completedInv, ∀ ts, hidden s.va ts = false → i ≤ ts
  held : ∀ t p, (t, p) ∈ s.held →
    p.entry = s.cur ∧ p.invs <:+ s.completedInv ∧ p.began ≤ s.now
  atomic : cfg.split = false → s.held = []
  ret : ∀ r ∈ s.returned, RetOk cfg.ttl s r

theorem ConcG.retOk_mono {ttl : Option Nat} {s s' : State} {r : Ret} (h : RetOk ttl s r)
    (hw : ∀ x ∈ s.written, x ∈ s'.written)
    (hc : s.completedInv <:+ s'.completedInv) (hn : s.now ≤ s'.now) : RetOk ttl s' r :=
  ⟨hw _ h.written, h.fresh, h.unexpired, List.IsSuffix.trans h.invs hc, h.began,
   Nat.le_trans h.time hn⟩

theorem ConcG.judge_inv {cfg : Cfg} {s : State} {t : Tid} {p : Pending} (hi : GInv cfg s)
    (hp : p.entry = s.cur ∧ p.invs <:+ s.completedInv ∧ p.began ≤ s.now) :
    GInv cfg (judge cfg.ttl s t p) := by
  rcases ConcG.judge_cases cfg.ttl s t p with h | ⟨v, wr, he, hl, h⟩
  · rw [h]; exact hi
  · rw [h]
    refine ⟨hi.cur, hi.va, hi.held, hi.atomic, fun r hr => ?_⟩
    rcases List.mem_cons.mp hr with rfl | hr
    · obtain ⟨hh, hexp⟩ := ConcG.of_live hl
      obtain ⟨rfl, hmem⟩ := hi.cur v wr (by rw [← hp.1, he])
      exact ⟨hmem, fun i hi' => hi.va i (hp.2.1.subset hi') _ hh, hexp, hp.2.1, hp.2.2,
        Nat.le_refl _⟩
    · exact ConcG.retOk_mono (hi.ret r hr) (fun _ hx => hx) (List.suffix_refl _) (Nat.le_refl _)

theorem ConcG.step_inv {cfg : Cfg} (hgood : cfg.split = false ∨ cfg.guard = true) {s s' : State}
    {e : Ev} (hi : GInv cfg s) (hs : step cfg s e = some s') : GInv cfg s' := by
  obtain ⟨hcur, hva, hheld, hat, hret⟩ := hi
  cases e with
  | tick d =>
    cases hs
    refine ⟨hcur, hva, fun t p hp => ?_, hat, fun r hr => ?_⟩
    · obtain ⟨h1, h2, h3⟩ := hheld t p hp
      exact ⟨h1, h2, Nat.le_trans h3 (Nat.le_add_right _ _)⟩
    · exact ConcG.retOk_mono (hret r hr) (fun _ hx => hx) (List.suffix_refl _)
        (Nat.le_add_right _ _)
  | insert t v =>
    simp only [step] at hs
    split at hs
    · cases hs
    · rename_i hg
      -- nobody is between fetch and test: the lookup is atomic, or the guard excludes the update
      have hempty : s.held = [] := by
        rcases hgood with h | h
        · exact hat h
        · simpa [h, List.isEmpty_iff] using hg
      cases hs
      refine ⟨fun v' wr' h => ?_, hva, fun t p hp => ?_, hat, fun r hr => ?_⟩
      · cases h
        exact ⟨rfl, List.mem_cons_self⟩
      · rw [hempty] at hp
        cases hp
      · exact ConcG.retOk_mono (hret r hr) (fun _ hx => List.mem_cons_of_mem _ hx)
          (List.suffix_refl _) (Nat.le_refl _)
  | invAll t =>
    cases hs
    refine ⟨hcur, fun i hi ts hh => ?_, fun t p hp => ?_, hat, fun r hr => ?_⟩
    · obtain ⟨h1, h2⟩ := ConcG.hidden_maxVa hh
      rcases List.mem_cons.mp hi with hi | hi
      · rw [hi]; exact h1
      · exact hva i hi ts h2
    · obtain ⟨h1, h2, h3⟩ := hheld t p hp
      exact ⟨h1, List.IsSuffix.trans h2 (List.suffix_cons _ _), h3⟩
    · exact ConcG.retOk_mono (hret r hr) (fun _ hx => hx) (List.suffix_cons _ _)
        (Nat.le_refl _)
  | get t =>
    simp only [step] at hs
    split at hs
    · cases hs
    · cases hs
      exact ConcG.judge_inv ⟨hcur, hva, hheld, hat, hret⟩ ⟨rfl, List.suffix_refl _, Nat.le_refl _⟩
  | getFetch t =>
    simp only [step] at hs
    split at hs
    · rename_i hsp
      split at hs
      · cases hs
      · cases hs
        refine ⟨hcur, hva, fun t' p hp => ?_, fun h => (by rw [h] at hsp; cases hsp),
          fun r hr => ?_⟩
        · rcases AL.mem_or_eq_of_mem_put hp with hp | hp
          · exact hheld t' p hp
          · cases hp
            exact ⟨rfl, List.suffix_refl _, Nat.le_refl _⟩
        · exact ConcG.retOk_mono (hret r hr) (fun _ hx => hx) (List.suffix_refl _)
            (Nat.le_refl _)
    · cases hs
  | getTest t =>
    simp only [step] at hs
    split at hs
    · rename_i hsp
      split at hs
      · cases hs
      · rename_i p hget
        cases hs
        refine ConcG.judge_inv ⟨hcur, hva, fun t' p' h => hheld t' p' (AL.mem_of_mem_erase h),
          fun h => (by rw [h] at hsp; cases hsp), fun r hr => ?_⟩ (hheld t p (AL.mem_of_get? hget))
        exact ConcG.retOk_mono (hret r hr) (fun _ hx => hx) (List.suffix_refl _) (Nat.le_refl _)
    · cases hs

theorem ConcG.reach_inv {cfg : Cfg} (hgood : cfg.split = false ∨ cfg.guard = true) {s : State}
    (hr : Reach cfg s) : GInv cfg s := by
  induction hr with
  | init =>
    refine ⟨fun v wr h => ?_, fun i hi => ?_, fun t p hp => ?_, fun _ => rfl, fun r hr => ?_⟩
    · simp [init] at h
    · simp [init] at hi
    · simp [init] at hp
    · simp [init] at hr
  | step e _ hs ih => exact ConcG.step_inv hgood ih hs

theorem ConcG.isPath (cfg : Cfg) : IsPath (step cfg) (runEvs cfg) :=
  ⟨fun _ => rfl, fun s e rest => by simp only [runEvs]; cases step cfg s e <;> rfl⟩

theorem ConcG.reach_of_runEvs {cfg : Cfg} (evs : List Ev) (s s' : State) (hr : Reach cfg s)
    (h : runEvs cfg s evs = some s') : Reach cfg s' :=
  (ConcG.isPath cfg).inv (fun _ _ e hc hs => Reach.step e hc hs) evs s s' hr h

end Props
end MiniMoka
