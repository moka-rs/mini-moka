/-
  "Recency is order of use" on the unsync model (the `recencyC12` part of the C12 oracle):
  over any segment of operations, the keys of the probation list are the survivors of the
  list at the start of the segment in their old relative order, followed by the keys used in
  the segment (insert / update / successful get) that are still resident, in order of last
  use.  The oracle is followed along a run by `Spec.recencyWalk_refWalk` (`Lemmas/RefWalk.lean`);
  `recencyWalk_run` supplies the relation `Rec` between its state and the model's.
-/
import MiniMoka.Lemmas.UnsyncAdmit
import MiniMoka.Lemmas.ExpOrd
import MiniMoka.Lemmas.RefWalk

namespace MiniMoka
namespace Unsync

/- `maintain p s` is a state like any other here (see the note in `UnsyncOps`). -/
attribute [local irreducible] maintain
namespace Admit

open Spec

theorem invalidate_prob_sublist (p : Params) (s : UState) (k : Nat) :
    (invalidate p s k).prob.Sublist s.prob :=
  (unlinks_invalidate p s k).prob

theorem get_miss_prob (p : Params) (s : UState) (k : Nat) (h : (get p s k).2 = none) :
    (get p s k).1.prob = (maintain p s).prob := by
  rw [get_eq] at h ⊢
  rcases getCore_cases p (maintain p s) k with ⟨_, e⟩ | ⟨_, _, _, _, e⟩ | ⟨_, _, _, e⟩ <;>
    rw [e] at h ⊢
  · rw [sketchIncrement_only]
  · rw [sketchIncrement_only]
  · cases h

/-- Keys of the probation list, front = least recently used (`lruOrder (snapshot p s)`, by
`lruOrder_snapshot`; `UnsyncAdmit` writes the `map` out). -/
def pkeys (s : UState) : List Nat := s.prob.map (·.key)

/-- The recency relation of a segment: `L0` the order when the segment started, `M` the keys
used since (in order of last use). -/
def Rec (L0 M : List Nat) (s : UState) : Prop := pkeys s = expOrd L0 (pkeys s) M

theorem Rec.of_sublist {p : Params} {L0 M : List Nat} {s s' : UState} (hr : Rec L0 M s)
    (hs : Struct p s) (hsub : s'.prob.Sublist s.prob) : Rec L0 M s' :=
  expOrd_sub hr (prob_keys_nodup hs) (hsub.map _)

theorem Rec.of_prob_eq {L0 M : List Nat} {s s' : UState} (hr : Rec L0 M s)
    (h : s'.prob = s.prob) : Rec L0 M s' := by
  unfold Rec pkeys at *; rw [h]; exact hr

theorem Rec.maintain {p : Params} {L0 M : List Nat} {s : UState} (hr : Rec L0 M s)
    (hs : Struct p s) : Rec L0 M (maintain p s) :=
  hr.of_sublist hs (unlinks_maintain p s).prob

theorem Rec.of_moved {L0 M : List Nat} {s s' : UState} (hr : Rec L0 M s) {k : Nat}
    (h : pkeys s' = (pkeys s).filter (· != k) ++ [k]) : Rec L0 (useKey M k) s' := by
  unfold Rec; rw [h]; exact expOrd_use hr k

/-- The same with the move written as `erase`, as `get_hit_prob` and `insert_update_prob` have it. -/
theorem Rec.of_touched {p : Params} {L0 M : List Nat} {s s' : UState} (hr : Rec L0 M s)
    (hs : Struct p s) {k : Nat} (h : pkeys s' = (pkeys s).erase k ++ [k]) :
    Rec L0 (useKey M k) s' :=
  hr.of_moved (h.trans (congrArg (· ++ [k]) (erase_eq_filter_of_nodup (prob_keys_nodup hs) k)))

theorem Rec.insert {p : Params} (hq : NoQuirks p) {L0 M : List Nat} {s : UState}
    (hi : InvU p s) (hr : Rec L0 M s) (k v : Nat) : Rec L0 (useKey M k) (Unsync.insert p s k v) := by
  obtain ⟨h1, _, _⟩ := maintain_spec hq hi
  have hr1 : Rec L0 M (Unsync.maintain p s) := hr.maintain hi.struct
  have hn1 := prob_keys_nodup h1.struct
  cases hg : AL.get? (Unsync.maintain p s).map k with
  | some old =>
    exact hr1.of_touched h1.struct (insert_update_prob hq hi k v hg)
  | none =>
    have hk : ¬ k ∈ pkeys (Unsync.maintain p s) := by
      intro hm
      obtain ⟨e, he⟩ := (mem_prob_keys_iff h1.struct k).mp hm
      rw [hg] at he; cases he
    have hrej : Unsync.insert p s k v = Unsync.maintain p s → Rec L0 (useKey M k) (Unsync.insert p s k v) := by
      intro heq
      rw [heq]
      exact expOrd_use_absent hr1 hk
    cases hroom : hasEnoughCapacity p (p.weigh k v) (Unsync.maintain p s).ws with
    | true =>
      obtain ⟨_, _, hprob⟩ := insert_hasroom hq hi k v hg hroom
      apply hr1.of_moved
      unfold pkeys at hk ⊢
      rw [hprob, filter_ne_self hk]
      simp [candNode]
    | false =>
      cases hbig : tooBig p (p.weigh k v) with
      | true => exact hrej (insert_toobig hg hbig)
      | false =>
        obtain ⟨hadm, hno⟩ := insert_noroom hq hi k v hg hroom hbig
        by_cases hdec : ∃ n, shortestPre (p.weigh k v) (probWeights (Unsync.maintain p s)) = some n ∧
            (Unsync.maintain p s).sk.frequency (p.hash k) >
              ((probFreqs (Unsync.maintain p s)).take n).sum
        · obtain ⟨n, hn1', hn2⟩ := hdec
          obtain ⟨_, _, hprob⟩ := hadm n hn1' hn2
          -- first drop the victims (a prefix), then push the candidate
          have hdrop : (pkeys (Unsync.maintain p s)).drop n =
              expOrd L0 ((pkeys (Unsync.maintain p s)).drop n) M :=
            expOrd_sub hr1 hn1 (List.drop_sublist _ _)
          have hk' : ¬ k ∈ (pkeys (Unsync.maintain p s)).drop n :=
            fun h => hk (List.mem_of_mem_drop h)
          have := expOrd_use hdrop k
          rw [filter_ne_self hk'] at this
          unfold Rec
          have hpk : pkeys (Unsync.insert p s k v) = (pkeys (Unsync.maintain p s)).drop n ++ [k] := by
            unfold pkeys; rw [hprob]; simp [candNode]
          rw [hpk]; exact this
        · exact hrej (hno hdec)

theorem Rec.get {p : Params} (hq : NoQuirks p) {L0 M : List Nat} {s : UState}
    (hi : InvU p s) (hr : Rec L0 M s) (k : Nat) :
    (∀ v, (Unsync.get p s k).2 = some v → Rec L0 (useKey M k) (Unsync.get p s k).1) ∧
    ((Unsync.get p s k).2 = none → Rec L0 M (Unsync.get p s k).1) := by
  obtain ⟨h1, _, _⟩ := maintain_spec hq hi
  have hr1 : Rec L0 M (Unsync.maintain p s) := hr.maintain hi.struct
  refine ⟨?_, ?_⟩
  · intro v hv
    exact hr1.of_touched h1.struct (get_hit_prob hq hi k v hv)
  · intro hnone
    exact hr1.of_prob_eq (get_miss_prob p s k hnone)

theorem quiescent_snapshot {p : Params} {s : UState} (hs : Struct p s) :
    quiescent (snapshot p s) = true := by
  simp only [quiescent, snapshot, Bool.and_eq_true, beq_self_eq_true, true_and,
    List.all_eq_true, List.mem_map]
  rintro x ⟨n, hn, rfl⟩
  obtain ⟨e, he, hao⟩ := hs.aoBack n hn
  simp [he, hao]

/-- Removals and reads keep `Rec` (the order only loses keys), a use appends its key, a snapshot
starts afresh. -/
theorem recencyWalk_run {P : Sketch → Prop} (L : SketchLaws P) {p : Params} (hq : NoQuirks p)
    (hsm : SmallSketch p) (h : List Op) (s : UState) (st : RecSt) (hi : Inv P p s)
    (hrel : ∀ b, st.prev = some b → Rec (lruOrder b) st.moved s) :
    recencyWalk true st (run p s h) = true := by
  refine (recencyWalk_refWalk true).run (isRun p)
    (C := fun _ s st => Inv P p s ∧ ∀ b, st.prev = some b → Rec (lruOrder b) st.moved s)
    (fun s st op _ ⟨hi, hrel⟩ => ?_) h s st ⟨hi, hrel⟩
  have hi' := step_inv L hq hsm hi op
  -- operations that are not uses and only remove residents (or do nothing)
  have passive : (step p s op).1.prob.Sublist s.prob →
      ∀ b, st.prev = some b → Rec (lruOrder b) st.moved (step p s op).1 :=
    fun hsub b hb => (hrel b hb).of_sublist hi.inv.struct hsub
  rw [step_eq L hq hsm hi op] at hi' passive ⊢
  cases op with
  | ins k v => exact Or.inr ⟨rfl, hi', fun b hb => (hrel b hb).insert hq hi.inv k v⟩
  | get k =>
    dsimp only [rawStep] at hi' ⊢
    refine Or.inr ⟨rfl, hi', ?_⟩
    cases hres : (get p s k).2 with
    | none => exact fun b hb => ((hrel b hb).get hq hi.inv k).2 hres
    | some v => exact fun b hb => ((hrel b hb).get hq hi.inv k).1 v hres
  | has k =>
    refine Or.inr ⟨rfl, hi', passive ?_⟩
    show (containsKey p s k).1.prob.Sublist _
    rw [containsKey_fst]
    exact (unlinks_maintain p s).prob
  | iter => exact Or.inr ⟨rfl, hi', passive (List.Sublist.refl _)⟩
  | inv k => exact Or.inr ⟨rfl, hi', passive (unlinks_invalidate p s k).prob⟩
  | invAll => exact Or.inr ⟨rfl, hi', passive (List.nil_sublist _)⟩
  | invIf pr => exact Or.inr ⟨rfl, hi', passive (unlinks_invalidateEntriesIf p s pr).prob⟩
  | sync => exact Or.inl rfl
  | adv d => exact Or.inr ⟨rfl, hi', passive (List.Sublist.refl _)⟩
  | freq k => exact Or.inr ⟨rfl, hi', passive (List.Sublist.refl _)⟩
  | snap =>
    dsimp only [rawStep] at hi' ⊢
    have hq' := quiescent_snapshot (p := p) hi.inv.struct
    refine Or.inr ⟨?_, hi', ?_⟩
    · show (if quiescent (snapshot p s) = true then _ else true) = true
      rw [if_pos hq']
      cases hprev : st.prev with
      | none => rfl
      | some b =>
        show (!st.valid || lruOrder (snapshot p s) == expectedOrder b (snapshot p s) st.moved) = true
        rw [Bool.or_eq_true, expectedOrder_eq, lruOrder_snapshot, beq_iff_eq]
        exact Or.inr (hrel b hprev)
    · have hst : recStep true st .snap (.snap (snapshot p s)) = { prev := some (snapshot p s) } :=
        if_pos hq'
      rw [hst]
      intro b hb
      cases hb
      unfold Rec pkeys
      rw [lruOrder_snapshot]
      exact expOrd_refl _

/-- **C12, recency part, on traces**: the recency walk accepts every trace of the model. -/
theorem recencyC12_trace {P : Sketch → Prop} (L : SketchLaws P) {p : Params} (hq : NoQuirks p)
    (hsm : SmallSketch p) (h : List Op) : recencyC12 .unsync (trace p h) = true := by
  unfold recencyC12 trace
  exact recencyWalk_run L hq hsm h {} {} (init_inv L p) (fun b hb => by cases hb)

/-- **C12 on traces** (single-threaded cache): the oracle accepts every trace of the model. -/
theorem oracleC12_trace {P : Sketch → Prop} (L : SketchLaws P) {p : Params} (hq : NoQuirks p)
    (hsm : SmallSketch p) (h : List Op) :
    oracleC12 .unsync p.cap p.ttl p.tti p.weigh Gen.UNSYNC_EVICTION_BATCH_SIZE (trace p h) = true := by
  have hrec := recencyC12_trace L hq hsm h
  unfold oracleC12
  cases hcap : p.cap with
  | none => exact hrec
  | some cap =>
    dsimp only
    obtain ⟨h1, h2⟩ := admit_growth_trace L hq hsm hcap h
    rw [h1, h2, hrec]; rfl

end Admit
end Unsync
end MiniMoka
