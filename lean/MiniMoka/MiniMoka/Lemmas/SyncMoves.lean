/-
  Recency (C12) on the one-thread model of `sync::Cache`: what maintenance does to the access
  order.  A segment is what lies between two quiescent snapshots.  Within one the access-order
  list changes only by removals and by moving *unstable* nodes (`Unst`) to the back: nodes of the
  one info that was used (a recorded hit, a queued insert) and nodes that no longer belong to the
  map's entry of their key (`NonCur`: their `Remove` is still queued).  `Split` says this of two
  lists, `Mv` of two states, `Seg` of a state and the order at the start of the segment.
-/
import MiniMoka.Lemmas.SyncAInv

namespace MiniMoka
namespace Sync
namespace Admit

open Nodes Spec

def NonCur (s : SState) (n : AoNode) : Prop :=
  ∀ e, AL.get? s.map n.key = some e → e.info ≠ n.info

def Unst (u : Option Nat) (s : SState) (n : AoNode) : Prop := some n.info = u ∨ NonCur s n

theorem NonCur.mono {s s' : SState} {n : AoNode}
    (hsub : ∀ k ve, AL.get? s'.map k = some ve → AL.get? s.map k = some ve) (h : NonCur s n) :
    NonCur s' n := fun e he => h e (hsub _ _ he)

theorem Unst.mono {u : Option Nat} {s s' : SState} {n : AoNode}
    (hsub : ∀ k ve, AL.get? s'.map k = some ve → AL.get? s.map k = some ve) (h : Unst u s n) :
    Unst u s' n := h.imp id (NonCur.mono hsub)

/-- `T` is the tail of nodes that maintenance has moved to the back, `P` = unstable; `d` says that
the one use of the segment has been applied, and from then on (`Q`) no node of the used info is
left in `A`, so only the used node can sit in `T` at the next quiescent snapshot. -/
def Split (d : Bool) (P Q : AoNode → Prop) (l0 l : List AoNode) : Prop :=
  ∃ A T, l = A ++ T ∧ A.Sublist l0 ∧ (∀ n, n ∈ T → P n) ∧ (d = true → ∀ n, n ∈ A → Q n)

theorem Split.refl (P Q : AoNode → Prop) (l : List AoNode) : Split false P Q l l :=
  ⟨l, [], by simp, List.Sublist.refl _, (fun _ h => by cases h), (fun h => by cases h)⟩

theorem Split.of_sublist {P Q : AoNode → Prop} {l0 l : List AoNode} (h : l.Sublist l0) :
    Split false P Q l0 l :=
  ⟨l, [], by simp, h, (fun _ h => by cases h), (fun h => by cases h)⟩

theorem Split.weaken {d : Bool} {P Q : AoNode → Prop} {l0 l : List AoNode}
    (h : Split d P Q l0 l) : Split false P Q l0 l := by
  obtain ⟨A, T, h1, h2, h3, _⟩ := h
  exact ⟨A, T, h1, h2, h3, fun h => by cases h⟩

theorem Split.trans {d1 d2 : Bool} {P P' Q : AoNode → Prop} {l0 l1 l2 : List AoNode}
    (h1 : Split d1 P Q l0 l1) (h2 : Split d2 P' Q l1 l2) (mono : ∀ n, P n → P' n) :
    Split (d1 || d2) P' Q l0 l2 := by
  obtain ⟨A1, T1, e1, s1, p1, q1⟩ := h1
  obtain ⟨A2, T2, e2, s2, p2, q2⟩ := h2
  rw [e1] at s2
  obtain ⟨A2a, A2b, ea, sa, sb⟩ := List.sublist_append_iff.mp s2
  refine ⟨A2a, A2b ++ T2, by rw [e2, ea, List.append_assoc], sa.trans s1, ?_, ?_⟩
  · intro n hn
    rcases List.mem_append.mp hn with h | h
    · exact mono n (p1 n (sb.subset h))
    · exact p2 n h
  · intro hd n hn
    cases hd1 : d1 with
    | true => exact q1 hd1 n (sa.subset hn)
    | false =>
      rw [hd1, Bool.false_or] at hd
      exact q2 hd n (by rw [ea]; exact List.mem_append_left _ hn)

/-- One piece of maintenance as seen by the access order: nodes are removed, unstable ones moved
to the back (`d`: it moved every node of the used info), the map only loses entries (`kn`,
`mapSub`: the two clauses of `Frame` about the map). -/
structure Mv (d : Bool) (u : Option Nat) (s s' : SState) : Prop where
  split : Split d (Unst u s') (fun n => some n.info ≠ u) s.prob s'.prob
  kn : (AL.keys s.map).Nodup → (AL.keys s'.map).Nodup
  mapSub : (AL.keys s.map).Nodup →
    ∀ k ve, AL.get? s'.map k = some ve → AL.get? s.map k = some ve

theorem Mv.refl (u : Option Nat) (s : SState) : Mv false u s s :=
  ⟨Split.refl _ _ _, fun h => h, fun _ _ _ h => h⟩

theorem Mv.weaken {d : Bool} {u : Option Nat} {s s' : SState} (h : Mv d u s s') :
    Mv false u s s' := ⟨h.split.weaken, h.kn, h.mapSub⟩

theorem Mv.of_sublist {u : Option Nat} {s s' : SState} (h : s'.prob.Sublist s.prob)
    (hf : Frame s s') : Mv false u s s' :=
  ⟨Split.of_sublist h, hf.kn, hf.mapSub⟩

theorem Mv.trans {d1 d2 : Bool} {u : Option Nat} {a b c : SState}
    (hkn : (AL.keys a.map).Nodup) (h1 : Mv d1 u a b) (h2 : Mv d2 u b c) :
    Mv (d1 || d2) u a c :=
  ⟨h1.split.trans h2.split (fun _ h => h.mono (h2.mapSub (h1.kn hkn))),
   fun h => h2.kn (h1.kn h),
   fun hn k ve h => h1.mapSub hn k ve (h2.mapSub (h1.kn hn) k ve h)⟩

/-- The access order of `s` relative to the reference list `N` (the access order at the last
quiescent snapshot). -/
def Seg (d : Bool) (u : Option Nat) (N : List AoNode) (s : SState) : Prop :=
  Split d (Unst u s) (fun n => some n.info ≠ u) N s.prob

theorem Seg.step {d1 d2 : Bool} {u : Option Nat} {N : List AoNode} {s s' : SState}
    (hkn : (AL.keys s.map).Nodup) (h : Seg d1 u N s) (hm : Mv d2 u s s') :
    Seg (d1 || d2) u N s' :=
  Split.trans h hm.split (fun _ hn => hn.mono (hm.mapSub hkn))

theorem Seg.step' {d : Bool} {u : Option Nat} {N : List AoNode} {s s' : SState}
    (hkn : (AL.keys s.map).Nodup) (h : Seg d u N s) (hm : Mv false u s s') : Seg d u N s' := by
  have := h.step hkn hm
  rwa [Bool.or_false] at this

theorem unlinkAo_sublist (s : SState) (i : Nat) : (unlinkAo s i).prob.Sublist s.prob := by
  unfold unlinkAo; split
  · exact List.Sublist.refl _
  · dsimp only
    split
    · exact eraseAo_sublist _ _
    · rw [fail_prob]; exact List.Sublist.refl _

theorem subCounters_prob (s : SState) (n w : Nat) : (subCounters s n w).prob = s.prob := by
  unfold subCounters
  dsimp only
  split
  · exact fail_prob _ _
  · rfl

theorem handleRemove_sublist (s : SState) (ve : VE) : (handleRemove s ve).prob.Sublist s.prob := by
  unfold handleRemove
  dsimp only
  split
  · rw [unlinkWo_prob]
    refine (unlinkAo_sublist _ _).trans ?_
    rw [subCounters_prob]
    exact List.Sublist.refl _
  · exact List.Sublist.refl _

theorem removeVictims_sublist (p : Params) (vs : List AoNode) :
    ∀ (s : SState) (sk : List AoNode), (removeVictims p vs s sk).1.prob.Sublist s.prob := by
  induction vs with
  | nil => intro s sk; exact List.Sublist.refl _
  | cons v rest ih =>
    intro s sk
    unfold removeVictims
    split
    · refine (ih _ _).trans ?_
      rw [fail_prob]; exact List.Sublist.refl _
    · split
      · exact (ih _ _).trans (handleRemove_sublist _ _)
      · exact ih _ _

theorem Mv.of_eq_map {u : Option Nat} {s s' : SState} (hp : s'.prob = s.prob)
    (hm : s'.map = s.map) : Mv false u s s' :=
  ⟨Split.of_sublist (by rw [hp]; exact List.Sublist.refl _), fun h => by rw [hm]; exact h,
   fun _ k ve h => by rw [hm] at h; exact h⟩

theorem Mv.cast {d d' : Bool} {u : Option Nat} {s s' : SState} (h : Mv d u s s') (e : d = d') :
    Mv d' u s s' := e ▸ h

theorem Mv.trans' {d : Bool} {u : Option Nat} {a b c : SState} (hkn : (AL.keys a.map).Nodup)
    (h1 : Mv d u a b) (h2 : Mv false u b c) : Mv d u a c :=
  (Mv.trans hkn h1 h2).cast (Bool.or_false d)

/-- The order is unchanged and no node is of the used info: the use counts as applied (`d = true`),
there being nothing to move. -/
theorem Mv.of_eq_done {u : Option Nat} {s s' : SState} (hp : s'.prob = s.prob) (hf : Frame s s')
    (hno : ∀ n, n ∈ s.prob → some n.info ≠ u) : Mv true u s s' :=
  ⟨⟨s.prob, [], by rw [hp]; simp, List.Sublist.refl _, (fun _ h => by cases h), fun _ => hno⟩,
   hf.kn, hf.mapSub⟩

theorem moveNodeToBackAo_mv {d : Bool} {u : Option Nat} {s : SState} {id : Nat} {n : AoNode}
    (hf : findAo s.prob id = some n) (hn : Unst u s n)
    (hA : d = true → ∀ m, m ∈ eraseAo s.prob id → some m.info ≠ u) :
    Mv d u s (moveNodeToBackAo s id) := by
  rw [moveNodeToBackAo_eq hf]
  refine ⟨⟨eraseAo s.prob id, [n], rfl, eraseAo_sublist _ _, ?_, hA⟩, fun h => h, fun _ _ _ h => h⟩
  intro m hm
  simp at hm
  rw [hm]
  exact hn

theorem no_node_of_not_admitted {u : Option Nat} {s : SState} (hs : Safe s) {i : Nat}
    (hi : some i = u) (hna : (getInfo s i).admitted = false) :
    ∀ n, n ∈ s.prob → some n.info ≠ u := by
  intro n hn e
  have := hs.probAdm hn
  rw [Option.some.inj (e.trans hi.symm), hna] at this
  cases this

theorem moveToBackAoE_mv {u : Option Nat} {s : SState} (hs : Safe s) {i : Nat}
    (hi : some i = u) : Mv true u s (moveToBackAoE s i) := by
  unfold moveToBackAoE
  cases hx : (getInfo s i).ao with
  | none =>
    dsimp only
    refine Mv.of_eq_done rfl (Frame.refl s) (no_node_of_not_admitted hs hi ?_)
    cases ha : (getInfo s i).admitted with
    | false => rfl
    | true =>
      have := (hs.admIff i).mp ha
      rw [hx] at this; cases this
  | some id =>
    dsimp only
    obtain ⟨n, hf, hni⟩ := hs.toNodesCore.aoFind hx
    refine moveNodeToBackAo_mv hf (Or.inl (by rw [hni]; exact hi)) ?_
    intro _ m hm e
    rw [← hi] at e
    have hmi : m.info = i := Option.some.inj e
    obtain ⟨hmp, hmid⟩ := (mem_eraseAo_iff hs.probIds m).mp hm
    have hnp := (findAo_some hf).1
    have := hs.info_inj hmp hnp (hmi.trans hni.symm)
    exact hmid (this.trans (findAo_some hf).2)

theorem moveNodeToBackWo_prob (s : SState) (id : Nat) : (moveNodeToBackWo s id).prob = s.prob := by
  unfold moveNodeToBackWo; split
  · rfl
  · exact fail_prob _ _

theorem moveToBackWoE_prob (s : SState) (i : Nat) : (moveToBackWoE s i).prob = s.prob := by
  unfold moveToBackWoE; split
  · rfl
  · exact moveNodeToBackWo_prob _ _

theorem handleAdmit_mv {u : Option Nat} (p : Params) {s : SState} (key : Nat) (hash : UInt64)
    (ve : VE) (w : Nat) (hi : some ve.info = u) (hno : ∀ n, n ∈ s.prob → some n.info ≠ u) :
    Mv true u s (handleAdmit p s key hash ve w) := by
  have hf := (handleAdmit_maint p s key hash ve w).frame0.toFrame
  refine ⟨⟨s.prob, [_], (handleAdmit_admitted p s key hash ve w).prob, List.Sublist.refl _, ?_,
    fun _ => hno⟩, hf.kn, hf.mapSub⟩
  intro m hm
  simp at hm
  rw [hm]
  exact Or.inl hi

theorem moveToBackAoE_map (s : SState) (i : Nat) : (moveToBackAoE s i).map = s.map :=
  Sync.moveToBackAoE_map s i

theorem moveSkipped_mv {u : Option Nat} : ∀ (ns : List AoNode) (s : SState), Safe s →
    (AL.keys s.map).Nodup → (∀ n, n ∈ ns → n ∈ s.prob) → (∀ n, n ∈ ns → Unst u s n) →
    Mv false u s (moveSkipped ns s) := by
  intro ns
  induction ns with
  | nil => intro s _ _ _ _; exact Mv.refl u s
  | cons n rest ih =>
    intro s hs hkn hns hu
    rw [moveSkipped]
    have hnp := hns n List.mem_cons_self
    have hf := findAo_of_mem hs.probIds hnp
    have m1 : Mv false u s (moveNodeToBackAo s n.id) :=
      moveNodeToBackAo_mv hf (hu n List.mem_cons_self) (fun h => by cases h)
    obtain ⟨h1, k1⟩ := moveNodeToBackAo_safe hs hnp
    have hmap := moveNodeToBackAo_map s n.id
    have m2 := ih (moveNodeToBackAo s n.id) h1 (by rw [hmap]; exact hkn)
      (fun m hm => k1 m (hns m (List.mem_cons_of_mem _ hm)))
      (fun m hm => (hu m (List.mem_cons_of_mem _ hm)).mono (fun k ve h => by rw [hmap] at h; exact h))
    exact Mv.trans hkn m1 m2

theorem nonCur_of_entryOfNode_none {p : Params} (hd7 : p.q.d7 = false) {s : SState} {n : AoNode}
    (h : entryOfNode p s n.key n.info = none) : NonCur s n := by
  intro e he
  unfold entryOfNode at h
  rw [he] at h
  dsimp only at h
  rw [hd7, Bool.false_or] at h
  by_cases c : (e.info == n.info) = true
  · rw [if_pos c] at h; cases h
  · intro e'; exact c (by rw [e']; exact beq_self_eq_true _)

theorem admitLoop_skipped (p : Params) (s : SState) (cw cf : Nat) :
    ∀ (l : List AoNode) (a : Admission) (m : AoNode), m ∈ (admitLoop p s cw cf l a).skipped →
      m ∈ a.skipped ∨ (m ∈ l ∧ entryOfNode p s m.key m.info = none) := by
  intro l
  induction l with
  | nil => intro a m hm; exact Or.inl hm
  | cons n rest ih =>
    intro a m hm
    rw [admitLoop] at hm
    split at hm
    · split at hm
      · rcases ih _ m hm with h | ⟨h1, h2⟩
        · exact Or.inl h
        · exact Or.inr ⟨List.mem_cons_of_mem _ h1, h2⟩
      · rename_i hnone
        dsimp only at hm
        split at hm
        · rcases List.mem_append.mp hm with h | h
          · exact Or.inl h
          · simp at h; rw [h]; exact Or.inr ⟨List.mem_cons_self, hnone⟩
        · rcases ih _ m hm with h | ⟨h1, h2⟩
          · rcases List.mem_append.mp h with h | h
            · exact Or.inl h
            · simp at h; rw [h]; exact Or.inr ⟨List.mem_cons_self, hnone⟩
          · exact Or.inr ⟨List.mem_cons_of_mem _ h1, h2⟩
    · exact Or.inl hm

theorem removeVictims_skipped {p : Params} (hd7 : p.q.d7 = false) :
    ∀ (vs : List AoNode) (s : SState) (sk : List AoNode), (AL.keys s.map).Nodup →
      ∀ m, m ∈ (removeVictims p vs s sk).2 →
        m ∈ sk ∨ NonCur (removeVictims p vs s sk).1 m := by
  intro vs
  induction vs with
  | nil => intro s sk _ m hm; exact Or.inl hm
  | cons v rest ih =>
    intro s sk hkn m hm
    cases hf : findAo s.prob v.id with
    | none =>
      have e : removeVictims p (v :: rest) s sk =
          removeVictims p rest (s.fail .useAfterFree) sk := by
        rw [removeVictims, hf]
      rw [e] at hm ⊢
      exact ih _ sk (by rw [fail_map]; exact hkn) m hm
    | some x =>
      cases hve : entryOfNode p s v.key v.info with
      | some ve =>
        have e : removeVictims p (v :: rest) s sk =
            removeVictims p rest (handleRemove { s with map := AL.erase s.map v.key } ve) sk := by
          rw [removeVictims, hf]; dsimp only; rw [hve]
        rw [e] at hm ⊢
        refine ih _ sk ?_ m hm
        exact (handleRemove_maint _ _).frame0.kn (AL.nodup_erase _ hkn)
      | none =>
        have e : removeVictims p (v :: rest) s sk = removeVictims p rest s (sk ++ [v]) := by
          rw [removeVictims, hf]; dsimp only; rw [hve]
        rw [e] at hm ⊢
        rcases ih s (sk ++ [v]) hkn m hm with h | h
        · rcases List.mem_append.mp h with h | h
          · exact Or.inl h
          · simp at h
            rw [h]
            exact Or.inr ((nonCur_of_entryOfNode_none hd7 hve).mono
              ((removeVictims_maint p rest s (sk ++ [v])).frame0.mapSub hkn))
        · exact Or.inr h

theorem removeCandidate_prob (p : Params) (s : SState) (key : Nat) (ve : VE) :
    (removeCandidate p s key ve).prob = s.prob := by
  unfold removeCandidate
  split
  · split <;> rfl
  · rfl

theorem admitOrReject_mv {u : Option Nat} {p : Params} (hd7 : p.q.d7 = false) {s : SState}
    (hs : Safe s) (hkn : (AL.keys s.map).Nodup) (key : Nat) (hash : UInt64) (ve : VE) (newW : Nat)
    (hi : some ve.info = u) (hna : (getInfo s ve.info).admitted = false)
    (hlt : ve.info < s.nextId) : Mv true u s (admitOrReject p s key hash ve newW) := by
  have hno := no_node_of_not_admitted hs hi hna
  unfold admitOrReject
  dsimp only
  have hpk := admitLoop_picked p s newW (s.sk.frequency hash) hs.probIds
  have hsk := admitLoop_skipped p s newW (s.sk.frequency hash) s.prob {}
  generalize admitLoop p s newW (s.sk.frequency hash) s.prob {} = a at hpk hsk ⊢
  have hskN : ∀ m, m ∈ a.skipped → NonCur s m := by
    intro m hm
    rcases hsk m hm with h | ⟨_, h⟩
    · cases h
    · exact nonCur_of_entryOfNode_none hd7 h
  split
  · have hfr := (removeVictims_maint p a.victims s a.skipped).frame0
    have hrv := removeVictims_safe hd7 a.victims s a.skipped hs hpk
    have hsub := removeVictims_sublist p a.victims s a.skipped
    have hskp := removeVictims_skipped hd7 a.victims s a.skipped hkn
    generalize removeVictims p a.victims s a.skipped = r at hfr hrv hsub hskp ⊢
    obtain ⟨s1, sk1⟩ := r
    obtain ⟨r1, r2, r3⟩ := hrv
    dsimp only at r1 r2 r3 hfr hsub hskp ⊢
    have hkn1 := hfr.kn hkn
    have m1 : Mv false u s s1 := Mv.of_sublist hsub hfr.toFrame
    have hno1 : ∀ n, n ∈ s1.prob → some n.info ≠ u := fun n hn => hno n (hsub.subset hn)
    have m2 : Mv true u s1 (handleAdmit p s1 key hash ve newW) :=
      handleAdmit_mv p key hash ve newW hi hno1
    obtain ⟨a1, a2⟩ := handleAdmit_safe (p := p) r1 key hash ve newW (r3 _ hna)
      (Nat.lt_of_lt_of_le hlt hfr.nextId)
    have hmap3 := (handleAdmit_admitted p s1 key hash ve newW).map
    have m3 : Mv false u (handleAdmit p s1 key hash ve newW)
        (moveSkipped sk1 (handleAdmit p s1 key hash ve newW)) := by
      refine moveSkipped_mv sk1 _ a1 (by rw [hmap3]; exact hkn1) (fun n hn => a2 n (r2 n hn)) ?_
      intro m hm
      refine Or.inr (NonCur.mono (s := s1) (fun k ve' h => by rw [hmap3] at h; exact h) ?_)
      rcases hskp m hm with h | h
      · exact (hskN m h).mono (hfr.mapSub hkn)
      · exact h
    exact (Mv.trans hkn m1 m2).trans' hkn m3
  · have hf := (removeCandidate_maint p s key ve).frame0.toFrame
    have m1 : Mv true u s (removeCandidate p s key ve) :=
      Mv.of_eq_done (removeCandidate_prob p s key ve) hf hno
    obtain ⟨c1, c2⟩ := removeCandidate_safe (p := p) hs key ve
    have m2 : Mv false u (removeCandidate p s key ve)
        (moveSkipped a.skipped (removeCandidate p s key ve)) := by
      refine moveSkipped_mv a.skipped _ c1 (hf.kn hkn)
        (fun n hn => c2 n (hpk.1 n (List.mem_append_right _ hn))) ?_
      intro m hm
      exact Or.inr ((hskN m hm).mono (hf.mapSub hkn))
    exact m1.trans' hkn m2

theorem applyUpdate_mv {u : Option Nat} (p : Params) {s : SState} (hs : Safe s)
    (hkn : (AL.keys s.map).Nodup) (ve : VE) (oldW newW : Nat) (hi : some ve.info = u) :
    Mv true u s (applyUpdate p s ve oldW newW) := by
  -- the counters and the weight come first: neither the list nor the map changes
  have key : ∀ s3 : SState, Safe s3 → s3.prob = s.prob → s3.map = s.map →
      Mv true u s (moveToBackWoE (moveToBackAoE s3 ve.info) ve.info) := fun s3 h3 hp hm =>
    (Mv.trans hkn (Mv.of_eq_map hp hm) (moveToBackAoE_mv h3 hi)).trans' hkn
      (Mv.of_eq_map (moveToBackWoE_prob _ _) (moveToBackWoE_map _ _))
  have h2 : ∀ w, Safe (addCounters { s with cec := s.cec - 0, cws := w } 0 newW) :=
    fun w => hs.of_eq rfl rfl rfl (Nat.le_refl _) rfl rfl
  unfold applyUpdate
  dsimp only
  rw [subCounters_eq (Nat.zero_le _)]
  cases p.q.d8 with
  | true =>
    simp only [↓reduceIte]
    exact key _ (h2 _) rfl rfl
  | false =>
    simp only [Bool.false_eq_true, ↓reduceIte]
    exact key _ ((h2 _).withInfo _ _ rfl rfl rfl) rfl rfl

theorem handleUpsert_mv {u : Option Nat} {p : Params} (hq : NoQuirks p) {s : SState}
    (hs : Safe s) (hm : MapOK s) (key : Nat) (hash : UInt64) (ve : VE) (oldW newW : Nat)
    (hi : some ve.info = u) : Mv true u s (handleUpsert p s key hash ve oldW newW) := by
  have hd7 : p.q.d7 = false := by rw [hq]
  have h1 : Safe (withInfo s ve.info (fun i => { i with dirty := false })) :=
    hs.withInfo _ _ rfl rfl rfl
  have hm1 : MapOK (withInfo s ve.info (fun i => { i with dirty := false })) :=
    ⟨hm.kn, hm.bound⟩
  have m0 : Mv false u s (withInfo s ve.info (fun i => { i with dirty := false })) :=
    Mv.of_eq_map rfl rfl
  generalize hs1 : withInfo s ve.info (fun i => { i with dirty := false }) = s1 at h1 hm1 m0
  have fin : ∀ {s2 : SState}, Mv true u s1 s2 → Mv true u s s2 :=
    fun h => Mv.trans hm.kn m0 h
  have hno := fun hna => no_node_of_not_admitted h1 hi hna
  refine handleUpsert_cases (C := Mv true u s) hs1.symm rfl
    (fun _ => fin (applyUpdate_mv p h1 hm1.kn ve oldW _ hi))
    (fun hna _ => fin (Mv.of_eq_done rfl (Frame.refl _) (hno hna)))
    (fun hna _ _ => fin (handleAdmit_mv p key hash ve _ hi (hno hna)))
    (fun hna _ _ _ => fin (Mv.of_eq_done (removeCandidate_prob p s1 key ve)
      (removeCandidate_maint p s1 key ve).frame0.toFrame (hno hna)))
    (fun hna c2 _ _ => fin (admitOrReject_mv hd7 h1 hm1.kn key hash ve _ hi hna ?_))
  -- the candidate is the map's entry, so its info is below the id counter
  obtain ⟨cur, hg, hci⟩ := (not_stale_iff hd7).mp c2
  rw [← hci]
  exact hm1.bound key cur hg

/-! ### the run: its queues, its eviction loops, `syncRun_mv` -/

def isUpsert : WOp → Bool
  | .upsert _ _ _ _ _ => true
  | .remove _ _ => false

def isHit : ROp → Bool
  | .hit _ _ _ => true
  | .miss _ => false

/-- Every upsert queued (`WQU`) and every hit recorded (`RQU`) in a segment is of the used info. -/
def WQU (u : Option Nat) (q : List WOp) : Prop :=
  ∀ key hash ve o w, WOp.upsert key hash ve o w ∈ q → some ve.info = u

def RQU (u : Option Nat) (q : List ROp) : Prop :=
  ∀ hash ve ts, ROp.hit hash ve ts ∈ q → some ve.info = u

theorem handleRemove_mv {u : Option Nat} (s : SState) (ve : VE) :
    Mv false u s (handleRemove s ve) :=
  Mv.of_sublist (handleRemove_sublist s ve) (handleRemove_maint s ve).frame0.toFrame

theorem applyWrite_mv {u : Option Nat} {p : Params} (hq : NoQuirks p) {s : SState} (hs : Safe s)
    (hm : MapOK s) (op : WOp) (hop : WQU u [op]) :
    Mv (isUpsert op) u s (applyWrite p s op) := by
  cases op with
  | upsert key hash ve oldW newW =>
    exact handleUpsert_mv hq hs hm key hash ve oldW newW
      (hop key hash ve oldW newW List.mem_cons_self)
  | remove key ve => exact handleRemove_mv s ve

theorem applyWrites_mv {u : Option Nat} {p : Params} (hq : NoQuirks p) {s : SState} (hs : Safe s)
    (hm : MapOK s) (hw : WQU u s.writeQ) :
    Mv (s.writeQ.any isUpsert) u s (applyWrites p s.writeQ.length s) := by
  refine (applyWrites_all (R := fun q t => Safe t ∧ MapOK t ∧ Mv (q.any isUpsert) u s t)
    ⟨hs, hm, Mv.refl u s⟩ fun q t op rest e _ ⟨h, hmt, m⟩ => ?_).2.2
  have h0 : Safe { t with writeQ := rest } := safe_setWriteQ h rest
  have hm0 : MapOK { t with writeQ := rest } := ⟨hmt.kn, hmt.bound⟩
  have hop : WQU u [op] := by
    intro key hash ve o w hmem
    cases List.mem_singleton.mp hmem
    exact hw key hash ve o w (by rw [e]; exact List.mem_append_right _ List.mem_cons_self)
  have m0 : Mv false u t { t with writeQ := rest } := Mv.of_eq_map rfl rfl
  have m1 := (Mv.trans hm.kn m m0).trans hm.kn (applyWrite_mv hq h0 hm0 op hop)
  refine ⟨applyWrite_safe hq h0 hm0 op, hm0.frame0 (applyWrite_maint p _ op).frame0, m1.cast ?_⟩
  rw [List.any_append, List.any_cons, List.any_nil, Bool.or_false, Bool.or_false]

theorem applyRead_mv {u : Option Nat} {p : Params} (hq : NoQuirks p) {s : SState} (hs : Safe s)
    (hkn : (AL.keys s.map).Nodup) (hk : SkOK Sketch.Good s) (op : ROp) (hop : RQU u [op]) :
    Mv (isHit op) u s (applyRead p s op) := by
  have hd6 : p.q.d6 = false := by rw [hq]
  cases op with
  | miss hash =>
    obtain ⟨sk', e, _, _⟩ := sketchIncrement_spec sketchLaws hq hk.sk hash
    show Mv false u s (sketchIncrement p s hash)
    rw [e]
    exact Mv.of_eq_map rfl rfl
  | hit hash ve ts =>
    obtain ⟨sk', e, _, _⟩ := sketchIncrement_spec sketchLaws hq hk.sk hash
    have hi : some ve.info = u := hop hash ve ts List.mem_cons_self
    show Mv true u s (applyRead p s (.hit hash ve ts))
    unfold applyRead
    simp only [hd6, Bool.false_eq_true, if_false]
    obtain ⟨h1, _⟩ := sketchIncrement_inv sketchLaws hq hs hk hash
    have m1 : Mv false u s (sketchIncrement p s hash) := by
      rw [e]; exact Mv.of_eq_map rfl rfl
    generalize sketchIncrement p s hash = s1 at h1 m1 ⊢
    have h2 : Safe (if (getInfo s1 ve.info).la < ts
        then withInfo s1 ve.info (fun i => { i with la := ts }) else s1) ∧
        Mv false u s1 (if (getInfo s1 ve.info).la < ts
        then withInfo s1 ve.info (fun i => { i with la := ts }) else s1) := by
      split
      · exact ⟨h1.withInfo _ _ rfl rfl rfl, Mv.of_eq_map rfl rfl⟩
      · exact ⟨h1, Mv.refl u s1⟩
    generalize (if (getInfo s1 ve.info).la < ts
        then withInfo s1 ve.info (fun i => { i with la := ts }) else s1) = s2 at h2 ⊢
    have m12 : Mv false u s s2 := Mv.trans hkn m1 h2.2
    by_cases ha : (getInfo s2 ve.info).admitted = true
    · rw [if_pos ha]
      exact Mv.trans hkn m12 (moveToBackAoE_mv h2.1 hi)
    · rw [if_neg ha]
      exact Mv.trans hkn m12 (Mv.of_eq_done rfl (Frame.refl _)
        (no_node_of_not_admitted h2.1 hi (eq_false_of_ne_true ha)))

theorem applyReads_mv {u : Option Nat} {p : Params} (hq : NoQuirks p) {s : SState} (hs : Safe s)
    (hkn : (AL.keys s.map).Nodup) (hk : SkOK Sketch.Good s) (hr : RQU u s.readQ) :
    Mv (s.readQ.any isHit) u s (applyReads p s.readQ.length s) := by
  refine (applyReads_all
    (R := fun q t => Safe t ∧ SkOK Sketch.Good t ∧ Mv (q.any isHit) u s t)
    ⟨hs, hk, Mv.refl u s⟩ fun q t op rest e _ ⟨h, k, m⟩ => ?_).2.2
  have h0 : Safe { t with readQ := rest } := h.of_eq rfl rfl rfl (Nat.le_refl _) rfl rfl
  have k0 : SkOK Sketch.Good { t with readQ := rest } := ⟨k.sk, k.skOff⟩
  have hop : RQU u [op] := by
    intro hash ve ts hmem
    cases List.mem_singleton.mp hmem
    exact hr hash ve ts (by rw [e]; exact List.mem_append_right _ List.mem_cons_self)
  have m0 : Mv false u t { t with readQ := rest } := Mv.of_eq_map rfl rfl
  have m1 := (Mv.trans hkn m m0).trans hkn (applyRead_mv hq h0 (m.kn hkn) k0 op hop)
  obtain ⟨h1, k1⟩ := applyRead_inv sketchLaws hq h0 k0 op
  refine ⟨h1, k1, m1.cast ?_⟩
  rw [List.any_append, List.any_cons, List.any_nil, Bool.or_false, Bool.or_false]

/-- A dirty entry of the map is of the used info (`GDP` with an empty write queue). -/
def DirtyOk (u : Option Nat) (s : SState) : Prop :=
  ∀ k e, AL.get? s.map k = some e → (getInfo s e.info).dirty = true → some e.info = u

theorem DirtyOk.step {u : Option Nat} {s s' : SState} (h : DirtyOk u s)
    (hkn : (AL.keys s.map).Nodup) (hd : ∀ j, (getInfo s' j).dirty = true → (getInfo s j).dirty = true)
    (hsub : (AL.keys s.map).Nodup → ∀ k ve, AL.get? s'.map k = some ve → AL.get? s.map k = some ve) :
    DirtyOk u s' :=
  fun k e he hdirty => h k e (hsub hkn k e he) (hd _ hdirty)

/-- What the eviction loops keep, so that a node they skip (dirty entry) is of the used info.
(Not `RInv`, the invariant of the trace, nor `Nodes.RunInv`.) -/
structure RI (u : Option Nat) (s : SState) : Prop where
  safe : Safe s
  mapok : MapOK s
  dirty : DirtyOk u s

theorem RI.next {u : Option Nat} {s s' : SState} (h : RI u s) (hs : Safe s') (hf : Frame0 s s')
    (hsub : Sub s s') : RI u s' :=
  ⟨hs, h.mapok.frame0 hf, h.dirty.step h.mapok.kn hsub.dirty hf.mapSub⟩

theorem RI.remove {u : Option Nat} {s : SState} (h : RI u s) (k : Nat) (ve : VE) :
    RI u (handleRemove { s with map := AL.erase s.map k } ve) ∧
    Mv false u s (handleRemove { s with map := AL.erase s.map k } ve) := by
  have hf : Frame0 s (handleRemove { s with map := AL.erase s.map k } ve) :=
    (frame0_erase s k).trans (handleRemove_maint _ _).frame0
  refine ⟨h.next (handleRemove_safe (safe_eraseMap h.safe k) ve).1 hf
    ((sub_erase s k).trans (handleRemove_maint _ _).sub), ?_⟩
  exact Mv.of_sublist (handleRemove_sublist _ _) hf.toFrame

theorem RI.touch {u : Option Nat} {s : SState} (h : RI u s) {k : Nat} {ve : VE}
    (hg : AL.get? s.map k = some ve) (hd : (getInfo s ve.info).dirty = true) :
    RI u (moveToBackWoE (moveToBackAoE s ve.info) ve.info) ∧
    Mv false u s (moveToBackWoE (moveToBackAoE s ve.info) ve.info) := by
  have hi := h.dirty k ve hg hd
  have s1 := moveToBackAoE_safe h.safe ve.info
  have s2 := moveToBackWoE_safe s1 ve.info
  refine ⟨h.next s2 ((moveToBackAoE_maint _ _).frame0.trans (moveToBackWoE_maint _ _).frame0)
    ((moveToBackAoE_maint _ _).sub.trans (moveToBackWoE_maint _ _).sub), ?_⟩
  have m1 : Mv true u s (moveToBackAoE s ve.info) := moveToBackAoE_mv h.safe hi
  have m2 : Mv false u (moveToBackAoE s ve.info) (moveToBackWoE (moveToBackAoE s ve.info) ve.info) :=
    Mv.of_eq_map (moveToBackWoE_prob _ _) (moveToBackWoE_map _ _)
  exact (Mv.trans h.mapok.kn m1 m2).weaken

/-- The guards under which the model takes a step of the eviction loops are what makes a moved
node unstable. -/
theorem evict_mv {u : Option Nat} {p : Params} {x : Bool} {s s' : SState} (h : Evict p x s s')
    (hr : RI u s) : RI u s' ∧ Mv false u s s' := by
  cases h with
  | expAo _ _ _ => exact hr.remove _ _
  | expWo _ _ _ => exact hr.remove _ _
  | lru _ _ _ _ => exact hr.remove _ _
  | touch hg hd => exact hr.touch hg hd
  | @headAo n _ hp hg =>
    have hnp : n ∈ s.prob := by
      rw [hp]
      exact List.mem_cons_self
    refine ⟨hr.next (moveNodeToBackAo_safe hr.safe hnp).1 (moveNodeToBackAo_maint _ _).frame0
      (moveNodeToBackAo_maint _ _).sub, ?_⟩
    refine moveNodeToBackAo_mv (findAo_of_mem hr.safe.probIds hnp) (Or.inr ?_)
      (fun hx => by cases hx)
    intro e he
    rw [hg] at he
    cases he
  | @headWo n _ hw _ =>
    have hnw : n ∈ s.wo := by
      rw [hw]
      exact List.mem_cons_self
    exact ⟨hr.next (moveNodeToBackWo_safe hr.safe hnw) (moveNodeToBackWo_maint _ _).frame0
      (moveNodeToBackWo_maint _ _).sub,
      Mv.of_eq_map (moveNodeToBackWo_prob _ _) (moveNodeToBackWo_map _ _)⟩

theorem evicts_mv {u : Option Nat} {p : Params} {x : Bool} {s s' : SState}
    (h : Evicts p x s s') (hr : RI u s) : RI u s' ∧ Mv false u s s' :=
  h.rel (I := RI u) (R := Mv false u) (Mv.refl u)
    (fun ha r1 r2 => Mv.trans' ha.mapok.kn r1 r2) evict_mv hr

theorem syncPass_mv {u : Option Nat} {p : Params} (hq : NoQuirks p) {s0 : SState}
    (h0 : RunInv Sketch.Good s0) (hr0 : RQU u s0.readQ) (hw0 : WQU u s0.writeQ)
    (d0 : DirtyOk u s0) :
    RI u (syncPass p s0) ∧
    Mv (s0.readQ.any isHit || s0.writeQ.any isUpsert) u s0 (syncPass p s0) := by
  have hkn := h0.map.kn
  refine syncPass_stages
    (Q := fun t => RI u t ∧ Mv (s0.readQ.any isHit) u s0 t ∧ t.writeQ = s0.writeQ)
    (R := fun t => RI u t ∧ Mv (s0.readQ.any isHit || s0.writeQ.any isUpsert) u s0 t) ?_ ?_ ?_
  · have hf := applyReads_frame hq s0.readQ.length s0
    refine ⟨⟨(applyReads_inv sketchLaws hq _ s0 h0.safe h0.sk).1, h0.map.frame hf,
      d0.step hkn (applyReads_sub p _ _).dirty hf.mapSub⟩, ?_, applyReads_writeQ p _ _⟩
    exact applyReads_mv hq h0.safe hkn h0.sk hr0
  · rintro t ⟨r, m, w⟩
    have hf := applyWrites_frame0 p t.writeQ.length t
    refine ⟨⟨applyWrites_safe hq _ _ r.safe r.mapok, r.mapok.frame0 hf,
      r.dirty.step r.mapok.kn (fun j h => ((applyWrites_subq p _).dirty j h).1) hf.mapSub⟩, Mv.trans hkn m ?_⟩
    exact (applyWrites_mv (u := u) hq r.safe r.mapok (w ▸ hw0)).cast (by rw [w])
  · rintro t ⟨r, m⟩ _
    have hsame := enableSketch_same p t
    exact ⟨r.next (enableSketch_safe p r.safe) (enableSketch_frame0 _ _) (enableSketch_sub _ _),
      m.trans' hkn (Mv.of_eq_map hsame.prob hsame.map)⟩

theorem syncRun_mv {u : Option Nat} {p : Params} (hq : NoQuirks p)
    {s : SState} (h : TopInv Sketch.Good s) (hr : RQU u s.readQ) (hw : WQU u s.writeQ)
    (hd : DirtyOk u s) :
    Mv (s.readQ.any isHit || s.writeQ.any isUpsert) u s (syncRun p s) ∧
    DirtyOk u (syncRun p s) := by
  have hkn := h.map.kn
  have h0 := h.run
  refine syncRun_stages (P := (· = { s with cec := s.ec, cws := s.ws }))
    (Q := fun t => RI u t ∧ Mv (s.readQ.any isHit || s.writeQ.any isUpsert) u s t)
    (R := fun t => Mv (s.readQ.any isHit || s.writeQ.any isUpsert) u s t ∧ DirtyOk u t)
    rfl ?_ ?_ ?_ ?_
  · intro t e
    subst e
    obtain ⟨r, m⟩ := syncPass_mv (u := u) hq h0 hr hw hd
    have m0 : Mv false u s { s with cec := s.ec, cws := s.ws } := Mv.of_eq_map rfl rfl
    have m1 := Mv.trans hkn m0 m
    exact ⟨r, m1⟩
  · rintro t ⟨r, m⟩
    obtain ⟨r1, m1⟩ := evicts_mv (evictExpired_evicts (x := true) t) r
    exact ⟨r1, m.trans' hkn m1⟩
  · rintro t ⟨r, m⟩ _
    obtain ⟨r1, m1⟩ := evicts_mv (evictLruLoop_evicts _ t _ _) r
    exact ⟨r1, m.trans' hkn m1⟩
  · rintro t ⟨r, m⟩
    exact ⟨m.trans' hkn (Mv.of_eq_map rfl rfl), r.dirty⟩

end Admit
end Sync
end MiniMoka
