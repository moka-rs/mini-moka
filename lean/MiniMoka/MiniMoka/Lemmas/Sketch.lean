/-
  The 4-bit count-min frequency sketch (`MiniMoka/Sketch.lean`, model of
  `src/common/frequency_sketch.rs`; `incrStep` and what is built on it follow the repaired
  `reset false` only, `increment_eq_bump` holds for either formula): from the
  arithmetic of 4-bit counters packed in words up to the two invariants of runs, `CInv` (no overflow)
  and `RInv` (the estimates against a ghost count).

  `nib`, `halveWord`, `incrementAt`, `reset` … must never be unfolded by
  the kernel (or by `omega`'s atom matching, which uses `isDefEq`) on symbolic arguments: a
  failing definitional-equality test ends up evaluating `Nat.mod`/`Nat.mul` on huge literals in
  unary.  Hence: record projections go through `mk_*`/`bump_*` rewrite lemmas instead of `rfl`,
  the shape of `increment` is established for abstract `inc`/`rst` (`incGen`), and compound
  terms are `generalize`d before `omega`.
-/
import MiniMoka.Sketch

namespace MiniMoka
namespace Sketch

/-! ## Words as sixteen 4-bit counters -/

theorem pow16_pos (j : Nat) : 0 < 16 ^ j := Nat.pow_pos (by decide)

theorem nib_lt (w j : Nat) : nib w j < 16 := by
  unfold nib; omega

theorem nib_le (w j : Nat) : nib w j ≤ 15 := by
  have := nib_lt w j; omega

theorem add_pow_div_self (w j : Nat) : (w + 16 ^ j) / 16 ^ j = w / 16 ^ j + 1 :=
  Nat.add_div_right w (pow16_pos j)

/-- No carry out of counter `j` when it is not saturated. -/
theorem add_pow_div_succ (w j : Nat) (h : nib w j ≠ 15) :
    (w + 16 ^ j) / 16 ^ (j + 1) = w / 16 ^ (j + 1) := by
  unfold nib at h
  rw [Nat.pow_succ, ← Nat.div_div_eq_div_mul, ← Nat.div_div_eq_div_mul, add_pow_div_self]
  omega

theorem nib_add_pow_self (w j : Nat) (h : nib w j ≠ 15) :
    nib (w + 16 ^ j) j = nib w j + 1 := by
  unfold nib at *
  rw [add_pow_div_self]
  omega

/-- Every other counter is untouched (no bound on `i` needed: there is no carry). -/
theorem nib_add_pow_ne (w i j : Nat) (h : nib w j ≠ 15) (hij : i ≠ j) :
    nib (w + 16 ^ j) i = nib w i := by
  unfold nib
  rcases Nat.lt_or_gt_of_ne hij with hlt | hgt
  · -- i < j : 16^j = 16^i * (16 * 16^(j-i-1))
    obtain ⟨d, rfl⟩ : ∃ d, j = i + 1 + d := ⟨j - i - 1, by omega⟩
    have e : 16 ^ (i + 1 + d) = 16 ^ i * (16 * 16 ^ d) := by
      rw [Nat.pow_add, Nat.pow_succ, Nat.mul_assoc]
    rw [e, Nat.add_mul_div_left _ _ (pow16_pos i)]
    omega
  · -- j < i : divide by 16^(j+1) first
    obtain ⟨d, rfl⟩ : ∃ d, i = j + 1 + d := ⟨i - j - 1, by omega⟩
    rw [Nat.pow_add (n := d), ← Nat.div_div_eq_div_mul, ← Nat.div_div_eq_div_mul,
      add_pow_div_succ w j h]

theorem lt_pow16_iff (w n : Nat) : w < 16 ^ n ↔ w / 16 ^ n = 0 := by
  rw [Nat.div_eq_zero_iff]
  have := pow16_pos n
  omega

theorem add_pow_lt (w j : Nat) (hw : w < 16 ^ 16) (hj : j < 16) (h : nib w j ≠ 15) :
    w + 16 ^ j < 16 ^ 16 := by
  obtain ⟨d, hd⟩ : ∃ d, 16 = j + 1 + d := ⟨16 - j - 1, by omega⟩
  have e : (16 : Nat) ^ 16 = 16 ^ (j + 1) * 16 ^ d := by
    rw [← Nat.pow_add, ← hd]
  rw [lt_pow16_iff] at hw ⊢
  rw [e, ← Nat.div_div_eq_div_mul] at hw ⊢
  rw [add_pow_div_succ w j h]
  exact hw

/-! ### `halveFrom` / `halveWord` -/

theorem halveFrom_lt (w n : Nat) : halveFrom w n < 16 ^ n := by
  induction n with
  | zero => simp [halveFrom]
  | succ n ih =>
    unfold halveFrom
    have h1 : nib w n / 2 ≤ 15 := by have := nib_lt w n; omega
    have h2 := Nat.mul_le_mul_right (16 ^ n) h1
    rw [Nat.pow_succ]
    omega

theorem halveWord_lt (w : Nat) : halveWord w < 16 ^ 16 := halveFrom_lt w 16

theorem nib_of_lt (a j : Nat) (h : a < 16 ^ j) : nib a j = 0 := by
  unfold nib
  rw [Nat.div_eq_of_lt h]

theorem nib_add_digit (a d n j : Nat) (ha : a < 16 ^ n) (hd : d < 16) :
    nib (a + d * 16 ^ n) j = if j = n then d else if j < n then nib a j else 0 := by
  by_cases hjn : j = n
  · subst hjn
    simp only [if_true]
    unfold nib
    rw [Nat.mul_comm d, Nat.add_mul_div_left _ _ (pow16_pos j), Nat.div_eq_of_lt ha]
    omega
  · simp only [hjn, if_false]
    by_cases hlt : j < n
    · simp only [hlt, if_true]
      obtain ⟨e, rfl⟩ : ∃ e, n = j + 1 + e := ⟨n - j - 1, by omega⟩
      unfold nib
      have e1 : d * 16 ^ (j + 1 + e) = 16 ^ j * (16 * (16 ^ e * d)) := by
        rw [Nat.pow_add, Nat.pow_succ]
        simp only [Nat.mul_assoc, Nat.mul_comm, Nat.mul_left_comm]
      rw [e1, Nat.add_mul_div_left _ _ (pow16_pos j)]
      omega
    · simp only [hlt, if_false]
      apply nib_of_lt
      obtain ⟨e, rfl⟩ : ∃ e, j = n + 1 + e := ⟨j - n - 1, by omega⟩
      have h2 := Nat.mul_le_mul_right (16 ^ n) (show d ≤ 15 by omega)
      have h3 : 16 ^ (n + 1) ≤ 16 ^ (n + 1 + e) := Nat.pow_le_pow_right (by decide) (by omega)
      rw [Nat.pow_succ] at h3
      omega

theorem nib_halveFrom (w n j : Nat) :
    nib (halveFrom w n) j = if j < n then nib w j / 2 else 0 := by
  induction n with
  | zero => simp [halveFrom, nib]
  | succ n ih =>
    unfold halveFrom
    rw [nib_add_digit _ _ _ _ (halveFrom_lt w n) (by have := nib_lt w n; omega), ih]
    by_cases h1 : j = n
    · subst h1; simp
    · by_cases h2 : j < n
      · have : j < n + 1 := by omega
        simp [h1, h2, this]
      · have : ¬ j < n + 1 := by omega
        simp [h1, h2, this]

theorem nib_halveWord (w j : Nat) (hj : j < 16) : nib (halveWord w) j = nib w j / 2 := by
  unfold halveWord
  rw [nib_halveFrom]
  simp [hj]

theorem halveWord_zero : halveWord 0 = 0 := by decide

/-! ### `oddFrom` / `oddCount` and the counter sum of a word -/

theorem oddFrom_eq_length (w n : Nat) :
    oddFrom w n = ((List.range n).filter (fun j => nib w j % 2 = 1)).length := by
  induction n with
  | zero => simp [oddFrom]
  | succ n ih =>
    unfold oddFrom
    rw [List.range_succ, List.filter_append, List.length_append, ← ih]
    by_cases h : nib w n % 2 = 1
    · simp [h]
    · have : nib w n % 2 = 0 := by omega
      simp [this]

theorem oddCount_eq_length (w : Nat) :
    oddCount w = ((List.range 16).filter (fun j => nib w j % 2 = 1)).length :=
  oddFrom_eq_length w 16

theorem oddFrom_le (w n : Nat) : oddFrom w n ≤ n := by
  induction n with
  | zero => simp [oddFrom]
  | succ n ih => unfold oddFrom; omega

theorem oddCount_le (w : Nat) : oddCount w ≤ 16 := oddFrom_le w 16

/-- Sum of the counters `0..n-1` of a word. -/
def sumFrom (w : Nat) : Nat → Nat
  | 0 => 0
  | j + 1 => sumFrom w j + nib w j

def wordSum (w : Nat) : Nat := sumFrom w 16

theorem sumFrom_halve (w n : Nat) (hn : n ≤ 16) :
    2 * sumFrom (halveWord w) n + oddFrom w n = sumFrom w n := by
  induction n with
  | zero => simp [sumFrom, oddFrom]
  | succ n ih =>
    unfold sumFrom oddFrom
    rw [nib_halveWord w n (by omega)]
    have := ih (by omega)
    omega

theorem wordSum_halve (w : Nat) : 2 * wordSum (halveWord w) + oddCount w = wordSum w :=
  sumFrom_halve w 16 (Nat.le_refl _)

theorem sumFrom_add_pow (w j n : Nat) (h : nib w j ≠ 15) :
    sumFrom (w + 16 ^ j) n = sumFrom w n + (if j < n then 1 else 0) := by
  induction n with
  | zero => simp [sumFrom]
  | succ n ih =>
    unfold sumFrom
    rw [ih]
    by_cases hjn : n = j
    · subst hjn
      rw [nib_add_pow_self w n h]
      simp; omega
    · rw [nib_add_pow_ne w n j h hjn]
      by_cases h1 : j < n
      · have : j < n + 1 := by omega
        simp [h1, this]; omega
      · have : ¬ j < n + 1 := by omega
        simp [h1, this]

theorem wordSum_add_pow (w j : Nat) (h : nib w j ≠ 15) : wordSum (w + 16 ^ j) ≤ wordSum w + 1 := by
  unfold wordSum
  rw [sumFrom_add_pow w j 16 h]
  split <;> omega

theorem wordSum_zero : wordSum 0 = 0 := by decide

theorem oddCount_le_wordSum (w : Nat) : oddCount w ≤ wordSum w := by
  have := wordSum_halve w; omega

theorem pow16_16 : (16 : Nat) ^ 16 = 2 ^ 64 := by decide

/-! ## Tables -/

/-- Counter `j` of word `idx` of a table (0 outside the table). -/
def cntAt (t : Array Nat) (idx j : Nat) : Nat := nib (t.getD idx 0) j

def satInc (c : Nat) : Nat := min 15 (c + 1)

theorem satInc_mono {a b : Nat} (h : a ≤ b) : satInc a ≤ satInc b := by
  unfold satInc; omega

theorem le_satInc {c : Nat} (h : c ≤ 15) : c ≤ satInc c := by
  unfold satInc; omega

theorem satInc_le (c : Nat) : satInc c ≤ 15 := by
  unfold satInc; omega

/-- Every word fits in 64 bits (`getD` is 0 outside the table, so no bound on `i`). -/
def WordsOK (t : Array Nat) : Prop := ∀ i, t.getD i 0 < 16 ^ 16

def sumBy (f : Nat → Nat) (t : Array Nat) : Nat := (t.toList.map f).sum

def tableSum (t : Array Nat) : Nat := sumBy wordSum t

/-- Number of odd counters of the table: the `count` of `reset`. -/
def oddTotal (t : Array Nat) : Nat := sumBy oddCount t

theorem cntAt_le (t : Array Nat) (i j : Nat) : cntAt t i j ≤ 15 := nib_le _ _

theorem foldl_add_eq (f : Nat → Nat) (l : List Nat) (a : Nat) :
    l.foldl (fun c w => c + f w) a = a + (l.map f).sum := by
  induction l generalizing a with
  | nil => simp
  | cons x xs ih => simp [List.foldl, ih]; omega

theorem foldl_eq_sumBy (f : Nat → Nat) (t : Array Nat) :
    t.foldl (fun c w => c + f w) 0 = sumBy f t := by
  rw [← Array.foldl_toList, foldl_add_eq]; simp [sumBy]

theorem sum_map_set (f : Nat → Nat) (l : List Nat) (i v : Nat) (h : i < l.length) :
    ((l.set i v).map f).sum + f l[i] = (l.map f).sum + f v := by
  induction l generalizing i with
  | nil => simp at h
  | cons x xs ih =>
    cases i with
    | zero =>
      simp only [List.set_cons_zero, List.map_cons, List.sum_cons, List.getElem_cons_zero]
      omega
    | succ i =>
      have h' : i < xs.length := by simpa using h
      have := ih i h'
      simp only [List.set_cons_succ, List.map_cons, List.sum_cons, List.getElem_cons_succ]
      omega

theorem sumBy_setIfInBounds (f : Nat → Nat) (t : Array Nat) (i v : Nat) (h : i < t.size) :
    sumBy f (t.setIfInBounds i v) + f (t.getD i 0) = sumBy f t + f v := by
  unfold sumBy
  rw [Array.toList_setIfInBounds]
  have h' : i < t.toList.length := by simpa using h
  have := sum_map_set f t.toList i v h'
  simpa [Array.getD, h] using this

theorem sumBy_le_mul (f : Nat → Nat) (k : Nat) (hf : ∀ w, f w ≤ k) (t : Array Nat) :
    sumBy f t ≤ k * t.size := by
  unfold sumBy
  rw [← Array.length_toList]
  induction t.toList with
  | nil => simp
  | cons x xs ih =>
    have := hf x
    simp [Nat.mul_succ]; omega

theorem sumBy_le_sumBy (f g : Nat → Nat) (hfg : ∀ w, f w ≤ g w) (t : Array Nat) :
    sumBy f t ≤ sumBy g t := by
  unfold sumBy
  induction t.toList with
  | nil => simp
  | cons x xs ih => have := hfg x; simp; omega

theorem oddTotal_le_size (t : Array Nat) : oddTotal t ≤ 16 * t.size :=
  sumBy_le_mul oddCount 16 oddCount_le t

theorem oddTotal_le_tableSum (t : Array Nat) : oddTotal t ≤ tableSum t :=
  sumBy_le_sumBy _ _ oddCount_le_wordSum t

theorem tableSum_map_halve (t : Array Nat) :
    2 * tableSum (t.map halveWord) + oddTotal t = tableSum t := by
  unfold tableSum oddTotal sumBy
  rw [Array.toList_map]
  induction t.toList with
  | nil => simp
  | cons x xs ih =>
    have := wordSum_halve x
    simp only [List.map_cons, List.sum_cons]; omega

theorem sumBy_replicate (f : Nat → Nat) (n w : Nat) :
    sumBy f (Array.replicate n w) = n * f w := by
  unfold sumBy
  rw [Array.toList_replicate]
  induction n with
  | zero => simp
  | succ n ih => rw [List.replicate_succ, List.map_cons, List.sum_cons, ih, Nat.succ_mul, Nat.add_comm]

theorem tableSum_replicate_zero (n : Nat) : tableSum (Array.replicate n 0) = 0 := by
  unfold tableSum
  rw [sumBy_replicate, wordSum_zero, Nat.mul_zero]

theorem getD_setIfInBounds (t : Array Nat) (i k v : Nat) :
    (t.setIfInBounds i v).getD k 0 = if i = k ∧ i < t.size then v else t.getD k 0 := by
  simp only [Array.getD_eq_getD_getElem?, Array.getElem?_setIfInBounds]
  by_cases h1 : i = k
  · subst h1
    by_cases h2 : i < t.size
    · simp [h2]
    · simp [h2]
  · simp [h1]

theorem getD_map (f : Nat → Nat) (hf : f 0 = 0) (t : Array Nat) (i : Nat) :
    (t.map f).getD i 0 = f (t.getD i 0) := by
  simp only [Array.getD_eq_getD_getElem?, Array.getElem?_map]
  cases t[i]? with
  | none => exact hf.symm
  | some w => rfl

theorem getD_map_halve (t : Array Nat) (i : Nat) :
    (t.map halveWord).getD i 0 = halveWord (t.getD i 0) :=
  getD_map halveWord halveWord_zero t i

theorem getD_replicate_zero (n i : Nat) : (Array.replicate n 0).getD i 0 = 0 := by
  simp only [Array.getD_eq_getD_getElem?, Array.getElem?_replicate]
  split <;> simp

theorem cntAt_map_halve (t : Array Nat) (i j : Nat) (hj : j < 16) :
    cntAt (t.map halveWord) i j = cntAt t i j / 2 := by
  unfold cntAt
  rw [getD_map_halve, nib_halveWord _ _ hj]

theorem wordsOK_map_halve (t : Array Nat) : WordsOK (t.map halveWord) := by
  intro i; rw [getD_map_halve]; exact halveWord_lt _

/-! ### `incrementAt` -/

theorem incrementAt_pos (t : Array Nat) (idx j : Nat) (h : nib (t.getD idx 0) j ≠ 15) :
    incrementAt t idx j = (t.setIfInBounds idx (t.getD idx 0 + 16 ^ j), true) := by
  show (if nib (t.getD idx 0) j ≠ 15 then (t.setIfInBounds idx (t.getD idx 0 + 16 ^ j), true)
      else (t, false)) = _
  rw [if_pos h]

theorem incrementAt_neg (t : Array Nat) (idx j : Nat) (h : nib (t.getD idx 0) j = 15) :
    incrementAt t idx j = (t, false) := by
  show (if nib (t.getD idx 0) j ≠ 15 then (t.setIfInBounds idx (t.getD idx 0 + 16 ^ j), true)
      else (t, false)) = _
  rw [if_neg (fun hh => hh h)]

theorem incrementAt_size (t : Array Nat) (idx j : Nat) :
    (incrementAt t idx j).1.size = t.size := by
  by_cases h : nib (t.getD idx 0) j = 15
  · rw [incrementAt_neg _ _ _ h]
  · rw [incrementAt_pos _ _ _ h]; exact Array.size_setIfInBounds

theorem incrementAt_added (t : Array Nat) (idx j : Nat) :
    (incrementAt t idx j).2 = true ↔ cntAt t idx j ≠ 15 := by
  unfold cntAt
  by_cases h : nib (t.getD idx 0) j = 15
  · rw [incrementAt_neg _ _ _ h]
    exact ⟨fun hh => Bool.noConfusion hh, fun hh => absurd h hh⟩
  · rw [incrementAt_pos _ _ _ h]
    exact ⟨fun _ => h, fun _ => rfl⟩

theorem incrementAt_wordsOK (t : Array Nat) (idx j : Nat) (hj : j < 16) (ht : WordsOK t) :
    WordsOK (incrementAt t idx j).1 := by
  by_cases h : nib (t.getD idx 0) j = 15
  · rw [incrementAt_neg _ _ _ h]; exact ht
  · rw [incrementAt_pos _ _ _ h]
    intro i
    show (t.setIfInBounds idx (t.getD idx 0 + 16 ^ j)).getD i 0 < 16 ^ 16
    rw [getD_setIfInBounds]
    split
    · exact add_pow_lt _ _ (ht idx) hj h
    · exact ht i

theorem incrementAt_cnt (t : Array Nat) (idx j x y : Nat) (hidx : idx < t.size) :
    cntAt (incrementAt t idx j).1 x y
      = if x = idx ∧ y = j then satInc (cntAt t x y) else cntAt t x y := by
  by_cases h : nib (t.getD idx 0) j = 15
  · rw [incrementAt_neg _ _ _ h]
    show cntAt t x y = _
    split
    · rename_i hxy
      obtain ⟨rfl, rfl⟩ := hxy
      unfold cntAt satInc; rw [h]; rfl
    · rfl
  · rw [incrementAt_pos _ _ _ h]
    show nib ((t.setIfInBounds idx (t.getD idx 0 + 16 ^ j)).getD x 0) y = _
    rw [getD_setIfInBounds]
    unfold cntAt
    by_cases hx : idx = x
    · subst hx
      rw [if_pos ⟨rfl, hidx⟩]
      by_cases hy : y = j
      · subst hy
        rw [if_pos ⟨rfl, rfl⟩, nib_add_pow_self _ _ h]
        have := nib_lt (t.getD idx 0) y
        unfold satInc
        omega
      · rw [if_neg (fun hh => hy hh.2)]
        exact nib_add_pow_ne _ _ _ h hy
    · rw [if_neg (fun hh => hx hh.1), if_neg (fun hh => hx hh.1.symm)]

theorem incrementAt_sum (t : Array Nat) (idx j : Nat) :
    tableSum (incrementAt t idx j).1 ≤ tableSum t + (incrementAt t idx j).2.toNat := by
  by_cases h : nib (t.getD idx 0) j = 15
  · rw [incrementAt_neg _ _ _ h]; exact Nat.le_add_right _ _
  · rw [incrementAt_pos _ _ _ h]
    show sumBy wordSum (t.setIfInBounds idx (t.getD idx 0 + 16 ^ j)) ≤ sumBy wordSum t + 1
    by_cases hidx : idx < t.size
    · have := sumBy_setIfInBounds wordSum t idx (t.getD idx 0 + 16 ^ j) hidx
      have := wordSum_add_pow _ j h
      omega
    · rw [Array.setIfInBounds_eq_of_size_le (Nat.le_of_not_lt hidx)]
      exact Nat.le_add_right _ _

/-! ## Well-formedness, `ensureCapacity`, index bounds -/

/-- Well-formed sketch. The bounds on `mask` and `table.size` are the code's (`u32` capacity, table of
at most `2^30` words); `indexOf_le_mask` needs `mask < 2^64` for the round trip through `UInt64`. -/
def WF (s : Sketch) : Prop :=
  (∀ i, i < s.table.size → s.table.getD i 0 < 2 ^ 64) ∧
  (s.table.size = 0 ∨ s.mask + 1 = s.table.size) ∧
  s.mask < 2 ^ 32 ∧
  s.table.size ≤ 2 ^ 30

instance (s : Sketch) : Decidable (WF s) := by
  unfold WF; infer_instance

theorem WF.wordsOK {s : Sketch} (h : WF s) : WordsOK s.table := by
  intro i
  by_cases hi : i < s.table.size
  · rw [pow16_16]; exact h.1 i hi
  · have : s.table.getD i 0 = 0 := by simp [Array.getD, hi]
    rw [this]; exact pow16_pos 16

theorem wf_of_parts {s : Sketch} (h1 : WordsOK s.table)
    (h2 : s.table.size = 0 ∨ s.mask + 1 = s.table.size) (h3 : s.mask < 2 ^ 32)
    (h4 : s.table.size ≤ 2 ^ 30) : WF s :=
  ⟨fun i _ => by rw [← pow16_16]; exact h1 i, h2, h3, h4⟩

theorem wf_default : WF ({} : Sketch) := by decide

theorem indexOf_congr {s s' : Sketch} (h : s'.mask = s.mask) (hash : UInt64) (i : Nat) :
    indexOf s' hash i = indexOf s hash i := by
  unfold indexOf; rw [h]

theorem indexOf_le_mask (s : Sketch) (hash : UInt64) (i : Nat) (hm : s.mask < 2 ^ 64) :
    indexOf s hash i ≤ s.mask := by
  unfold indexOf
  simp only [UInt64.toNat_and]
  have : s.mask.toUInt64.toNat = s.mask := by
    show (UInt64.ofNat s.mask).toNat = _
    rw [UInt64.toNat_ofNat']; omega
  rw [this]; exact Nat.and_le_right

theorem indexOf_lt {s : Sketch} (h : WF s) (hne : s.table.size ≠ 0) (hash : UInt64) (i : Nat) :
    indexOf s hash i < s.table.size := by
  have h2 := h.2.1
  have h3 := h.2.2.1
  have := indexOf_le_mask s hash i (by omega)
  omega

theorem start_le (hash : UInt64) : start hash ≤ 12 := by
  unfold start; omega

/-! ### `nextPow2` and `ensureCapacity` -/

theorem nextPow2Go_spec (n k fuel a : Nat) (hak : a ≤ k) (hn : n ≤ 2 ^ k) :
    ∃ b, b ≤ k ∧ nextPow2Go n fuel (2 ^ a) = 2 ^ b := by
  induction fuel generalizing a with
  | zero => exact ⟨a, hak, rfl⟩
  | succ fuel ih =>
    unfold nextPow2Go
    split
    · exact ⟨a, hak, rfl⟩
    · rename_i hlt
      have hlt' : 2 ^ a < 2 ^ k := by omega
      have hak' : a < k := (Nat.pow_lt_pow_iff_right (by decide)).1 hlt'
      have := ih (a + 1) hak'
      rwa [Nat.pow_succ, Nat.mul_comm] at this

theorem nextPow2_spec (n k : Nat) (hn : n ≤ 2 ^ k) : ∃ b, b ≤ k ∧ nextPow2 n = 2 ^ b := by
  have := nextPow2Go_spec n k 32 0 (Nat.zero_le _) hn
  simpa [nextPow2] using this

theorem nextPow2_le (n k : Nat) (hn : n ≤ 2 ^ k) : nextPow2 n ≤ 2 ^ k := by
  obtain ⟨b, hb, e⟩ := nextPow2_spec n k hn
  rw [e]; exact Nat.pow_le_pow_right (by decide) hb

theorem nextPow2_pos (n : Nat) (hn : n ≤ 2 ^ 30) : 0 < nextPow2 n := by
  obtain ⟨b, _, e⟩ := nextPow2_spec n 30 hn
  rw [e]; exact Nat.pow_pos (by decide)

def tableSizeFor (cap : Nat) : Nat :=
  if min cap (2 ^ Gen.SKETCH_MAX_TABLE_POW) = 0 then 1
  else nextPow2 (min cap (2 ^ Gen.SKETCH_MAX_TABLE_POW))

theorem tableSizeFor_le_of (cap k : Nat) (h : min cap (2 ^ Gen.SKETCH_MAX_TABLE_POW) ≤ 2 ^ k) :
    tableSizeFor cap ≤ 2 ^ k := by
  unfold tableSizeFor
  split
  · exact Nat.pow_pos (by decide)
  · exact nextPow2_le _ _ h

theorem tableSizeFor_le (cap k : Nat) (hcap : cap ≤ 2 ^ k) : tableSizeFor cap ≤ 2 ^ k :=
  tableSizeFor_le_of cap k (Nat.le_trans (Nat.min_le_left _ _) hcap)

theorem tableSizeFor_le_max (cap : Nat) : tableSizeFor cap ≤ 2 ^ 30 :=
  tableSizeFor_le_of cap 30 (Nat.min_le_right _ _)

theorem tableSizeFor_pos (cap : Nat) : 0 < tableSizeFor cap := by
  unfold tableSizeFor
  split
  · decide
  · apply nextPow2_pos
    exact Nat.min_le_right _ _

theorem ensureCapacity_eq (s : Sketch) (cap : Nat) :
    s.ensureCapacity cap =
      if s.table.size ≥ tableSizeFor cap then s
      else { s with
        table := Array.replicate (tableSizeFor cap) 0
        mask := tableSizeFor cap - 1
        sampleSize := if cap = 0 then Gen.SKETCH_ZERO_CAP_SAMPLE
          else min (min (min cap (2 ^ Gen.SKETCH_MAX_TABLE_POW) * Gen.SKETCH_SAMPLE_FACTOR)
                 U32_MAX) 2147483647 } := rfl

theorem wf_ensureCapacity (s : Sketch) (cap : Nat) (h : WF s) : WF (s.ensureCapacity cap) := by
  rw [ensureCapacity_eq]
  split
  · exact h
  · have h1 := tableSizeFor_le_max cap
    have h2 := tableSizeFor_pos cap
    apply wf_of_parts
    · intro i; simp only [getD_replicate_zero]; exact pow16_pos 16
    · right; simp only [Array.size_replicate]; omega
    · show tableSizeFor cap - 1 < 2 ^ 32
      omega
    · simpa using h1

def init (cap : Nat) : Sketch := ({} : Sketch).ensureCapacity cap

/-- The literals are `Gen.SKETCH_ZERO_CAP_SAMPLE`, `Gen.SKETCH_MAX_TABLE_POW` and
`Gen.SKETCH_SAMPLE_FACTOR`, written out so that no proof has to unfold them. -/
theorem init_eq (cap : Nat) :
    init cap =
      { sampleSize := if cap = 0 then 10 else min (min (min cap (2 ^ 30) * 10) U32_MAX) 2147483647
        mask := tableSizeFor cap - 1
        table := Array.replicate (tableSizeFor cap) 0
        size := 0 } := by
  have := tableSizeFor_pos cap
  unfold init
  rw [ensureCapacity_eq]
  have : ¬ (({} : Sketch).table.size ≥ tableSizeFor cap) := by
    show ¬ (0 ≥ tableSizeFor cap); omega
  rw [if_neg this]
  rfl

theorem wf_init (cap : Nat) : WF (init cap) := wf_ensureCapacity _ _ wf_default

theorem init_table_size (cap : Nat) : (init cap).table.size = tableSizeFor cap := by
  rw [init_eq]; simp

theorem init_table_ne (cap : Nat) : (init cap).table.size ≠ 0 := by
  have := tableSizeFor_pos cap
  rw [init_table_size]; omega

theorem init_sampleSize (cap : Nat) :
    10 ≤ (init cap).sampleSize ∧ (init cap).sampleSize ≤ 2147483647 := by
  rw [init_eq]
  show 10 ≤ (if cap = 0 then 10 else min (min (min cap (2 ^ 30) * 10) U32_MAX) 2147483647) ∧
    (if cap = 0 then 10 else min (min (min cap (2 ^ 30) * 10) U32_MAX) 2147483647) ≤ 2147483647
  unfold U32_MAX
  split <;> omega

/-! ## One increment = `bump` (four `incrementAt`) followed, possibly, by an aging step -/

/-- `increment` with the counter update, the aging step, the index function and the start
offset abstracted. Written with `increment.match_1`, the matcher the compiler generated for the
`let (t, a) := …` of `Sketch.increment`: that is what makes `increment_eq_incGen` hold by `rfl`. -/
def incGen (inc : Array Nat → Nat → Nat → Array Nat × Bool) (rst : Sketch → Except Fault Sketch)
    (idx : Nat → Nat) (st : Nat) (s : Sketch) : Except Fault Sketch :=
  if s.table.size = 0 then .ok s
  else
    increment.match_1 (fun _ => Except Fault Sketch) (inc s.table (idx 0) (st + 0)) fun t a0 =>
    increment.match_1 (fun _ => Except Fault Sketch) (inc t (idx 1) (st + 1)) fun t a1 =>
    increment.match_1 (fun _ => Except Fault Sketch) (inc t (idx 2) (st + 2)) fun t a2 =>
    increment.match_1 (fun _ => Except Fault Sketch) (inc t (idx 3) (st + 3)) fun t a3 =>
    if a0 || a1 || a2 || a3 then
      if s.size + 1 > U32_MAX then .error .overflow
      else
        let s' := { s with table := t, size := s.size + 1 }
        if s'.size ≥ s'.sampleSize then rst s' else .ok s'
    else .ok { s with table := t }

theorem increment_eq_incGen (legacy : Bool) (s : Sketch) (hash : UInt64) :
    increment legacy s hash
      = incGen incrementAt (reset legacy) (s.indexOf hash) (start hash) s := rfl

def bumpTableGen (inc : Array Nat → Nat → Nat → Array Nat × Bool) (idx : Nat → Nat) (st : Nat)
    (t : Array Nat) : Array Nat × Bool :=
  let r0 := inc t (idx 0) (st + 0)
  let r1 := inc r0.1 (idx 1) (st + 1)
  let r2 := inc r1.1 (idx 2) (st + 2)
  let r3 := inc r2.1 (idx 3) (st + 3)
  (r3.1, r0.2 || r1.2 || r2.2 || r3.2)

theorem incGen_eq (inc : Array Nat → Nat → Nat → Array Nat × Bool)
    (rst : Sketch → Except Fault Sketch) (idx : Nat → Nat) (st : Nat) (s : Sketch) :
    incGen inc rst idx st s =
      if s.table.size = 0 then .ok s
      else if (bumpTableGen inc idx st s.table).2 = true then
        if s.size + 1 > U32_MAX then .error .overflow
        else if s.size + 1 ≥ s.sampleSize then
          rst { s with table := (bumpTableGen inc idx st s.table).1, size := s.size + 1 }
        else .ok { s with table := (bumpTableGen inc idx st s.table).1, size := s.size + 1 }
      else .ok { s with table := (bumpTableGen inc idx st s.table).1 } := by
  unfold incGen bumpTableGen
  generalize inc s.table (idx 0) (st + 0) = r0
  obtain ⟨t0, a0⟩ := r0
  generalize inc t0 (idx 1) (st + 1) = r1
  obtain ⟨t1, a1⟩ := r1
  generalize inc t1 (idx 2) (st + 2) = r2
  obtain ⟨t2, a2⟩ := r2
  generalize inc t2 (idx 3) (st + 3) = r3
  obtain ⟨t3, a3⟩ := r3
  rfl

def bumpTable (s : Sketch) (hash : UInt64) : Array Nat × Bool :=
  bumpTableGen incrementAt (s.indexOf hash) (start hash) s.table

/-- The state after the counters of `hash` were incremented and `size` was bumped, *before*
the aging step that this increment may trigger. -/
def bump (s : Sketch) (hash : UInt64) : Sketch :=
  { s with
    table := (bumpTable s hash).1
    size := if (bumpTable s hash).2 = true then s.size + 1 else s.size }

theorem bump_of_added (s : Sketch) (hash : UInt64) (h : (bumpTable s hash).2 = true) :
    bump s hash = { s with table := (bumpTable s hash).1, size := s.size + 1 } := by
  unfold bump; rw [if_pos h]

theorem bump_of_not_added (s : Sketch) (hash : UInt64) (h : ¬ (bumpTable s hash).2 = true) :
    bump s hash = { s with table := (bumpTable s hash).1 } := by
  unfold bump; rw [if_neg h]

/-- One `increment` that also reports whether it ran the aging step (`reset`). -/
def incrStep (s : Sketch) (hash : UInt64) : Except Fault (Sketch × Bool) :=
  if s.table.size = 0 then .ok (s, false)
  else if (bumpTable s hash).2 = true then
    if s.size + 1 > U32_MAX then .error .overflow
    else if s.size + 1 ≥ s.sampleSize then
      match reset false (bump s hash) with
      | .ok s' => .ok (s', true)
      | .error e => .error e
    else .ok (bump s hash, false)
  else .ok (bump s hash, false)

theorem increment_eq_bump (legacy : Bool) (s : Sketch) (hash : UInt64) :
    increment legacy s hash =
      if s.table.size = 0 then .ok s
      else if (bumpTable s hash).2 = true then
        if s.size + 1 > U32_MAX then .error .overflow
        else if s.size + 1 ≥ s.sampleSize then reset legacy (bump s hash)
        else .ok (bump s hash)
      else .ok (bump s hash) := by
  rw [increment_eq_incGen, incGen_eq]
  have e : bumpTableGen incrementAt (s.indexOf hash) (start hash) s.table = bumpTable s hash := rfl
  rw [e]
  by_cases ha : (bumpTable s hash).2 = true
  · rw [bump_of_added s hash ha, if_pos ha, if_pos ha]
  · rw [bump_of_not_added s hash ha, if_neg ha, if_neg ha]

theorem increment_eq_incrStep (s : Sketch) (hash : UInt64) :
    increment false s hash = (incrStep s hash).map Prod.fst := by
  rw [increment_eq_bump]
  unfold incrStep
  generalize reset false (bump s hash) = r
  generalize bump s hash = b
  generalize (bumpTable s hash).2 = a
  simp only [apply_ite (Except.map Prod.fst)]
  cases r <;> rfl

theorem increment_of_incrStep {s s' : Sketch} {r : Bool} {hash : UInt64}
    (h : incrStep s hash = .ok (s', r)) : increment false s hash = .ok s' := by
  rw [increment_eq_incrStep, h]; rfl

/-! ### The effect of the four counter updates -/

def hitsGen (idx : Nat → Nat) (st x y : Nat) : Prop := ∃ i, i < 4 ∧ x = idx i ∧ y = st + i

instance (idx : Nat → Nat) (st x y : Nat) : Decidable (hitsGen idx st x y) := by
  unfold hitsGen; infer_instance

theorem bumpGen_size (idx : Nat → Nat) (st : Nat) (t : Array Nat) :
    (bumpTableGen incrementAt idx st t).1.size = t.size := by
  unfold bumpTableGen
  simp only [incrementAt_size]

theorem bumpGen_wordsOK (idx : Nat → Nat) (st : Nat) (t : Array Nat) (hst : st ≤ 12)
    (ht : WordsOK t) : WordsOK (bumpTableGen incrementAt idx st t).1 := by
  unfold bumpTableGen
  exact incrementAt_wordsOK _ _ _ (by omega) <| incrementAt_wordsOK _ _ _ (by omega) <|
    incrementAt_wordsOK _ _ _ (by omega) <| incrementAt_wordsOK _ _ _ (by omega) ht

theorem bumpGen_cnt (idx : Nat → Nat) (st : Nat) (t : Array Nat) (x y : Nat)
    (hidx : ∀ i, idx i < t.size) :
    cntAt (bumpTableGen incrementAt idx st t).1 x y
      = if hitsGen idx st x y then satInc (cntAt t x y) else cntAt t x y := by
  unfold bumpTableGen
  simp only []
  rw [incrementAt_cnt _ _ _ _ _ (by simp only [incrementAt_size]; exact hidx 3),
    incrementAt_cnt _ _ _ _ _ (by simp only [incrementAt_size]; exact hidx 2),
    incrementAt_cnt _ _ _ _ _ (by simp only [incrementAt_size]; exact hidx 1),
    incrementAt_cnt _ _ _ _ _ (hidx 0)]
  by_cases h : hitsGen idx st x y
  · rw [if_pos h]
    obtain ⟨i, hi, rfl, rfl⟩ := h
    have : i = 0 ∨ i = 1 ∨ i = 2 ∨ i = 3 := by omega
    rcases this with rfl | rfl | rfl | rfl <;> simp
  · rw [if_neg h]
    have h0 : ¬ (x = idx 0 ∧ y = st + 0) := fun hh => h ⟨0, by omega, hh.1, hh.2⟩
    have h1 : ¬ (x = idx 1 ∧ y = st + 1) := fun hh => h ⟨1, by omega, hh.1, hh.2⟩
    have h2 : ¬ (x = idx 2 ∧ y = st + 2) := fun hh => h ⟨2, by omega, hh.1, hh.2⟩
    have h3 : ¬ (x = idx 3 ∧ y = st + 3) := fun hh => h ⟨3, by omega, hh.1, hh.2⟩
    rw [if_neg h3, if_neg h2, if_neg h1, if_neg h0]

theorem bool4 (b0 b1 b2 b3 : Bool) :
    b0.toNat + b1.toNat + b2.toNat + b3.toNat ≤ 4 * (b0 || b1 || b2 || b3).toNat := by
  revert b0 b1 b2 b3; decide

theorem bumpGen_sum (idx : Nat → Nat) (st : Nat) (t : Array Nat) :
    tableSum (bumpTableGen incrementAt idx st t).1
      ≤ tableSum t + 4 * (bumpTableGen incrementAt idx st t).2.toNat := by
  unfold bumpTableGen
  simp only []
  have e0 := incrementAt_sum t (idx 0) (st + 0)
  generalize incrementAt t (idx 0) (st + 0) = r0 at e0 ⊢
  have e1 := incrementAt_sum r0.1 (idx 1) (st + 1)
  generalize incrementAt r0.1 (idx 1) (st + 1) = r1 at e1 ⊢
  have e2 := incrementAt_sum r1.1 (idx 2) (st + 2)
  generalize incrementAt r1.1 (idx 2) (st + 2) = r2 at e2 ⊢
  have e3 := incrementAt_sum r2.1 (idx 3) (st + 3)
  generalize incrementAt r2.1 (idx 3) (st + 3) = r3 at e3 ⊢
  have := bool4 r0.2 r1.2 r2.2 r3.2
  omega

/-! ### Sketch-level statements about `bump` -/

/-- Counter position `(x, y)` is one of the four positions of `hash`. -/
def hits (s : Sketch) (hash : UInt64) (x y : Nat) : Prop :=
  hitsGen (s.indexOf hash) (start hash) x y

instance (s : Sketch) (hash : UInt64) (x y : Nat) : Decidable (hits s hash x y) := by
  unfold hits; infer_instance

theorem hits_congr {s s' : Sketch} (h : s'.mask = s.mask) (hash : UInt64) (x y : Nat) :
    hits s' hash x y ↔ hits s hash x y := by
  unfold hits hitsGen
  simp only [indexOf_congr h]

theorem hits_self (s : Sketch) (hash : UInt64) (i : Nat) (hi : i < 4) :
    hits s hash (s.indexOf hash i) (start hash + i) := ⟨i, hi, rfl, rfl⟩

/-! Projections of explicit records, with abstract fields: the kernel must never be asked to
compare a concrete table expression with `s.table` by unfolding. -/
theorem mk_sampleSize (a b : Nat) (c : Array Nat) (d : Nat) : (Sketch.mk a b c d).sampleSize = a := rfl
theorem mk_mask (a b : Nat) (c : Array Nat) (d : Nat) : (Sketch.mk a b c d).mask = b := rfl
theorem mk_table (a b : Nat) (c : Array Nat) (d : Nat) : (Sketch.mk a b c d).table = c := rfl
theorem mk_size (a b : Nat) (c : Array Nat) (d : Nat) : (Sketch.mk a b c d).size = d := rfl

theorem bump_mask (s : Sketch) (hash : UInt64) : (bump s hash).mask = s.mask := by
  unfold bump; exact mk_mask _ _ _ _
theorem bump_sampleSize (s : Sketch) (hash : UInt64) :
    (bump s hash).sampleSize = s.sampleSize := by
  unfold bump; exact mk_sampleSize _ _ _ _
theorem bump_table (s : Sketch) (hash : UInt64) : (bump s hash).table = (bumpTable s hash).1 := by
  unfold bump; exact mk_table _ _ _ _
theorem bump_size (s : Sketch) (hash : UInt64) :
    (bump s hash).size = if (bumpTable s hash).2 = true then s.size + 1 else s.size := by
  unfold bump; exact mk_size _ _ _ _

theorem bump_mk (a b : Nat) (t : Array Nat) (d : Nat) (hash : UInt64) (x : Array Nat) (y : Bool)
    (hb : bumpTable (Sketch.mk a b t d) hash = (x, y)) :
    bump (Sketch.mk a b t d) hash = Sketch.mk a b x (if y = true then d + 1 else d) := by
  unfold bump
  rw [hb]

theorem bump_table_size (s : Sketch) (hash : UInt64) :
    (bump s hash).table.size = s.table.size := by
  rw [bump_table]; exact bumpGen_size (s.indexOf hash) (start hash) s.table

theorem wf_bump {s : Sketch} (h : WF s) (hash : UInt64) : WF (bump s hash) := by
  apply wf_of_parts
  · rw [bump_table]
    exact bumpGen_wordsOK (s.indexOf hash) (start hash) s.table (start_le hash) h.wordsOK
  · rw [bump_table_size, bump_mask]; exact h.2.1
  · rw [bump_mask]; exact h.2.2.1
  · rw [bump_table_size]; exact h.2.2.2

theorem bump_cnt {s : Sketch} (h : WF s) (hne : s.table.size ≠ 0) (hash : UInt64) (x y : Nat) :
    cntAt (bump s hash).table x y
      = if hits s hash x y then satInc (cntAt s.table x y) else cntAt s.table x y := by
  rw [bump_table]
  exact bumpGen_cnt (s.indexOf hash) (start hash) s.table x y (fun i => indexOf_lt h hne hash i)

theorem bump_sum (s : Sketch) (hash : UInt64) :
    tableSum (bump s hash).table ≤ tableSum s.table + 4 * (bumpTable s hash).2.toNat := by
  rw [bump_table]
  exact bumpGen_sum (s.indexOf hash) (start hash) s.table

/-- `bump` keeps the counter sum within `4 * size + 3`: at most four counters are added, and
then `size` grows by one. -/
theorem bump_sum_le {s : Sketch} (hash : UInt64) (hc : tableSum s.table ≤ 4 * s.size + 3) :
    tableSum (bump s hash).table ≤ 4 * (bump s hash).size + 3 := by
  have h1 := bump_sum s hash
  rw [bump_size]
  generalize tableSum (bump s hash).table = A at h1 ⊢
  generalize tableSum s.table = C at h1 hc
  generalize (bumpTable s hash).2 = a at h1 ⊢
  cases a
  · exact Nat.le_trans h1 hc
  · show A ≤ 4 * (s.size + 1) + 3
    have : C + 4 * true.toNat = C + 4 := rfl
    omega

theorem bump_cnt_ge {s : Sketch} (h : WF s) (hne : s.table.size ≠ 0) (hash : UInt64) (x y : Nat) :
    cntAt s.table x y ≤ cntAt (bump s hash).table x y := by
  rw [bump_cnt h hne]
  split
  · exact le_satInc (cntAt_le s.table x y)
  · exact Nat.le_refl _

/-! ### `frequency` through `cntAt` -/

theorem counterAt_eq (s : Sketch) (hash : UInt64) (i : Nat) :
    counterAt s hash i = cntAt s.table (s.indexOf hash i) (start hash + i) := rfl

theorem frequency_eq (s : Sketch) (hash : UInt64) (hne : s.table.size ≠ 0) :
    frequency s hash =
      min (min (counterAt s hash 0) (counterAt s hash 1))
          (min (counterAt s hash 2) (counterAt s hash 3)) := by
  unfold frequency; rw [if_neg hne]

theorem counterAt_le (s : Sketch) (hash : UInt64) (i : Nat) : counterAt s hash i ≤ 15 := by
  rw [counterAt_eq]; exact cntAt_le _ _ _

theorem frequency_le (s : Sketch) (hash : UInt64) : frequency s hash ≤ 15 := by
  unfold frequency
  split
  · exact Nat.zero_le _
  · exact Nat.le_trans (Nat.le_trans (Nat.min_le_left _ _) (Nat.min_le_left _ _))
      (counterAt_le s hash 0)

theorem le_frequency_iff (s : Sketch) (hash : UInt64) (hne : s.table.size ≠ 0) (k : Nat) :
    k ≤ frequency s hash ↔ ∀ i, i < 4 → k ≤ counterAt s hash i := by
  rw [frequency_eq s hash hne]
  simp only [Nat.le_min]
  constructor
  · rintro ⟨⟨h0, h1⟩, h2, h3⟩ i hi
    have : i = 0 ∨ i = 1 ∨ i = 2 ∨ i = 3 := by omega
    rcases this with rfl | rfl | rfl | rfl
    · exact h0
    · exact h1
    · exact h2
    · exact h3
  · intro h
    exact ⟨⟨h 0 (by decide), h 1 (by decide)⟩, h 2 (by decide), h 3 (by decide)⟩

theorem frequency_le_counterAt (s : Sketch) (hash : UInt64) (hne : s.table.size ≠ 0) (i : Nat)
    (hi : i < 4) : frequency s hash ≤ counterAt s hash i :=
  (le_frequency_iff s hash hne _).1 (Nat.le_refl _) i hi

theorem frequency_mono {s s' : Sketch} (hm : s'.mask = s.mask) (hne : s.table.size ≠ 0)
    (hne' : s'.table.size ≠ 0) (hc : ∀ x y, cntAt s.table x y ≤ cntAt s'.table x y)
    (hash : UInt64) : frequency s hash ≤ frequency s' hash := by
  rw [le_frequency_iff s' hash hne']
  intro i hi
  have h1 := frequency_le_counterAt s hash hne i hi
  rw [counterAt_eq] at h1 ⊢
  rw [indexOf_congr hm]
  exact Nat.le_trans h1 (hc _ _)

theorem half_min (a b : Nat) : min (a / 2) (b / 2) = min a b / 2 := by
  rcases Nat.le_total a b with h | h
  · rw [Nat.min_eq_left h, Nat.min_eq_left (Nat.div_le_div_right h)]
  · rw [Nat.min_eq_right h, Nat.min_eq_right (Nat.div_le_div_right h)]

/-- `min` commutes with floor-halving. -/
theorem frequency_halved {s s' : Sketch} (hm : s'.mask = s.mask)
    (hsz : s'.table.size = s.table.size)
    (hc : ∀ x y, y < 16 → cntAt s'.table x y = cntAt s.table x y / 2)
    (hash : UInt64) : frequency s' hash = frequency s hash / 2 := by
  by_cases hne : s.table.size = 0
  · unfold frequency; rw [if_pos hne, if_pos (hsz.trans hne)]
  · have e : ∀ i, i < 4 → counterAt s' hash i = counterAt s hash i / 2 := by
      intro i hi
      have := start_le hash
      rw [counterAt_eq, counterAt_eq, indexOf_congr hm, hc _ _ (by omega)]
    rw [frequency_eq s hash hne, frequency_eq s' hash (by rw [hsz]; exact hne),
      e 0 (by omega), e 1 (by omega), e 2 (by omega), e 3 (by omega),
      half_min, half_min, half_min]

/-! ### `reset` -/

theorem reset_false_eq (s : Sketch) :
    reset false s =
      if oddTotal s.table > U32_MAX then .error .overflow
      else if s.size < oddTotal s.table / 4 then .error .overflow
      else .ok { s with table := s.table.map halveWord,
                        size := (s.size - oddTotal s.table / 4) / 2 } := by
  unfold reset oddTotal
  rw [foldl_eq_sumBy]
  rfl

theorem reset_true_eq (s : Sketch) :
    reset true s =
      if oddTotal s.table > U32_MAX then .error .overflow
      else if s.size / 2 < oddTotal s.table / 4 then .error .overflow
      else .ok { s with table := s.table.map halveWord,
                        size := s.size / 2 - oddTotal s.table / 4 } := by
  unfold reset oddTotal
  rw [foldl_eq_sumBy]
  rfl

theorem reset_ok {s s' : Sketch} (h : reset false s = .ok s') :
    s'.table = s.table.map halveWord ∧ s'.mask = s.mask ∧ s'.sampleSize = s.sampleSize ∧
      s'.size = (s.size - oddTotal s.table / 4) / 2 ∧ oddTotal s.table ≤ U32_MAX ∧
      oddTotal s.table / 4 ≤ s.size := by
  rw [reset_false_eq] at h
  split at h
  · cases h
  · split at h
    · cases h
    · cases h
      exact ⟨mk_table _ _ _ _, mk_mask _ _ _ _, mk_sampleSize _ _ _ _, mk_size _ _ _ _,
        by omega, by omega⟩

theorem wf_reset {s s' : Sketch} (hwf : WF s) (h : reset false s = .ok s') : WF s' := by
  obtain ⟨ht, hm, _, _, _, _⟩ := reset_ok h
  apply wf_of_parts
  · rw [ht]; exact wordsOK_map_halve _
  · rw [ht, hm, Array.size_map]; exact hwf.2.1
  · rw [hm]; exact hwf.2.2.1
  · rw [ht, Array.size_map]; exact hwf.2.2.2

theorem reset_cnt {s s' : Sketch} (h : reset false s = .ok s') (x y : Nat) (hy : y < 16) :
    cntAt s'.table x y = cntAt s.table x y / 2 := by
  rw [(reset_ok h).1]; exact cntAt_map_halve _ _ _ hy

theorem reset_frequency {s s' : Sketch} (h : reset false s = .ok s') (hash : UInt64) :
    frequency s' hash = frequency s hash / 2 := by
  obtain ⟨ht, hm, _⟩ := reset_ok h
  exact frequency_halved hm (by rw [ht, Array.size_map]) (fun x y hy => reset_cnt h x y hy) hash

/-! ## Case analysis of one step; the no-overflow invariant -/

theorem incrStep_empty {s : Sketch} (hash : UInt64) (h0 : s.table.size = 0) :
    incrStep s hash = .ok (s, false) := by
  unfold incrStep; rw [if_pos h0]

theorem incrStep_cases {s s' : Sketch} {r : Bool} {hash : UInt64} (hne : s.table.size ≠ 0)
    (h : incrStep s hash = .ok (s', r)) :
    (r = false ∧ s' = bump s hash ∧ ((bumpTable s hash).2 = true → s.size + 1 < s.sampleSize)) ∨
    (r = true ∧ reset false (bump s hash) = .ok s' ∧ (bumpTable s hash).2 = true ∧
      s.sampleSize ≤ s.size + 1) := by
  unfold incrStep at h
  rw [if_neg hne] at h
  generalize hres : reset false (bump s hash) = res at h
  generalize bump s hash = b at h hres ⊢
  generalize (bumpTable s hash).2 = a at h ⊢
  by_cases ha : a = true
  · rw [if_pos ha] at h
    by_cases ho : s.size + 1 > U32_MAX
    · rw [if_pos ho] at h; cases h
    · rw [if_neg ho] at h
      by_cases hs : s.size + 1 ≥ s.sampleSize
      · rw [if_pos hs] at h
        cases res with
        | error e => cases h
        | ok s2 =>
          cases h
          exact Or.inr ⟨rfl, rfl, ha, hs⟩
      · rw [if_neg hs] at h
        cases h
        exact Or.inl ⟨rfl, rfl, fun _ => by omega⟩
  · rw [if_neg ha] at h
    cases h
    exact Or.inl ⟨rfl, rfl, fun hh => absurd hh ha⟩

/-- The no-overflow invariant: the counters sum to at most `4 * size + 3`, and
`size < sampleSize ≤ i32::MAX` between increments. -/
def CInv (s : Sketch) : Prop :=
  tableSum s.table ≤ 4 * s.size + 3 ∧ s.size < s.sampleSize ∧ s.sampleSize ≤ 2147483647

/-- Arithmetic heart of the repair: Caffeine's formula keeps `Σ ≤ 4·size + 3`. -/
theorem reset_arith (sumB sumR count n : Nat) (h1 : 2 * sumR + count = sumB)
    (h2 : sumB ≤ 4 * n + 3) : sumR ≤ 4 * ((n - count / 4) / 2) + 3 ∧ count / 4 ≤ n := by
  omega

theorem cinv_step {s s' : Sketch} {r : Bool} {hash : UInt64} (hc : CInv s)
    (h : incrStep s hash = .ok (s', r)) : CInv s' := by
  by_cases hne : s.table.size = 0
  · rw [incrStep_empty hash hne] at h
    cases h; exact hc
  obtain ⟨c1, c2, c3⟩ := hc
  have b1 := bump_sum_le hash c1
  have bz := bump_size s hash
  have bs := bump_sampleSize s hash
  rcases incrStep_cases hne h with ⟨_, rfl, hlt⟩ | ⟨_, hres, ha, hge⟩
  · refine ⟨b1, ?_, by rw [bs]; exact c3⟩
    rw [bs, bz]
    split
    · exact hlt (by assumption)
    · exact c2
  · obtain ⟨rt, _, rs, rz, _, _⟩ := reset_ok hres
    have ht := tableSum_map_halve (bump s hash).table
    rw [if_pos ha] at bz
    unfold CInv
    rw [rt, rs, rz, bs]
    generalize tableSum (Array.map halveWord (bump s hash).table) = R at *
    generalize oddTotal (bump s hash).table = K at *
    generalize tableSum (bump s hash).table = A at *
    generalize (bump s hash).size = B at *
    have := reset_arith A R K B ht b1
    exact ⟨this.1, by omega, c3⟩

theorem wf_step {s s' : Sketch} {r : Bool} {hash : UInt64} (hwf : WF s)
    (h : incrStep s hash = .ok (s', r)) : WF s' := by
  by_cases hne : s.table.size = 0
  · rw [incrStep_empty hash hne] at h
    cases h; exact hwf
  · rcases incrStep_cases hne h with ⟨_, rfl, _⟩ | ⟨_, hres, _, _⟩
    · exact wf_bump hwf hash
    · exact wf_reset (wf_bump hwf hash) hres

theorem wf_increment {s s' : Sketch} (hash : UInt64) (hwf : WF s)
    (h : increment false s hash = .ok s') : WF s' := by
  rw [increment_eq_incrStep] at h
  cases hr : incrStep s hash with
  | error e => rw [hr] at h; cases h
  | ok p =>
    rw [hr] at h
    cases h
    exact wf_step (r := p.2) hwf hr

theorem step_frame {s s' : Sketch} {r : Bool} {hash : UInt64}
    (h : incrStep s hash = .ok (s', r)) :
    s'.mask = s.mask ∧ s'.sampleSize = s.sampleSize ∧ s'.table.size = s.table.size := by
  by_cases hne : s.table.size = 0
  · rw [incrStep_empty hash hne] at h
    cases h; exact ⟨rfl, rfl, rfl⟩
  · rcases incrStep_cases hne h with ⟨_, rfl, _⟩ | ⟨_, hres, _, _⟩
    · exact ⟨bump_mask s hash, bump_sampleSize s hash, bump_table_size s hash⟩
    · obtain ⟨rt, rm, rs, _⟩ := reset_ok hres
      refine ⟨by rw [rm, bump_mask], by rw [rs, bump_sampleSize], ?_⟩
      rw [rt, Array.size_map, bump_table_size]

/-- Two of the three checks of an increment pass in every invariant state: `size + 1` fits
`u32`, and `count >> 2 ≤ size` in the aging step, since `count ≤ Σcounters ≤ 4·size + 3`. -/
theorem bump_checks {s : Sketch} (hc : CInv s) (hash : UInt64) :
    s.size + 1 ≤ U32_MAX ∧ oddTotal (bump s hash).table / 4 ≤ (bump s hash).size := by
  obtain ⟨c1, c2, c3⟩ := hc
  have b1 := bump_sum_le hash c1
  have k := oddTotal_le_tableSum (bump s hash).table
  generalize oddTotal (bump s hash).table = K at *
  generalize tableSum (bump s hash).table = A at *
  generalize (bump s hash).size = B at *
  unfold U32_MAX
  omega

/-- The third, `count ≤ u32::MAX`, follows from the table size below `2^28` words. -/
theorem oddTotal_bump_le {s : Sketch} (hsmall : s.table.size < 2 ^ 28) (hash : UInt64) :
    oddTotal (bump s hash).table ≤ U32_MAX := by
  have k := oddTotal_le_size (bump s hash).table
  rw [bump_table_size] at k
  unfold U32_MAX
  omega

theorem step_total {s : Sketch} (hc : CInv s) (hash : UInt64) :
    (∃ s' r, incrStep s hash = .ok (s', r)) ∨
    (incrStep s hash = .error .overflow ∧ U32_MAX < oddTotal (bump s hash).table ∧
      s.sampleSize ≤ s.size + 1) := by
  by_cases hne : s.table.size = 0
  · exact Or.inl ⟨_, _, incrStep_empty hash hne⟩
  obtain ⟨ho, n2⟩ := bump_checks hc hash
  unfold incrStep
  rw [if_neg hne]
  by_cases ha : (bumpTable s hash).2 = true
  · rw [if_pos ha, if_neg (Nat.not_lt.2 ho)]
    by_cases hs : s.size + 1 ≥ s.sampleSize
    · rw [if_pos hs, reset_false_eq]
      by_cases n1 : oddTotal (bump s hash).table > U32_MAX
      · rw [if_pos n1]
        exact Or.inr ⟨rfl, n1, hs⟩
      · rw [if_neg n1, if_neg (Nat.not_lt.2 n2)]
        exact Or.inl ⟨_, _, rfl⟩
    · rw [if_neg hs]; exact Or.inl ⟨_, _, rfl⟩
  · rw [if_neg ha]; exact Or.inl ⟨_, _, rfl⟩

theorem step_ok {s : Sketch} (hc : CInv s) (hsmall : s.table.size < 2 ^ 28) (hash : UInt64) :
    ∃ s' r, incrStep s hash = .ok (s', r) := by
  rcases step_total hc hash with h | ⟨_, h, _⟩
  · exact h
  · exact absurd (oddTotal_bump_le hsmall hash) (Nat.not_le.2 h)

/-! ## Runs with the ghost count -/

/-- The ghost: for every hash, the number of times it was recorded, saturating at 15,
floor-halved at every aging step. -/
abbrev Ghost := UInt64 → Nat

/-- Update of the ghost when `h` is recorded; `aged` tells whether this very increment ran the
aging step. -/
def ghostStep (g : Ghost) (h : UInt64) (aged : Bool) : Ghost :=
  fun x => if aged then (if x = h then satInc (g x) else g x) / 2
           else (if x = h then satInc (g x) else g x)

def stepG (st : Sketch × Ghost) (h : UInt64) : Except Fault (Sketch × Ghost) :=
  match incrStep st.1 h with
  | .ok p => .ok (p.1, ghostStep st.2 h p.2)
  | .error e => .error e

def runG : Sketch × Ghost → List UInt64 → Except Fault (Sketch × Ghost)
  | st, [] => .ok st
  | st, h :: hs =>
    match stepG st h with
    | .ok st' => runG st' hs
    | .error e => .error e

/-- `runG` without the ghost (`run_of_runG`); it is the `foldlM` of the model's `increment false`
(`run_eq_foldlM`), in the recursive form the inductions use. -/
def run : Sketch → List UInt64 → Except Fault Sketch
  | s, [] => .ok s
  | s, h :: hs =>
    match increment false s h with
    | .ok s' => run s' hs
    | .error e => .error e

theorem runG_nil (st : Sketch × Ghost) : runG st [] = .ok st := rfl

theorem runG_cons (st : Sketch × Ghost) (h : UInt64) (hs : List UInt64) :
    runG st (h :: hs) = match stepG st h with
      | .ok st' => runG st' hs
      | .error e => .error e := rfl

theorem run_nil (s : Sketch) : run s [] = .ok s := rfl

theorem run_cons (s : Sketch) (h : UInt64) (hs : List UInt64) :
    run s (h :: hs) = match increment false s h with
      | .ok s' => run s' hs
      | .error e => .error e := rfl

theorem run_eq_foldlM (s : Sketch) (hs : List UInt64) :
    run s hs = hs.foldlM (increment false) s := by
  induction hs generalizing s with
  | nil => rfl
  | cons h hs ih =>
    rw [List.foldlM_cons, run_cons]
    generalize increment false s h = r
    cases r with
    | error e => rfl
    | ok s' => exact ih s'

theorem run_of_runG (s : Sketch) (g : Ghost) (hs : List UInt64) :
    run s hs = match runG (s, g) hs with
      | .ok st => .ok st.1
      | .error e => .error e := by
  induction hs generalizing s g with
  | nil => rfl
  | cons h hs ih =>
    rw [run_cons, runG_cons]
    unfold stepG
    rw [increment_eq_incrStep]
    generalize incrStep s h = r
    cases r with
    | error e => rfl
    | ok p => exact ih p.1 _

theorem runG_append (st : Sketch × Ghost) (hs hs' : List UInt64) :
    runG st (hs ++ hs') = match runG st hs with
      | .ok st' => runG st' hs'
      | .error e => .error e := by
  induction hs generalizing st with
  | nil => rfl
  | cons h hs ih =>
    rw [List.cons_append, runG_cons, runG_cons]
    generalize stepG st h = r
    cases r with
    | error e => rfl
    | ok st' => exact ih st'

theorem runG_prefix_ok {st st' : Sketch × Ghost} {hs hs' : List UInt64}
    (h : runG st (hs ++ hs') = .ok st') : ∃ st1, runG st hs = .ok st1 ∧ runG st1 hs' = .ok st' := by
  rw [runG_append] at h
  generalize runG st hs = r at h
  cases r with
  | error e => cases h
  | ok st1 => exact ⟨st1, rfl, h⟩

theorem stepG_ok {s s' : Sketch} {g g' : Ghost} {h : UInt64}
    (hst : stepG (s, g) h = .ok (s', g')) :
    ∃ r, incrStep s h = .ok (s', r) ∧ g' = ghostStep g h r := by
  unfold stepG at hst
  generalize incrStep s h = res at hst
  cases res with
  | error e => cases hst
  | ok p =>
    obtain ⟨a, b⟩ := p
    cases hst
    exact ⟨b, rfl, rfl⟩

/-! ### Counters of a hash across `bump` and `reset` -/

theorem counterAt_bump {s : Sketch} (hwf : WF s) (hne : s.table.size ≠ 0) (h x : UInt64)
    (i : Nat) :
    counterAt (bump s h) x i =
      if hits s h (s.indexOf x i) (start x + i) then satInc (counterAt s x i)
      else counterAt s x i := by
  rw [counterAt_eq, counterAt_eq, indexOf_congr (bump_mask s h), bump_cnt hwf hne]

theorem counterAt_reset {s s' : Sketch} (h : reset false s = .ok s') (x : UInt64) (i : Nat)
    (hi : i < 4) : counterAt s' x i = counterAt s x i / 2 := by
  have hs := start_le x
  rw [counterAt_eq, counterAt_eq, indexOf_congr (reset_ok h).2.1,
    reset_cnt h _ _ (show start x + i < 16 by omega)]

/-- The invariant of runs started in `s0`, after the hashes `pre` were recorded. -/
structure RInv (s0 : Sketch) (pre : List UInt64) (s : Sketch) (g : Ghost) : Prop where
  wf : WF s
  ne : s.table.size ≠ 0
  cinv : CInv s
  mask : s.mask = s0.mask
  sample : s.sampleSize = s0.sampleSize
  tsize : s.table.size = s0.table.size
  lower : ∀ h i, i < 4 → g h ≤ counterAt s h i
  /-- a counter of `h` that no other recorded hash uses equals the ghost count of `h` -/
  exact : ∀ h i, i < 4 →
    (∀ h', h' ∈ pre → h' ≠ h → ¬ hits s0 h' (s0.indexOf h i) (start h + i)) →
    counterAt s h i = g h
  gle : ∀ h, g h ≤ 15

theorem rinv_step {s0 s s' : Sketch} {pre : List UInt64} {g g' : Ghost} {h : UInt64}
    (inv : RInv s0 pre s g) (hst : stepG (s, g) h = .ok (s', g')) :
    RInv s0 (pre ++ [h]) s' g' := by
  obtain ⟨r, hstep, rfl⟩ := stepG_ok hst
  obtain ⟨fm, fs, ft⟩ := step_frame hstep
  have hwf' := wf_step inv.wf hstep
  have hc' := cinv_step inv.cinv hstep
  -- the state between the counter updates and the aging step
  have lowerB : ∀ x i, i < 4 →
      (if x = h then satInc (g x) else g x) ≤ counterAt (bump s h) x i := by
    intro x i hi
    have l := inv.lower x i hi
    rw [counterAt_bump inv.wf inv.ne]
    by_cases hx : x = h
    · subst hx
      rw [if_pos rfl, if_pos (hits_self s x i hi)]
      exact satInc_mono l
    · rw [if_neg hx]
      split
      · exact Nat.le_trans l (le_satInc (counterAt_le s x i))
      · exact l
  have exactB : ∀ x i, i < 4 →
      (∀ h', h' ∈ pre ++ [h] → h' ≠ x → ¬ hits s0 h' (s0.indexOf x i) (start x + i)) →
      counterAt (bump s h) x i = (if x = h then satInc (g x) else g x) := by
    intro x i hi hfree
    have e := inv.exact x i hi (fun h' hm => hfree h' (List.mem_append_left _ hm))
    rw [counterAt_bump inv.wf inv.ne]
    by_cases hx : x = h
    · subst hx
      rw [if_pos rfl, if_pos (hits_self s x i hi), e]
    · have hn := hfree h (List.mem_append_right _ (List.mem_singleton.2 rfl)) (fun e => hx e.symm)
      rw [← indexOf_congr inv.mask, ← hits_congr inv.mask] at hn
      rw [if_neg hx, if_neg hn, e]
  have gleB : ∀ x, (if x = h then satInc (g x) else g x) ≤ 15 := by
    intro x
    split
    · exact satInc_le _
    · exact inv.gle x
  refine ⟨hwf', by rw [ft]; exact inv.ne, hc', by rw [fm]; exact inv.mask,
    by rw [fs]; exact inv.sample, by rw [ft]; exact inv.tsize, ?_, ?_, ?_⟩
  · intro x i hi
    rcases incrStep_cases inv.ne hstep with ⟨rfl, rfl, _⟩ | ⟨rfl, hres, _, _⟩
    · exact lowerB x i hi
    · rw [counterAt_reset hres x i hi]
      show (if x = h then satInc (g x) else g x) / 2 ≤ _
      exact Nat.div_le_div_right (lowerB x i hi)
  · intro x i hi hfree
    rcases incrStep_cases inv.ne hstep with ⟨rfl, rfl, _⟩ | ⟨rfl, hres, _, _⟩
    · exact exactB x i hi hfree
    · rw [counterAt_reset hres x i hi, exactB x i hi hfree]
      rfl
  · intro x
    have := gleB x
    cases r
    · exact this
    · show (if x = h then satInc (g x) else g x) / 2 ≤ 15
      omega

theorem rinv_run {s0 : Sketch} {pre hs : List UInt64} {st st' : Sketch × Ghost}
    (inv : RInv s0 pre st.1 st.2) (h : runG st hs = .ok st') :
    RInv s0 (pre ++ hs) st'.1 st'.2 := by
  induction hs generalizing st pre with
  | nil =>
    cases h
    rw [List.append_nil]; exact inv
  | cons x hs ih =>
    rw [runG_cons] at h
    generalize hr : stepG st x = res at h
    cases res with
    | error e => cases h
    | ok st1 =>
      have i1 : RInv s0 (pre ++ [x]) st1.1 st1.2 := rinv_step (s := st.1) (g := st.2) inv hr
      have := ih i1 h
      rwa [List.append_assoc, List.singleton_append] at this

theorem run_ok_of_rinv {s0 : Sketch} {pre : List UInt64} {st : Sketch × Ghost}
    (inv : RInv s0 pre st.1 st.2) (hsmall : s0.table.size < 2 ^ 28) (hs : List UInt64) :
    ∃ st', runG st hs = .ok st' := by
  induction hs generalizing st pre with
  | nil => exact ⟨st, rfl⟩
  | cons x hs ih =>
    obtain ⟨s1, r, hstep⟩ :=
      step_ok inv.cinv (by rw [inv.tsize]; exact hsmall) x
    have hst : stepG st x = .ok (s1, ghostStep st.2 x r) := by
      unfold stepG; rw [hstep]
    have i1 := rinv_step (s := st.1) (g := st.2) inv hst
    obtain ⟨st', h'⟩ := ih (st := (s1, ghostStep st.2 x r)) i1
    exact ⟨st', by rw [runG_cons, hst]; exact h'⟩

/-! ### The initial state -/

def ghost0 : Ghost := fun _ => 0

theorem nib_zero (j : Nat) : nib 0 j = 0 := by
  unfold nib; rw [Nat.zero_div, Nat.zero_mod]

theorem init_table (cap : Nat) : (init cap).table = Array.replicate (tableSizeFor cap) 0 := by
  rw [init_eq]
theorem init_size (cap : Nat) : (init cap).size = 0 := by
  rw [init_eq]

theorem counterAt_init (cap : Nat) (h : UInt64) (i : Nat) : counterAt (init cap) h i = 0 := by
  rw [counterAt_eq, init_table]
  unfold cntAt
  rw [getD_replicate_zero, nib_zero]

theorem cinv_init (cap : Nat) : CInv (init cap) := by
  have h := init_sampleSize cap
  refine ⟨?_, ?_, h.2⟩
  · rw [init_table, tableSum_replicate_zero]; omega
  · rw [init_size]; omega

theorem rinv_init (cap : Nat) : RInv (init cap) [] (init cap) ghost0 where
  wf := wf_init cap
  ne := init_table_ne cap
  cinv := cinv_init cap
  mask := rfl
  sample := rfl
  tsize := rfl
  lower := fun _ _ _ => Nat.zero_le _
  exact := fun h i _ _ => counterAt_init cap h i
  gle := fun _ => Nat.zero_le _

theorem rinv_of_run {cap : Nat} {hs : List UInt64} {s : Sketch} {g : Ghost}
    (h : runG (init cap, ghost0) hs = .ok (s, g)) : RInv (init cap) hs s g := by
  have := rinv_run (st := (init cap, ghost0)) (pre := []) (rinv_init cap) h
  rwa [List.nil_append] at this

theorem init_small {cap : Nat} (hcap : cap ≤ 2 ^ 27) : (init cap).table.size < 2 ^ 28 := by
  rw [init_table_size]
  have := tableSizeFor_le cap 27 hcap
  omega

theorem ghost_le_frequency {s0 s : Sketch} {pre : List UInt64} {g : Ghost}
    (inv : RInv s0 pre s g) (h : UInt64) : g h ≤ frequency s h :=
  (le_frequency_iff s h inv.ne _).2 (fun i hi => inv.lower h i hi)

theorem frequency_eq_ghost {s0 s : Sketch} {pre : List UInt64} {g : Ghost}
    (inv : RInv s0 pre s g) (h : UInt64) (i : Nat) (hi : i < 4)
    (hfree : ∀ h', h' ∈ pre → h' ≠ h → ¬ hits s0 h' (s0.indexOf h i) (start h + i)) :
    frequency s h = g h := by
  have h1 := ghost_le_frequency inv h
  have h2 := frequency_le_counterAt s h inv.ne i hi
  rw [inv.exact h i hi hfree] at h2
  omega

theorem frequency_bump_mono {s : Sketch} (hwf : WF s) (hne : s.table.size ≠ 0) (h' h : UInt64) :
    frequency s h ≤ frequency (bump s h') h :=
  frequency_mono (bump_mask s h') hne (by rw [bump_table_size]; exact hne)
    (fun x y => bump_cnt_ge hwf hne h' x y) h

theorem frequency_step_mono {s s' : Sketch} {h' : UInt64} (hwf : WF s)
    (hstep : incrStep s h' = .ok (s', false)) (h : UInt64) :
    frequency s h ≤ frequency s' h := by
  by_cases hne : s.table.size = 0
  · rw [incrStep_empty h' hne] at hstep
    cases hstep; exact Nat.le_refl _
  · rcases incrStep_cases hne hstep with ⟨_, rfl, _⟩ | ⟨hr, _⟩
    · exact frequency_bump_mono hwf hne h' h
    · cases hr

theorem step_aged {s s' : Sketch} {h' : UInt64} (hstep : incrStep s h' = .ok (s', true)) :
    reset false (bump s h') = .ok s' := by
  by_cases hne : s.table.size = 0
  · rw [incrStep_empty h' hne] at hstep
    cases hstep
  · rcases incrStep_cases hne hstep with ⟨hr, _⟩ | ⟨_, hres, _, _⟩
    · cases hr
    · exact hres

/-- The table bound for `count : u32` is tight at the level of tables: a table of `n` words
whose sixteen counters are all 1 has `16 * n` odd counters. -/
theorem oddTotal_all_ones (n : Nat) :
    oddTotal (Array.replicate n 0x1111111111111111) = 16 * n := by
  unfold oddTotal
  rw [sumBy_replicate, Nat.mul_comm]
  rfl

/-! ## Helpers for evaluating concrete runs -/

deriving instance DecidableEq for Sketch
deriving instance DecidableEq for Except

instance (s : Sketch) : Decidable (CInv s) := by
  unfold CInv; infer_instance

def checkRun (r : Except Fault (Sketch × Ghost)) (p : Sketch → Ghost → Bool) : Bool :=
  match r with
  | .ok st => p st.1 st.2
  | .error _ => false

theorem exists_of_checkRun {r : Except Fault (Sketch × Ghost)} {P : Sketch → Ghost → Prop}
    [∀ s g, Decidable (P s g)] (h : checkRun r (fun s g => decide (P s g)) = true) :
    ∃ s g, r = .ok (s, g) ∧ P s g := by
  cases r with
  | error e => cases h
  | ok st => exact ⟨st.1, st.2, rfl, of_decide_eq_true h⟩

/-! ### Witnesses used by the examples -/

/-- Capacity 3: table of 4 words (64 counters), `sampleSize = 30`.  The sixteen hashes of
`legacyCover` use the 64 counters exactly once each; after them seven of these hashes are
recorded twice more, minus the last recording: 29 increments, every counter is 1 or 3 except the
four of 121, which are 2; the thirtieth increment, of 121, makes all 64 odd. -/
def legacyCover : List UInt64 :=
  [0, 28, 52, 212, 1, 37, 121, 241, 2, 78, 154, 338, 3, 47, 119, 123]

def legacyHs : List UInt64 :=
  legacyCover ++ [0, 0, 28, 28, 52, 52, 212, 212, 1, 1, 37, 37, 121]

/-- The state reached by `legacyHs` from `init 3`. -/
def legacyState : Sketch :=
  { sampleSize := 30, mask := 3,
    table := #[1229782938803188531, 1229782938282963763, 1229782938818851635,
               1229782938515878707],
    size := 29 }

end Sketch
end MiniMoka
