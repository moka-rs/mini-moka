/-
  Agreement of the sketch's bit tricks (Gen/Logic/SketchBits.lean, translated from
  `common/frequency_sketch.rs` on every run) with the arithmetic reading of a word as sixteen
  4-bit counters (`Sketch.nib`, `Sketch.halveWord`, `Sketch.oddCount`) — for every 64-bit word.
-/
import MiniMoka.Sketch
import MiniMoka.SketchWord
import MiniMoka.Lemmas.Sketch
import MiniMoka.Gen.Logic.SketchBits

namespace MiniMoka
namespace Agree

open Gen.Logic

/-! ## Natural-number facts -/

theorem pow16_eq (j : Nat) : (16 : Nat) ^ j = 2 ^ (4 * j) := by
  rw [Nat.pow_mul]

theorem testBit_nib (x j k : Nat) :
    (Sketch.nib x j).testBit k = (decide (k < 4) && x.testBit (4 * j + k)) := by
  unfold Sketch.nib
  rw [pow16_eq, show (16 : Nat) = 2 ^ 4 from rfl, Nat.testBit_mod_two_pow, Nat.testBit_div_two_pow,
    Nat.add_comm]

theorem nib_eq_shift_and (x j : Nat) : Sketch.nib x j = (x >>> (4 * j)) &&& 15 := by
  unfold Sketch.nib
  rw [Nat.shiftRight_eq_div_pow, pow16_eq, show (15 : Nat) = 2 ^ 4 - 1 from rfl,
    Nat.and_two_pow_sub_one_eq_mod]

theorem and_shiftLeft (a b k : Nat) : a &&& (b <<< k) = ((a >>> k) &&& b) <<< k := by
  apply Nat.eq_of_testBit_eq
  intro i
  simp only [Nat.testBit_and, Nat.testBit_shiftLeft, Nat.testBit_shiftRight]
  by_cases h : k ≤ i
  · have : k + (i - k) = i := by omega
    simp [h, this]
  · simp [h]

theorem shiftLeft_inj (a b k : Nat) : a <<< k = b <<< k ↔ a = b := by
  rw [Nat.shiftLeft_eq, Nat.shiftLeft_eq]
  exact Nat.mul_right_cancel_iff (Nat.pow_pos (by decide))

/-- `w & mask == mask` with `mask = 0xF << 4j` says that counter `j` is saturated. -/
theorem and_mask_eq_iff (x j : Nat) :
    x &&& (15 <<< (4 * j)) = 15 <<< (4 * j) ↔ Sketch.nib x j = 15 := by
  rw [and_shiftLeft, shiftLeft_inj, nib_eq_shift_and]

/-! ## Machine-word shifts by `4 * j`, `j < 16` -/

theorem toNat_shl2 (j : UInt64) (hj : j.toNat < 16) : (j <<< 2).toNat = 4 * j.toNat := by
  rw [UInt64.toNat_shiftLeft]
  have : (2 : UInt64).toNat % 64 = 2 := by decide
  rw [this, Nat.shiftLeft_eq]
  omega

theorem toNat_shl2_mod (j : UInt64) (hj : j.toNat < 16) :
    (j <<< 2).toNat % 64 = 4 * j.toNat := by
  rw [toNat_shl2 j hj]; omega

theorem pow16_le (j : Nat) (hj : j < 16) : 16 ^ j * 16 ≤ 2 ^ 64 := by
  rw [← Nat.pow_succ, ← Sketch.pow16_16]
  exact Nat.pow_le_pow_right (by decide) (by omega)

theorem toNat_inc_mask (j : UInt64) (hj : j.toNat < 16) :
    (inc_mask (inc_offset j)).toNat = 15 <<< (4 * j.toNat) := by
  unfold inc_mask inc_offset
  rw [UInt64.toNat_shiftLeft, toNat_shl2_mod j hj]
  have h15 : (15 : UInt64).toNat = 15 := by decide
  rw [h15]
  apply Nat.mod_eq_of_lt
  rw [Nat.shiftLeft_eq, ← pow16_eq]
  have := pow16_le j.toNat hj
  omega

theorem toNat_inc_delta (j : UInt64) (hj : j.toNat < 16) :
    (inc_delta (inc_offset j)).toNat = 16 ^ j.toNat := by
  unfold inc_delta inc_offset
  rw [UInt64.toNat_shiftLeft, toNat_shl2_mod j hj]
  have h1 : (1 : UInt64).toNat = 1 := by decide
  rw [h1, Nat.one_shiftLeft, ← pow16_eq]
  apply Nat.mod_eq_of_lt
  have := pow16_le j.toNat hj
  have := Sketch.pow16_pos j.toNat
  omega

/-! ## `frequency`: reading a counter -/

theorem counter_of_word_agrees (w start i : UInt64) (h : start.toNat + i.toNat < 16) :
    (counter_of_word w start i).toNat = Sketch.nib w.toNat (start.toNat + i.toNat) := by
  have hsum : (start + i).toNat = start.toNat + i.toNat := by
    rw [UInt64.toNat_add]; omega
  unfold counter_of_word
  rw [UInt64.toNat_and, UInt64.toNat_shiftRight, toNat_shl2_mod _ (by rw [hsum]; exact h), hsum,
    nib_eq_shift_and]
  rfl

/-! ## `increment_at` -/

theorem inc_room_agrees (w j : UInt64) (hj : j.toNat < 16) :
    inc_room w (inc_mask (inc_offset j)) = decide (Sketch.nib w.toNat j.toNat ≠ 15) := by
  unfold inc_room
  apply decide_eq_decide.2
  apply not_congr
  rw [← UInt64.toNat_inj, UInt64.toNat_and, toNat_inc_mask j hj]
  exact and_mask_eq_iff _ _

/-- The `u64` addition `table[index] += 1 << offset` does not wrap. -/
theorem inc_delta_agrees (w j : UInt64) (hj : j.toNat < 16)
    (h : Sketch.nib w.toNat j.toNat ≠ 15) :
    (w + inc_delta (inc_offset j)).toNat = w.toNat + 16 ^ j.toNat := by
  rw [UInt64.toNat_add, toNat_inc_delta j hj]
  apply Nat.mod_eq_of_lt
  rw [← Sketch.pow16_16]
  exact Sketch.add_pow_lt _ _ (by rw [Sketch.pow16_16]; exact w.toNat_lt) hj h

/-! ## `reset`: the two masks -/

/-- `ONE_MASK = 0x1111_1111_1111_1111`: bit 0 of every counter. -/
theorem testBit_oneMask (i : Nat) :
    (1229782938247303441 : Nat).testBit i = (decide (i < 64) && decide (i % 4 = 0)) := by
  by_cases h : i < 64
  · have : ∀ i : Fin 64, (1229782938247303441 : Nat).testBit i.val
        = (decide (i.val < 64) && decide (i.val % 4 = 0)) := by decide
    exact this ⟨i, h⟩
  · have hlt : (1229782938247303441 : Nat) < 2 ^ i :=
      Nat.lt_of_lt_of_le (show (1229782938247303441 : Nat) < 2 ^ 64 by decide)
        (Nat.pow_le_pow_right (by decide) (by omega))
    rw [Nat.testBit_lt_two_pow hlt]; simp [h]

/-- `RESET_MASK = 0x7777_7777_7777_7777`: bits 0..2 of every counter. -/
theorem testBit_resetMask (i : Nat) :
    (8608480567731124087 : Nat).testBit i = (decide (i < 64) && decide (i % 4 ≠ 3)) := by
  by_cases h : i < 64
  · have : ∀ i : Fin 64, (8608480567731124087 : Nat).testBit i.val
        = (decide (i.val < 64) && decide (i.val % 4 ≠ 3)) := by decide
    exact this ⟨i, h⟩
  · have hlt : (8608480567731124087 : Nat) < 2 ^ i :=
      Nat.lt_of_lt_of_le (show (8608480567731124087 : Nat) < 2 ^ 64 by decide)
        (Nat.pow_le_pow_right (by decide) (by omega))
    rw [Nat.testBit_lt_two_pow hlt]; simp [h]

/-! ### `odd_counters` -/

theorem nib_mod_two (x j : Nat) :
    Sketch.nib x j % 2 = if x.testBit (4 * j) then 1 else 0 := by
  rw [Nat.testBit_eq_decide_div_mod_eq, ← pow16_eq]
  unfold Sketch.nib
  by_cases h : x / 16 ^ j % 2 = 1
  · simp only [h, decide_true, if_true]; omega
  · simp only [h, decide_false]; simp; omega

theorem popCountLow_and_oneMask (x n : Nat) (hn : n ≤ 16) :
    SketchWord.popCountLow (x &&& 1229782938247303441) (4 * n) = Sketch.oddFrom x n := by
  induction n with
  | zero => rfl
  | succ n ih =>
    have e : 4 * (n + 1) = 4 * n + 1 + 1 + 1 + 1 := by omega
    rw [e]
    simp only [SketchWord.popCountLow, Sketch.oddFrom, Nat.testBit_and, testBit_oneMask]
    rw [ih (by omega), nib_mod_two]
    have h0 : (4 * n) % 4 = 0 := by omega
    have hl : 4 * n < 64 := by omega
    simp [h0, hl]

theorem odd_counters_agrees (w : UInt64) : odd_counters w = Sketch.oddCount w.toNat := by
  unfold odd_counters SketchWord.popCount Sketch.oddCount
  rw [UInt64.toNat_and]
  have h : (1229782938247303441 : UInt64).toNat = 1229782938247303441 := by decide
  rw [h]
  exact popCountLow_and_oneMask w.toNat 16 (Nat.le_refl _)

/-! ### `halved_word` -/

theorem testBit_halveWord (x i : Nat) :
    (Sketch.halveWord x).testBit i
      = (decide (i < 64) && decide (i % 4 ≠ 3) && x.testBit (i + 1)) := by
  by_cases h : i < 64
  · -- bit `i` is bit `k = i % 4` of counter `j = i / 4`
    have hi : i = 4 * (i / 4) + i % 4 := by omega
    have hk : i % 4 < 4 := by omega
    have hb : (Sketch.halveWord x).testBit i
        = (Sketch.nib (Sketch.halveWord x) (i / 4)).testBit (i % 4) := by
      rw [testBit_nib, ← hi]; simp [hk]
    rw [hb, Sketch.nib_halveWord x (i / 4) (by omega), Nat.testBit_div_two, testBit_nib]
    have e : 4 * (i / 4) + (i % 4 + 1) = i + 1 := by omega
    rw [e]
    by_cases h3 : i % 4 = 3
    · simp [h3]
    · have : i % 4 + 1 < 4 := by omega
      simp [h, h3, this]
  · have hlt : Sketch.halveWord x < 2 ^ i :=
      Nat.lt_of_lt_of_le (by rw [← Sketch.pow16_16]; exact Sketch.halveWord_lt x)
        (Nat.pow_le_pow_right (by decide) (by omega))
    rw [Nat.testBit_lt_two_pow hlt]; simp [h]

theorem halved_word_agrees (w : UInt64) : (halved_word w).toNat = Sketch.halveWord w.toNat := by
  unfold halved_word
  rw [UInt64.toNat_and, UInt64.toNat_shiftRight]
  have h1 : (1 : UInt64).toNat % 64 = 1 := by decide
  have h2 : (8608480567731124087 : UInt64).toNat = 8608480567731124087 := by decide
  rw [h1, h2]
  apply Nat.eq_of_testBit_eq
  intro i
  rw [Nat.testBit_and, Nat.testBit_shiftRight, testBit_resetMask, testBit_halveWord,
    Nat.add_comm 1 i, Bool.and_comm]

#print axioms counter_of_word_agrees
#print axioms inc_room_agrees
#print axioms inc_delta_agrees
#print axioms odd_counters_agrees
#print axioms halved_word_agrees

end Agree
end MiniMoka
