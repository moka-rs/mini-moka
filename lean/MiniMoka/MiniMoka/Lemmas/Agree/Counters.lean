/-
  Agreement with the generated counter arithmetic (Gen/Logic/Counters.lean): every update of
  `entry_count` / `weighted_size` (single-threaded cache) and of the run-local `EvictionCounters`
  (concurrent cache), and the run-local sums that feed them, is the expression the Rust text
  contains on this run. These are the sites where D1–D4 and D8 lived (the D10 site,
  `Sync.currentWeight`, chooses which weight is handed to these updates and has no equation
  here): a wrong operand (`weight` for `old_weight`, the new weight for the accounted one), a `-`
  for a `+`, a dropped decrement all change a generated definition and break one of the equations
  below, whether or not a generated history reaches the difference.

  Shape: each theorem rewrites one model function as the same control flow with the generated
  expressions in the places of the model's own arithmetic (for the current code: every defect
  switch of `Params.q` off).
-/
import MiniMoka.Unsync
import MiniMoka.Sync
import MiniMoka.Gen.Logic.Counters

namespace MiniMoka
namespace Agree

open Gen.Logic

/-! ## single-threaded cache -/

/-- `self.entry_count -= n` with the debug build's overflow check, the new value given. -/
def checkedEc (s : Unsync.UState) (n v : Nat) : Unsync.UState :=
  if s.ec < n then s.fail .overflow else { s with ec := v }

theorem unsync_subEc_is_checked (s : Unsync.UState) (n : Nat) :
    Unsync.subEc s n = checkedEc s n (s.ec - n) := rfl

/-- `invalidate`: `entry_count -= 1`, `saturating_sub_from_total_weight(weight as u64)`. -/
theorem unsync_invalidate_counters_agrees (p : Params) (hq : p.q.d1 = false) (s : Unsync.UState) (k : Nat) :
    Unsync.invalidate p s k =
      (let s := Unsync.maintain p s
       match AL.get? s.map k with
       | none => s
       | some e =>
         let s := Unsync.takeOut s k e
         let s := checkedEc s 1 (unsync_invalidate_ec s.ec)
         { s with ws := unsync_total_sub s.ws (unsync_invalidate_sub_arg e.weight) }) := by
  unfold Unsync.invalidate unsync_invalidate_ec unsync_total_sub unsync_invalidate_sub_arg
  simp only [hq, Bool.false_eq_true, if_false, unsync_subEc_is_checked]
  try rfl

/-- `invalidate_all`: both counters are reset. -/
theorem unsync_invalidateAll_counters_agrees (p : Params) (hq : p.q.d2 = false) (s : Unsync.UState) :
    Unsync.invalidateAll p s =
      { s with map := [], prob := [], wo := [], ws := unsync_invall_ws, ec := unsync_invall_ec } := by
  unfold Unsync.invalidateAll unsync_invall_ws unsync_invall_ec
  simp only [hq, Bool.false_eq_true, if_false]
  try rfl

/-- One removed key of `invalidate_entries_if`: `invalidated += weight`, `invalidated_count += 1`. -/
theorem unsync_invalidateKeys_agrees (p : Params) (hq : p.q.d3 = false) (k : Nat) (rest : List Nat)
    (s : Unsync.UState) (c w : Nat) :
    Unsync.invalidateKeys p (k :: rest) s c w =
      (match AL.get? s.map k with
       | none => Unsync.invalidateKeys p rest s c w
       | some e =>
         Unsync.invalidateKeys p rest (Unsync.takeOut s k e) (unsync_invif_count c)
           (unsync_invif_acc w e.weight)) := by
  unfold unsync_invif_count unsync_invif_acc
  rw [Unsync.invalidateKeys]
  simp only [hq, Bool.false_eq_true, if_false]
  try rfl

/-- `invalidate_entries_if`: `entry_count -= invalidated_count`, the freed weight subtracted. -/
theorem unsync_invalidateEntriesIf_counters_agrees (p : Params) (hq : p.q.d3 = false)
    (s : Unsync.UState) (pr : Pred) :
    Unsync.invalidateEntriesIf p s pr =
      (let keys := (s.map.filter (fun kv => pr.eval kv.1 kv.2.val)).map (·.1)
       let r := Unsync.invalidateKeys p keys s 0 0
       let s := checkedEc r.1 r.2.1 (unsync_invif_ec r.1.ec r.2.1)
       { s with ws := unsync_total_sub s.ws (unsync_invif_sub_arg r.2.2) }) := by
  unfold Unsync.invalidateEntriesIf unsync_invif_ec unsync_total_sub unsync_invif_sub_arg
  simp only [hq, Bool.false_eq_true, if_false, unsync_subEc_is_checked]
  try rfl

/-- `handle_insert`, the branch with room: `entry_count += 1`, the candidate's weight added. -/
theorem unsync_handleInsert_counters_agrees (p : Params) (s : Unsync.UState) (k : Nat) (hash : UInt64)
    (weight : Nat) (ts : Option Nat) (h : Unsync.hasEnoughCapacity p weight s.ws = true) :
    Unsync.handleInsert p s k hash weight ts =
      (let s := Unsync.pushCandidate p s k hash ts
       let s := { s with ec := unsync_insert_ec s.ec,
                         ws := unsync_total_add s.ws (unsync_insert_add_arg weight) }
       Unsync.maybeEnableSketch p s) := by
  unfold Unsync.handleInsert unsync_insert_ec unsync_total_add unsync_insert_add_arg
  simp only [h, if_true]
  try rfl

/-- One victim of an admission: `entry_count -= 1`. -/
theorem unsync_removeVictims_agrees (v : Unsync.AoNode) (rest : List Unsync.AoNode) (s : Unsync.UState) :
    Unsync.removeVictims (v :: rest) s =
      (match AL.get? s.map v.key with
       | none => Unsync.removeVictims rest (s.fail .expect)
       | some e =>
         let s := Unsync.takeOut s v.key e
         Unsync.removeVictims rest (checkedEc s 1 (unsync_admit_victim_ec s.ec))) := by
  unfold unsync_admit_victim_ec
  rw [Unsync.removeVictims]
  rfl

/-- `handle_insert`, the admitted candidate: `entry_count += 1`, the victims' weight subtracted,
then the candidate's added. -/
theorem unsync_admitOrReject_counters_agrees (p : Params) (s : Unsync.UState) (k : Nat) (hash : UInt64)
    (weight : Nat) (ts : Option Nat) :
    Unsync.admitOrReject p s k hash weight ts =
      (let cf := s.sk.frequency hash
       let a := Unsync.admitLoop p s weight cf s.prob {}
       if a.fault then s.fail .expect
       else if a.vw ≥ weight ∧ cf > a.vf then
         let s := Unsync.removeVictims a.victims s
         let s := Unsync.pushCandidate p s k hash ts
         let s := { s with ec := unsync_admit_ec s.ec }
         let s := { s with ws := unsync_total_sub s.ws (unsync_admit_sub_arg a.vw weight) }
         let s := { s with ws := unsync_total_add s.ws (unsync_admit_add_arg a.vw weight) }
         Unsync.maybeEnableSketch p s
       else { s with map := AL.erase s.map k }) := by
  unfold Unsync.admitOrReject unsync_admit_ec unsync_total_sub unsync_total_add unsync_admit_sub_arg
    unsync_admit_add_arg
  rfl

/-- The counters after `handle_update`: the OLD weight is subtracted, the NEW one added. -/
theorem unsync_handleUpdate_counters_agrees (p : Params) (s : Unsync.UState) (k : Nat) (ts : Option Nat)
    (weight : Nat) (old e : Unsync.UEntry) (h : AL.get? s.map k = some e) :
    (Unsync.handleUpdate p s k ts weight old).ws =
      unsync_total_add (unsync_total_sub s.ws (unsync_update_sub_arg old.weight weight))
        (unsync_update_add_arg old.weight weight) ∧
    (Unsync.handleUpdate p s k ts weight old).ec = s.ec := by
  unfold unsync_total_add unsync_total_sub unsync_update_sub_arg unsync_update_add_arg
  unfold Unsync.handleUpdate
  simp only [h]
  have hAo : ∀ (t : Unsync.UState) (x : Unsync.UEntry), (Unsync.moveToBackAoE t x).ws = t.ws ∧
      (Unsync.moveToBackAoE t x).ec = t.ec := by
    intro t x; unfold Unsync.moveToBackAoE Unsync.UState.fail; split <;> (try split) <;> (try split) <;> exact ⟨rfl, rfl⟩
  have hWo : ∀ (t : Unsync.UState) (x : Unsync.UEntry), (Unsync.moveToBackWoE t x).ws = t.ws ∧
      (Unsync.moveToBackWoE t x).ec = t.ec := by
    intro t x; unfold Unsync.moveToBackWoE Unsync.UState.fail; split <;> (try split) <;> (try split) <;> exact ⟨rfl, rfl⟩
  cases ts <;> (split <;> simp [hAo, hWo]) <;> (repeat' split) <;> exact ⟨rfl, rfl⟩

/-- One expired entry of the time-to-live purge: count and freed weight are accumulated. -/
theorem unsync_removeExpiredWo_agrees (p : Params) (hq : p.q.d4 = false) (fuel : Nat) (s : Unsync.UState)
    (c w : Nat) :
    Unsync.removeExpiredWo p (fuel + 1) s c w =
      (match s.wo with
       | [] => (s, c, w)
       | n :: rest =>
         if expiredAt p.ttl n.ts s.now then
           match AL.get? s.map n.key with
           | some e =>
             Unsync.removeExpiredWo p fuel (Unsync.takeOut s n.key e) (unsync_rm_wo_count c)
               (unsync_rm_wo_acc w e.weight)
           | none => Unsync.removeExpiredWo p fuel { s with wo := rest } c w
         else (s, c, w)) := by
  unfold unsync_rm_wo_count unsync_rm_wo_acc
  rw [Unsync.removeExpiredWo]
  simp only [hq, Bool.false_eq_true, if_false]
  try rfl

/-- One expired entry of the time-to-idle purge. -/
theorem unsync_removeExpiredAo_agrees (p : Params) (fuel : Nat) (s : Unsync.UState) (c w : Nat) :
    Unsync.removeExpiredAo p (fuel + 1) s c w =
      (match s.prob with
       | [] => (s, c, w)
       | n :: rest =>
         if expiredAt p.tti n.ts s.now then
           match AL.get? s.map n.key with
           | some e =>
             Unsync.removeExpiredAo p fuel (Unsync.takeOut s n.key e) (unsync_rm_ao_count c)
               (unsync_rm_ao_acc w e.weight)
           | none => Unsync.removeExpiredAo p fuel { s with prob := rest } c w
         else (s, c, w)) := by
  unfold unsync_rm_ao_count unsync_rm_ao_acc
  rw [Unsync.removeExpiredAo]
  try rfl

/-- `evict_expired`: each purge's count leaves `entry_count`, its freed weight `weighted_size`
(the `window` and `protected` deques of the code are always empty: their counts and weights are 0). -/
theorem unsync_evictExpired_counters_agrees (p : Params) (s : Unsync.UState) :
    Unsync.evictExpired p s =
      (let s :=
         if p.ttl.isSome then
           let r := Unsync.removeExpiredWo p Unsync.EVICTION_BATCH_SIZE s 0 0
           let s2 := checkedEc r.1 r.2.1 (unsync_expire_wo_ec r.1.ec r.2.1)
           { s2 with ws := unsync_total_sub s2.ws (unsync_expire_wo_sub_arg r.2.1 r.2.2) }
         else s
       if p.tti.isSome then
         let r := Unsync.removeExpiredAo p Unsync.EVICTION_BATCH_SIZE s 0 0
         let s2 := checkedEc r.1 r.2.1 (unsync_expire_ao_ec r.1.ec 0 r.2.1 0)
         let w1 := unsync_total_sub s2.ws (unsync_expire_ao_sub_arg1 0 r.2.2 0)
         let w2 := unsync_total_sub w1 (unsync_expire_ao_sub_arg2 0 r.2.2 0)
         { s2 with ws := unsync_total_sub w2 (unsync_expire_ao_sub_arg3 0 r.2.2 0) }
       else s) := by
  unfold Unsync.evictExpired unsync_expire_wo_ec unsync_expire_ao_ec unsync_total_sub
    unsync_expire_wo_sub_arg unsync_expire_ao_sub_arg1 unsync_expire_ao_sub_arg2 unsync_expire_ao_sub_arg3
  simp only [unsync_subEc_is_checked, Nat.zero_add, Nat.add_zero, Nat.sub_zero]
  try rfl

/-- One victim of the size eviction: count and freed weight are accumulated. -/
theorem unsync_evictLruLoop_counters_agrees (fuel : Nat) (s : Unsync.UState) (wte c w : Nat) :
    Unsync.evictLruLoop (fuel + 1) s wte c w =
      if w ≥ wte then (s, c, w)
      else
        match s.prob with
        | [] => (s, c, w)
        | n :: rest =>
          match AL.get? s.map n.key with
          | some e =>
            Unsync.evictLruLoop fuel (Unsync.takeOut s n.key e) wte (unsync_lru_count c)
              (unsync_lru_acc w e.weight)
          | none => Unsync.evictLruLoop fuel { s with prob := rest } wte c w := by
  unfold unsync_lru_count unsync_lru_acc
  rw [Unsync.evictLruLoop]
  try rfl

/-- `evict_lru_entries`: `entry_count -= evicted_count`, the evicted weight subtracted. -/
theorem unsync_evictLru_counters_agrees (p : Params) (s : Unsync.UState) :
    Unsync.evictLru p s =
      (let r := Unsync.evictLruLoop Unsync.EVICTION_BATCH_SIZE s (Unsync.weightsToEvict p s) 0 0
       let s2 := checkedEc r.1 r.2.1 (unsync_lru_ec r.1.ec r.2.1)
       { s2 with ws := unsync_total_sub s2.ws (unsync_lru_sub_arg r.2.2) }) := by
  unfold Unsync.evictLru unsync_lru_ec unsync_total_sub unsync_lru_sub_arg
  simp only [unsync_subEc_is_checked]
  try rfl

/-! ## concurrent cache -/

/-- `EvictionCounters::saturating_sub`. -/
theorem sync_subCounters_agrees (s : Sync.SState) (n weight : Nat) :
    Sync.subCounters s n weight =
      (let s := if s.cec < n then s.fail .overflow else { s with cec := sync_counters_sub_ec s.cec n }
       { s with cws := sync_counters_sub_ws s.cws weight }) := by
  unfold Sync.subCounters sync_counters_sub_ec sync_counters_sub_ws
  rfl

/-- `EvictionCounters::saturating_add`. -/
theorem sync_addCounters_agrees (s : Sync.SState) (n weight : Nat) :
    Sync.addCounters s n weight =
      { s with cec := sync_counters_add_ec s.cec n, cws := sync_counters_add_ws s.cws weight } := by
  unfold Sync.addCounters sync_counters_add_ec sync_counters_add_ws
  rfl

/-- The update branch of `handle_upsert`: the weight ACCOUNTED for the entry is replaced by the
current one, the count is left alone, and the current weight becomes the accounted one. -/
theorem sync_applyUpdate_counters_agrees (p : Params) (hq : p.q.d8 = false) (s : Sync.SState)
    (ve : Sync.VE) (oldW newW : Nat) :
    Sync.applyUpdate p s ve oldW newW =
      (let acc := (Sync.getInfo s ve.info).weight
       let s := Sync.subCounters s (sync_update_sub_n acc oldW newW) (sync_update_sub_w acc oldW newW)
       let s := Sync.addCounters s (sync_update_add_n acc oldW newW) (sync_update_add_w acc oldW newW)
       let s := Sync.withInfo s ve.info (fun i => { i with weight := sync_update_stored acc oldW newW })
       let s := Sync.moveToBackAoE s ve.info
       Sync.moveToBackWoE s ve.info) := by
  unfold Sync.applyUpdate sync_update_sub_n sync_update_sub_w sync_update_add_n sync_update_add_w
    sync_update_stored
  simp only [hq, Bool.false_eq_true, if_false]
  try rfl

/-- `handle_admit`: one entry and its weight are added, and that weight is the one recorded. -/
theorem sync_handleAdmit_counters_agrees (p : Params) (hq : p.q.d8 = false) (s : Sync.SState)
    (key : Nat) (hash : UInt64) (ve : Sync.VE) (weight : Nat) :
    Sync.handleAdmit p s key hash ve weight =
      (let s := Sync.addCounters s (sync_admit_add_n weight) (sync_admit_add_w weight)
       let s := Sync.withInfo s ve.info (fun i => { i with weight := sync_admit_stored weight })
       let aoId := s.nextId
       let node : Sync.AoNode := { id := aoId, key := key, hash := hash, info := ve.info, kobj := ve.slot }
       let s := { s with prob := s.prob ++ [node], nextId := s.nextId + 1 }
       let s := Sync.withInfo s ve.info (fun i => { i with ao := some aoId })
       let s :=
         if p.ttl.isSome then
           let woId := s.nextId
           let wnode : Sync.WoNode := { id := woId, key := key, info := ve.info, kobj := ve.slot }
           let s := { s with wo := s.wo ++ [wnode], nextId := s.nextId + 1 }
           Sync.withInfo s ve.info (fun i => { i with wo := some woId })
         else s
       Sync.withInfo s ve.info (fun i => { i with admitted := true })) := by
  unfold Sync.handleAdmit sync_admit_add_n sync_admit_add_w sync_admit_stored
  simp only [hq, Bool.false_eq_true, if_false]
  try rfl

/-- `handle_remove` and `handle_remove_with_deques`: an admitted entry gives back one count and
the weight accounted for it. -/
theorem sync_handleRemove_counters_agrees (s : Sync.SState) (ve : Sync.VE) :
    Sync.handleRemove s ve =
      (let i := Sync.getInfo s ve.info
       if i.admitted then
         let s := Sync.withInfo s ve.info (fun i => { i with admitted := false })
         let s := Sync.subCounters s (sync_remove_sub_n i.weight) (sync_remove_sub_w i.weight)
         let s := Sync.unlinkAo s ve.info
         Sync.unlinkWo s ve.info
       else Sync.withInfo s ve.info (fun i => { i with ao := none, wo := none })) := by
  unfold Sync.handleRemove sync_remove_sub_n sync_remove_sub_w
  rfl

theorem sync_handleRemove_deq_counters_agrees (w : Nat) :
    sync_remove_deq_sub_n w = sync_remove_sub_n w ∧ sync_remove_deq_sub_w w = sync_remove_sub_w w := by
  unfold sync_remove_deq_sub_n sync_remove_sub_n sync_remove_deq_sub_w sync_remove_sub_w
  exact ⟨rfl, rfl⟩

/-- The size eviction of the concurrent cache accumulates the victim's accounted weight. -/
theorem sync_evictLruLoop_counters_agrees (p : Params) (fuel : Nat) (s : Sync.SState) (wte evicted : Nat)
    (n : Sync.AoNode) (rest : List Sync.AoNode) (ve : Sync.VE)
    (hstop : ¬ evicted ≥ wte) (hprob : s.prob = n :: rest) (hd : (Sync.getInfo s n.info).dirty = false)
    (hv : Sync.entryOfNode p s n.key n.info = some ve)
    (hlm : ((Sync.getInfo s ve.info).lm == (Sync.getInfo s n.info).lm) = true) :
    Sync.evictLruLoop p (fuel + 1) s wte evicted =
      Sync.evictLruLoop p fuel (Sync.handleRemove { s with map := AL.erase s.map n.key } ve) wte
        (sync_lru_acc evicted (Sync.getInfo s ve.info).weight) := by
  unfold sync_lru_acc
  rw [Sync.evictLruLoop, if_neg hstop]
  simp only [hprob, hd, Bool.false_eq_true, if_false, hv, hlm, if_true]
  try rfl

end Agree
end MiniMoka
