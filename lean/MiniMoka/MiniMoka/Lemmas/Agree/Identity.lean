/-
  Agreement with the generated identity guards of the maintenance-side removals
  (Gen/Logic/Identity.lean): an entry is removed by the expiry loops and by LRU eviction only
  if it is the very entry the list node belongs to (same `EntryInfo`) and the second condition
  (still expired / same `last_modified`) holds. These are the sites of the D7 repairs.
-/
import MiniMoka.Sync
import MiniMoka.Gen.Logic.Identity

namespace MiniMoka
namespace Agree

open Gen.Logic

theorem entryOfNode_filter (p : Params) (hq : p.q.d7 = false) (s : Sync.SState) (key info : Nat)
    (c : Sync.VE → Bool) :
    (match Sync.entryOfNode p s key info with
     | some ve => if c ve then some ve else none
     | none => none) =
    (match AL.get? s.map key with
     | some ve => if (ve.info == info && c ve) then some ve else none
     | none => none) := by
  unfold Sync.entryOfNode
  cases AL.get? s.map key with
  | none => rfl
  | some ve =>
    simp only [hq, Bool.false_or]
    by_cases h : (ve.info == info) = true
    · simp [h]
    · simp [h]

/-- The victim test of `remove_expired_ao` (current code: `d7` off). -/
theorem sync_removeExpiredAo_victim_agrees (p : Params) (hq : p.q.d7 = false) (s : Sync.SState)
    (n : Sync.AoNode) :
    (match Sync.entryOfNode p s n.key n.info with
     | some ve => if Sync.expiredTs p.tti s.va (Sync.getInfo s ve.info).la s.now then some ve else none
     | none => none) =
    (match AL.get? s.map n.key with
     | some ve =>
       if sync_expire_ao_guard (ve.info == n.info)
            (Sync.expiredTs p.tti s.va (Sync.getInfo s ve.info).la s.now) then some ve else none
     | none => none) := by
  exact entryOfNode_filter p hq s n.key n.info
    fun ve => Sync.expiredTs p.tti s.va (Sync.getInfo s ve.info).la s.now

/-- The victim test of `remove_expired_wo`. -/
theorem sync_removeExpiredWo_victim_agrees (p : Params) (hq : p.q.d7 = false) (s : Sync.SState)
    (n : Sync.WoNode) :
    (match Sync.entryOfNode p s n.key n.info with
     | some ve => if Sync.expiredTs p.ttl s.va (Sync.getInfo s ve.info).lm s.now then some ve else none
     | none => none) =
    (match AL.get? s.map n.key with
     | some ve =>
       if sync_expire_wo_guard (ve.info == n.info)
            (Sync.expiredTs p.ttl s.va (Sync.getInfo s ve.info).lm s.now) then some ve else none
     | none => none) := by
  exact entryOfNode_filter p hq s n.key n.info
    fun ve => Sync.expiredTs p.ttl s.va (Sync.getInfo s ve.info).lm s.now

/-- The victim test of `evict_lru_entries`: same info and unchanged `last_modified`. -/
theorem sync_evictLru_victim_agrees (p : Params) (hq : p.q.d7 = false) (s : Sync.SState)
    (n : Sync.AoNode) (ts : Nat) :
    (match Sync.entryOfNode p s n.key n.info with
     | some ve => if (Sync.getInfo s ve.info).lm == ts then some ve else none
     | none => none) =
    (match AL.get? s.map n.key with
     | some ve =>
       if sync_evict_lru_guard (ve.info == n.info) (some (Sync.getInfo s ve.info).lm) ts
       then some ve else none
     | none => none) := by
  exact entryOfNode_filter p hq s n.key n.info fun ve => (Sync.getInfo s ve.info).lm == ts

end Agree
end MiniMoka
