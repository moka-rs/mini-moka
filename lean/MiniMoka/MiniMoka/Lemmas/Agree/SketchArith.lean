/-
  Agreement with the generated sketch arithmetic (Gen/Logic/SketchArith.lean): capacity
  clamp, table index, counter position, aging trigger and the size formula of `reset`,
  table and sample sizing of `ensure_capacity`.
-/
import MiniMoka.Sketch
import MiniMoka.Gen.Logic.SketchArith

namespace MiniMoka
namespace Agree

open Gen.Logic

theorem sketchCapacity_agrees (n : Nat) : Sketch.sketchCapacity n = sketch_capacity n := by
  unfold Sketch.sketchCapacity sketch_capacity
  rfl

/-- `index_of(hash, depth)`: the generated wrapping `u64` expression. -/
theorem indexOf_agrees (s : Sketch) (hash : UInt64) (i : Nat) :
    s.indexOf hash i = (index_of (Sketch.SEED i) s.mask.toUInt64 hash).toNat := by
  unfold Sketch.indexOf index_of
  rfl

/-- `((hash & 3) << 2)`. -/
theorem start_agrees (hash : UInt64) : Sketch.start hash = counter_start hash.toNat := by
  unfold Sketch.start counter_start
  rfl

/-- The size left by an aging step (current formula). -/
theorem reset_size_agrees (size count : Nat) :
    (size - count / 4) / 2 = reset_size size count := by
  unfold reset_size
  rfl

/-- `reset` stores exactly the generated size (when it does not fault). -/
theorem reset_agrees (s s' : Sketch) (h : Sketch.reset false s = .ok s') :
    s'.size = reset_size s.size (s.table.foldl (fun c w => c + Sketch.oddCount w) 0) := by
  unfold Sketch.reset at h
  simp only [Bool.false_eq_true, if_false] at h
  split at h
  · cases h
  · split at h
    · cases h
    · cases h; rfl

/-- The aging trigger `self.size >= self.sample_size`. -/
theorem age_now_agrees (size sample : Nat) : decide (size ≥ sample) = age_now size sample := by
  unfold age_now
  rfl

/-- The sample size `ensure_capacity` computes is the model's expression. -/
theorem sample_size_agrees (cap : Nat) :
    sample_size cap (min cap (2 ^ Gen.SKETCH_MAX_TABLE_POW)) =
      if cap = 0 then Gen.SKETCH_ZERO_CAP_SAMPLE
      else min (min (min cap (2 ^ Gen.SKETCH_MAX_TABLE_POW) * Gen.SKETCH_SAMPLE_FACTOR) U32_MAX)
        2147483647 := by
  unfold sample_size
  by_cases hc : cap = 0 <;> simp [hc, Gen.SKETCH_ZERO_CAP_SAMPLE, Gen.SKETCH_SAMPLE_FACTOR, U32_MAX]

/-- Sizing in `ensure_capacity`: the table and sample sizes of a sketch that had to grow. -/
theorem ensureCapacity_agrees (s : Sketch) (cap : Nat)
    (h : s.table.size < table_size (min cap (2 ^ Gen.SKETCH_MAX_TABLE_POW))) :
    (s.ensureCapacity cap).table.size = table_size (min cap (2 ^ Gen.SKETCH_MAX_TABLE_POW)) ∧
    (s.ensureCapacity cap).mask = table_size (min cap (2 ^ Gen.SKETCH_MAX_TABLE_POW)) - 1 ∧
    (s.ensureCapacity cap).sampleSize = sample_size cap (min cap (2 ^ Gen.SKETCH_MAX_TABLE_POW)) := by
  rw [sample_size_agrees]
  unfold Sketch.ensureCapacity table_size at *
  simp only [decide_eq_true_eq] at h ⊢
  rw [if_neg (by omega)]
  exact ⟨by simp, rfl, rfl⟩

end Agree
end MiniMoka
