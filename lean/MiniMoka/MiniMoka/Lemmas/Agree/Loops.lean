/-
  Agreement with the generated loop conditions (Gen/Logic/Loops.lean): when LRU eviction
  stops, how often the maintenance loop repeats, when it runs LRU eviction at all.
-/
import MiniMoka.Unsync
import MiniMoka.Sync
import MiniMoka.Gen.Logic.Loops

namespace MiniMoka
namespace Agree

open Gen.Logic

/-- One iteration of the LRU eviction loop of the single-threaded cache. -/
theorem unsync_evictLruLoop_agrees (fuel : Nat) (s : Unsync.UState) (wte c w : Nat) :
    Unsync.evictLruLoop (fuel + 1) s wte c w =
      if unsync_evict_stop w wte then (s, c, w)
      else
        match s.prob with
        | [] => (s, c, w)
        | n :: rest =>
          match AL.get? s.map n.key with
          | some e =>
            Unsync.evictLruLoop fuel (Unsync.takeOut s n.key e) wte (c + 1) (w + e.weight)
          | none => Unsync.evictLruLoop fuel { s with prob := rest } wte c w := by
  unfold unsync_evict_stop
  rw [Unsync.evictLruLoop]
  by_cases h : w ≥ wte <;> simp only [h, if_true, if_false, decide_true, decide_false, Bool.false_eq_true]
  all_goals first | rfl | (split <;> first | rfl | (split <;> rfl))

/-- The stop test of the LRU eviction loop of the concurrent cache. -/
theorem sync_evictLruLoop_stop_agrees (p : Params) (fuel : Nat) (s : Sync.SState) (wte evicted : Nat)
    (h : sync_evict_stop evicted wte = true) :
    Sync.evictLruLoop p (fuel + 1) s wte evicted = s := by
  unfold sync_evict_stop at h
  rw [Sync.evictLruLoop, if_pos (by simpa using h)]

theorem sync_evict_stop_iff (evicted wte : Nat) :
    sync_evict_stop evicted wte = true ↔ evicted ≥ wte := by
  unfold sync_evict_stop
  simp

/-- The maintenance loop body runs while `should_sync && calls <= max_repeats`, `calls` counting
from 0: at most `MAX_SYNC_REPEATS + 1` times — the fuel `syncRun` gives `syncLoop`. -/
theorem sync_loop_fuel_agrees (calls : Nat) :
    sync_loop_continue true calls Gen.MAX_SYNC_REPEATS = decide (calls < Gen.MAX_SYNC_REPEATS + 1) := by
  unfold sync_loop_continue
  simp [Nat.lt_succ_iff]

theorem sync_loop_stops_agrees (calls m : Nat) : sync_loop_continue false calls m = false := by
  unfold sync_loop_continue
  rfl

/-- One pass of the maintenance loop repeats iff the generated `should_sync` expression says so. -/
theorem sync_syncLoop_agrees (p : Params) (fuel : Nat) (s : Sync.SState) :
    Sync.syncLoop p (fuel + 1) s =
      (let s := if s.readQ.length > 0 then Sync.applyReads p s.readQ.length s else s
       let s := if s.writeQ.length > 0 then Sync.applyWrites p s.writeQ.length s else s
       let s := if Sync.shouldEnableSketch p s then Sync.enableSketch p s else s
       if sync_loop_again s.readQ.length s.writeQ.length Gen.READ_LOG_FLUSH_POINT Gen.WRITE_LOG_FLUSH_POINT
       then Sync.syncLoop p fuel s else s) := by
  unfold sync_loop_again
  rw [Sync.syncLoop]

/-- LRU eviction is entered iff `weights_to_evict > 0`. -/
theorem sync_evict_needed_agrees (wte : Nat) : decide (wte > 0) = sync_evict_needed wte := by
  unfold sync_evict_needed
  rfl

end Agree
end MiniMoka
