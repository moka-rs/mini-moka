/-
  Capacity bound (C04) on the unsync model: how each operation moves `weighted_size`
  relative to `max_capacity`, and how lookups work an excess off.  Then what a snapshot shows of
  a state, and the white-box trace oracles: the two C04 oracles are `Spec.Win3` instances; the
  C03-B oracle `fitsC03` has two window shapes and is walked by `IsRun.Runs.induction` from `stepInv`.
-/
import MiniMoka.Lemmas.UnsyncNoLoss
import MiniMoka.Lemmas.Walk
import MiniMoka.Lemmas.SnapView

namespace MiniMoka
namespace Unsync

/- `maintain p s` is a state like any other here (see the note in `UnsyncOps`). -/
attribute [local irreducible] maintain

open Spec

theorem ws_le_of_sub {p : Params} {s s' : UState} (hi : InvU p s) (hi' : InvU p s')
    (hsub : ∀ k e, AL.get? s'.map k = some e → AL.get? s.map k = some e) : s'.ws ≤ s.ws := by
  rw [hi.counted.ws, hi'.counted.ws]
  exact totalW_le_of_sub _ _ hi'.struct.keysNodup hsub

theorem maintain_ws_le {p : Params} (hq : NoQuirks p) {s : UState} (hi : InvU p s) :
    (maintain p s).ws ≤ s.ws := by
  obtain ⟨h1, h2, _⟩ := maintain_spec hq hi
  exact ws_le_of_sub hi h1 h2.sub

theorem maintain_length_le {p : Params} (hq : NoQuirks p) {s : UState} (hi : InvU p s) :
    (maintain p s).map.length ≤ s.map.length := by
  obtain ⟨h1, h2, _⟩ := maintain_spec hq hi
  exact length_le_of_sub _ _ h1.struct.keysNodup h2.sub

theorem map_nil_of_prob_nil {p : Params} {s : UState} (hs : Struct p s) (hp : s.prob = []) :
    s.map = [] := by
  cases hm : s.map with
  | nil => rfl
  | cons a rest =>
    obtain ⟨k, e⟩ := a
    have hk : AL.get? s.map k = some e := by rw [hm]; simp [AL.get?_cons]
    obtain ⟨id, n, _, hf, _⟩ := hs.aoLink k e hk (by simp)
    rw [hp] at hf
    simp [findAo] at hf

theorem removeVictims_ws : ∀ (l : List AoNode) (s : UState), (removeVictims l s).ws = s.ws := by
  intro l
  induction l with
  | nil => intro s; rfl
  | cons v rest ih =>
    intro s
    unfold removeVictims
    split
    · rw [ih, fail_only]
    · rw [ih, subEc_only, takeOut_only]

theorem get_frame (p : Params) (s : UState) (k : Nat) :
    (get p s k).1.map = (maintain p s).map ∧ (get p s k).1.ws = (maintain p s).ws ∧
    (get p s k).1.now = (maintain p s).now := by
  have h2 : (sketchIncrement p (maintain p s) (p.hash k)).map = (maintain p s).map ∧
      (sketchIncrement p (maintain p s) (p.hash k)).ws = (maintain p s).ws ∧
      (sketchIncrement p (maintain p s) (p.hash k)).now = (maintain p s).now := by
    rw [sketchIncrement_only]; exact ⟨rfl, rfl, rfl⟩
  rw [get_eq]
  rcases getCore_cases p (maintain p s) k with ⟨_, h⟩ | ⟨_, _, _, _, h⟩ | ⟨e, _, _, h⟩ <;> rw [h]
  · exact h2
  · exact h2
  · rw [recordHit_only]; exact h2

theorem handleInsert_ws (p : Params) (s : UState) (k : Nat) (hash : UInt64) (w : Nat)
    (ts : Option Nat) :
    (hasEnoughCapacity p w s.ws = true ∧ (handleInsert p s k hash w ts).ws = s.ws + w) ∨
    (hasEnoughCapacity p w s.ws = false ∧ (handleInsert p s k hash w ts).ws = s.ws) ∨
    (hasEnoughCapacity p w s.ws = false ∧ tooBig p w = false ∧
      ∃ vw, w ≤ vw ∧ (handleInsert p s k hash w ts).ws = s.ws - vw + w) := by
  rcases handleInsert_cases p s k hash w ts with
    ⟨hcap, h⟩ | ⟨hcap, ⟨_, h⟩ | ⟨htb, ⟨_, h⟩ | ⟨_, hadm, h⟩ | ⟨_, _, h⟩⟩⟩ <;> rw [h]
  · exact Or.inl ⟨hcap, by rw [maybeEnableSketch_only, pushCandidate_only]⟩
  · exact Or.inr (Or.inl ⟨hcap, rfl⟩)
  · exact Or.inr (Or.inl ⟨hcap, by rw [fail_only]⟩)
  · refine Or.inr (Or.inr ⟨hcap, htb, _, hadm.1, ?_⟩)
    rw [maybeEnableSketch_only, pushCandidate_only]
    dsimp only
    rw [removeVictims_ws]
  · exact Or.inr (Or.inl ⟨hcap, rfl⟩)

theorem insert_resident {p : Params} (hq : NoQuirks p) {s : UState} (hi : InvU p s) {k : Nat}
    (v : Nat) {old : UEntry} (hg : AL.get? (maintain p s).map k = some old) :
    ∃ id n, old.ao = some id ∧ findAo (maintain p s).prob id = some n ∧ n.key = k ∧
      insert p s k v =
        { maintain p s with
          map := AL.put (maintain p s).map k
            { val := v, weight := p.weigh k v, ao := old.ao, wo := old.wo },
          prob := (touchAo (maintain p s) id (opTs p (maintain p s))).prob,
          wo := (match old.wo with
            | some wid => (touchWo (maintain p s) wid (opTs p (maintain p s))).wo
            | none => (maintain p s).wo),
          ws := (maintain p s).ws - old.weight + p.weigh k v } := by
  obtain ⟨h1, _, _⟩ := maintain_spec hq hi
  obtain ⟨id, n, hao, hf, hnk, heq, _, _⟩ :=
    handleUpdate_touch (entry := { val := v, weight := p.weigh k v }) h1.struct hg
      (opTs p (maintain p s)) (p.weigh k v)
  refine ⟨id, n, hao, hf, hnk, ?_⟩
  unfold insert
  dsimp only
  rw [hg]
  dsimp only
  rw [heq]
  cases old.wo <;> rfl

theorem insert_ws {p : Params} (hq : NoQuirks p) {s : UState} (hi : InvU p s) (k v : Nat) :
    (∃ old, AL.get? (maintain p s).map k = some old ∧ old.weight ≤ (maintain p s).ws ∧
      (insert p s k v).ws = (maintain p s).ws - old.weight + p.weigh k v) ∨
    (hasEnoughCapacity p (p.weigh k v) (maintain p s).ws = true ∧
      (insert p s k v).ws = (maintain p s).ws + p.weigh k v) ∨
    (insert p s k v).ws = (maintain p s).ws ∨
    (tooBig p (p.weigh k v) = false ∧
      ∃ vw, p.weigh k v ≤ vw ∧ (insert p s k v).ws = (maintain p s).ws - vw + p.weigh k v) := by
  cases hg : AL.get? (maintain p s).map k with
  | some old =>
    obtain ⟨_, _, _, _, _, heq⟩ := insert_resident hq hi v hg
    refine Or.inl ⟨old, rfl, ?_, by rw [heq]⟩
    rw [(maintain_spec hq hi).1.counted.ws]
    exact weight_le_totalW hg
  | none =>
    rw [insert_new_eq hg]
    rcases handleInsert_ws p
        { maintain p s with
          map := (AL.put (maintain p s).map k ({ val := v, weight := p.weigh k v } : UEntry)) }
        k (p.hash k) (p.weigh k v) (opTs p (maintain p s))
      with h | ⟨_, h⟩ | ⟨_, h⟩
    · exact Or.inr (Or.inl h)
    · exact Or.inr (Or.inr (Or.inl h))
    · exact Or.inr (Or.inr (Or.inr h))

theorem insert_ws_le {p : Params} (hq : NoQuirks p) {s : UState} (hi : InvU p s) {c : Nat}
    (hcap : p.cap = some c) (k v : Nat)
    (hng : ∀ old, AL.get? (maintain p s).map k = some old → ¬ old.weight < p.weigh k v)
    (hle : s.ws ≤ c) : (insert p s k v).ws ≤ c := by
  have hle1 : (maintain p s).ws ≤ c := Nat.le_trans (maintain_ws_le hq hi) hle
  rcases insert_ws hq hi k v with ⟨old, hg, hold, hws⟩ | ⟨hfit, hws⟩ | hws | ⟨htb, vw, hvw, hws⟩
  · have := hng old hg
    omega
  · rw [hws]
    simpa [hasEnoughCapacity, hcap] using hfit
  · omega
  · have : p.weigh k v ≤ c := by simpa [tooBig, hcap] using htb
    omega

theorem insert_ws_le_add {p : Params} (hq : NoQuirks p) {s : UState} (hi : InvU p s) (k v : Nat) :
    (insert p s k v).ws ≤ s.ws + p.weigh k v := by
  have := maintain_ws_le hq hi
  rcases insert_ws hq hi k v with ⟨_, _, _, hws⟩ | ⟨_, hws⟩ | hws | ⟨_, _, _, hws⟩ <;> omega

/-- `get` or `contains_key`: as far as the residents and their weight go, the maintenance alone. -/
def isLookup : Op → Bool
  | .get _ => true
  | .has _ => true
  | _ => false

theorem step_lookup_frame {p : Params} {s : UState} (hf : s.fault = none) {op : Op}
    (hop : isLookup op = true) :
    (step p s op).1.map = (maintain p s).map ∧ (step p s op).1.ws = (maintain p s).ws ∧
    (step p s op).1.now = (maintain p s).now := by
  rw [step_state hf op]
  cases op with
  | get k => exact get_frame p s k
  | has k => dsimp only; rw [containsKey_fst]; exact ⟨rfl, rfl, rfl⟩
  | _ => cases hop

/-- "Growing update": an `insert` of a key that is resident (after the operation's own
maintenance) with a new weight above the old one. -/
def GrowingUpdate (p : Params) (s : UState) : Op → Prop
  | .ins k v => ∃ old, AL.get? (maintain p s).map k = some old ∧ old.weight < p.weigh k v
  | _ => False

theorem invalidate_ws_le {P : Sketch → Prop} {p : Params} (hq : NoQuirks p) {s : UState}
    (hi : Inv P p s) (k : Nat) : (invalidate p s k).ws ≤ s.ws := by
  refine ws_le_of_sub hi.inv (invalidate_inv hq hi k).inv ?_
  intro k' e h
  rw [invalidate_exact hq hi k k'] at h
  obtain ⟨_, h2, _⟩ := maintain_spec hq hi.inv
  split at h
  · cases h
  · exact h2.sub k' e h

theorem invalidateEntriesIf_ws_le {P : Sketch → Prop} {p : Params} (hq : NoQuirks p) {s : UState}
    (hi : Inv P p s) (pr : Pred) : (invalidateEntriesIf p s pr).ws ≤ s.ws := by
  refine ws_le_of_sub hi.inv (invalidateEntriesIf_inv hq hi pr).inv ?_
  intro k e h
  exact ((invalidateEntriesIf_exact hq hi pr k e).mp h).1

/-- C04, one step. -/
theorem step_ws_le {P : Sketch → Prop} {p : Params} (hq : NoQuirks p) {s : UState} (hi : Inv P p s) {c : Nat} (hcap : p.cap = some c)
    (op : Op) (hng : ¬ GrowingUpdate p s op) (hle : s.ws ≤ c) : (step p s op).1.ws ≤ c := by
  rw [step_state hi.inv.struct.noFault op]
  cases op with
  | ins k v =>
    exact insert_ws_le hq hi.inv hcap k v (fun old h1 h2 => hng ⟨old, h1, h2⟩) hle
  | get k => dsimp only; rw [(get_frame p s k).2.1]; exact Nat.le_trans (maintain_ws_le hq hi.inv) hle
  | has k =>
    dsimp only; rw [containsKey_fst]; exact Nat.le_trans (maintain_ws_le hq hi.inv) hle
  | iter => exact hle
  | inv k => exact Nat.le_trans (invalidate_ws_le hq hi k) hle
  | invAll => simp [invalidateAll]
  | invIf pr => exact Nat.le_trans (invalidateEntriesIf_ws_le hq hi pr) hle
  | sync => exact hle
  | adv d => exact hle
  | snap => exact hle
  | freq k => exact hle

theorem insert_toobig {p : Params} {s : UState} {k v : Nat}
    (hnew : AL.get? (maintain p s).map k = none) (hbig : tooBig p (p.weigh k v) = true) :
    insert p s k v = maintain p s := by
  have hroom : hasEnoughCapacity p (p.weigh k v) (maintain p s).ws = false := by
    cases hc : p.cap with
    | none => simp [tooBig, hc] at hbig
    | some c => simp [tooBig, hc] at hbig; simp [hasEnoughCapacity, hc]; omega
  rw [insert_new_eq hnew]
  generalize maintain p s = s1 at hnew hroom ⊢
  unfold handleInsert
  dsimp only
  rw [hroom, hbig]
  simp only [Bool.false_eq_true, if_false, if_true]
  exact state_restore hnew

theorem insert_oversized {p : Params} {s : UState} {c : Nat} (hcap : p.cap = some c) (k v : Nat)
    (hfresh : AL.get? (maintain p s).map k = none) (hbig : c < p.weigh k v) :
    insert p s k v = maintain p s :=
  insert_toobig hfresh (by simp [tooBig, hcap]; omega)

theorem evictLru_works_off {p : Params} {s : UState} (hi : InvU p s) {c : Nat}
    (hcap : p.cap = some c) :
    (evictLru p s).ws ≤ c ∨ (evictLru p s).map.length + EVICTION_BATCH_SIZE = s.map.length := by
  obtain ⟨hl, hsh⟩ :=
    evictLruLoop_spec (p := p) EVICTION_BATCH_SIZE s (weightsToEvict p s) 0 0 hi.struct
  obtain ⟨hi3, _, _, hmap, _, _⟩ := settle hi hl
  rw [evictLru_eq, hi3.counted.ws, hmap]
  have hcount := hl.count
  have hweight := hl.weight
  have hstruct := hl.struct
  generalize evictLruLoop EVICTION_BATCH_SIZE s (weightsToEvict p s) 0 0 = r
    at hsh hcount hweight hstruct ⊢
  -- the loop ended on a full batch, on its weight test, or on an empty list (then the map is empty)
  rcases hsh with h | h | h
  · right; omega
  · left
    have : weightsToEvict p s = s.ws - c := by simp [weightsToEvict, hcap]
    rw [this, hi.counted.ws] at h
    omega
  · left; rw [map_nil_of_prob_nil hstruct h]; simp [totalW]

theorem evictExpiredIfNeeded_spec {p : Params} (hq : NoQuirks p) {s : UState} :
    Maintains p s (evictExpiredIfNeeded p s) := by
  unfold evictExpiredIfNeeded
  split
  · exact evictExpired_spec hq
  · exact .refl p s

/-- C04, working off an excess: the maintenance that starts every `get`, `contains_key`, `insert`
and `invalidate` leaves the cache within its capacity, or has removed a full batch of entries.
(An empty map has `weighted_size = 0`: "the map is empty" is in the first alternative.) -/
theorem maintain_works_off {p : Params} (hq : NoQuirks p) {s : UState} (hi : InvU p s) {c : Nat}
    (hcap : p.cap = some c) :
    (maintain p s).ws ≤ c ∨ (maintain p s).map.length + EVICTION_BATCH_SIZE ≤ s.map.length := by
  obtain ⟨h1, h2, _⟩ := evictExpiredIfNeeded_spec hq hi
  have hlen := length_le_of_sub _ _ h1.struct.keysNodup h2.sub
  unfold maintain
  rcases evictLru_works_off h1 hcap with h | h
  · exact Or.inl h
  · right; omega

theorem lookups_keep {P : Sketch → Prop} (L : SketchLaws P) {p : Params} (hq : NoQuirks p)
    (hsm : SmallSketch p) {c : Nat} (hcap : p.cap = some c) :
    ∀ (ops : List Op) (s : UState), Inv P p s → (∀ op ∈ ops, isLookup op = true) →
      s.ws ≤ c → (runState p s ops).ws ≤ c := by
  intro ops
  induction ops with
  | nil => intro s _ _ h; exact h
  | cons o r ih =>
    intro s hi hl hle
    refine ih _ (step_inv L hq hsm hi o) (fun o' ho' => hl o' (List.mem_cons_of_mem _ ho'))
      (step_ws_le hq hi hcap o ?_ hle)
    have := hl o List.mem_cons_self
    cases o <;> first | exact fun h => h | cases this

theorem lookups_fit_or_shrink {P : Sketch → Prop} (L : SketchLaws P) {p : Params} (hq : NoQuirks p)
    (hsm : SmallSketch p) {c : Nat} (hcap : p.cap = some c) :
    ∀ (ops : List Op) (s : UState), Inv P p s → (∀ op ∈ ops, isLookup op = true) →
      (runState p s ops).ws ≤ c ∨
      (runState p s ops).map.length + ops.length * EVICTION_BATCH_SIZE ≤ s.map.length := by
  intro ops
  induction ops with
  | nil => intro s _ _; right; simp [runState]
  | cons op rest ih =>
    intro s hi hall
    have hi' := step_inv L hq hsm hi op
    have hrest : ∀ o ∈ rest, isLookup o = true := fun o ho => hall o (List.mem_cons_of_mem _ ho)
    obtain ⟨hm, hw, _⟩ := step_lookup_frame hi.inv.struct.noFault (hall op List.mem_cons_self)
    simp only [runState, List.length_cons]
    rcases maintain_works_off hq hi.inv hcap with h1 | h1
    · exact Or.inl (lookups_keep L hq hsm hcap rest _ hi' hrest (by rw [hw]; exact h1))
    · rcases ih _ hi' hrest with h | h
      · exact Or.inl h
      · right
        rw [hm] at h
        rw [Nat.add_mul]
        omega

/-- The cache is within its capacity after `j` lookups if it held at most `j` batches of
entries (whatever its excess was): `⌈n / batch⌉` operations work any excess off. -/
theorem lookups_work_off {P : Sketch → Prop} (L : SketchLaws P) {p : Params} (hq : NoQuirks p)
    (hsm : SmallSketch p) {c : Nat} (hcap : p.cap = some c) (ops : List Op) (s : UState)
    (hi : Inv P p s) (hall : ∀ op ∈ ops, isLookup op = true)
    (hn : s.map.length ≤ ops.length * EVICTION_BATCH_SIZE) : (runState p s ops).ws ≤ c := by
  rcases lookups_fit_or_shrink L hq hsm hcap ops s hi hall with h | h
  · exact h
  · have hI := (runState_inv L hq hsm ops hi).inv
    have : (runState p s ops).map.length = 0 := by omega
    have hm : (runState p s ops).map = [] := List.eq_nil_of_length_eq_zero this
    rw [hI.counted.ws, hm]; simp [totalW]

/-! ### what a snapshot shows of a state

The readings of the entries through `Spec.Shows` (`shows`).  The counters are in `UnsyncTrace`
(`snapshot_counters`; `snapshot_weight` is read off it), the readings of the admission oracles (`weightOfKey`,
`freqOfKey`, `lruOrder`, `keysOf`) in `UnsyncAdmit`. -/

theorem snapshot_find? {p : Params} {s : UState} (hs : Struct p s) (k : Nat) :
    (snapshot p s).entries.find? (fun e => e.key == k) =
      (AL.get? s.map k).map (fun e => entryView s (k, e)) :=
  (shows p s).find?_entry hs.keysNodup k

theorem snapshot_any {p : Params} {s : UState} (hs : Struct p s) (k : Nat) :
    (snapshot p s).entries.any (fun e => e.key == k) = (AL.get? s.map k).isSome :=
  (shows p s).any_entry hs.keysNodup k

theorem snapshot_weight {p : Params} {s : UState} (hi : InvU p s) :
    snapWeight (snapshot p s) = s.ws := by
  have := snapshot_counters hi
  simp only [snapCountersOk, Bool.and_eq_true, beq_iff_eq] at this
  exact this.1.2.symm

theorem snapshot_length (p : Params) (s : UState) :
    (snapshot p s).entries.length = s.map.length :=
  (shows p s).length_entries

theorem mem_snapshot_entries {p : Params} {s : UState} {x : EntryView} :
    x ∈ (snapshot p s).entries ↔ ∃ k e, (k, e) ∈ s.map ∧ x = entryView s (k, e) :=
  (shows p s).mem_entries.trans
    ⟨fun ⟨kv, h1, h2⟩ => ⟨kv.1, kv.2, h1, h2⟩, fun ⟨k, e, h1, h2⟩ => ⟨(k, e), h1, h2⟩⟩

theorem entryLiveAt_view (p : Params) (s : UState) (now : Nat) (kv : Nat × UEntry) :
    entryLiveAt p.ttl p.tti now none (entryView s kv) = !isExpiredEntry p s kv.2 now := by
  simp [entryLiveAt, entryView, isExpiredEntry, Bool.not_or]

/-- What `Spec.boundC04` tests at one window `snap, op, snap`: the oracle's body copied, so that
`win3_boundC04.win` is `rfl`. -/
def checkC04 (cap : Nat) (before : Snap) (op : Op) (after : Snap) : Bool :=
  match op with
  | .ins k _ =>
    let wasThere := before.entries.any (fun e => e.key == k)
    let grew := match before.entries.find? (fun e => e.key == k), after.entries.find? (fun e => e.key == k) with
      | some b, some a => decide (b.weight < a.weight)
      | _, _ => false
    (grew || decide (snapWeight before > cap) || decide (snapWeight after ≤ cap)) &&
    (wasThere || (match after.entries.find? (fun e => e.key == k) with
                  | some a => decide (a.weight ≤ cap)
                  | none => true))
  | _ => decide (snapWeight before > cap) || decide (snapWeight after ≤ cap)

theorem win3_boundC04 (c : Nat) : Win3 (boundC04 c) (checkC04 c) where
  nil := rfl
  win := fun _ _ _ _ _ => rfl
  skip := fun x tr hn => by
    rw [boundC04]
    exact fun b op ob a rest h1 h2 => hn b op ob a rest (by rw [h1, h2])

/-- The check of `boundC04` holds across every step of the model (from a state coupled with
the reference bookkeeping, which is where the value of a freshly inserted entry comes from). -/
theorem step_checkC04 {P : Sketch → Prop} (L : SketchLaws P) {p : Params} (hq : NoQuirks p)
    (hsm : SmallSketch p) {s : UState} {g : Ghost} (hi : Inv P p s) (hc : Coupled p s g) {c : Nat}
    (hcap : p.cap = some c) (op : Op) :
    checkC04 c (snapshot p s) op (snapshot p (step p s op).1) = true := by
  have hi' := step_inv L hq hsm hi op
  have hbound : ¬ GrowingUpdate p s op →
      (decide (snapWeight (snapshot p s) > c) ||
        decide (snapWeight (snapshot p (step p s op).1) ≤ c)) = true := by
    intro hng
    rw [snapshot_weight hi.inv, snapshot_weight hi'.inv]
    by_cases hle : s.ws ≤ c
    · have := step_ws_le hq hi hcap op hng hle
      simp [this]
    · have : s.ws > c := by omega
      simp [this]
  cases op with
  | ins k v =>
    have hc' := (step_coupled L hq hsm hi hc (.ins k v)).2
    have hst := step_state (p := p) hi.inv.struct.noFault (.ins k v)
    dsimp only at hst
    obtain ⟨hm1, hm2, _⟩ := maintain_spec hq hi.inv
    simp only [checkC04, Bool.and_eq_true]
    rw [snapshot_find? hi.inv.struct, snapshot_find? hi'.inv.struct, snapshot_any hi.inv.struct]
    refine ⟨?_, ?_⟩
    · by_cases hgu : GrowingUpdate p s (.ins k v)
      · obtain ⟨old, h1, h2⟩ := hgu
        have h3 := hm2.sub k old h1
        have h4 : AL.get? (step p s (.ins k v)).1.map k =
            some { val := v, weight := p.weigh k v, ao := old.ao, wo := old.wo } := by
          obtain ⟨_, _, _, _, _, heq⟩ := insert_resident hq hi.inv v h1
          rw [hst, heq]
          exact AL.get?_put_self _ _ _
        rw [h3, h4]
        simp [entryView, h2]
      · have := hbound hgu
        simp only [Bool.or_eq_true] at this ⊢
        rcases this with h | h
        · exact Or.inl (Or.inr h)
        · exact Or.inr h
    · cases hwas : AL.get? s.map k with
      | some e0 => simp
      | none =>
        have hfresh : AL.get? (maintain p s).map k = none := hm2.absent hwas
        simp only [Option.isSome_none, Bool.false_or]
        cases hafter : AL.get? (step p s (.ins k v)).1.map k with
        | none => rfl
        | some e =>
          simp only [Option.map_some, entryView, decide_eq_true_eq]
          by_cases hbig : c < p.weigh k v
          · rw [hst, insert_oversized hcap k v hfresh hbig, hfresh] at hafter
            cases hafter
          · obtain ⟨ge, g1, _, g3, _⟩ := hc'.ents k e hafter
            have hge : ge.val = v := by
              simp only [ghostStep, AL.get?_put_self, Option.some.injEq] at g1
              rw [← g1]
            rw [hi'.inv.counted.weights k e hafter, ← g3, hge]
            omega
  -- only an `ins` can be a growing update: for the others `GrowingUpdate` is `False` as it stands
  | _ => exact hbound fun h => h

theorem boundC04_run {P : Sketch → Prop} (L : SketchLaws P) {p : Params} (hq : NoQuirks p)
    (hsm : SmallSketch p) {c : Nat} (hcap : p.cap = some c) (h : List Op) {s : UState} {g : Ghost}
    (hi : Inv P p s) (hc : Coupled p s g) : boundC04 c (run p s h) = true :=
  (win3_boundC04 c).run (isRun p)
    (I := fun s => Inv P p s ∧ ∃ g, Coupled p s g)
    (fun _ op ⟨hi, _, hc⟩ => ⟨step_inv L hq hsm hi op, _, (step_coupled L hq hsm hi hc op).2⟩)
    (snapshot p) (fun _ hj => step_snap L hq hsm hj.1)
    (fun _ op ⟨hi, _, hc⟩ => step_checkC04 L hq hsm hi hc hcap op) h s ⟨hi, g, hc⟩

/-- What `Spec.workedOffC04` tests at one window `snap, op, snap`, copied from the oracle like
`checkC04` (hence the inline test where the lemmas say `isLookup`). -/
def checkWorkedOff (cap batch : Nat) (before : Snap) (op : Op) (after : Snap) : Bool :=
  let lookup := match op with
    | .has _ => true
    | .get _ => true
    | _ => false
  !(lookup && decide (snapWeight before > cap)) || decide (snapWeight after ≤ cap) ||
    decide (after.entries.length + batch ≤ before.entries.length)

theorem win3_workedOffC04 (c b : Nat) : Win3 (workedOffC04 c b) (checkWorkedOff c b) where
  nil := rfl
  win := fun _ _ _ _ _ => rfl
  skip := fun x tr hn => by
    rw [workedOffC04]
    exact fun b op ob a rest h1 h2 => hn b op ob a rest (by rw [h1, h2])

/-- A lookup is the maintenance as far as the residents and their weight go; so it brings an
over-capacity cache back within capacity or removes a full batch. -/
theorem step_checkWorkedOff {P : Sketch → Prop} (L : SketchLaws P) {p : Params} (hq : NoQuirks p)
    (hsm : SmallSketch p) {s : UState} (hi : Inv P p s) {c : Nat} (hcap : p.cap = some c)
    (op : Op) :
    checkWorkedOff c EVICTION_BATCH_SIZE (snapshot p s) op (snapshot p (step p s op).1) = true := by
  by_cases hop : isLookup op = true
  · obtain ⟨hm, hw, _⟩ := step_lookup_frame hi.inv.struct.noFault hop
    have hi' := step_inv L hq hsm hi op
    have : (decide (snapWeight (snapshot p (step p s op).1) ≤ c) ||
        decide ((snapshot p (step p s op).1).entries.length + EVICTION_BATCH_SIZE ≤
          (snapshot p s).entries.length)) = true := by
      rw [snapshot_weight hi'.inv, snapshot_length, snapshot_length, hw, hm]
      rcases maintain_works_off hq hi.inv hcap with h | h <;> simp [h]
    simp only [checkWorkedOff, Bool.or_eq_true] at this ⊢
    rcases this with h | h
    · exact Or.inl (Or.inr h)
    · exact Or.inr h
  · cases op <;> first | exact absurd rfl hop | rfl

theorem workedOffC04_run {P : Sketch → Prop} (L : SketchLaws P) {p : Params} (hq : NoQuirks p)
    (hsm : SmallSketch p) {c : Nat} (hcap : p.cap = some c) (h : List Op) {s : UState}
    (hi : Inv P p s) : workedOffC04 c EVICTION_BATCH_SIZE (run p s h) = true :=
  (win3_workedOffC04 c EVICTION_BATCH_SIZE).run (isRun p)
    (fun _ op hi => step_inv L hq hsm hi op) (snapshot p) (fun _ hi => step_snap L hq hsm hi)
    (fun _ op hi => step_checkWorkedOff L hq hsm hi hcap op) h s hi

/-! ### C03 part B: the oracle `fitsC03` -/

/-- The per-window check of `Spec.fitsC03` (`snap, [freq,] ins k v, snap`). -/
def checkFits (cap : Nat) (ttl tti : Option Nat) (w : Nat → Nat → Nat) (before : Snap)
    (k v : Nat) (after : Snap) : Bool :=
  let fresh := !(before.entries.any (fun e => e.key == k))
  let fits := decide (snapWeight before + w k v ≤ cap)
  !(fresh && fits) ||
    (after.entries.any (fun e => e.key == k && e.val == v) &&
     before.entries.all (fun e => !(entryLiveAt ttl tti after.now none e) ||
       after.entries.any (fun e' => e'.key == e.key)))

/-- Part B across an `insert` of the model: a key that is not resident and whose weight fits
beside the residents is resident afterwards with its value, and every resident that is
unexpired at the time of the call is still resident. -/
theorem insert_checkFits {P : Sketch → Prop} (L : SketchLaws P) {p : Params} (hq : NoQuirks p)
    (hsm : SmallSketch p) {s : UState} {g : Ghost} (hi : Inv P p s) (hc : Coupled p s g) {c : Nat}
    (hcap : p.cap = some c) (k v : Nat) :
    checkFits c p.ttl p.tti p.weigh (snapshot p s) k v (snapshot p (insert p s k v)) = true := by
  have hi' := insert_inv L hq hsm hi k v
  have hnow : (insert p s k v).now = s.now := by
    have h1 := (insert_coupled hq hi hc k v).now
    have h2 := hc.now
    simp only [ghostStep] at h1
    rw [← h1, h2]
  unfold checkFits
  rw [snapshot_any hi.inv.struct, snapshot_weight hi.inv]
  cases hk : AL.get? s.map k with
  | some e0 => simp
  | none =>
    by_cases hfit : s.ws + p.weigh k v ≤ c
    · obtain ⟨hm1, hm2, _⟩ := maintain_spec hq hi.inv
      have hnew : AL.get? (maintain p s).map k = none := hm2.absent hk
      have hcf : hasEnoughCapacity p (p.weigh k v) (maintain p s).ws = true := by
        have := maintain_ws_le hq hi.inv
        simp only [hasEnoughCapacity, hcap, decide_eq_true_eq]
        omega
      obtain ⟨⟨e, he, hev⟩, hkeep⟩ := insert_hasroom_keeps hq hi k v hnew hcf
      have hroom : ∀ c', p.cap = some c' → s.ws ≤ c' := by
        intro c' hc'; rw [hcap] at hc'; cases hc'; omega
      simp only [Option.isSome_none, Bool.not_false, Bool.true_and, hfit, decide_true, Bool.not_true,
        Bool.false_or, Bool.and_eq_true]
      refine ⟨?_, ?_⟩
      · exact (shows p _).any_of_get? he (by simp [entryView, hev])
      · rw [List.all_eq_true]
        intro x hx
        obtain ⟨k', e', hmem, rfl⟩ := mem_snapshot_entries.mp hx
        have hk' := AL.get?_of_mem hi.inv.struct.keysNodup hmem
        by_cases hlive : entryLiveAt p.ttl p.tti (snapshot p (insert p s k v)).now none
            (entryView s (k', e')) = true
        · have hx' : isExpiredEntry p s e' s.now = false := by
            have hn : (snapshot p (insert p s k v)).now = s.now := hnow
            rw [hn, entryLiveAt_view, Bool.not_eq_true'] at hlive
            exact hlive
          obtain ⟨e'', he'', _⟩ := hkeep k' e' (kept_by_maintain hq hi hroom hk' hx').1
          simp only [Bool.or_eq_true]
          exact Or.inr ((shows p _).any_key he'')
        · simp [hlive]
    · simp [hfit]

/-- `fitsC03` has two window shapes (with and without a `freq` before the `ins`) and recurs on the
suffix that starts at the closing snapshot, hence `IsRun.Runs.induction` and not `Spec.Win3`. -/
theorem fitsC03_run {P : Sketch → Prop} (L : SketchLaws P) {p : Params} (hq : NoQuirks p)
    (hsm : SmallSketch p) {c : Nat} (hcap : p.cap = some c) (h : List Op) {s : UState} {g : Ghost}
    (hi : Inv P p s) (hc : Coupled p s g) : fitsC03 c p.ttl p.tti p.weigh (run p s h) = true := by
  have H := stepInv L hq hsm (I := fun s => Inv P p s ∧ ∃ g, Coupled p s g) (fun _ hs => hs.1)
    (fun _ op ⟨hi, _, hc⟩ => ⟨step_inv L hq hsm hi op, _, (step_coupled L hq hsm hi hc op).2⟩)
  refine IsRun.Runs.induction (run := run p) (I := fun s => Inv P p s ∧ ∃ g, Coupled p s g)
    (P := fun t => fitsC03 c p.ttl p.tti p.weigh t = true) (fun t ht ih => ?_) _
    ⟨s, h, ⟨hi, g, hc⟩, rfl⟩
  unfold fitsC03
  split
  · rename_i before k0 f k v after rest
    obtain ⟨s, _, hj, e⟩ := ht
    obtain ⟨hb, hj1, _, e1⟩ := H.uncons (isRun p) hj e
    obtain ⟨-, hj2, _, e2⟩ := H.uncons (isRun p) hj1 e1
    obtain ⟨-, hj3, _, e3⟩ := H.uncons (isRun p) hj2 e2
    obtain ⟨ha, -, -, -⟩ := H.uncons (isRun p) hj3 e3
    obtain ⟨hi, _, hc⟩ := hj
    rw [Bool.and_eq_true]
    refine ⟨?_, ih _ ⟨_, _, hj3, e3⟩ (by simp only [List.length_cons]; omega)⟩
    rw [Obs.snap.inj hb, Obs.snap.inj ha]
    exact insert_checkFits L hq hsm hi hc hcap k v
  · rename_i before k v after rest
    obtain ⟨s, _, hj, e⟩ := ht
    obtain ⟨hb, hj1, _, e1⟩ := H.uncons (isRun p) hj e
    obtain ⟨-, hj2, _, e2⟩ := H.uncons (isRun p) hj1 e1
    obtain ⟨ha, -, -, -⟩ := H.uncons (isRun p) hj2 e2
    obtain ⟨hi, _, hc⟩ := hj
    rw [Bool.and_eq_true]
    refine ⟨?_, ih _ ⟨_, _, hj2, e2⟩ (by simp only [List.length_cons]; omega)⟩
    rw [Obs.snap.inj hb, Obs.snap.inj ha]
    exact insert_checkFits L hq hsm hi hc hcap k v
  · exact ih _ (H.tail (isRun p) ht) (Nat.lt_succ_self _)
  · rfl

end Unsync
end MiniMoka
