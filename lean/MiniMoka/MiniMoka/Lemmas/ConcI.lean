/-
  Model I (`MiniMoka/ConcI.lean`: iteration shard by shard beside writers), for any `shardOf`: what an
  iteration yields is what the visited shards held at the moment of their visit (`mem_out_run`, the
  characterisation the C16 theorems of `Props/C16Conc.lean` go through), and the Boolean acceptor
  `acceptI` says what it should (`acceptI_iff`).
-/
import MiniMoka.ConcI
import MiniMoka.Lemmas.AL

namespace MiniMoka.ConcI

open MiniMoka

section
variable {β : Type}

theorem get?_isSome_of_mem_keys {m : List (Nat × β)} {k : Nat} (h : k ∈ AL.keys m) :
    ∃ v, AL.get? m k = some v :=
  Option.isSome_iff_exists.1 ((AL.get?_isSome_iff m k).2 h)

end

variable (shardOf : Key → Nat)

theorem run_nil (s : St) : run shardOf s [] = s := rfl

theorem run_cons (s : St) (e : Ev) (tr : List Ev) :
    run shardOf s (e :: tr) = run shardOf (step shardOf s e) tr := rfl

theorem run_append (s : St) (a b : List Ev) :
    run shardOf s (a ++ b) = run shardOf (run shardOf s a) b := by
  simp [run, List.foldl_append]

theorem upd_same (m : Nat → Shard) (i : Nat) (f : Shard → Shard) : upd m i f i = f (m i) := by
  simp [upd]

theorem upd_ne (m : Nat → Shard) {i j : Nat} (f : Shard → Shard) (h : j ≠ i) :
    upd m i f j = m j := by
  simp [upd, h]

theorem wf_step {s : St} (hw : WfMap shardOf s.map) (e : Ev) :
    WfMap shardOf (step shardOf s e).map := by
  cases e with
  | write k v =>
    intro i
    simp only [step]
    by_cases hi : i = shardOf k
    · subst hi
      rw [upd_same]
      refine ⟨AL.nodup_put k v (hw _).1, fun x hx => ?_⟩
      rcases (AL.mem_keys_put v).mp hx with h | h
      · rw [h]
      · exact (hw _).2 x h
    · rw [upd_ne _ _ hi]; exact hw i
  | remove k =>
    intro i
    simp only [step]
    by_cases hi : i = shardOf k
    · subst hi
      rw [upd_same]
      exact ⟨AL.nodup_erase k (hw _).1, fun x hx => (hw _).2 x (AL.mem_keys_erase_of_mem hx)⟩
    · rw [upd_ne _ _ hi]; exact hw i
  | visit i => exact hw

theorem wf_run {s : St} (hw : WfMap shardOf s.map) (tr : List Ev) :
    WfMap shardOf (run shardOf s tr).map := by
  induction tr generalizing s with
  | nil => exact hw
  | cons e tr ih => rw [run_cons]; exact ih (wf_step shardOf hw e)

theorem mem_out_run {s : St} {tr : List Ev} {kv : Key × Val} :
    kv ∈ (run shardOf s tr).out ↔
      kv ∈ s.out ∨ ∃ pre i post, tr = pre ++ Ev.visit i :: post ∧
        kv ∈ (run shardOf s pre).map i := by
  induction tr generalizing s with
  | nil => simp [run_nil]
  | cons e tr ih =>
    rw [run_cons, ih]
    constructor
    · rintro (h | ⟨pre, i, post, htr, hmem⟩)
      · cases e with
        | write k v => exact Or.inl h
        | remove k => exact Or.inl h
        | visit j =>
          simp only [step, List.mem_append] at h
          rcases h with h | h
          · exact Or.inl h
          · exact Or.inr ⟨[], j, tr, rfl, h⟩
      · refine Or.inr ⟨e :: pre, i, post, by simp [htr], ?_⟩
        rw [run_cons]; exact hmem
    · rintro (h | ⟨pre, i, post, htr, hmem⟩)
      · left
        cases e with
        | write k v => exact h
        | remove k => exact h
        | visit j => simp only [step, List.mem_append]; exact Or.inl h
      · cases pre with
        | nil =>
          simp only [List.nil_append, List.cons.injEq] at htr
          obtain ⟨rfl, rfl⟩ := htr
          left
          simp only [step, List.mem_append]
          exact Or.inr hmem
        | cons e' pre' =>
          simp only [List.cons_append, List.cons.injEq] at htr
          obtain ⟨rfl, rfl⟩ := htr
          right
          exact ⟨pre', i, post, rfl, by rw [run_cons] at hmem; exact hmem⟩

theorem mem_visits {tr : List Ev} {i : Nat} (h : i ∈ visits tr) :
    ∃ pre post, tr = pre ++ Ev.visit i :: post := by
  induction tr with
  | nil => simp [visits] at h
  | cons e tr ih =>
    by_cases he : e = .visit i
    · exact ⟨[], tr, by rw [he]; rfl⟩
    · have h' : i ∈ visits tr := by
        cases e with
        | visit j =>
          rcases List.mem_cons.1 h with rfl | h
          · exact absurd rfl he
          · exact h
        | _ => exact h
      obtain ⟨pre, post, rfl⟩ := ih h'
      exact ⟨e :: pre, post, rfl⟩

/-- No key twice — generalised over the starting shard index for the induction. -/
theorem nodup_out_gen (tr : List Ev) :
    ∀ (s : St) (a len : Nat), WfMap shardOf s.map → visits tr = List.range' a len →
      (s.out.map Prod.fst).Nodup → (∀ k ∈ s.out.map Prod.fst, shardOf k < a) →
      ((run shardOf s tr).out.map Prod.fst).Nodup := by
  induction tr with
  | nil => intro s a len _ _ hn _; exact hn
  | cons e tr ih =>
    intro s a len hw hv hn hlt
    rw [run_cons]
    cases e with
    | write k v => exact ih _ a len (wf_step shardOf hw _) (by simpa [visits] using hv) hn hlt
    | remove k => exact ih _ a len (wf_step shardOf hw _) (by simpa [visits] using hv) hn hlt
    | visit i =>
      cases len with
      | zero => simp [visits] at hv
      | succ len =>
        simp only [visits, List.range'_succ, List.cons.injEq] at hv
        obtain ⟨rfl, hv⟩ := hv
        have hwi := hw i
        rw [AL.keys_eq_map] at hwi
        refine ih _ (i + 1) len hw hv ?_ ?_
        · simp only [step, List.map_append]
          rw [List.nodup_append]
          refine ⟨hn, hwi.1, ?_⟩
          intro x hx y hy hxy
          have h1 := hlt x hx
          have h2 := hwi.2 y hy
          subst hxy
          omega
        · intro k hk
          simp only [step, List.map_append, List.mem_append] at hk
          rcases hk with hk | hk
          · have := hlt k hk; omega
          · have := hwi.2 k hk; omega

theorem lookup_write (s : St) (k' : Key) (v' : Val) (k : Key) :
    lookup shardOf (step shardOf s (.write k' v')).map k =
      if k' = k then some v' else lookup shardOf s.map k := by
  simp only [step, lookup]
  by_cases hs : shardOf k = shardOf k'
  · rw [hs, upd_same, AL.get?_put]
  · rw [upd_ne _ _ hs, if_neg (fun h : k' = k => hs (h ▸ rfl))]

theorem lookup_remove_ne (s : St) {k' k : Key} (hk : k' ≠ k) :
    lookup shardOf (step shardOf s (.remove k')).map k = lookup shardOf s.map k := by
  simp only [step, lookup]
  by_cases hs : shardOf k = shardOf k'
  · rw [hs, upd_same, AL.get?_erase_ne hk]
  · rw [upd_ne _ _ hs]

theorem lookup_remove_self {s : St} (hw : WfMap shardOf s.map) (k : Key) :
    lookup shardOf (step shardOf s (.remove k)).map k = none := by
  simp only [step, lookup, upd_same]
  exact AL.get?_erase_self k (hw _).1

theorem value_origin {k : Key} {v : Val} (pre : List Ev) :
    ∀ (s : St), WfMap shardOf s.map →
      lookup shardOf (run shardOf s pre).map k = some v →
      lookup shardOf s.map k = some v ∨ Ev.write k v ∈ pre := by
  induction pre with
  | nil => intro s _ h; exact Or.inl h
  | cons e pre ih =>
    intro s hw h
    rw [run_cons] at h
    rcases ih _ (wf_step shardOf hw e) h with h1 | h1
    · cases e with
      | write k' v' =>
        rw [lookup_write] at h1
        split at h1
        · rename_i hk
          rw [hk, Option.some.inj h1]
          exact Or.inr List.mem_cons_self
        · exact Or.inl h1
      | remove k' =>
        by_cases hk : k' = k
        · rw [hk, lookup_remove_self shardOf hw] at h1
          cases h1
        · rw [lookup_remove_ne shardOf s hk] at h1
          exact Or.inl h1
      | visit i => exact Or.inl h1
    · exact Or.inr (List.mem_cons_of_mem _ h1)

theorem present_of_no_remove {k : Key} (pre : List Ev) :
    ∀ (s : St), (lookup shardOf s.map k).isSome → Ev.remove k ∉ pre →
      (lookup shardOf (run shardOf s pre).map k).isSome := by
  induction pre with
  | nil => intro s h _; exact h
  | cons e pre ih =>
    intro s h hnr
    rw [run_cons]
    refine ih _ ?_ (fun hm => hnr (List.mem_cons_of_mem _ hm))
    cases e with
    | write k' v' =>
      rw [lookup_write]
      split
      · rfl
      · exact h
    | remove k' =>
      rw [lookup_remove_ne shardOf s (fun hk : k' = k => hnr (hk ▸ List.mem_cons_self))]
      exact h
    | visit i => exact h

theorem run_seq (l : List Nat) (s : St) :
    run shardOf s (l.map Ev.visit) = ⟨s.map, s.out ++ l.flatMap s.map⟩ := by
  induction l generalizing s with
  | nil => simp [run]
  | cons i l ih =>
    simp only [List.map_cons, run_cons, ih, step, List.flatMap_cons, List.append_assoc]

theorem visits_seq (l : List Nat) : visits (l.map Ev.visit) = l := by
  induction l with
  | nil => rfl
  | cons i l ih => simp [visits, ih]

theorem noDup_iff (l : List Nat) : noDup l = true ↔ l.Nodup := by
  induction l with
  | nil => simp [noDup]
  | cons x xs ih => simp [noDup, ih]

theorem acceptI_iff (keys : List Key) (out : List (Key × Val)) (cand : List (Key × List Val)) :
    acceptI keys out cand = true ↔
      (out.map Prod.fst).Nodup ∧
      (∀ k ∈ keys, (out.map Prod.fst).count k = 1) ∧
      (∀ kv ∈ out, kv.2 ∈ candOf cand kv.1) := by
  simp only [acceptI, Bool.and_eq_true, noDup_iff, List.all_eq_true, beq_iff_eq,
    List.contains_iff_mem, and_assoc]

theorem mem_content {n : Nat} {m : Nat → Shard} {kv : Key × Val} :
    kv ∈ content n m ↔ ∃ i, i < n ∧ kv ∈ m i := by
  simp [content, List.mem_flatMap, List.mem_range]

end MiniMoka.ConcI
