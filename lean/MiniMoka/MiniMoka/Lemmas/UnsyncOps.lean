/-
  The invariant `Inv` of the unsync model (what it assumes of the sketch is `SketchLaws`,
  `Lemmas/SketchLawsDef.lean`), kept by every operation but `insert` (its two halves are in
  `Lemmas/UnsyncInsert.lean`, `insert_inv` in `Lemmas/UnsyncStep.lean`): the maintenance as a
  composition of settled loops (`Maintains`, `settle`), lookups as `touchAo`, an update's move in
  the write order as `touchWo`.
-/
import MiniMoka.Lemmas.UnsyncInv
import MiniMoka.Lemmas.SketchLawsDef

namespace MiniMoka

namespace Unsync

/- `maintain p s` is a state like any other here: the unifier must not unfold it into the eviction
loops (very slow to check).  It matters where terms containing it are compared up to reduction
(`exact`, `rfl`, `▸` on record updates); proofs that only rewrite with lemmas about it do without.
The same holds of `subEc` (see `UnsyncInv`). -/
attribute [local irreducible] maintain subEc

theorem structP_congr {p : Params} {pend : Option Nat} {s s' : UState} (h : StructP p pend s)
    (hm : s'.map = s.map) (hp : s'.prob = s.prob) (hw : s'.wo = s.wo)
    (hn : s'.nextId = s.nextId) (hf : s'.fault = s.fault) : StructP p pend s' := by
  obtain ⟨a, b, c, d, e, f, g, i, j, k, l⟩ := h
  refine ⟨?_, ?_, ?_, ?_, ?_, ?_, ?_, ?_, ?_, ?_, ?_⟩ <;> simp only [hm, hp, hw, hn, hf] <;> assumption

theorem shrinks_congr {s s1 s' : UState} (h : Shrinks s s1)
    (hm : s'.map = s1.map) (hp : s'.prob = s1.prob) (hw : s'.wo = s1.wo) : Shrinks s s' := by
  refine ⟨fun k e hk => h.sub k e (hm ▸ hk), fun k e hk => ?_, fun k e hk => ?_⟩
  · have := h.la k e (hm ▸ hk)
    simpa [entryLa, hp] using this
  · have := h.lm k e (hm ▸ hk)
    simpa [entryLm, hw] using this

/-- Settling after a loop from a state satisfying the invariant: the count equation of `LoopSpec`
is what keeps `subEc` from faulting. -/
theorem settle {p : Params} {s : UState} {r : UState × Nat × Nat} (hi : InvU p s)
    (hl : LoopSpec p s 0 0 r) :
    InvU p (settleR r) ∧ Shrinks s (settleR r) ∧ SameAux s (settleR r) ∧
      (settleR r).map = r.1.map ∧ (settleR r).prob = r.1.prob ∧ (settleR r).wo = r.1.wo := by
  obtain ⟨s1, c, w⟩ := r
  have hc := hl.count
  have hw := hl.weight
  simp only at hc hw
  have hec : s1.ec = s1.map.length + c := by rw [hl.env.ec, hi.counted.ec]; omega
  have hnf : ¬ s1.ec < c := by omega
  simp only [settleR, subEc, hnf, if_false]
  refine ⟨⟨structP_congr hl.struct rfl rfl rfl rfl rfl, ?_⟩, shrinks_congr hl.shrinks rfl rfl rfl,
    ⟨hl.env.sk, hl.env.skOn, hl.env.now, hl.env.nextId⟩, by simp⟩
  refine ⟨?_, ?_, ?_⟩
  · simp only; omega
  · simp only; rw [hl.env.ws, hi.counted.ws]; omega
  · intro k e hk
    exact hi.counted.weights k e (hl.shrinks.sub k e hk)

def Maintains (p : Params) (s s' : UState) : Prop :=
  InvU p s → InvU p s' ∧ Shrinks s s' ∧ SameAux s s'

theorem Maintains.refl (p : Params) (s : UState) : Maintains p s s :=
  fun hi => ⟨hi, Shrinks.refl s, SameAux.refl s⟩

theorem Maintains.trans {p : Params} {a b c : UState} (h1 : Maintains p a b)
    (h2 : Maintains p b c) : Maintains p a c := fun hi =>
  ⟨(h2 (h1 hi).1).1, (h1 hi).2.1.trans (h2 (h1 hi).1).2.1, (h1 hi).2.2.trans (h2 (h1 hi).1).2.2⟩

theorem Maintains.of_loop {p : Params} {s : UState} {r : UState × Nat × Nat}
    (hl : Struct p s → LoopSpec p s 0 0 r) : Maintains p s (settleR r) := fun hi =>
  ⟨(settle hi (hl hi.struct)).1, (settle hi (hl hi.struct)).2.1, (settle hi (hl hi.struct)).2.2.1⟩

theorem evictLru_spec {p : Params} {s : UState} : Maintains p s (evictLru p s) := by
  rw [evictLru_eq]; exact .of_loop fun hs => (evictLruLoop_spec _ s _ 0 0 hs).1

theorem purgeWo_spec {p : Params} (hq : NoQuirks p) {s : UState} :
    Maintains p s (purgeWo p s) := by
  unfold purgeWo
  split
  · exact .of_loop fun hs => (removeExpiredWo_spec hq _ s 0 0 hs).1
  · exact .refl p s

theorem purgeAo_spec {p : Params} {s : UState} : Maintains p s (purgeAo p s) := by
  unfold purgeAo
  split
  · exact .of_loop fun hs => (removeExpiredAo_spec _ s 0 0 hs).1
  · exact .refl p s

theorem evictExpired_spec {p : Params} (hq : NoQuirks p) {s : UState} :
    Maintains p s (evictExpired p s) := by
  rw [evictExpired_eq]; exact (purgeWo_spec hq).trans purgeAo_spec

theorem maintain_spec {p : Params} (hq : NoQuirks p) {s : UState} : Maintains p s (maintain p s) :=
  maintain_rel (R := Maintains p) Maintains.trans (fun _ => purgeWo_spec hq) (fun _ => purgeAo_spec)
    (fun _ => evictLru_spec) s

/-- `record_hit` / the access-order half of `handle_update` when the node is linked: stamp the
node `id` with the operation's timestamp, if it took one, and move it to the back. -/
def touchAo (s : UState) (id : Nat) (ts : Option Nat) : UState :=
  { s with prob := moveToBackAo (match ts with
      | some t => setTsAo s.prob id t
      | none => s.prob) id }

def touchWo (s : UState) (id : Nat) (ts : Option Nat) : UState :=
  { s with wo := moveToBackWo (match ts with
      | some t => setTsWo s.wo id t
      | none => s.wo) id }

theorem findAo_touchAo {s : UState} (id : Nat) (ts : Option Nat) (id' : Nat)
    (hn : (s.prob.map (·.id)).Nodup) :
    findAo (touchAo s id ts).prob id' =
      match ts with
      | some t => if id' = id then (findAo s.prob id').map (fun n => { n with ts := some t })
                  else findAo s.prob id'
      | none => findAo s.prob id' := by
  cases ts with
  | none => simp [touchAo, findAo_moveToBackAo id id' hn]
  | some t =>
    simp only [touchAo]
    rw [findAo_moveToBackAo id id' (by rw [ids_setTsAo]; exact hn), findAo_setTsAo]

theorem findWo_touchWo {s : UState} (id : Nat) (ts : Option Nat) (id' : Nat)
    (hn : (s.wo.map (·.id)).Nodup) :
    findWo (touchWo s id ts).wo id' =
      match ts with
      | some t => if id' = id then (findWo s.wo id').map (fun n => { n with ts := some t })
                  else findWo s.wo id'
      | none => findWo s.wo id' := by
  cases ts with
  | none => simp [touchWo, findWo_moveToBackWo id id' hn]
  | some t =>
    simp only [touchWo]
    rw [findWo_moveToBackWo id id' (by rw [ids_setTsWo]; exact hn), findWo_setTsWo]

theorem nodup_touchAo {s : UState} (id : Nat) (ts : Option Nat) (hn : (s.prob.map (·.id)).Nodup) :
    ((touchAo s id ts).prob.map (·.id)).Nodup := by
  cases ts with
  | none => exact nodup_moveToBackAo id hn
  | some t => exact nodup_moveToBackAo id (by rw [ids_setTsAo]; exact hn)

theorem nodup_touchWo {s : UState} (id : Nat) (ts : Option Nat) (hn : (s.wo.map (·.id)).Nodup) :
    ((touchWo s id ts).wo.map (·.id)).Nodup := by
  cases ts with
  | none => exact nodup_moveToBackWo id hn
  | some t => exact nodup_moveToBackWo id (by rw [ids_setTsWo]; exact hn)

theorem touchAo_struct {p : Params} {pend : Option Nat} {s : UState} (hs : StructP p pend s)
    (id : Nat) (ts : Option Nat) : StructP p pend (touchAo s id ts) := by
  refine struct_reorder_ao hs rfl rfl rfl rfl (nodup_touchAo id ts hs.probIds) fun id' => ?_
  rw [findAo_touchAo id ts id' hs.probIds]
  cases ts with
  | none => rfl
  | some t =>
    dsimp only
    split
    · cases findAo s.prob id' <;> rfl
    · rfl

theorem touchWo_struct {p : Params} {pend : Option Nat} {s : UState} (hs : StructP p pend s)
    (id : Nat) (ts : Option Nat) : StructP p pend (touchWo s id ts) := by
  refine struct_reorder_wo hs rfl rfl rfl rfl (nodup_touchWo id ts hs.woIds) fun id' => ?_
  rw [findWo_touchWo id ts id' hs.woIds]
  cases ts with
  | none => rfl
  | some t =>
    dsimp only
    split
    · cases findWo s.wo id' <;> rfl
    · rfl

theorem opTs_of_expiry {p : Params} {s : UState} (hx : p.hasExpiry = true) :
    opTs p s = some s.now := if_pos hx

theorem recordHit_eq {s : UState} {e : UEntry} {id : Nat} {n : AoNode} (ts : Option Nat)
    (hao : e.ao = some id) (hf : findAo s.prob id = some n) :
    recordHit s e ts = touchAo s id ts := by
  cases ts with
  | none => simp [recordHit, hao, moveToBackAoE, hf, touchAo]
  | some t =>
    have : findAo (setTsAo s.prob id t) id = some { n with ts := some t } := by
      rw [findAo_setTsAo]; simp [hf]
    simp [recordHit, hao, moveToBackAoE, this, touchAo]

theorem invU_of {p : Params} {s s' : UState} (hi : InvU p s) (hst : Struct p s')
    (hm : s'.map = s.map) (hec : s'.ec = s.ec) (hws : s'.ws = s.ws) : InvU p s' :=
  ⟨hst, ⟨by rw [hec, hm]; exact hi.counted.ec, by rw [hws, hm]; exact hi.counted.ws,
    by rw [hm]; exact hi.counted.weights⟩⟩

theorem sketchIncrement_spec {P : Sketch → Prop} (L : SketchLaws P) {p : Params} (hq : NoQuirks p)
    {s : UState} (hsk : P s.sk) (h : UInt64) :
    ∃ sk', sketchIncrement p s h = { s with sk := sk' } ∧ P sk' ∧ (s.sk = {} → sk' = {}) := by
  have hd5 : p.q.d5 = false := by rw [hq]
  obtain ⟨sk', h1, h2⟩ := L.incr s.sk h hsk
  refine ⟨sk', by simp [sketchIncrement, hd5, h1], h2, ?_⟩
  intro h0
  rw [h0, L.incrDefault h] at h1
  cases h1; rfl

/-- The invariant together with the sketch predicate; the sketch stays in its initial
(empty) state until it is enabled. -/
structure Inv (P : Sketch → Prop) (p : Params) (s : UState) : Prop where
  inv : InvU p s
  sk : P s.sk
  skOff : s.skOn = false → s.sk = {}

theorem Inv.of_aux {P : Sketch → Prop} {p : Params} {s s' : UState} (hi : Inv P p s)
    (hinv : InvU p s') (hsk : s'.sk = s.sk) (hon : s'.skOn = s.skOn) : Inv P p s' :=
  ⟨hinv, by rw [hsk]; exact hi.sk, fun h => by rw [hsk]; exact hi.skOff (by rw [← hon]; exact h)⟩

/-- `getCore_cases` from a state with the invariant: the increment is a new sketch `sk'` and
nothing else, and an entry that is served has its node, so serving it is `touchAo`. -/
theorem getCore_inv_cases {P : Sketch → Prop} (L : SketchLaws P) {p : Params} (hq : NoQuirks p)
    {m : UState} (hi : Inv P p m) (k : Nat) :
    ∃ sk', Inv P p { m with sk := sk' } ∧
      (getCore p m k = ({ m with sk := sk' }, none) ∨
       ∃ e id n, AL.get? m.map k = some e ∧ e.ao = some id ∧ findAo m.prob id = some n ∧
         (p.hasExpiry = true → isExpiredEntry p m e m.now = false) ∧
         getCore p m k = (touchAo { m with sk := sk' } id (opTs p m), some e.val)) := by
  obtain ⟨sk', h4, h5, h6⟩ := sketchIncrement_spec L hq hi.sk (p.hash k)
  have hI2 : Inv P p { m with sk := sk' } :=
    ⟨invU_of hi.inv (structP_congr hi.inv.struct rfl rfl rfl rfl rfl) rfl rfl rfl, h5,
      fun h => h6 (hi.skOff h)⟩
  refine ⟨sk', hI2, ?_⟩
  rw [← h4]
  rcases getCore_cases p m k with ⟨_, h⟩ | ⟨_, _, _, _, h⟩ | ⟨e, hg, hexp, h⟩
  · exact Or.inl h
  · exact Or.inl h
  · obtain ⟨id, n, hao, hf, _⟩ := hi.inv.struct.aoLink k e hg (by simp)
    refine Or.inr ⟨e, id, n, hg, hao, hf, hexp, ?_⟩
    rw [h, h4]
    exact congrArg (·, some e.val) (recordHit_eq (s := { m with sk := sk' }) _ hao hf)

theorem maintain_inv {P : Sketch → Prop} {p : Params} (hq : NoQuirks p) {s : UState}
    (hi : Inv P p s) : Inv P p (maintain p s) := by
  obtain ⟨h1, _, h3⟩ := maintain_spec hq hi.inv
  exact hi.of_aux h1 h3.sk h3.skOn

theorem get_inv {P : Sketch → Prop} (L : SketchLaws P) {p : Params} (hq : NoQuirks p)
    {s : UState} (hi : Inv P p s) (k : Nat) : Inv P p (get p s k).1 := by
  rw [get_eq]
  obtain ⟨sk', hI, h | ⟨e, id, n, _, _, _, _, h⟩⟩ :=
    getCore_inv_cases L hq (maintain_inv hq hi) k <;> rw [h]
  · exact hI
  · exact hI.of_aux (invU_of hI.inv (touchAo_struct hI.inv.struct id _) rfl rfl rfl) rfl rfl

theorem containsKey_fst (p : Params) (s : UState) (k : Nat) :
    (containsKey p s k).1 = maintain p s := by
  unfold containsKey
  dsimp only
  split
  · rfl
  · split <;> rfl

theorem containsKey_true {p : Params} {s : UState} {k : Nat} (h : (containsKey p s k).2 = true) :
    ∃ e, AL.get? (maintain p s).map k = some e ∧
      (p.hasExpiry = true → isExpiredEntry p (maintain p s) e (maintain p s).now = false) := by
  unfold containsKey at h
  dsimp only at h
  cases hg : AL.get? (maintain p s).map k with
  | none => rw [hg] at h; cases h
  | some e =>
    refine ⟨e, rfl, fun hx => ?_⟩
    simpa [hg, hx] using h

theorem containsKey_inv {P : Sketch → Prop} {p : Params} (hq : NoQuirks p)
    {s : UState} (hi : Inv P p s) (k : Nat) : Inv P p (containsKey p s k).1 := by
  obtain ⟨h1, _, h3⟩ := maintain_spec hq hi.inv
  rw [containsKey_fst]
  exact hi.of_aux h1 h3.sk h3.skOn

theorem invalidate_spec {p : Params} (hq : NoQuirks p) {s : UState} (hi : InvU p s) (k : Nat) :
    InvU p (invalidate p s k) ∧ Shrinks s (invalidate p s k) ∧ SameAux s (invalidate p s k) ∧
      (invalidate p s k).map = AL.erase (maintain p s).map k := by
  have hd1 : p.q.d1 = false := by rw [hq]
  obtain ⟨h1, h2, h3⟩ := maintain_spec hq hi
  unfold invalidate
  dsimp only
  cases hg : AL.get? (maintain p s).map k with
  | none => exact ⟨h1, h2, h3, (AL.erase_of_get?_none hg).symm⟩
  | some e =>
    simp only [hd1, Bool.false_eq_true, if_false]
    have hto := (takeOut_spec h1.struct hg (by simp)).2.1
    have hl : LoopSpec p (maintain p s) 0 0 (takeOut (maintain p s) k e, 1, e.weight) := by
      simpa using LoopSpec.step (c := 0) (w := 0) h1.struct hg (LoopSpec.refl · 1 (0 + e.weight))
    obtain ⟨i4, sh4, a4, m4, _, _⟩ := settle h1 hl
    exact ⟨i4, h2.trans sh4, h3.trans a4, m4.trans hto.map⟩

theorem invalidate_inv {P : Sketch → Prop} {p : Params} (hq : NoQuirks p)
    {s : UState} (hi : Inv P p s) (k : Nat) : Inv P p (invalidate p s k) := by
  obtain ⟨h1, _, h3, _⟩ := invalidate_spec hq hi.inv k
  exact hi.of_aux h1 h3.sk h3.skOn

theorem invalidateAll_inv {P : Sketch → Prop} {p : Params} (hq : NoQuirks p)
    {s : UState} (hi : Inv P p s) : Inv P p (invalidateAll p s) := by
  have hd2 : p.q.d2 = false := by rw [hq]
  exact ⟨.of_empty rfl rfl rfl rfl (if_neg (by rw [hd2]; exact Bool.false_ne_true))
    hi.inv.struct.noFault, hi.sk, hi.skOff⟩

theorem invalidateKeys_spec {p : Params} (hq : NoQuirks p) (keys : List Nat) :
    ∀ (s : UState) (c w : Nat), Struct p s →
      LoopSpec p s c w (invalidateKeys p keys s c w) := by
  have hd3 : p.q.d3 = false := by rw [hq]
  induction keys with
  | nil => intro s c w hs; simpa [invalidateKeys] using LoopSpec.refl hs c w
  | cons k rest ih =>
    intro s c w hs
    unfold invalidateKeys
    cases hg : AL.get? s.map k with
    | none => exact ih s c w hs
    | some e =>
      simp only [hd3]
      exact LoopSpec.step hs hg (ih _ _ _)

theorem invalidateEntriesIf_spec {p : Params} (hq : NoQuirks p) {s : UState} (pr : Pred) :
    Maintains p s (invalidateEntriesIf p s pr) := by
  intro hi
  have hd3 : p.q.d3 = false := by rw [hq]
  unfold invalidateEntriesIf
  dsimp only
  have hl := invalidateKeys_spec hq
    ((s.map.filter (fun kv => pr.eval kv.1 kv.2.val)).map (·.1)) s 0 0 hi.struct
  generalize invalidateKeys p _ s 0 0 = r at hl ⊢
  obtain ⟨s1, c, w⟩ := r
  simp only [hd3, Bool.false_eq_true, if_false]
  have := settle hi hl
  exact ⟨this.1, this.2.1, this.2.2.1⟩

theorem invalidateEntriesIf_inv {P : Sketch → Prop} {p : Params} (hq : NoQuirks p)
    {s : UState} (hi : Inv P p s) (pr : Pred) : Inv P p (invalidateEntriesIf p s pr) := by
  obtain ⟨h1, _, h3⟩ := invalidateEntriesIf_spec hq pr hi.inv
  exact hi.of_aux h1 h3.sk h3.skOn

end Unsync
end MiniMoka
