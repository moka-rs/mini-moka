/-
  TinyLFU admission and LRU victim selection on the unsync model (C13, C12): the exact effect of
  an insert that finds no room (`handleInsert_new` read with the closed formula) and of
  `evict_lru_entries`, and where a hit or an update leaves the key in the recency order.  Then
  the correspondence between a state and its snapshot (with the invariant `HashOk`), from which
  `oracleC13` and the admission and growth parts of `oracleC12` accept every model trace (the
  recency part is in `Lemmas/UnsyncRecency.lean`).  Namespace `Admit` starts in `Prefix`
  (`shortestPre`, `prefLen`) and `ExpOrd` and continues through `UnsyncInsert` (`admitLoop_closed`),
  `UnsyncPrecise` (`eraseKeys`) and `UnsyncNoLoss` (`candNode`).
-/
import MiniMoka.Lemmas.UnsyncCapacity

namespace MiniMoka
namespace Unsync

/- `maintain p s` is a state like any other here (see the note in `UnsyncOps`). -/
attribute [local irreducible] maintain

namespace Admit

theorem eraseKeys_append (m : List (Nat × UEntry)) (a b : List Nat) :
    eraseKeys m (a ++ b) = eraseKeys (eraseKeys m a) b := by
  simp [eraseKeys, List.foldl_append]

theorem prob_keys_nodup {p : Params} {pend : Option Nat} {s : UState} (hs : StructP p pend s) :
    (s.prob.map (·.key)).Nodup := by
  refine nodup_map_of_inj (·.id) (·.key) s.prob hs.probIds ?_
  intro a ha b hb hk
  obtain ⟨ea, h1, h2⟩ := hs.aoBack a ha
  obtain ⟨eb, h3, h4⟩ := hs.aoBack b hb
  have hk' : a.key = b.key := hk
  rw [hk', h3] at h1
  cases h1
  rw [h2] at h4
  exact Option.some.inj h4

theorem mem_prob_keys_iff {p : Params} {s : UState} (hs : Struct p s) (x : Nat) :
    x ∈ s.prob.map (·.key) ↔ ∃ e, AL.get? s.map x = some e := by
  constructor
  · intro h
    obtain ⟨n, hn, rfl⟩ := List.mem_map.mp h
    obtain ⟨e, he, _⟩ := hs.aoBack n hn
    exact ⟨e, he⟩
  · rintro ⟨e, he⟩
    obtain ⟨id, n, _, hf, hk⟩ := hs.aoLink x e he (by simp)
    exact List.mem_map.mpr ⟨n, (findAo_some hf).1, hk⟩

theorem prefix_resident {p : Params} {s : UState} (hs : Struct p s) {n k' : Nat}
    (h : k' ∈ (s.prob.take n).map (·.key)) : ∃ e, AL.get? s.map k' = some e :=
  (mem_prob_keys_iff hs k').mp (((List.take_sublist n s.prob).map _).subset h)

theorem evicted_iff_prefix {p : Params} {s s' : UState} (hs : Struct p s) {k n : Nat}
    (hnew : AL.get? s.map k = none)
    (hmap : ∀ k', k' ≠ k → AL.get? s'.map k' =
      if k' ∈ (s.prob.take n).map (·.key) then none else AL.get? s.map k') (k' : Nat) :
    ((∃ e, AL.get? s.map k' = some e) ∧ AL.get? s'.map k' = none) ↔
      k' ∈ (s.prob.take n).map (·.key) := by
  have hne : (∃ e, AL.get? s.map k' = some e) → k' ≠ k := by
    rintro ⟨e, he⟩ rfl
    rw [hnew] at he; cases he
  constructor
  · rintro ⟨hres, hgone⟩
    rw [hmap k' (hne hres)] at hgone
    by_cases hin : k' ∈ (s.prob.take n).map (·.key)
    · exact hin
    · obtain ⟨e, he⟩ := hres
      rw [if_neg hin, he] at hgone; cases hgone
  · intro hin
    have hres := prefix_resident hs hin
    exact ⟨hres, by rw [hmap k' (hne hres), if_pos hin]⟩

theorem keys_eraseAo {l : List AoNode} {id : Nat} {n : AoNode} (hk : (l.map (·.key)).Nodup)
    (hf : findAo l id = some n) :
    (eraseAo l id).map (·.key) = (l.map (·.key)).erase n.key := by
  induction l with
  | nil => simp [findAo] at hf
  | cons a l ih =>
    simp only [List.map_cons, List.nodup_cons] at hk
    simp only [findAo] at hf
    simp only [eraseAo]
    by_cases ha : a.id = id
    · simp only [ha, if_true, Option.some.injEq] at hf
      subst hf
      simp [ha]
    · simp only [ha, if_false] at hf
      have hmem : n.key ∈ l.map (·.key) := List.mem_map.mpr ⟨n, (findAo_some hf).1, rfl⟩
      have hne : a.key ≠ n.key := fun e => hk.1 (e ▸ hmem)
      simp only [ha, if_false, List.map_cons]
      rw [ih hk.2 hf, List.erase_cons_tail (by simpa using hne)]

theorem keys_setTsAo (l : List AoNode) (id t : Nat) :
    (setTsAo l id t).map (·.key) = l.map (·.key) := by
  induction l with
  | nil => rfl
  | cons a l ih =>
    simp only [setTsAo]
    by_cases ha : a.id = id
    · simp [ha]
    · simp [ha, ih]

theorem keys_touchAo {s : UState} {id : Nat} {n : AoNode} (ts : Option Nat)
    (hk : (s.prob.map (·.key)).Nodup) (hf : findAo s.prob id = some n) :
    (touchAo s id ts).prob.map (·.key) = (s.prob.map (·.key)).erase n.key ++ [n.key] := by
  cases ts with
  | none =>
    simp only [touchAo]
    rw [moveToBackAo_eq hf, List.map_append, keys_eraseAo hk hf]
    simp
  | some t =>
    simp only [touchAo]
    have hf' : findAo (setTsAo s.prob id t) id = some { n with ts := some t } := by
      rw [findAo_setTsAo]; simp [hf]
    rw [moveToBackAo_eq hf', List.map_append,
      keys_eraseAo (by rw [keys_setTsAo]; exact hk) hf', keys_setTsAo]
    simp

/-- (Front = least recently used: the order in which `admitLoop` meets the victims.) -/
def probWeights (s : UState) : List Nat := s.prob.map (fun n => wOf s n.key)

def probFreqs (s : UState) : List Nat := s.prob.map (fOf s)

theorem insert_noroom {p : Params} (hq : NoQuirks p) {s : UState} (hi : InvU p s) (k v : Nat)
    (hnew : AL.get? (maintain p s).map k = none)
    (hroom : hasEnoughCapacity p (p.weigh k v) (maintain p s).ws = false)
    (hbig : tooBig p (p.weigh k v) = false) :
    (∀ n, shortestPre (p.weigh k v) (probWeights (maintain p s)) = some n →
      (maintain p s).sk.frequency (p.hash k) > ((probFreqs (maintain p s)).take n).sum →
      (∃ e, AL.get? (insert p s k v).map k = some e ∧ e.val = v ∧ e.weight = p.weigh k v) ∧
      (∀ k', k' ≠ k → AL.get? (insert p s k v).map k' =
        if k' ∈ ((maintain p s).prob.take n).map (·.key) then none
        else AL.get? (maintain p s).map k') ∧
      (insert p s k v).prob = (maintain p s).prob.drop n ++ [candNode p (maintain p s) k]) ∧
    ((¬ ∃ n, shortestPre (p.weigh k v) (probWeights (maintain p s)) = some n ∧
        (maintain p s).sk.frequency (p.hash k) > ((probFreqs (maintain p s)).take n).sum) →
      insert p s k v = maintain p s) := by
  obtain ⟨h1, _, _⟩ := maintain_spec hq hi
  rw [insert_new_eq hnew]
  generalize maintain p s = s1 at *
  rcases handleInsert_new h1 (v := v) (opTs p s1) hnew with
    ⟨hyes, _⟩ | ⟨_, ⟨hyes, _⟩ | ⟨_, ⟨m, ⟨hm1, hm2⟩, h⟩ | ⟨hno, h⟩⟩⟩
  · rw [hroom] at hyes; cases hyes
  · rw [hbig] at hyes; cases hyes
  · refine ⟨fun n hn1 _ => ?_, fun hex => absurd ⟨m, hm1, hm2⟩ hex⟩
    obtain rfl : m = n := Option.some.inj (hm1.symm.trans hn1)
    have ha := admitCore_spec h1 v hnew (opTs p s1) m
    obtain ⟨m1, m2, _, _⟩ :=
      maybeEnableSketch_frame p (admitCore p s1 k v (opTs p s1) (s1.prob.take m))
    obtain ⟨e, he, hv, hw, _⟩ := ha.entry
    rw [h, m1, m2, ha.prob]
    exact ⟨⟨e, he, hv, hw⟩, ha.others, rfl⟩
  · exact ⟨fun n hn1 hn2 => absurd ⟨n, hn1, hn2⟩ hno, fun _ => h⟩

/-- How many nodes the size-eviction loop takes from the front of `nodes`: it stops when the
evicted weight reaches `need` (or the list ends), or the fuel is used up. -/
def loopCut (wt : Nat → Nat) (fuel need : Nat) (nodes : List AoNode) : Nat :=
  min (prefLen need (nodes.map fun n => wt n.key)) fuel

/-- `wt` is the weight function of the starting state; it stays fixed while the induction moves
the state. -/
theorem evictLruLoop_exact {p : Params} (wt : Nat → Nat) (fuel : Nat) :
    ∀ (s : UState) (wte c w : Nat), Struct p s →
      (∀ k e, AL.get? s.map k = some e → e.weight = wt k) →
      (evictLruLoop fuel s wte c w).1.prob = s.prob.drop (loopCut wt fuel (wte - w) s.prob) ∧
      (evictLruLoop fuel s wte c w).1.map =
        eraseKeys s.map ((s.prob.take (loopCut wt fuel (wte - w) s.prob)).map (·.key)) := by
  induction fuel with
  | zero => intro s wte c w _ _; simp [evictLruLoop, eraseKeys, loopCut]
  | succ fuel ih =>
    intro s wte c w hs hwt
    unfold evictLruLoop
    by_cases hw : w ≥ wte
    · have h0 : wte - w = 0 := by omega
      simp [hw, h0, eraseKeys, loopCut]
    · simp only [hw, if_false]
      cases hp : s.prob with
      | nil => simp [prefLen_nil, eraseKeys, hp, loopCut]
      | cons n rest =>
        simp only
        obtain ⟨e, he, heao⟩ := hs.aoBack n (by rw [hp]; exact List.mem_cons_self)
        simp only [he]
        obtain ⟨hs', hto, id, n', hao, _, _, hprob⟩ := takeOut_spec hs he (by simp)
        have hid : id = n.id := by rw [heao] at hao; exact (Option.some.inj hao).symm
        have hprob' : (takeOut s n.key e).prob = rest := by
          rw [hprob, hid, hp]; simp [eraseAo]
        have hwt' : ∀ k e', AL.get? (takeOut s n.key e).map k = some e' → e'.weight = wt k :=
          fun k e' h => hwt k e' (hto.shrinks.sub k e' h)
        obtain ⟨i1, i2⟩ := ih (takeOut s n.key e) wte (c + 1) (w + e.weight) hs' hwt'
        rw [hprob'] at i1 i2
        have hne : wte - w ≠ 0 := by omega
        have hew : e.weight = wt n.key := hwt n.key e he
        have hm : loopCut wt (fuel + 1) (wte - w) (n :: rest) =
            loopCut wt fuel (wte - (w + e.weight)) rest + 1 := by
          simp only [loopCut, List.map_cons]
          rw [prefLen_cons_pos hne, hew]
          have : wte - w - wt n.key = wte - (w + wt n.key) := by omega
          rw [this]; omega
        rw [hm, i1, i2]
        refine ⟨by simp, ?_⟩
        simp [eraseKeys, hto.map]

/-- Number of residents that one call of `evict_lru_entries` removes. -/
def lruCut (p : Params) (s : UState) : Nat :=
  min (prefLen (weightsToEvict p s) (probWeights s)) EVICTION_BATCH_SIZE

theorem lruCut_eq (p : Params) (s : UState) :
    lruCut p s = loopCut (wOf s) EVICTION_BATCH_SIZE (weightsToEvict p s) s.prob := rfl

theorem evictLru_exact {p : Params} {s : UState} (hi : InvU p s) :
    (evictLru p s).prob = s.prob.drop (lruCut p s) ∧
    (evictLru p s).map = eraseKeys s.map ((s.prob.take (lruCut p s)).map (·.key)) := by
  have hwt : ∀ k e, AL.get? s.map k = some e → e.weight = wOf s k := by
    intro k e h; simp [wOf, h]
  obtain ⟨h1, h2⟩ := evictLruLoop_exact (p := p) (wOf s) EVICTION_BATCH_SIZE s
    (weightsToEvict p s) 0 0 hi.struct hwt
  rw [Nat.sub_zero, ← lruCut_eq] at h1 h2
  rw [evictLru_eq]
  generalize evictLruLoop EVICTION_BATCH_SIZE s (weightsToEvict p s) 0 0 = r at h1 h2 ⊢
  obtain ⟨s1, c, w⟩ := r
  simp only [settleR]
  rw [subEc_only]
  exact ⟨h1, h2⟩

theorem get_hit_prob {p : Params} (hq : NoQuirks p) {s : UState} (hi : InvU p s) (k v : Nat)
    (hhit : (get p s k).2 = some v) :
    (get p s k).1.prob.map (·.key) = ((maintain p s).prob.map (·.key)).erase k ++ [k] := by
  obtain ⟨h1, _, _⟩ := maintain_spec hq hi
  have hp2 : (sketchIncrement p (maintain p s) (p.hash k)).prob = (maintain p s).prob := by
    rw [sketchIncrement_only]
  rw [get_eq] at hhit ⊢
  rcases getCore_cases p (maintain p s) k with ⟨_, h⟩ | ⟨_, _, _, _, h⟩ | ⟨e, hg, _, h⟩ <;>
    rw [h] at hhit ⊢
  · cases hhit
  · cases hhit
  · obtain ⟨id, n, hao, hf, hnk⟩ := h1.struct.aoLink k e hg (by simp)
    rw [← hp2] at hf
    rw [recordHit_eq _ hao hf, keys_touchAo _ (hp2 ▸ prob_keys_nodup h1.struct) hf, hp2, hnk]

theorem insert_update_prob {p : Params} (hq : NoQuirks p) {s : UState} (hi : InvU p s) (k v : Nat)
    {old : UEntry} (hold : AL.get? (maintain p s).map k = some old) :
    (insert p s k v).prob.map (·.key) = ((maintain p s).prob.map (·.key)).erase k ++ [k] := by
  obtain ⟨id, n, _, hf, hnk, heq⟩ := insert_resident hq hi v hold
  rw [heq, ← hnk]
  exact keys_touchAo _ (prob_keys_nodup (maintain_spec hq hi).1.struct) hf

def HashOk (p : Params) (s : UState) : Prop := ∀ n ∈ s.prob, n.hash = p.hash n.key

/-- Every node of `l'` has the key and hash of some node of `l`: what `HashOk` is inherited along. -/
def ProbFrom (l l' : List AoNode) : Prop := ∀ n' ∈ l', ∃ n ∈ l, n'.key = n.key ∧ n'.hash = n.hash

theorem ProbFrom.refl (l : List AoNode) : ProbFrom l l := fun n hn => ⟨n, hn, rfl, rfl⟩

theorem ProbFrom.of_sub {l l' : List AoNode} (h : ∀ n ∈ l', n ∈ l) : ProbFrom l l' :=
  fun n hn => ⟨n, h n hn, rfl, rfl⟩

theorem ProbFrom.trans {a b c : List AoNode} (h1 : ProbFrom a b) (h2 : ProbFrom b c) :
    ProbFrom a c := by
  intro n hn
  obtain ⟨m, hm, e1, e2⟩ := h2 n hn
  obtain ⟨m', hm', e3, e4⟩ := h1 m hm
  exact ⟨m', hm', e1.trans e3, e2.trans e4⟩

theorem HashOk.of_probFrom {p : Params} {s s' : UState} (h : HashOk p s)
    (hf : ProbFrom s.prob s'.prob) : HashOk p s' := by
  intro n hn
  obtain ⟨m, hm, e1, e2⟩ := hf n hn
  rw [e2, e1]; exact h m hm

theorem probFrom_setTsAo (l : List AoNode) (id t : Nat) : ProbFrom l (setTsAo l id t) := by
  induction l with
  | nil => intro n hn; simp [setTsAo] at hn
  | cons a l ih =>
    intro n hn
    simp only [setTsAo] at hn
    by_cases ha : a.id = id
    · simp only [ha, if_true, List.mem_cons] at hn
      rcases hn with hn | hn
      · subst hn; exact ⟨a, List.mem_cons_self, rfl, rfl⟩
      · exact ⟨n, List.mem_cons_of_mem _ hn, rfl, rfl⟩
    · simp only [ha, if_false, List.mem_cons] at hn
      rcases hn with hn | hn
      · subst hn; exact ⟨n, List.mem_cons_self, rfl, rfl⟩
      · obtain ⟨m, hm, e⟩ := ih n hn
        exact ⟨m, List.mem_cons_of_mem _ hm, e⟩

theorem mem_moveToBackAo {l : List AoNode} {id : Nat} {n : AoNode} (h : n ∈ moveToBackAo l id) :
    n ∈ l := by
  unfold moveToBackAo at h
  cases hf : findAo l id with
  | none => simpa [hf] using h
  | some m =>
    simp only [hf, List.mem_append, List.mem_singleton] at h
    rcases h with h | h
    · exact mem_eraseAo h
    · subst h; exact (findAo_some hf).1

theorem probFrom_touchAo (s : UState) (id : Nat) (ts : Option Nat) :
    ProbFrom s.prob (touchAo s id ts).prob := by
  cases ts with
  | none => exact ProbFrom.of_sub (fun n hn => mem_moveToBackAo hn)
  | some t =>
    exact (probFrom_setTsAo s.prob id t).trans (ProbFrom.of_sub (fun n hn => mem_moveToBackAo hn))

theorem HashOk.maintain {p : Params} {s : UState} (hh : HashOk p s) : HashOk p (maintain p s) :=
  fun n hn => hh n ((unlinks_maintain p s).prob.subset hn)

theorem probFrom_moveToBackAoE (s : UState) (e : UEntry) :
    ProbFrom s.prob (moveToBackAoE s e).prob := by
  unfold moveToBackAoE
  split
  · exact ProbFrom.refl _
  · split
    · exact ProbFrom.of_sub (fun n hn => mem_moveToBackAo hn)
    · rw [fail_only]; exact ProbFrom.refl _

theorem probFrom_recordHit (s : UState) (e : UEntry) (ts : Option Nat) :
    ProbFrom s.prob (recordHit s e ts).prob := by
  unfold recordHit
  refine ProbFrom.trans ?_ (probFrom_moveToBackAoE _ e)
  split
  · exact probFrom_setTsAo _ _ _
  · exact ProbFrom.refl _

theorem get_probFrom (p : Params) (s : UState) (k : Nat) :
    ProbFrom (maintain p s).prob (get p s k).1.prob := by
  have hp2 : (sketchIncrement p (maintain p s) (p.hash k)).prob = (maintain p s).prob := by
    rw [sketchIncrement_only]
  rw [get_eq]
  rcases getCore_cases p (maintain p s) k with ⟨_, h⟩ | ⟨_, _, _, _, h⟩ | ⟨e, _, _, h⟩ <;>
    rw [h, ← hp2]
  · exact ProbFrom.refl _
  · exact ProbFrom.refl _
  · exact probFrom_recordHit _ _ _

theorem pushCandidate_prob_mem (p : Params) (s : UState) (k : Nat) (hash : UInt64) (ts : Option Nat) :
    ∀ n ∈ (pushCandidate p s k hash ts).prob, n ∈ s.prob ∨ (n.key = k ∧ n.hash = hash) := by
  intro n hn
  unfold pushCandidate at hn
  split at hn
  · left; rwa [fail_only] at hn
  · dsimp only at hn
    split at hn <;>
    · simp only [List.mem_append, List.mem_singleton] at hn
      rcases hn with hn | hn
      · exact Or.inl hn
      · subst hn; exact Or.inr ⟨rfl, rfl⟩

theorem handleInsert_prob_mem (p : Params) (s : UState) (k : Nat) (hash : UInt64) (w : Nat)
    (ts : Option Nat) :
    ∀ n ∈ (handleInsert p s k hash w ts).prob, n ∈ s.prob ∨ (n.key = k ∧ n.hash = hash) := by
  intro n hn
  rcases handleInsert_cases p s k hash w ts with
    ⟨_, h⟩ | ⟨_, ⟨_, h⟩ | ⟨_, ⟨_, h⟩ | ⟨_, _, h⟩ | ⟨_, _, h⟩⟩⟩ <;> rw [h] at hn
  · rw [(maybeEnableSketch_frame p _).2.1] at hn
    exact pushCandidate_prob_mem p s k hash ts n hn
  · exact Or.inl hn
  · left; rwa [fail_only] at hn
  · rw [(maybeEnableSketch_frame p _).2.1] at hn
    rcases pushCandidate_prob_mem p _ k hash ts n hn with h | h
    · exact Or.inl ((unlinks_removeVictims _ _).prob.subset h)
    · exact Or.inr h
  · exact Or.inl hn

theorem HashOk.insert {p : Params} (hq : NoQuirks p) {s : UState} (hi : InvU p s)
    (hh : HashOk p s) (k v : Nat) : HashOk p (insert p s k v) := by
  have h1 : HashOk p (Unsync.maintain p s) := hh.maintain
  cases hg : AL.get? (Unsync.maintain p s).map k with
  | some old =>
    obtain ⟨id, _, _, _, _, heq⟩ := insert_resident hq hi v hg
    rw [heq]
    exact h1.of_probFrom (probFrom_touchAo _ id _)
  | none =>
    rw [insert_new_eq hg]
    intro n hn
    rcases handleInsert_prob_mem p _ k (p.hash k) _ _ n hn with h | ⟨e1, e2⟩
    · exact h1 n h
    · rw [e2, e1]

theorem step_hashOk {P : Sketch → Prop} {p : Params} (hq : NoQuirks p) {s : UState} (hi : Inv P p s) (hh : HashOk p s) (op : Op) :
    HashOk p (step p s op).1 := by
  rw [step_state hi.inv.struct.noFault op]
  have h1 : HashOk p (maintain p s) := hh.maintain
  cases op with
  | ins k v => exact hh.insert hq hi.inv k v
  | get k => exact h1.of_probFrom (get_probFrom p s k)
  | has k => dsimp only; rw [containsKey_fst]; exact h1
  | iter => exact hh
  | inv k => exact fun n hn => hh n ((unlinks_invalidate p s k).prob.subset hn)
  | invAll => intro n hn; simp [invalidateAll] at hn
  | invIf pr => exact fun n hn => hh n ((unlinks_invalidateEntriesIf p s pr).prob.subset hn)
  | sync => exact hh
  | adv d => exact hh
  | snap => exact hh
  | freq k => exact hh

open Spec

theorem snapshot_entries_all {p : Params} {s : UState} (f : EntryView → Bool) :
    (snapshot p s).entries.all f = true ↔ ∀ k e, (k, e) ∈ s.map → f (entryView s (k, e)) = true :=
  ((shows p s).entries_all f).trans ⟨fun h k e hm => h (k, e) hm, fun h kv hm => h kv.1 kv.2 hm⟩

theorem maintain_of_calm {p : Params} {s : UState} (hs : Struct p s) {cap : Nat}
    (hcap : p.cap = some cap) (hcalm : calm cap p.ttl p.tti (snapshot p s) = true) :
    maintain p s = s := by
  simp only [calm, Bool.and_eq_true, decide_eq_true_eq] at hcalm
  obtain ⟨⟨⟨hws, hlive⟩, _⟩, _⟩ := hcalm
  rw [snapshot_entries_all] at hlive
  refine maintain_noop hs (fun k e he => ?_) ?_
  · have : entryLiveAt p.ttl p.tti s.now none (entryView s (k, e)) = true :=
      hlive k e (AL.mem_of_get? he)
    rwa [entryLiveAt_view, Bool.not_eq_true'] at this
  · have : (snapshot p s).ws = s.ws := rfl
    rw [this] at hws
    simp [weightsToEvict, hcap]; omega

theorem weightOfKey_snapshot {p : Params} {s : UState} (hs : Struct p s) (k : Nat) :
    weightOfKey (snapshot p s) k = wOf s k := by
  rw [(shows p s).weightOfKey_eq hs.keysNodup, wOf]
  cases AL.get? s.map k <;> rfl

theorem freqOfKey_snapshot {p : Params} {s : UState} (hs : Struct p s) (k : Nat) :
    freqOfKey (snapshot p s) k =
      match AL.get? s.map k with
      | some _ => s.sk.frequency (p.hash k)
      | none => 0 := by
  rw [(shows p s).freqOfKey_eq hs.keysNodup]
  cases AL.get? s.map k <;> rfl

theorem lruOrder_snapshot (p : Params) (s : UState) :
    lruOrder (snapshot p s) = s.prob.map (·.key) := by
  simp only [lruOrder, snapshot, List.map_map]
  rfl

theorem mem_keysOf_snapshot (p : Params) (s : UState) (k : Nat) :
    k ∈ keysOf (snapshot p s) ↔ ∃ e, AL.get? s.map k = some e :=
  (shows p s).mem_keysOf_get? k

theorem predictAdmission_snapshot {p : Params} {s : UState} (hs : Struct p s) (hh : HashOk p s)
    (w f : Nat) :
    predictAdmission (snapshot p s) w f =
      match shortestPre w (probWeights s) with
      | none => none
      | some n =>
        if f > ((probFreqs s).take n).sum then some ((s.prob.take n).map (·.key)) else none := by
  unfold predictAdmission
  rw [shortestPrefix_eq, lruOrder_snapshot]
  have hW : (s.prob.map (·.key)).map (weightOfKey (snapshot p s)) = probWeights s := by
    rw [List.map_map]
    exact List.map_congr_left (fun n _ => weightOfKey_snapshot hs n.key)
  have hF : (s.prob.map (·.key)).map (freqOfKey (snapshot p s)) = probFreqs s := by
    rw [List.map_map]
    apply List.map_congr_left
    intro n hn
    obtain ⟨e, he, _⟩ := hs.aoBack n hn
    simp only [Function.comp, freqOfKey_snapshot hs, he, fOf, hh n hn]
  rw [hW, Nat.sub_zero]
  cases shortestPre w (probWeights s) with
  | none => rfl
  | some n =>
    simp only [Option.map_some, List.nil_append]
    rw [← hF, List.map_take, List.map_take]

/-- The C13 oracle's check around an insert: the snapshot after `insert p s k v` is what the closed
formula predicts from the snapshot of `s` and the estimate of `k` read in `s`. -/
theorem admissionOk_model {p : Params} (hq : NoQuirks p) {s : UState} (hi : InvU p s)
    (hh : HashOk p s) {cap : Nat} (hcap : p.cap = some cap) (k v : Nat) :
    admissionOk cap p.ttl p.tti p.weigh (snapshot p s) k v (s.sk.frequency (p.hash k))
      (snapshot p (insert p s k v)) = true := by
  unfold admissionOk
  dsimp only
  cases happ : (!(keysOf (snapshot p s)).contains k && calm cap p.ttl p.tti (snapshot p s) &&
      decide (p.weigh k v ≤ cap) && decide ((snapshot p s).ws + p.weigh k v > cap)) with
  | false => rfl
  | true =>
  simp only [Bool.not_true, Bool.false_or]
  simp only [Bool.and_eq_true, Bool.not_eq_true', decide_eq_true_eq] at happ
  obtain ⟨⟨⟨hfresh, hcalm⟩, hle⟩, hgt⟩ := happ
  have hnew : AL.get? s.map k = none := by
    cases hg : AL.get? s.map k with
    | none => rfl
    | some e =>
      have : k ∈ keysOf (snapshot p s) := (mem_keysOf_snapshot p s k).mpr ⟨e, hg⟩
      rw [← List.contains_iff_mem, hfresh] at this; cases this
  have hm : maintain p s = s := maintain_of_calm hi.struct hcap hcalm
  have hroom : hasEnoughCapacity p (p.weigh k v) s.ws = false := by
    have : (snapshot p s).ws = s.ws := rfl
    rw [this] at hgt
    simp [hasEnoughCapacity, hcap]; omega
  have hbig : tooBig p (p.weigh k v) = false := by
    simp [tooBig, hcap]; omega
  have hins := insert_noroom hq hi k v (by rw [hm]; exact hnew) (by rw [hm]; exact hroom) hbig
  rw [hm] at hins
  obtain ⟨hadm, hrej⟩ := hins
  rw [predictAdmission_snapshot hi.struct hh]
  have hrejected : (¬ ∃ n, shortestPre (p.weigh k v) (probWeights s) = some n ∧
      s.sk.frequency (p.hash k) > ((probFreqs s).take n).sum) →
      sameKeys (keysOf (snapshot p (insert p s k v))) (keysOf (snapshot p s)) = true := by
    intro hno
    rw [hrej hno, sameKeys_iff]
    exact fun _ => Iff.rfl
  cases hsp : shortestPre (p.weigh k v) (probWeights s) with
  | none =>
    dsimp only
    apply hrejected
    rintro ⟨n, h1, _⟩
    rw [hsp] at h1; cases h1
  | some n =>
    dsimp only
    by_cases hf : s.sk.frequency (p.hash k) > ((probFreqs s).take n).sum
    · rw [if_pos hf]
      dsimp only
      obtain ⟨⟨e, he, _⟩, hmap, _⟩ := hadm n hsp hf
      rw [sameKeys_iff]
      intro x
      rw [mem_keysOf_snapshot]
      simp only [List.mem_cons, List.mem_filter, Bool.not_eq_true', mem_keysOf_snapshot]
      by_cases hx : x = k
      · subst hx
        exact ⟨fun _ => Or.inl rfl, fun _ => ⟨e, he⟩⟩
      · rw [hmap x hx, contains_eq_false_iff]
        by_cases hin : x ∈ (s.prob.take n).map (·.key)
        · rw [if_pos hin]
          exact ⟨fun ⟨_, h⟩ => (nomatch h), fun h => h.elim (absurd · hx) (fun h => absurd hin h.2)⟩
        · rw [if_neg hin]
          exact ⟨fun h => Or.inr ⟨h, hin⟩, fun h => h.elim (absurd · hx) (·.1)⟩
    · rw [if_neg hf]
      dsimp only
      apply hrejected
      rintro ⟨n', h1, h2⟩
      rw [hsp] at h1; cases h1
      exact hf h2

/-- The windows of `admitC13` have four elements (`snap, freq, ins, snap`); the oracle recurs on the
suffix that starts at the closing snapshot, hence `IsRun.Runs.induction`. -/
theorem admitC13_run {P : Sketch → Prop} (L : SketchLaws P) {p : Params} (hq : NoQuirks p)
    (hsm : SmallSketch p) {cap : Nat} (hcap : p.cap = some cap) (h : List Op) {s : UState}
    (hi : Inv P p s) (hh : HashOk p s) :
    admitC13 cap p.ttl p.tti p.weigh (run p s h) = true := by
  have H := stepInv L hq hsm (I := fun s => Inv P p s ∧ HashOk p s) (fun _ hs => hs.1)
    (fun _ op hs => ⟨step_inv L hq hsm hs.1 op, step_hashOk hq hs.1 hs.2 op⟩)
  refine IsRun.Runs.induction (run := run p) (I := fun s => Inv P p s ∧ HashOk p s)
    (P := fun t => admitC13 cap p.ttl p.tti p.weigh t = true) (fun t ht ih => ?_) _
    ⟨s, h, ⟨hi, hh⟩, rfl⟩
  unfold admitC13
  split
  · rename_i before k f k' v after rest
    obtain ⟨s, _, hi, e⟩ := ht
    obtain ⟨hb, hi1, _, e1⟩ := H.uncons (isRun p) hi e
    obtain ⟨hf, hi2, _, e2⟩ := H.uncons (isRun p) hi1 e1
    obtain ⟨-, hi3, _, e3⟩ := H.uncons (isRun p) hi2 e2
    obtain ⟨ha, -, -, -⟩ := H.uncons (isRun p) hi3 e3
    rw [Bool.and_eq_true]
    refine ⟨?_, ih _ ⟨_, _, hi3, e3⟩ (by simp only [List.length_cons]; omega)⟩
    rw [Obs.snap.inj hb, Obs.freq.inj hf, Obs.snap.inj ha]
    by_cases hk : k = k'
    · subst hk
      exact Bool.or_eq_true_iff.mpr (Or.inr (admissionOk_model hq hi.1.inv hi.2 hcap k v))
    · exact Bool.or_eq_true_iff.mpr (Or.inl (by simpa using hk))
  · exact ih _ (H.tail (isRun p) ht) (Nat.lt_succ_self _)
  · rfl

/-- **C13 on traces** (single-threaded cache): the oracle accepts every trace of the model. -/
theorem oracleC13_trace {P : Sketch → Prop} (L : SketchLaws P) {p : Params} (hq : NoQuirks p)
    (hsm : SmallSketch p) (h : List Op) :
    oracleC13 .unsync p.cap p.ttl p.tti p.weigh (trace p h) = true := by
  unfold oracleC13 trace
  cases hcap : p.cap with
  | none => rfl
  | some cap =>
    dsimp only
    exact admitC13_run L hq hsm hcap h (init_inv L p) (fun n hn => nomatch hn)

theorem keys_perm {p : Params} {s : UState} (hs : Struct p s) :
    (AL.keys s.map).Perm (s.prob.map (·.key)) :=
  (List.perm_ext_iff_of_nodup hs.keysNodup (prob_keys_nodup hs)).mpr fun x => by
    rw [mem_prob_keys_iff hs, ← AL.get?_isSome_iff]
    cases AL.get? s.map x with
    | none => exact ⟨fun h => (nomatch h), fun ⟨_, h⟩ => (nomatch h)⟩
    | some e => exact ⟨fun _ => ⟨e, rfl⟩, fun _ => rfl⟩

/-- With at most one batch of residents, `evict_lru_entries` leaves exactly the residents
outside the oracle's victim list: the shortest prefix of the recency order whose weights, as
any snapshot `sn` showing them tells, cover the excess (everything, if even that does not
suffice). -/
theorem evictLru_survivors {p : Params} {s : UState} (hi : InvU p s) {cap : Nat}
    (hcap : p.cap = some cap) (hlen : s.map.length ≤ Gen.UNSYNC_EVICTION_BATCH_SIZE) (sn : Snap)
    (hW : ∀ n ∈ s.prob, weightOfKey sn n.key = wOf s n.key) (x : Nat) :
    (∃ e, AL.get? (evictLru p s).map x = some e) ↔
      (∃ e, AL.get? s.map x = some e) ∧
      (match shortestPrefix sn (s.ws - cap) (s.prob.map (·.key)) 0 [] with
        | some pre => pre
        | none => s.prob.map (·.key) : List Nat).contains x = false := by
  have hcut : lruCut p s = prefLen (s.ws - cap) (probWeights s) := by
    have h1 := prefLen_le_length (s.ws - cap) (probWeights s)
    have h2 : s.prob.length = s.map.length := by
      have := (keys_perm hi.struct).length_eq
      rw [AL.keys_eq_map, List.length_map, List.length_map] at this
      exact this.symm
    have h3 : (probWeights s).length = s.prob.length := by simp [probWeights]
    simp only [lruCut, weightsToEvict, hcap, EVICTION_BATCH_SIZE]
    omega
  -- the victims named by the oracle are the nodes that the loop removes
  have hvict : (match shortestPrefix sn (s.ws - cap) (s.prob.map (·.key)) 0 [] with
      | some pre => pre
      | none => s.prob.map (·.key) : List Nat) = (s.prob.take (lruCut p s)).map (·.key) := by
    have hWs : (s.prob.map (·.key)).map (weightOfKey sn) = probWeights s := by
      rw [List.map_map]
      exact List.map_congr_left hW
    rw [shortestPrefix_eq, hcut, hWs, Nat.sub_zero]
    unfold prefLen
    cases shortestPre (s.ws - cap) (probWeights s) with
    | none => simp [probWeights]
    | some n => simp [List.map_take]
  rw [hvict, (evictLru_exact hi).2, get?_eraseKeys hi.struct.keysNodup, contains_eq_false_iff]
  by_cases hin : x ∈ (s.prob.take (lruCut p s)).map (·.key)
  · rw [if_pos hin]
    exact ⟨fun ⟨_, h⟩ => (nomatch h), fun h => absurd hin h.2⟩
  · rw [if_neg hin]
    exact ⟨fun h => ⟨h, hin⟩, fun h => h.1⟩

/-- What `growthC12` tests at one window `snap, op, snap` (the oracle's body copied). -/
def growthCheck (cap : Nat) (ttl tti : Option Nat) (batch : Nat) (before : Snap) (op : Op)
    (after : Snap) : Bool :=
  let lookup := match op with
    | .has _ => true
    | .get _ => true
    | _ => false
  let settled := before.entries.all (entryLiveAt ttl tti after.now none) &&
    before.entries.all (fun e => e.aoOk) && before.prob.all (·.current)
  let over := decide (before.ws > cap)
  !(lookup && settled && over && decide (before.entries.length ≤ batch)) ||
    (let victims := match shortestPrefix before (before.ws - cap) (lruOrder before) 0 [] with
       | some pre => pre
       | none => lruOrder before
     sameKeys (keysOf after) ((keysOf before).filter (fun x => !victims.contains x)))

theorem win3_growthC12 (cap : Nat) (ttl tti : Option Nat) (batch : Nat) : Win3 (growthC12 cap ttl tti batch) (growthCheck cap ttl tti batch) where
  nil := rfl
  win := fun _ _ _ _ _ => rfl
  skip := fun x tr hn => by
    rw [growthC12]
    exact fun b op ob a rest h1 h2 => hn b op ob a rest (by rw [h1, h2])

/-- The check the C12 oracle performs around a lookup on a cache that is over capacity:
nothing being expired, the lookup's maintenance is the size eviction. -/
theorem growthCheck_model {p : Params} (hq : NoQuirks p) {s : UState} (hi : InvU p s)
    {cap : Nat} (hcap : p.cap = some cap) (op : Op) {s' : UState}
    (hmap : s'.map = (maintain p s).map) (hnow : s'.now = (maintain p s).now) :
    growthCheck cap p.ttl p.tti Gen.UNSYNC_EVICTION_BATCH_SIZE (snapshot p s) op (snapshot p s')
      = true := by
  unfold growthCheck
  dsimp only
  rw [Bool.or_eq_true, Bool.not_eq_true']
  refine (Bool.eq_false_or_eq_true _).elim (fun happ => Or.inr ?_) Or.inl
  simp only [Bool.and_eq_true, decide_eq_true_eq] at happ
  obtain ⟨⟨⟨_, ⟨⟨hlive, _⟩, _⟩⟩, _⟩, hlen⟩ := happ
  have hnow' : (snapshot p s').now = s.now := hnow.trans (maintain_spec hq hi).2.2.now
  rw [hnow', snapshot_entries_all] at hlive
  have hexp : NoneExpired p s := by
    intro k e he
    have := hlive k e (AL.mem_of_get? he)
    rw [entryLiveAt_view, Bool.not_eq_true'] at this
    exact this
  have hmt : maintain p s = evictLru p s := by
    unfold maintain evictExpiredIfNeeded
    split
    · rw [evictExpired_noop hi.struct hexp]
    · rfl
  rw [snapshot_length] at hlen
  rw [sameKeys_iff]
  intro x
  rw [mem_keysOf_snapshot, hmap, hmt, lruOrder_snapshot]
  simp only [List.mem_filter, Bool.not_eq_true', mem_keysOf_snapshot]
  exact evictLru_survivors hi hcap hlen (snapshot p s)
    (fun n _ => weightOfKey_snapshot hi.struct n.key) x

theorem growthC12_run {P : Sketch → Prop} (L : SketchLaws P) {p : Params} (hq : NoQuirks p)
    (hsm : SmallSketch p) {cap : Nat} (hcap : p.cap = some cap) (h : List Op) {s : UState}
    (hi : Inv P p s) :
    growthC12 cap p.ttl p.tti Gen.UNSYNC_EVICTION_BATCH_SIZE (run p s h) = true :=
  (win3_growthC12 cap p.ttl p.tti _).run
    (isRun p) (fun _ op hi => step_inv L hq hsm hi op) (snapshot p)
    (fun _ hi => step_snap L hq hsm hi)
    (fun s op hi => by
      by_cases hop : isLookup op = true
      · obtain ⟨hm, _, hn⟩ := step_lookup_frame hi.inv.struct.noFault hop
        exact growthCheck_model hq hi.inv hcap op hm hn
      · cases op <;> first | exact absurd rfl hop | rfl) h s hi

/-- The admission and growth parts of the C12 oracle on model traces (the recency part, and the
oracle itself, are in `Lemmas/UnsyncRecency.lean`). -/
theorem admit_growth_trace {P : Sketch → Prop} (L : SketchLaws P) {p : Params} (hq : NoQuirks p)
    (hsm : SmallSketch p) {cap : Nat} (hcap : p.cap = some cap) (h : List Op) :
    admitC13 cap p.ttl p.tti p.weigh (trace p h) = true ∧
    growthC12 cap p.ttl p.tti Gen.UNSYNC_EVICTION_BATCH_SIZE (trace p h) = true :=
  ⟨admitC13_run L hq hsm hcap h (init_inv L p) (fun n hn => nomatch hn),
    growthC12_run L hq hsm hcap h (init_inv L p)⟩

/-! ### configurations and states of the examples in `Props/C12.lean` and `Props/C13.lean` -/

namespace Ex

def cfg2 : Params := { cap := some 2 }

/-- Two residents (1 is the least recently used), key 3 looked up twice, key 4 never seen. -/
def full2 : UState := runState cfg2 {} [.ins 1 10, .ins 2 20, .get 3, .get 3]

def cfgW : Params := { cap := some 3, hasWeigher := true, w := fun _ v => v }

/-- Residents 2 (weight 1, LRU), 3 (weight 1), 1 (weight 3 after an update): weighted size 5
exceeds the capacity 3 by 2. -/
def overW : UState := runState cfgW {} [.ins 1 1, .ins 2 1, .ins 3 1, .ins 1 3]

/-- Residents 1 (weight 2, LRU) and 2 (weight 1); key 5 looked up three times. -/
def fullW : UState := runState cfgW {} [.ins 1 2, .ins 2 1, .get 5, .get 5, .get 5]

theorem nq_cfg2 : NoQuirks cfg2 := by unfold NoQuirks; rfl

theorem nq_cfgW : NoQuirks cfgW := by unfold NoQuirks; rfl

theorem small_cfg2 : SmallSketch cfg2 :=
  ⟨fun c h => by cases h; decide, fun _ _ _ => by show Sketch.sketchCapacity 0 ≤ 2 ^ 27; decide⟩

theorem small_cfgW : SmallSketch cfgW :=
  ⟨fun c h => by cases h; decide, fun _ _ _ => by show Sketch.sketchCapacity 0 ≤ 2 ^ 27; decide⟩

end Ex

end Admit
end Unsync
end MiniMoka
