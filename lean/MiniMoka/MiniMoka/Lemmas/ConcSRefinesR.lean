/-
  Every execution of `ConcS` projects to an execution that model R (`MiniMoka/ConcR.lean`) accepts
  (theorems: `Props/C02ConcS.lean`).  The projection needs, per pending thread, the id of the R
  operation it is performing and the result that its map step decided; `ConcS.CState` does not
  record them, so the projection is a fold that carries a ghost (`Ghost`, `Lemmas/ProjR.lean`).
  With the per-event projection `ConcS` is a `ProjR.Sys` (`sysS`); what is proved here is what that
  asks for per event, and the per-step simulation (`step_rel`).  `projFrom`, `callsFrom`,
  `decidedFrom` are the folds of `sysS` written out; from the empty cache they are `projEvs`,
  `callsC`, `decidedC`, in which `Props/C02ConcS.lean` is stated.
-/
import MiniMoka.Lemmas.ConcS
import MiniMoka.Lemmas.SyncRefinesR

namespace MiniMoka
namespace ConcSR

open ConcR (KV Key Val Tid Oid State lookup remove store runFrom threadIdle)
open Sync (SState VE KN NoQuirks Frame)
open ConcS (CState Pend pendOf dropPend)
open SyncR

/-! ## The projection -/

def mapEvOp : ConcS.Ev → Option (Tid × ConcR.Op)
  | .insMap t k v => some (t, .ins k v)
  | .invMap t k => some (t, .del k)
  | .getMap t k => some (t, .get k)
  | _ => none

/-- The events of R for one event of ConcS performed in state `c` (ghost `g`).
A map step of an idle thread is the invocation and the map step of a new instance (id = the
position of the event); an `invMap` that finds nothing returns at once (the thread holds
nothing and stays idle), so it also responds.  A maintenance run is one `daemon` per key it
deletes.  `enq t` is the response of the instance `t` holds, with the result decided at its
map step.  The clock and `invalidate_all` (watermark) are invisible to R. -/
def projEv (p : Params) (c : CState) (g : Ghost) : ConcS.Ev → List ConcR.Ev
  | .insMap t k v => [.invoke t g.next (.ins k v), .mapStep g.next]
  | .invMap t k =>
    match (ConcS.invalidateMap c.s k).2 with
    | some _ => [.invoke t g.next (.del k), .mapStep g.next]
    | none => [.invoke t g.next (.del k), .mapStep g.next, .respond g.next none]
  | .getMap t k => [.invoke t g.next (.get k), .mapStep g.next]
  | .maint _ => (delKeys (absMap c.s) (absMap (Sync.trySync p c.s))).map .daemon
  | .sync _ => (delKeys (absMap c.s) (absMap (Sync.syncRun p c.s))).map .daemon
  | .enq t =>
    match AL.get? g.held t with
    | some h => [.respond h.oid h.res]
    | none => []
  | .tick _ => []
  | .invAll _ => []

def ghostStep (p : Params) (c : CState) (g : Ghost) : ConcS.Ev → Ghost
  | .insMap t k v => { next := g.next + 1, held := AL.put g.held t ⟨g.next, .ins k v, none⟩ }
  | .invMap t k =>
    match (ConcS.invalidateMap c.s k).2 with
    | some _ => { next := g.next + 1, held := AL.put g.held t ⟨g.next, .del k, none⟩ }
    | none => { g with next := g.next + 1 }
  | .getMap t k =>
    { next := g.next + 1, held := AL.put g.held t ⟨g.next, .get k, (ConcS.lookup p c.s k).2⟩ }
  | .enq t => { next := g.next + 1, held := AL.erase g.held t }
  | _ => { g with next := g.next + 1 }

def projFrom (p : Params) : CState → Ghost → List ConcS.Ev → List ConcR.Ev
  | _, _, [] => []
  | c, g, e :: rest =>
    projEv p c g e ++
      (match ConcS.step p c e with
       | some c' => projFrom p c' (ghostStep p c g e) rest
       | none => [])

def projEvs (p : Params) (evs : List ConcS.Ev) : List ConcR.Ev := projFrom p {} {} evs

/-- Distinctness of the map's keys along ConcS steps (no other invariant is needed). -/
theorem step_kn {p : Params} (hq : NoQuirks p) {c c' : CState} (hk : KN c.s) (e : ConcS.Ev)
    (hs : ConcS.step p c e = some c') : KN c'.s := by
  cases ConcS.Step.of_eq hs with
  | insMap t k v => exact insertMap_kn p hk k v
  | invMap t k => exact invalidateMap_kn hk k
  | maint => exact (Sync.trySync_frame hq c.s).kn hk
  | sync => exact (Sync.syncRun_frame hq c.s).kn hk
  | _ => exact hk

/-! ## The simulation relation -/

structure Rel (a : State) (c : CState) (g : Ghost) : Prop where
  map : KVEq a.map (absMap c.s)
  pend : ∀ t, (pendOf c.pending t).isSome = (AL.get? g.held t).isSome
  cpl : Cpl a.ops g

theorem rel_init : Rel State.init {} {} :=
  ⟨KVEq.refl _, fun _ => rfl, cpl_init⟩

theorem Rel.held_none {a : State} {c : CState} {g : Ghost} (h : Rel a c g) {t : Nat}
    (ht : pendOf c.pending t = none) : AL.get? g.held t = none := by
  have := h.pend t
  rw [ht] at this
  cases hg : AL.get? g.held t with
  | none => rfl
  | some _ => rw [hg] at this; cases this

theorem rel_mapStep {a : State} {c c' : CState} {g : Ghost} (h : Rel a c g) (t : Nat)
    (rop : ConcR.Op) (res : Option Val) (x : Pend)
    (ht : pendOf c.pending t = none)
    (hp : c'.pending = c.pending ++ [(t, x)])
    (hm : KVEq (mapAfter (absMap c.s) rop) (absMap c'.s))
    (hres : res = retOf (absMap c.s) rop ∨ res = none) :
    ∃ a', runFrom a [ConcR.Ev.invoke t g.next rop, ConcR.Ev.mapStep g.next] = some a' ∧
      Rel a' c' { next := g.next + 1, held := AL.put g.held t ⟨g.next, rop, res⟩ } := by
  have hht := h.held_none ht
  refine ⟨_, runFrom_invoke_mapStep a t g.next rop h.cpl.fresh (h.cpl.idle hht),
    (h.map.mapAfter rop).trans hm, fun t' => ?_,
    h.cpl.stepped hht rop (by rw [retOf_congr h.map rop]; exact hres)⟩
  rw [hp, ConcS.append_eq_put x ht, ConcS.pendOf_eq_get?, AL.get?_put, AL.get?_put]
  by_cases e : t = t'
  · rw [if_pos e, if_pos e]; rfl
  · rw [if_neg e, if_neg e, ← ConcS.pendOf_eq_get?]; exact h.pend t'

theorem rel_enq {a : State} {c c' : CState} {g : Ghost} (h : Rel a c g) (t : Nat) (x : Pend)
    (ht : pendOf c.pending t = some x)
    (hp : c'.pending = dropPend c.pending t) (hm : absMap c'.s = absMap c.s) :
    ∃ a', runFrom a (match AL.get? g.held t with
        | some hd => [ConcR.Ev.respond hd.oid hd.res]
        | none => []) = some a' ∧
      Rel a' c' { next := g.next + 1, held := AL.erase g.held t } := by
  obtain ⟨hd, hhd⟩ : ∃ hd, AL.get? g.held t = some hd :=
    Option.isSome_iff_exists.mp (by rw [← h.pend t, ht]; rfl)
  obtain ⟨r, hr, hr2, hr4, hc⟩ := h.cpl.done hhd
  simp only [hhd]
  refine ⟨_, runFrom_respond hr hr2 hr4, by rw [hm]; exact h.map, fun t' => ?_, hc.next_succ⟩
  rw [hp, ConcS.pendOf_dropPend, AL.get?_erase t t' h.cpl.hn]
  by_cases e : t = t'
  · rw [if_pos e, if_pos e]; rfl
  · rw [if_neg e, if_neg e]; exact h.pend t'

theorem rel_daemons {a : State} {c c' : CState} {g : Ghost} (h : Rel a c g)
    (hp : c'.pending = c.pending) (hsub : KVSub (absMap c.s) (absMap c'.s)) :
    ∃ a', runFrom a ((delKeys (absMap c.s) (absMap c'.s)).map ConcR.Ev.daemon) = some a' ∧
      Rel a' c' { g with next := g.next + 1 } :=
  ⟨_, runFrom_daemons _ a, removeAll_delKeys h.map hsub, fun t => by rw [hp]; exact h.pend t,
    h.cpl.next_succ⟩

theorem rel_silent {a : State} {c c' : CState} {g : Ghost} (h : Rel a c g)
    (hp : c'.pending = c.pending) (hm : absMap c'.s = absMap c.s) :
    Rel a c' { g with next := g.next + 1 } :=
  ⟨by rw [hm]; exact h.map, fun t => by rw [hp]; exact h.pend t, h.cpl.next_succ⟩

/-- An `invMap` that finds nothing: the instance makes its map step and responds at once. -/
theorem rel_inv_nothing {a : State} {c : CState} {g : Ghost} (h : Rel a c g) (t k : Nat)
    (ht : pendOf c.pending t = none) (hnone : lookup (absMap c.s) k = none) :
    ∃ a', runFrom a [ConcR.Ev.invoke t g.next (.del k), ConcR.Ev.mapStep g.next,
        ConcR.Ev.respond g.next none] = some a' ∧
      Rel a' c { g with next := g.next + 1 } := by
  have hht := h.held_none ht
  refine ⟨_, runFrom_callFrag a t g.next (.del k) [] none h.cpl.fresh (h.cpl.idle hht)
    (Or.inr rfl), fun k' => ?_, h.pend, h.cpl.call hht (.del k) none⟩
  show lookup (remove a.map k) k' = _
  rw [ConcR.lookup_remove, h.map k']
  by_cases e : k = k'
  · rw [if_pos e, ← e, hnone]
  · rw [if_neg e]

theorem invalidateMap_none {s : SState} {k : Nat} (h : (ConcS.invalidateMap s k).2 = none) :
    lookup (absMap s) k = none := by
  rcases ConcS.invalidateMap_cases s k with ⟨hnone, _⟩ | ⟨_, _, e⟩
  · rw [lookup_absMap, hnone]; rfl
  · rw [e] at h; cases h

theorem step_rel {p : Params} (hq : NoQuirks p) {a : State} {c c' : CState} {g : Ghost}
    (h : Rel a c g) (hk : KN c.s) (e : ConcS.Ev) (hs : ConcS.step p c e = some c') :
    ∃ a', runFrom a (projEv p c g e) = some a' ∧ Rel a' c' (ghostStep p c g e) := by
  cases ConcS.Step.of_eq hs with
  | insMap t k v hpo =>
    exact rel_mapStep h t (.ins k v) none _ hpo rfl (insertMap_abs p c.s k v) (Or.inr rfl)
  | invMap t k op hpo hop =>
    simp only [projEv, ghostStep, hop]
    exact rel_mapStep h t (.del k) none (.write op) hpo rfl (invalidateMap_abs hk k) (Or.inr rfl)
  | invNone t k hpo hop =>
    simp only [projEv, ghostStep, hop]
    exact rel_inv_nothing h t k hpo (invalidateMap_none hop)
  | getMap t k hpo =>
    exact rel_mapStep h t (.get k) (ConcS.lookup p c.s k).2 _ hpo rfl (KVEq.refl _)
      (lookup_ret p c.s k)
  | maint =>
    exact rel_daemons (c' := { c with s := Sync.trySync p c.s }) h rfl
      (sub_of_frame (Sync.trySync_frame hq c.s) hk)
  | sync =>
    exact rel_daemons (c' := { c with s := Sync.syncRun p c.s }) h rfl
      (sub_of_frame (Sync.syncRun_frame hq c.s) hk)
  | enqWrite t op hpo => exact rel_enq h t _ hpo rfl rfl
  | enqRead t op hpo => exact rel_enq h t _ hpo rfl rfl
  | enqDrop t op hpo => exact rel_enq h t _ hpo rfl rfl
  | tick d => exact ⟨a, rfl, rel_silent h rfl rfl⟩
  | invAll t => exact ⟨a, rfl, rel_silent h rfl rfl⟩

/-! ## Calls: what was invoked by whom and what it returned -/

def decidedEv (p : Params) (c : CState) (n : Nat) : ConcS.Ev → List (Oid × Tid × ConcR.Op × Option Val)
  | .insMap t k v => [(n, t, .ins k v, none)]
  | .invMap t k => [(n, t, .del k, none)]
  | .getMap t k => [(n, t, .get k, (ConcS.lookup p c.s k).2)]
  | _ => []

def decidedFrom (p : Params) : CState → Nat → List ConcS.Ev → List (Oid × Tid × ConcR.Op × Option Val)
  | _, _, [] => []
  | c, n, e :: rest =>
    decidedEv p c n e ++
      (match ConcS.step p c e with
       | some c' => decidedFrom p c' (n + 1) rest
       | none => [])

def respCalls (c : CState) (g : Ghost) : ConcS.Ev → List (Oid × Tid × ConcR.Op × Option Val)
  | .enq t =>
    match AL.get? g.held t with
    | some h => [(h.oid, t, h.op, h.res)]
    | none => []
  | .invMap t k =>
    match (ConcS.invalidateMap c.s k).2 with
    | some _ => []
    | none => [(g.next, t, .del k, none)]
  | _ => []

def callsFrom (p : Params) : CState → Ghost → List ConcS.Ev → List (Oid × Tid × ConcR.Op × Option Val)
  | _, _, [] => []
  | c, g, e :: rest =>
    respCalls c g e ++
      (match ConcS.step p c e with
       | some c' => callsFrom p c' (ghostStep p c g e) rest
       | none => [])

theorem ghostStep_next (p : Params) (c : CState) (g : Ghost) (e : ConcS.Ev) :
    (ghostStep p c g e).next = g.next + 1 := by
  cases e <;> try rfl
  simp only [ghostStep]; split <;> rfl

theorem opOf_projEv (p : Params) (c : CState) (g : Ghost) (e : ConcS.Ev) (o : Oid) :
    ConcR.opOf (projEv p c g e) o = if g.next = o then mapEvOp e else none := by
  cases e with
  | insMap t k v | getMap t k | tick d | invAll t =>
    simp only [projEv, ConcR.opOf, mapEvOp, ite_self]
  | invMap t k =>
    simp only [projEv, mapEvOp]
    split <;> simp only [ConcR.opOf]
  | maint t | sync t => simp only [projEv, mapEvOp, opOf_daemons, ite_self]
  | enq t =>
    simp only [projEv, mapEvOp, ite_self]
    split <;> rfl

theorem mem_decidedEv {p : Params} {c : CState} {n : Nat} {e : ConcS.Ev}
    {y : Oid × Tid × ConcR.Op × Option Val} (h : y ∈ decidedEv p c n e) :
    y.1 = n ∧ mapEvOp e = some (y.2.1, y.2.2.1) := by
  cases e <;> simp only [decidedEv, List.mem_singleton, List.not_mem_nil] at h <;>
    (subst h; exact ⟨rfl, rfl⟩)

theorem mem_held_step {p : Params} {c : CState} {g : Ghost} {e : ConcS.Ev} {x : Nat × Held}
    (h : x ∈ (ghostStep p c g e).held) :
    x ∈ g.held ∨ (x.2.oid, x.1, x.2.op, x.2.res) ∈ decidedEv p c g.next e := by
  have put : ∀ {t hd}, x ∈ AL.put g.held t hd → x ∈ g.held ∨ x = (t, hd) := AL.mem_or_eq_of_mem_put
  cases e with
  | insMap t k v | getMap t k =>
    rcases put h with h | rfl
    · exact Or.inl h
    · exact Or.inr List.mem_cons_self
  | invMap t k =>
    simp only [ghostStep] at h
    split at h
    · rcases put h with h | rfl
      · exact Or.inl h
      · exact Or.inr List.mem_cons_self
    · exact Or.inl h
  | enq t => exact Or.inl (AL.mem_of_mem_erase h)
  | maint t | sync t | tick d | invAll t => exact Or.inl h

theorem calls_step {p : Params} {c : CState} {g : Ghost} {pre : List ConcR.Ev} (h : PreOk pre g)
    (e : ConcS.Ev) (T : List ConcR.Ev) :
    (resps (projEv p c g e)).filterMap
        (fun x => (ConcR.opOf (pre ++ projEv p c g e ++ T) x.1).map
          fun y => (x.1, y.1, y.2, x.2)) =
      respCalls c g e := by
  cases e with
  | insMap t k v | getMap t k | tick d | invAll t => rfl
  | maint t | sync t => simp only [projEv, resps_daemons]; rfl
  | invMap t k =>
    have hop : ConcR.opOf (pre ++ projEv p c g (.invMap t k) ++ T) g.next =
        some (t, .del k) := by
      rw [List.append_assoc, ConcR.opOf_append, h.2 g.next (Nat.le_refl _), ConcR.opOf_append,
        opOf_projEv, if_pos rfl]
      rfl
    revert hop
    simp only [projEv, respCalls]
    split
    · intro _; rfl
    · intro hop
      simp only [resps, List.filterMap_cons, hop, Option.map_some, List.filterMap_nil]
  | enq t =>
    cases hg : AL.get? g.held t with
    | none => simp only [projEv, respCalls, hg]; rfl
    | some hd =>
      have hop : ConcR.opOf (pre ++ projEv p c g (.enq t) ++ T) hd.oid = some (t, hd.op) := by
        rw [List.append_assoc]
        exact ConcR.opOf_append_of_some _ (h.1 (t, hd) (AL.mem_of_get? hg))
      revert hop
      simp only [projEv, respCalls, hg]
      intro hop
      simp only [resps, List.filterMap_cons, hop, Option.map_some, List.filterMap_nil]

theorem respCalls_decided (p : Params) (c : CState) (g : Ghost) (e : ConcS.Ev)
    (D : List ProjR.Call) (hD : ∀ x ∈ g.held, (x.2.oid, x.1, x.2.op, x.2.res) ∈ D) :
    ∀ y ∈ respCalls c g e, y ∈ D ++ decidedEv p c g.next e := by
  intro y hy
  cases e with
  | enq t =>
    simp only [respCalls] at hy
    cases hg : AL.get? g.held t with
    | none => rw [hg] at hy; cases hy
    | some hd =>
      rw [hg] at hy
      simp only [List.mem_singleton] at hy
      subst hy
      exact List.mem_append_left _ (hD (t, hd) (AL.mem_of_get? hg))
  | invMap t k =>
    simp only [respCalls] at hy
    split at hy
    · cases hy
    · simp only [List.mem_singleton] at hy
      subst hy
      exact List.mem_append_right _ List.mem_cons_self
  | _ => cases hy

theorem stepOids_projEv (p : Params) (c : CState) (g : Ghost) (e : ConcS.Ev) :
    ConcR.stepOids (projEv p c g e) = if (mapEvOp e).isSome then [g.next] else [] := by
  cases e with
  | insMap t k v | getMap t k | tick d | invAll t => rfl
  | invMap t k => simp only [projEv, mapEvOp]; split <;> rfl
  | maint t | sync t => simp only [projEv, mapEvOp, stepOids_daemons]; rfl
  | enq t => simp only [projEv, mapEvOp]; split <;> rfl

/-! ## `ConcS` as a system with a projection to R -/

def sysS (p : Params) : ProjR.Sys CState ConcS.Ev where
  step := ConcS.step p
  proj := projEv p
  gstep := ghostStep p
  mop := mapEvOp
  resp := respCalls
  dec := decidedEv p
  next := ghostStep_next p
  opOf := opOf_projEv p
  steps := stepOids_projEv p
  held := fun _ _ _ _ => mem_held_step
  decm := fun _ _ _ _ => mem_decidedEv
  calls := fun _ _ _ e T h => calls_step h e T
  respDec := respCalls_decided p

theorem sysS_run (p : Params) : (sysS p).run = ConcS.runEvs p :=
  (sysS p).isPath.unique (ConcS.isPath p)

theorem sysS_projFrom (p : Params) : (sysS p).projFrom = projFrom p := by
  funext c g evs
  induction evs generalizing c g with
  | nil => rfl
  | cons e rest ih =>
    have hst : (sysS p).step c e = ConcS.step p c e := rfl
    simp only [ProjR.Sys.projFrom, projFrom, hst, ih]
    cases ConcS.step p c e <;> rfl

theorem sysS_callsFrom (p : Params) : (sysS p).callsFrom = callsFrom p := by
  funext c g evs
  induction evs generalizing c g with
  | nil => rfl
  | cons e rest ih =>
    have hst : (sysS p).step c e = ConcS.step p c e := rfl
    simp only [ProjR.Sys.callsFrom, callsFrom, hst, ih]
    cases ConcS.step p c e <;> rfl

theorem sysS_decidedFrom (p : Params) : (sysS p).decidedFrom = decidedFrom p := by
  funext c n evs
  induction evs generalizing c n with
  | nil => rfl
  | cons e rest ih =>
    have hst : (sysS p).step c e = ConcS.step p c e := rfl
    simp only [ProjR.Sys.decidedFrom, decidedFrom, hst, ih]
    cases ConcS.step p c e <;> rfl

/-! ## Inverting `mapEvOp`; the folds from the empty cache -/

theorem mapEvOp_ins {e : ConcS.Ev} {t k v : Nat} (h : mapEvOp e = some (t, .ins k v)) :
    e = .insMap t k v := by
  cases e <;> simp only [mapEvOp, Option.some.injEq, Prod.mk.injEq, reduceCtorEq, and_false,
    ConcR.Op.ins.injEq] at h
  obtain ⟨rfl, rfl, rfl⟩ := h; rfl

theorem mapEvOp_del {e : ConcS.Ev} {t k : Nat} (h : mapEvOp e = some (t, .del k)) :
    e = .invMap t k := by
  cases e <;> simp only [mapEvOp, Option.some.injEq, Prod.mk.injEq, reduceCtorEq, and_false,
    ConcR.Op.del.injEq] at h
  obtain ⟨rfl, rfl⟩ := h; rfl

theorem mapEvOp_get {e : ConcS.Ev} {t k : Nat} (h : mapEvOp e = some (t, .get k)) :
    e = .getMap t k := by
  cases e <;> simp only [mapEvOp, Option.some.injEq, Prod.mk.injEq, reduceCtorEq, and_false,
    ConcR.Op.get.injEq] at h
  obtain ⟨rfl, rfl⟩ := h; rfl

def callsC (p : Params) (evs : List ConcS.Ev) : List (Oid × Tid × ConcR.Op × Option Val) :=
  callsFrom p {} {} evs

def decidedC (p : Params) (evs : List ConcS.Ev) : List (Oid × Tid × ConcR.Op × Option Val) :=
  decidedFrom p {} 0 evs

end ConcSR
end MiniMoka
