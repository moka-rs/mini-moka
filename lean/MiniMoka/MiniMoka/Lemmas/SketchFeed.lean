/-
  The popularity sketch as the two cache models drive it (property C14): one recorded lookup
  (`incr1`), a sequence of them (`feed`), what may happen to the sketch and its flag when no
  lookup is recorded (`Enabled`), and `Recorded`: the sketch is a freshly sized one that has
  recorded exactly the hashes handed to it since it was switched on.
-/
import MiniMoka.Lemmas.SketchLaws

namespace MiniMoka

namespace Sketch

/-- One recorded lookup as the caches perform it: `increment`, the sketch staying as it is
when `increment` faults (the caches then set their sticky fault). -/
def incr1 (legacy : Bool) (s : Sketch) (h : UInt64) : Sketch :=
  match s.increment legacy h with
  | .ok s' => s'
  | .error _ => s

def feed (legacy : Bool) (s : Sketch) (hs : List UInt64) : Sketch := hs.foldl (incr1 legacy) s

theorem feed_nil (l : Bool) (s : Sketch) : feed l s [] = s := rfl

theorem feed_cons (l : Bool) (s : Sketch) (h : UInt64) (hs : List UInt64) :
    feed l s (h :: hs) = feed l (incr1 l s h) hs := rfl

theorem feed_append (l : Bool) (s : Sketch) (a b : List UInt64) :
    feed l s (a ++ b) = feed l (feed l s a) b := List.foldl_append

/-- A sketch without table ignores `increment` (`if self.table.is_empty() { return; }`). -/
theorem increment_of_empty (l : Bool) {s : Sketch} (h0 : s.table.size = 0) (h : UInt64) :
    s.increment l h = .ok s := by
  rw [increment_eq_bump, if_pos h0]

theorem incr1_of_empty (l : Bool) {s : Sketch} (h0 : s.table.size = 0) (h : UInt64) :
    incr1 l s h = s := by
  unfold incr1
  rw [increment_of_empty l h0 h]

theorem feed_of_empty (l : Bool) {s : Sketch} (h0 : s.table.size = 0) (hs : List UInt64) :
    feed l s hs = s := by
  induction hs with
  | nil => rfl
  | cons h hs ih => rw [feed_cons, incr1_of_empty l h0 h, ih]

theorem feed_default (l : Bool) (hs : List UInt64) : feed l {} hs = {} :=
  feed_of_empty l rfl hs

theorem feed_ok {P : Sketch → Prop} (L : SketchLaws P) (hs : List UInt64) :
    ∀ {s : Sketch}, P s → hs.foldlM (increment false) s = .ok (feed false s hs) := by
  induction hs with
  | nil => intro s _; rfl
  | cons h hs ih =>
    intro s hp
    obtain ⟨s', h1, h2⟩ := L.incr s h hp
    have e : incr1 false s h = s' := by unfold incr1; rw [h1]
    rw [feed_cons, e, List.foldlM_cons, h1]
    exact ih h2

theorem frequency_default (x : UInt64) : ({} : Sketch).frequency x = 0 := rfl

theorem frequency_init (cap : Nat) (x : UInt64) : (init cap).frequency x = 0 := by
  unfold frequency
  rw [if_neg (init_table_ne cap), counterAt_init, counterAt_init, counterAt_init, counterAt_init]
  rfl

end Sketch

/-- What may happen to the pair (`sk`, `skOn`) when no lookup is recorded: nothing, or the
sketch is switched on (`enable_frequency_sketch`: `ensure_capacity` and the flag), which
happens only while the flag is off. -/
def Enabled (sk : Sketch) (on : Bool) (sk' : Sketch) (on' : Bool) : Prop :=
  (sk' = sk ∧ on' = on) ∨ (on = false ∧ on' = true ∧ ∃ cap, sk' = sk.ensureCapacity cap)

theorem Enabled.same (sk : Sketch) (on : Bool) : Enabled sk on sk on := Or.inl ⟨rfl, rfl⟩

theorem Enabled.on (sk : Sketch) {on : Bool} (h : on = false) (cap : Nat) :
    Enabled sk on (sk.ensureCapacity cap) true := Or.inr ⟨h, rfl, cap, rfl⟩

theorem Enabled.frequency {sk sk' : Sketch} {on on' : Bool} (h : Enabled sk on sk' on')
    (hoff : on = false → sk = {}) (x : UInt64) : sk'.frequency x = sk.frequency x := by
  rcases h with ⟨h1, _⟩ | ⟨h1, _, cap, h3⟩
  · rw [h1]
  · rw [h3, hoff h1]
    exact Sketch.frequency_init cap x

def getHashes (p : Params) (h : List Op) : List UInt64 :=
  h.filterMap (fun op => match op with
    | .get k => some (p.hash k)
    | _ => none)

theorem getHashes_cons_get (p : Params) (k : Nat) (h : List Op) :
    getHashes p (.get k :: h) = p.hash k :: getHashes p h := rfl

theorem getHashes_cons_of_not_get (p : Params) (op : Op) (h : List Op) (hop : ∀ k, op ≠ .get k) :
    getHashes p (op :: h) = getHashes p h := by
  cases op <;> first | rfl | exact absurd rfl (hop _)

/-- What the sketch of a cache is, given the sequence `hs` of hashes that have been handed to
it so far: still off and empty, or switched on at some point (`hs = pre ++ post`) as a freshly
sized sketch that has since recorded exactly `post`, in order, each hash once. -/
def Recorded (P : Sketch → Prop) (sk : Sketch) (on : Bool) (hs : List UInt64) : Prop :=
  (on = false ∧ sk = {}) ∨
  ∃ pre post cap, hs = pre ++ post ∧ on = true ∧ P (Sketch.init cap) ∧
    sk = Sketch.feed false (Sketch.init cap) post

theorem Recorded.init (P : Sketch → Prop) : Recorded P {} false [] := Or.inl ⟨rfl, rfl⟩

theorem Recorded.feed {P : Sketch → Prop} {sk : Sketch} {on : Bool} {hs : List UInt64}
    (h : Recorded P sk on hs) (more : List UInt64) :
    Recorded P (Sketch.feed false sk more) on (hs ++ more) := by
  rcases h with ⟨h1, h2⟩ | ⟨pre, post, cap, h1, h2, h3, h4⟩
  · exact Or.inl ⟨h1, by rw [h2, Sketch.feed_default]⟩
  · refine Or.inr ⟨pre, post ++ more, cap, by rw [h1, List.append_assoc], h2, h3, ?_⟩
    rw [h4, Sketch.feed_append]

theorem Recorded.enabled {P : Sketch → Prop} {sk sk' : Sketch} {on on' : Bool}
    {hs : List UInt64} (h : Recorded P sk on hs) (he : Enabled sk on sk' on') (hp : P sk') :
    Recorded P sk' on' hs := by
  rcases he with ⟨e1, e2⟩ | ⟨e1, e2, cap, e3⟩
  · rw [e1, e2]; exact h
  · rcases h with ⟨_, h2⟩ | ⟨_, _, _, _, h2, _⟩
    · have e4 : sk' = Sketch.init cap := by rw [e3, h2]; rfl
      exact Or.inr ⟨hs, [], cap, (List.append_nil _).symm, e2, e4 ▸ hp, e4⟩
    · rw [e1] at h2; cases h2

/-- The recording as a run of the sketch model (`Props/C14.lean` speaks about such runs). -/
theorem Recorded.run {sk : Sketch} {on : Bool} {hs : List UInt64}
    (h : Recorded Sketch.Good sk on hs) :
    (on = false ∧ sk = {}) ∨
    ∃ pre post cap g, hs = pre ++ post ∧ on = true ∧
      Sketch.runG (Sketch.init cap, Sketch.ghost0) post = .ok (sk, g) := by
  rcases h with h | ⟨pre, post, cap, h1, h2, h3, h4⟩
  · exact Or.inl h
  · refine Or.inr ⟨pre, post, cap, ?_⟩
    have hr := Sketch.feed_ok sketchLaws post h3
    rw [← Sketch.run_eq_foldlM, ← h4, Sketch.run_of_runG _ Sketch.ghost0] at hr
    cases hg : Sketch.runG (Sketch.init cap, Sketch.ghost0) post with
    | error e => rw [hg] at hr; cases hr
    | ok st =>
      rw [hg] at hr
      obtain ⟨s1, g⟩ := st
      simp only [Except.ok.injEq] at hr
      exact ⟨g, h1, h2, by rw [hr]⟩

end MiniMoka
