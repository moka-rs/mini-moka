/-
  Growth eviction on the one-thread model of `sync::Cache` (C12, kind `.sync`): in a quiescent
  calm cache an insert of a key that is already RESIDENT queues an update; the next maintenance
  run applies it (the entry keeps its nodes, which move to the back of both lists; the local
  weighted size changes by `- old + new`) and then `evict_lru_entries` works off the excess from
  the front of the access-order list: exactly the shortest prefix whose weights cover the excess
  leaves.
-/
import MiniMoka.Lemmas.SyncRecency
import MiniMoka.Spec.OraclesExt

namespace MiniMoka
namespace Sync
namespace Growth

open Nodes Spec Admit
open Unsync.Admit (sameKeys_iff shortestPre prefLen prefLen_nil prefLen_zero prefLen_cons_pos
  shortestPrefixBy_eq)

/-! ### the prefix that covers an excess -/

/-- Number of elements `evict_lru_entries` removes from a list of weights: it stops as soon as
the evicted weight `got` reaches `need`, or the list is exhausted. -/
def evictCount (need : Nat) : List Nat → Nat → Nat
  | [], _ => 0
  | w :: rest, got => if got ≥ need then 0 else evictCount need rest (got + w) + 1

theorem evictCount_done {need got : Nat} (h : got ≥ need) (ws : List Nat) :
    evictCount need ws got = 0 := by
  cases ws with
  | nil => rfl
  | cons w rest => simp [evictCount, h]

theorem evictCount_cons {need got : Nat} (h : ¬ got ≥ need) (w : Nat) (rest : List Nat) :
    evictCount need (w :: rest) got = evictCount need rest (got + w) + 1 := by
  simp [evictCount, h]

theorem evictCount_le (need : Nat) : ∀ (ws : List Nat) (got : Nat),
    evictCount need ws got ≤ ws.length := by
  intro ws
  induction ws with
  | nil => intro _; exact Nat.le_refl _
  | cons w rest ih =>
    intro got
    by_cases h : got ≥ need
    · rw [evictCount_done h]; exact Nat.zero_le _
    · rw [evictCount_cons h]
      have := ih (got + w)
      simp only [List.length_cons]
      omega

theorem evictCount_eq (need : Nat) : ∀ (ws : List Nat) (got : Nat),
    evictCount need ws got = prefLen (need - got) ws := by
  intro ws
  induction ws with
  | nil => intro got; rw [prefLen_nil]; rfl
  | cons w rest ih =>
    intro got
    by_cases h : got ≥ need
    · rw [evictCount_done h, show need - got = 0 by omega, prefLen_zero]
    · rw [evictCount_cons h, ih, prefLen_cons_pos (by omega), Nat.sub_add_eq]

/-! ### `evict_lru_entries` on a list of current, clean nodes -/

theorem eraseKeys_cons (m : List (Nat × VE)) (k : Nat) (ks : List Nat) :
    eraseKeys m (k :: ks) = eraseKeys (AL.erase m k) ks := rfl

theorem evictLruLoop_head {p : Params} (hd7 : p.q.d7 = false) {s : SState} (fuel wte ev : Nat)
    (hlt : ¬ ev ≥ wte) {n : AoNode} {rest : List AoNode} (hp : s.prob = n :: rest)
    {ve : VE} (hve : AL.get? s.map n.key = some ve) (hvi : ve.info = n.info)
    (hnd : (getInfo s n.info).dirty = false) :
    evictLruLoop p (fuel + 1) s wte ev =
      evictLruLoop p fuel (handleRemove { s with map := AL.erase s.map n.key } ve) wte
        (ev + (getInfo s n.info).weight) := by
  have hE : entryOfNode p s n.key n.info = some ve := entryOfNode_cur hd7 hve hvi
  rw [evictLruLoop, if_neg hlt]
  simp only [hp]
  rw [hnd]
  simp only [Bool.false_eq_true, if_false]
  rw [hE]
  dsimp only
  rw [hvi, if_pos (beq_self_eq_true _)]
  dsimp only
  rw [hvi]

theorem evictLruLoop_prefix {p : Params} (hd7 : p.q.d7 = false) :
    ∀ (fuel : Nat) (s : SState) (wte ev : Nat), Safe s → AllCur s s.prob →
      (AL.keys s.map).Nodup → (∀ n, n ∈ s.prob → (getInfo s n.info).dirty = false) →
      s.prob.length ≤ fuel →
      (evictLruLoop p fuel s wte ev).prob = s.prob.drop (evictCount wte (probWeights s) ev) ∧
      (evictLruLoop p fuel s wte ev).map =
        eraseKeys s.map ((s.prob.take (evictCount wte (probWeights s) ev)).map (·.key)) := by
  intro fuel
  induction fuel with
  | zero =>
    intro s wte ev _ _ _ _ hlen
    have hnil : s.prob = [] := List.length_eq_zero_iff.mp (Nat.le_zero.mp hlen)
    have hw : probWeights s = [] := by unfold probWeights; rw [hnil]; rfl
    rw [hw, hnil]
    exact ⟨hnil, rfl⟩
  | succ fuel ih =>
    intro s wte ev h hcur hkn hclean hlen
    by_cases hge : ev ≥ wte
    · have : evictLruLoop p (fuel + 1) s wte ev = s := by rw [evictLruLoop, if_pos hge]
      rw [this, evictCount_done hge]
      exact ⟨rfl, rfl⟩
    · cases hp : s.prob with
      | nil =>
        have : evictLruLoop p (fuel + 1) s wte ev = s := by
          rw [evictLruLoop, if_neg hge]; simp only [hp]
        have hw : probWeights s = [] := by unfold probWeights; rw [hp]; rfl
        rw [this, hw]
        exact ⟨hp, rfl⟩
      | cons v rest =>
        have hv : v ∈ s.prob := by rw [hp]; exact List.mem_cons_self
        obtain ⟨e, he, hei⟩ := hcur v hv
        rw [evictLruLoop_head hd7 fuel wte ev hge hp he hei (hclean v hv)]
        obtain ⟨s1, hs1, hsafe1, hkn1, hp1, hm1, -, hoth⟩ := removeCur h hkn hv he hei
        rw [hs1]
        rw [hp, eraseAo_head] at hp1
        have hrest : ∀ n, n ∈ rest → n ∈ s.prob ∧ n.id ≠ v.id := by
          have hids := h.probIds
          rw [hp, List.map_cons, List.nodup_cons] at hids
          intro n hn
          exact ⟨by rw [hp]; exact List.mem_cons_of_mem _ hn,
            fun e' => hids.1 (e' ▸ List.mem_map.mpr ⟨n, hn, rfl⟩)⟩
        have hinfo1 : ∀ n, n ∈ rest → getInfo s1 n.info = getInfo s n.info :=
          fun n hn => (hoth n (hrest n hn).1 (hrest n hn).2).2.1
        have hcur1 : AllCur s1 s1.prob := by
          rw [hp1]
          intro n hn
          obtain ⟨e2, he2, hei2⟩ := hcur n (hrest n hn).1
          exact ⟨e2, (hoth n (hrest n hn).1 (hrest n hn).2).2.2 e2 he2 hei2, hei2⟩
        have hclean1 : ∀ n, n ∈ s1.prob → (getInfo s1 n.info).dirty = false := by
          rw [hp1]
          intro n hn
          rw [hinfo1 n hn]
          exact hclean n (hrest n hn).1
        have hlen1 : s1.prob.length ≤ fuel := by
          rw [hp1]; rw [hp] at hlen; exact Nat.le_of_succ_le_succ hlen
        have hW1 : probWeights s1 = rest.map (fun n => (getInfo s n.info).weight) := by
          unfold probWeights
          rw [hp1]
          exact List.map_congr_left (fun n hn => by rw [hinfo1 n hn])
        have hW : probWeights s = (getInfo s v.info).weight ::
            rest.map (fun n => (getInfo s n.info).weight) := by
          unfold probWeights
          rw [hp]; rfl
        obtain ⟨r1, r2⟩ := ih s1 wte (ev + (getInfo s v.info).weight) hsafe1 hcur1 hkn1 hclean1 hlen1
        rw [hW, evictCount_cons hge, ← hW1]
        refine ⟨?_, ?_⟩
        · rw [r1, hp1]; rfl
        · rw [r2, hp1, hm1]; rfl

/-! ### `handle_upsert` for an entry that is already admitted: an update -/

theorem moveToBackWoE_infos (s : SState) (i : Nat) : (moveToBackWoE s i).infos = s.infos := by
  unfold moveToBackWoE; split
  · rfl
  · unfold moveNodeToBackWo; split
    · rfl
    · exact fail_infos _ _

theorem handleUpsert_update {p : Params} (hq : NoQuirks p) {s : SState} (hs : Safe s) {k : Nat}
    {ve : VE} (hash : UInt64) (oldW w0 : Nat) (hcur : AL.get? s.map k = some ve) {n : AoNode}
    (hn : n ∈ s.prob) (hni : n.info = ve.info) :
    (handleUpsert p s k hash ve oldW w0).map = s.map ∧
    (handleUpsert p s k hash ve oldW w0).prob = eraseAo s.prob n.id ++ [n] ∧
    (handleUpsert p s k hash ve oldW w0).cws =
      s.cws - (getInfo s ve.info).weight + p.weigh k ve.val ∧
    (∀ j, getInfo (handleUpsert p s k hash ve oldW w0) j =
      if ve.info = j then { getInfo s ve.info with dirty := false, weight := p.weigh k ve.val }
      else getInfo s j) := by
  have hd8 : p.q.d8 = false := by rw [hq]
  have hcw := currentWeight_of_cur (p := p) (by rw [hq]) hcur rfl w0
  have hadm : (getInfo s ve.info).admitted = true := by rw [← hni]; exact hs.probAdm hn
  have hao : (getInfo s ve.info).ao = some n.id := by rw [← hni]; exact hs.probOwn n hn
  have hfind : findAo s.prob n.id = some n := findAo_of_mem hs.probIds hn
  unfold handleUpsert
  dsimp only
  rw [hcw]
  generalize hs1 : withInfo s ve.info (fun i => { i with dirty := false }) = s1
  have hg : ∀ j, getInfo s1 j =
      if ve.info = j then { getInfo s ve.info with dirty := false } else getInfo s j := by
    intro j; rw [← hs1]; exact getInfo_withInfo _ _ _ _
  have hm1 : s1.map = s.map := by rw [← hs1]; rfl
  have hp1 : s1.prob = s.prob := by rw [← hs1]; rfl
  have hc1 : s1.cws = s.cws := by rw [← hs1]; rfl
  have hadm1 : (getInfo s1 ve.info).admitted = true := by
    rw [hg, if_pos rfl]; exact hadm
  rw [if_pos hadm1]
  unfold applyUpdate
  dsimp only
  rw [subCounters_eq (Nat.zero_le _)]
  simp only [hd8, Bool.false_eq_true, if_false]
  generalize hs2 : addCounters { s1 with cec := s1.cec - 0, cws := s1.cws - (getInfo s1 ve.info).weight } 0 (p.weigh k ve.val) = s2
  have hg2 : ∀ j, getInfo s2 j = getInfo s1 j := by intro j; rw [← hs2]; rfl
  have hm2 : s2.map = s1.map := by rw [← hs2]; rfl
  have hp2 : s2.prob = s1.prob := by rw [← hs2]; rfl
  have hc2 : s2.cws = s1.cws - (getInfo s1 ve.info).weight + p.weigh k ve.val := by
    rw [← hs2]; rfl
  generalize hs3 : withInfo s2 ve.info (fun i => { i with weight := p.weigh k ve.val }) = s3
  have hg3 : ∀ j, getInfo s3 j =
      if ve.info = j then { getInfo s ve.info with dirty := false, weight := p.weigh k ve.val }
      else getInfo s j := by
    intro j
    rw [← hs3, getInfo_withInfo]
    by_cases e : ve.info = j
    · rw [if_pos e, if_pos e, hg2, hg, if_pos rfl]
    · rw [if_neg e, if_neg e, hg2, hg, if_neg e]
  have hm3 : s3.map = s.map := by rw [← hs3]; exact hm2.trans hm1
  have hp3 : s3.prob = s.prob := by rw [← hs3]; exact hp2.trans hp1
  have hc3 : s3.cws = s.cws - (getInfo s ve.info).weight + p.weigh k ve.val := by
    rw [← hs3]
    show s2.cws = _
    rw [hc2, hc1, hg, if_pos rfl]
  have hao3 : (getInfo s3 ve.info).ao = some n.id := by rw [hg3, if_pos rfl]; exact hao
  have hmv : moveToBackAoE s3 ve.info = { s3 with prob := eraseAo s3.prob n.id ++ [n] } := by
    unfold moveToBackAoE
    rw [hao3]
    dsimp only
    exact moveNodeToBackAo_eq (by rw [hp3]; exact hfind)
  rw [hmv]
  refine ⟨?_, ?_, ?_, ?_⟩
  · rw [moveToBackWoE_map]; exact hm3
  · rw [moveToBackWoE_prob]; show eraseAo s3.prob n.id ++ [n] = _; rw [hp3]
  · rw [(Counters.moveToBackWoE_same _ _).cws]; exact hc3
  · intro j
    rw [getInfo_congr (moveToBackWoE_infos _ _)]
    exact hg3 j

/-! ### a quiescent calm cache, an insert of a resident key, a maintenance run -/

/-- The value entry `insert` creates for a key that is resident: it shares the info (and the
key object) of the entry it replaces. -/
def updVE (s : SState) (old : VE) (v : Nat) : VE :=
  { id := s.nextId, val := v, info := old.info, slot := old.slot }

/-- The map step of the insert of a resident key. -/
def withUpd (p : Params) (s : SState) (k v : Nat) (old : VE) : SState :=
  { refreshInfo p s old.info s.now (p.weigh k v) with
    nextId := s.nextId + 1, map := AL.put s.map k (updVE s old v) }

/-- The write operation `insert` queues for a resident key: the old weight is the one the info
held before the map step. -/
def updOp (p : Params) (s : SState) (k v : Nat) (old : VE) : WOp :=
  .upsert k (p.hash k) (updVE s old v) (getInfo s old.info).weight (p.weigh k v)

theorem insert_resident (p : Params) {s : SState} (hq : QInv s) {k : Nat} (v : Nat) {old : VE}
    (hold : AL.get? s.map k = some old) :
    insert p s k v =
      { housekeepW p (withUpd p s k v old) with
        writeQ := (housekeepW p (withUpd p s k v old)).writeQ ++ [updOp p s k v old] } := by
  unfold insert
  dsimp only
  rw [hold]
  dsimp only
  exact scheduleWriteOp_enqueues p 2 (s := withUpd p s k v old) (qinv_of_eq hq rfl rfl rfl) _

theorem getInfo_withUpd {p : Params} (hd8 : p.q.d8 = false) (s : SState) (k v : Nat) (old : VE)
    (j : Nat) :
    getInfo (withUpd p s k v old) j =
      if old.info = j then { getInfo s old.info with dirty := true, la := s.now, lm := s.now }
      else getInfo s j := by
  show getInfo (refreshInfo p s old.info s.now (p.weigh k v)) j = _
  unfold refreshInfo
  rw [getInfo_withInfo]
  by_cases e : old.info = j
  · rw [if_pos e, if_pos e]; simp [hd8]
  · rw [if_neg e, if_neg e]

/-- Number of residents the maintenance run after the update of `k` (node `n`) evicts: the
access order is the old one with `n` moved to the back, `n` weighs the new weight, the excess
is `ws - old + new - cap`. -/
def growCount (p : Params) (cap : Nat) (s : SState) (k v : Nat) (old : VE) (n : AoNode) : Nat :=
  evictCount (s.ws - (getInfo s old.info).weight + p.weigh k v - cap)
    ((eraseAo s.prob n.id).map (fun m => (getInfo s m.info).weight) ++ [p.weigh k v]) 0

theorem clean_of_quiet {p : Params} {s : SState} (hr : RInv p s) (hw : s.writeQ = [])
    {k : Nat} {e : VE} (he : AL.get? s.map k = some e) : (getInfo s e.info).dirty = false := by
  cases hx : (getInfo s e.info).dirty with
  | false => rfl
  | true =>
    rcases hr.gd k e he hx with ⟨_, _, _, _, _, hmem, _⟩ | h
    · rw [hw] at hmem; cases hmem
    · cases h

/-- The statement of `Props.C12_sync_growth_state`, proved here.  `hlen`: `evict_lru_entries` has fuel for
one batch per run; with more nodes it may stop before the prefix is gone. -/
theorem insert_sync_grow {p : Params} (hq : NoQuirks p) (hsm : SmallSketch p) {cap : Nat}
    (hcap : p.cap = some cap) {s : SState} (hr : RInv p s) (hc : CalmS p cap s) (k v : Nat)
    {old : VE} {n : AoNode} (hold : AL.get? s.map k = some old) (hn : n ∈ s.prob)
    (hni : n.info = old.info) (httl : p.ttl ≠ some 0) (htti : p.tti ≠ some 0)
    (hlen : s.prob.length ≤ Gen.SYNC_EVICTION_BATCH_SIZE) :
    (syncRun p (insert p s k v)).map =
      eraseKeys (AL.put s.map k (updVE s old v))
        (((eraseAo s.prob n.id ++ [n]).take (growCount p cap s k v old n)).map (·.key)) ∧
    (syncRun p (insert p s k v)).prob =
      (eraseAo s.prob n.id ++ [n]).drop (growCount p cap s k v old n) := by
  have hi := hr.ainv
  have hd7 : p.q.d7 = false := by rw [hq]
  have hd8 : p.q.d8 = false := by rw [hq]
  have hnc := hi.top.nodes.toNodesCore
  have hne := hc.noExp hnc
  have hfind : findAo s.prob n.id = some n := findAo_of_mem hnc.probIds hn
  have hclean_s : ∀ m, m ∈ s.prob → (getInfo s m.info).dirty = false := by
    intro m hm
    obtain ⟨e, he, hei⟩ := hc.cur m hm
    rw [← hei]
    exact clean_of_quiet hr hc.writeQ he
  have hother : ∀ m, m ∈ eraseAo s.prob n.id → m ∈ s.prob ∧ old.info ≠ m.info := by
    intro m hm
    obtain ⟨h1, h2⟩ := (mem_eraseAo_iff hnc.probIds m).mp hm
    refine ⟨h1, fun e => h2 ?_⟩
    exact hnc.info_inj h1 hn (by rw [hni, e])
  have hmemP : ∀ m, m ∈ eraseAo s.prob n.id ++ [n] → m ∈ s.prob := by
    intro m hm
    rcases List.mem_append.mp hm with h | h
    · exact (hother m h).1
    · rw [List.mem_singleton.mp h]; exact hn
  have c_info := getInfo_withUpd (p := p) hd8 s k v old
  have hne_c : NoExp p (withUpd p s k v old) := by
    refine ⟨?_, ?_⟩
    · intro m hm
      show expiredTs p.tti s.va (getInfo (withUpd p s k v old) m.info).la s.now = false
      rw [c_info]
      by_cases e : old.info = m.info
      · rw [if_pos e]; exact expiredTs_now hi.ts.va htti
      · rw [if_neg e]; exact hne.ao m hm
    · intro m hm
      show expiredTs p.ttl s.va (getInfo (withUpd p s k v old) m.info).lm s.now = false
      rw [c_info]
      by_cases e : old.info = m.info
      · rw [if_pos e]; exact expiredTs_now hi.ts.va httl
      · rw [if_neg e]; exact hne.wo m hm
  have hi2 : AInv p (insert p s k v) := insert_ainv hq hsm hi k v
  obtain ⟨H, hins, hHr, hHm, hrun⟩ := insert_quiet hq hsm hcap hi k v
    (insert_resident p hi.q v hold) hc.readQ hc.writeQ hc.ws hi.top.sk.skOff hne_c
  rw [hins] at hi2 ⊢
  -- the state `g` in which the run applies the queued write
  obtain ⟨g, hgdef⟩ : ∃ g : SState, g =
      { { H with writeQ := [updOp p s k v old] } with cec := H.ec, cws := H.ws, writeQ := [] } :=
    ⟨_, rfl⟩
  have hg : RunOn H g := by
    rw [hgdef]
    exact ⟨rfl, rfl, rfl, rfl, rfl, rfl, rfl, rfl, rfl, rfl⟩
  have gm : g.map = H.map := by rw [hgdef]
  have hS := hrun g hg
  have hgp : g.prob = s.prob := hS.prob
  have hgc : g.cws = s.ws := hS.cws
  have hsafe := hS.safe
  have hgm : g.map = AL.put s.map k (updVE s old v) := gm.trans hHm
  have hgI : ∀ j, getInfo g j =
      if old.info = j then { getInfo s old.info with dirty := true, la := s.now, lm := s.now }
      else getInfo s j := fun j => (hS.info j).trans (c_info j)
  have hu := hi2.top
  have hmapok : MapOK g := by
    refine ⟨by rw [gm]; exact hu.map.kn, ?_⟩
    intro k' ve' h'
    rw [hg.nextId]
    exact hu.map.bound k' ve' (by rw [gm] at h'; exact h')
  have hcand : AL.get? g.map k = some (updVE s old v) := by rw [hgm]; exact AL.get?_put_self _ _ _
  have hng : n ∈ g.prob := by rw [hgp]; exact hn
  obtain ⟨u1, u2, u3, u4⟩ := handleUpsert_update hq hsafe (p.hash k) (getInfo s old.info).weight
    (p.weigh k v) hcand hng (show n.info = (updVE s old v).info from hni)
  have hs1safe := handleUpsert_safe hq hsafe hmapok k (p.hash k) (updVE s old v)
    (getInfo s old.info).weight (p.weigh k v)
  have hstamp : getInfo (withUpd p s k v old) (updVE s old v).info =
      { getInfo s old.info with dirty := true, la := s.now, lm := s.now } :=
    (c_info _).trans (if_pos rfl)
  have hne1 : NoExp p (handleUpsert p g k (p.hash k) (updVE s old v) (getInfo s old.info).weight
      (p.weigh k v)) :=
    hS.upsert_noExp _ _ _ _ _ (by rw [hstamp]; exact expiredTs_now hi.ts.va htti)
      (by rw [hstamp]; exact expiredTs_now hi.ts.va httl)
  -- the run: that write, perhaps the enabling of the sketch, the size eviction
  obtain ⟨s2, hs2, e⟩ := syncRun_calm hcap (s := { H with writeQ := [updOp p s k v old] }) hHr
    ((applyWrites_single p { H with writeQ := [updOp p s k v old], cec := H.ec, cws := H.ws } _
      rfl).trans (by rw [hgdef]; rfl)) hne1
  rw [e]
  generalize handleUpsert p g k (p.hash k) (updVE s old v) (getInfo s old.info).weight
    (p.weigh k v) = s1 at u1 u2 u3 u4 hs1safe hs2
  have hsame : SameCore s1 s2 := by
    rcases hs2 with e | ⟨_, e⟩
    · rw [e]; exact SameCore.refl _
    · rw [e]; exact enableSketch_same _ _
  have hsafe2 : Safe s2 := by
    rcases hs2 with e | ⟨_, e⟩
    · rw [e]; exact hs1safe
    · rw [e]; exact enableSketch_safe p hs1safe
  show (if s2.cws - cap > 0
      then evictLruLoop p Gen.SYNC_EVICTION_BATCH_SIZE s2 (s2.cws - cap) 0 else s2).map = _ ∧
    (if s2.cws - cap > 0
      then evictLruLoop p Gen.SYNC_EVICTION_BATCH_SIZE s2 (s2.cws - cap) 0 else s2).prob = _
  have hP2 : s2.prob = eraseAo s.prob n.id ++ [n] := by rw [hsame.prob, u2, hgp]
  have hM2 : s2.map = AL.put s.map k (updVE s old v) := by rw [hsame.map, u1, hgm]
  have hC2 : s2.cws = s.ws - (getInfo s old.info).weight + p.weigh k v := by
    rw [hsame.cws, u3, hgc, hgI, if_pos (show old.info = (updVE s old v).info from rfl)]
    rfl
  have hI2n : getInfo s2 n.info =
      { getInfo g old.info with dirty := false, weight := p.weigh k v } := by
    rw [getInfo_congr hsame.infos, u4, hni,
      if_pos (show (updVE s old v).info = old.info from rfl)]
    rfl
  have hI2o : ∀ m, m ∈ eraseAo s.prob n.id → getInfo s2 m.info = getInfo s m.info := by
    intro m hm
    have hne' := (hother m hm).2
    rw [getInfo_congr hsame.infos, u4, if_neg (show ¬ (updVE s old v).info = m.info from hne'),
      hgI, if_neg hne']
  have hcur2 : AllCur s2 s2.prob := by
    rw [hP2]
    intro m hm
    obtain ⟨e, he, hei⟩ := hc.cur m (hmemP m hm)
    by_cases hk : k = m.key
    · rw [← hk, hold] at he
      cases he
      exact ⟨updVE s old v, by rw [hM2, ← hk]; exact AL.get?_put_self _ _ _, hei⟩
    · exact ⟨e, by rw [hM2, AL.get?_put_ne _ hk]; exact he, hei⟩
  have hkn2 : (AL.keys s2.map).Nodup := by rw [hM2]; exact AL.nodup_put _ _ hi.top.map.kn
  have hclean2 : ∀ m, m ∈ s2.prob → (getInfo s2 m.info).dirty = false := by
    rw [hP2]
    intro m hm
    rcases List.mem_append.mp hm with h | h
    · rw [hI2o m h]; exact hclean_s m (hother m h).1
    · rw [List.mem_singleton.mp h, hI2n]
  have hlen2 : s2.prob.length ≤ Gen.SYNC_EVICTION_BATCH_SIZE := by
    rw [hP2, List.length_append, List.length_singleton, length_eraseAo hfind]
    exact hlen
  have hW2 : probWeights s2 =
      (eraseAo s.prob n.id).map (fun m => (getInfo s m.info).weight) ++ [p.weigh k v] := by
    unfold probWeights
    rw [hP2, List.map_append, List.map_singleton, hI2n]
    congr 1
    apply List.map_congr_left
    intro m hm
    rw [hI2o m hm]
  by_cases hpos : s2.cws - cap > 0
  · rw [if_pos hpos]
    obtain ⟨r1, r2⟩ := evictLruLoop_prefix hd7 Gen.SYNC_EVICTION_BATCH_SIZE s2 (s2.cws - cap) 0
      hsafe2 hcur2 hkn2 hclean2 hlen2
    rw [r1, r2, hW2, hP2, hM2, hC2]
    exact ⟨rfl, rfl⟩
  · rw [if_neg hpos]
    have h0 : growCount p cap s k v old n = 0 := by
      unfold growCount
      apply evictCount_done
      rw [hC2] at hpos
      omega
    rw [h0, hM2, hP2]
    exact ⟨rfl, rfl⟩

/-! ### the oracle's check on snapshots -/

theorem shortestPrefixBy_nil (w : Nat → Nat) (need : Nat) (order : List Nat) :
    (match shortestPrefixBy w need order 0 [] with
     | some pre => pre
     | none => order) = order.take (evictCount need (order.map w) 0) := by
  rw [shortestPrefixBy_eq, evictCount_eq, Nat.sub_zero]
  unfold prefLen
  cases shortestPre need (order.map w) with
  | none => simp only [Option.map_none, Option.getD_none, List.length_map, List.take_length]
  | some n => simp only [Option.map_some, Option.getD_some, List.nil_append]

theorem eraseAo_map_key {n : AoNode} : ∀ (l : List AoNode), (l.map (·.key)).Nodup →
    (l.map (·.id)).Nodup → n ∈ l →
    (eraseAo l n.id).map (·.key) = (l.map (·.key)).filter (fun x => x != n.key) := by
  intro l
  induction l with
  | nil => intro _ _ h; cases h
  | cons a l ih =>
    intro hk hid hn
    simp only [List.map_cons, List.nodup_cons] at hk hid
    by_cases ha : a.id = n.id
    · have han : n = a := by
        rcases List.mem_cons.mp hn with e | h
        · exact e
        · exact absurd (List.mem_map.mpr ⟨n, h, ha.symm⟩) hid.1
      subst han
      simp only [eraseAo, if_true, List.map_cons]
      rw [List.filter_cons_of_neg (by simp)]
      symm
      rw [List.filter_eq_self]
      intro x hx
      have : x ≠ n.key := fun e => hk.1 (e ▸ hx)
      simpa using this
    · have hnl : n ∈ l := by
        rcases List.mem_cons.mp hn with e | h
        · rw [e] at ha; exact absurd rfl ha
        · exact h
      have hak : a.key ≠ n.key := fun e => hk.1 (e ▸ List.mem_map.mpr ⟨n, hnl, rfl⟩)
      simp only [eraseAo, if_neg ha, List.map_cons]
      rw [List.filter_cons_of_pos (by simpa using hak), ih hk.2 hid.2 hnl]

theorem growthSyncOk_model {p : Params} (hq : NoQuirks p) (hsm : SmallSketch p) {cap : Nat}
    (hcap : p.cap = some cap) {s : SState} (hr : RInv p s) (k v : Nat) :
    growthSyncOk cap p.ttl p.tti p.weigh Gen.SYNC_EVICTION_BATCH_SIZE (snapshot p s) k v
      (snapshot p (syncRun p (insert p s k v))) = true := by
  unfold growthSyncOk
  dsimp only
  generalize hafter : snapshot p (syncRun p (insert p s k v)) = after
  cases happ : (((snapshot p s).rq == 0 && (snapshot p s).wq == 0 && after.rq == 0 &&
      after.wq == 0) && calm cap p.ttl p.tti (snapshot p s) &&
      (keysOf (snapshot p s)).contains k && (!(p.ttl == some 0) && !(p.tti == some 0)) &&
      (snapshot p s).entries.all (entryLiveAt p.ttl p.tti after.now after.va) &&
      decide (p.weigh k v ≤ cap) &&
      decide ((snapshot p s).entries.length ≤ Gen.SYNC_EVICTION_BATCH_SIZE)) with
  | false => rfl
  | true =>
  simp only [Bool.not_true, Bool.false_or]
  simp only [Bool.and_eq_true, Bool.not_eq_true', decide_eq_true_eq, beq_iff_eq,
    beq_eq_false_iff_ne, ne_eq] at happ
  obtain ⟨⟨⟨⟨⟨⟨⟨⟨⟨hrq, hwq⟩, _⟩, _⟩, hcalm⟩, hres⟩, httl, htti⟩, _⟩, _⟩, hlenE⟩ := happ
  have hi := hr.ainv
  have hnc := hi.top.nodes.toNodesCore
  have hkn := hi.top.map.kn
  have hc := calmS_of_snapshot hcalm hrq hwq
  obtain ⟨old, hold⟩ := ((shows p s).mem_keysOf_get? k).mp (List.contains_iff_mem.mp hres)
  have haoOk : ∀ kv, kv ∈ s.map → (entryView s kv).aoOk = true := by
    simp only [calm, Bool.and_eq_true] at hcalm
    exact ((shows p s).entries_all (fun e => e.aoOk)).mp hcalm.1.2
  obtain ⟨n, hn, hni⟩ : ∃ n, n ∈ s.prob ∧ n.info = old.info := by
    have := haoOk (k, old) (AL.mem_of_get? hold)
    unfold entryView at this
    dsimp only at this
    cases hao : (getInfo s old.info).ao with
    | none => rw [hao] at this; cases this
    | some id =>
      obtain ⟨n, hn, _, hni⟩ := hnc.aoNode _ _ hao
      exact ⟨n, hn, hni⟩
  have hnk : n.key = k := by
    rw [← hr.key.prob n hn, hni]; exact hr.key.map k old hold
  have hknodup : (s.prob.map (·.key)).Nodup := prob_keys_nodup hnc hc.cur
  have hlen : s.prob.length ≤ Gen.SYNC_EVICTION_BATCH_SIZE := by
    have h1 : (s.prob.map (·.key)).length ≤ (AL.keys s.map).length := by
      refine hknodup.length_le_of_subset ?_
      intro x hx
      obtain ⟨m, hm, rfl⟩ := List.mem_map.mp hx
      obtain ⟨e, he, _⟩ := hc.cur m hm
      exact AL.mem_keys_of_get? he
    rw [List.length_map, AL.keys_eq_map, List.length_map] at h1
    have h2 : (snapshot p s).entries.length = s.map.length := by
      simp only [snapshot, length_sortBy, List.length_map]
    omega
  obtain ⟨hmap, _⟩ := insert_sync_grow hq hsm hcap hr hc k v hold hn hni httl htti hlen
  -- the oracle's victims are the model's
  have hfind : findAo s.prob n.id = some n := findAo_of_mem hnc.probIds hn
  have horder : (lruOrder (snapshot p s)).filter (fun x => x != k) ++ [k] =
      (eraseAo s.prob n.id ++ [n]).map (·.key) := by
    rw [lruOrder_snapshot, List.map_append, List.map_singleton, hnk,
      eraseAo_map_key s.prob hknodup hnc.probIds hn, hnk]
  have hwk : weightOfKey (snapshot p s) k = (getInfo s old.info).weight := by
    rw [weightOfKey_snapshot hkn hold]
  have hweights : ((eraseAo s.prob n.id ++ [n]).map (·.key)).map
      (growWeight (snapshot p s) k (p.weigh k v)) =
      (eraseAo s.prob n.id).map (fun m => (getInfo s m.info).weight) ++ [p.weigh k v] := by
    rw [List.map_append, List.map_append, List.map_singleton, List.map_singleton, hnk]
    congr 1
    · rw [List.map_map]
      apply List.map_congr_left
      intro m hm
      obtain ⟨hms, hmid⟩ := (mem_eraseAo_iff hnc.probIds m).mp hm
      have hmk : m.key ≠ k := by
        have : m.key ∈ (eraseAo s.prob n.id).map (·.key) := List.mem_map.mpr ⟨m, hm, rfl⟩
        rw [eraseAo_map_key s.prob hknodup hnc.probIds hn, List.mem_filter, hnk] at this
        simpa using this.2
      obtain ⟨e, he, hei⟩ := hc.cur m hms
      simp only [Function.comp, growWeight]
      rw [if_neg (by simpa using hmk), weightOfKey_snapshot hkn he, hei]
    · simp [growWeight]
  have hvict : (match shortestPrefixBy (growWeight (snapshot p s) k (p.weigh k v))
        ((snapshot p s).ws - weightOfKey (snapshot p s) k + p.weigh k v - cap)
        ((lruOrder (snapshot p s)).filter (fun x => x != k) ++ [k]) 0 [] with
      | some pre => pre
      | none => (lruOrder (snapshot p s)).filter (fun x => x != k) ++ [k]) =
      ((eraseAo s.prob n.id ++ [n]).take (growCount p cap s k v old n)).map (·.key) := by
    rw [shortestPrefixBy_nil, horder, hweights, hwk, List.map_take]
    rfl
  have hfin : ∀ V, V = ((eraseAo s.prob n.id ++ [n]).take (growCount p cap s k v old n)).map (·.key) →
      sameKeys (keysOf after)
        ((keysOf (snapshot p s)).filter (fun x => !V.contains x)) = true := by
    intro V hV
    rw [sameKeys_iff]
    intro x
    rw [← hafter, (shows p _).mem_keysOf, hmap, ← hV, mem_keys_eraseKeys (AL.nodup_put _ _ hkn),
      mem_filter_not_contains, (shows p _).mem_keysOf, AL.mem_keys_put]
    have hk : k ∈ AL.keys s.map := AL.mem_keys_of_get? hold
    exact ⟨fun h => ⟨h.1.elim (fun e => e ▸ hk) id, h.2⟩, fun h => ⟨Or.inr h.1, h.2⟩⟩
  cases hsp : shortestPrefixBy (growWeight (snapshot p s) k (p.weigh k v))
      ((snapshot p s).ws - weightOfKey (snapshot p s) k + p.weigh k v - cap)
      ((lruOrder (snapshot p s)).filter (fun x => x != k) ++ [k]) 0 [] with
  | some pre =>
    rw [hsp] at hvict
    dsimp only at hvict
    exact hfin _ hvict
  | none =>
    rw [hsp] at hvict
    dsimp only at hvict
    exact hfin _ hvict

/-! ### the walk of the trace oracle -/

theorem growthC12Sync_runs {p : Params} (hq : NoQuirks p) (hsm : SmallSketch p) {cap : Nat}
    (hcap : p.cap = some cap) : ∀ t, Runs p (RInv p) t →
      growthC12Sync cap p.ttl p.tti p.weigh Gen.SYNC_EVICTION_BATCH_SIZE t = true := by
  have H := rinv_stepInv hq hsm
  apply IsRun.Runs.induction
  intro t ht ih
  unfold growthC12Sync
  split
  · -- sync, snap(before), ins k v, sync, snap(after)
    rename_i before k v after rest
    obtain ⟨s, _, hr, e⟩ := ht
    obtain ⟨-, hr1, _, e1⟩ := H.walk hr e
    obtain ⟨hb, hr2, _, e2⟩ := H.walk hr1 e1
    obtain ⟨-, hr3, _, e3⟩ := H.walk hr2 e2
    obtain ⟨-, hr4, _, e4⟩ := H.walk hr3 e3
    obtain ⟨ha, -, -, -⟩ := H.walk hr4 e4
    rw [Bool.and_eq_true]
    refine ⟨?_, ih _ ⟨_, _, hr3, e3⟩ (by simp only [List.length_cons]; omega)⟩
    rw [Obs.snap.inj hb, Obs.snap.inj ha]
    exact growthSyncOk_model hq hsm hcap hr1 k v
  · -- sync, snap(before), freq, ins k v, sync, snap(after)
    rename_i before _ _ k v after rest
    obtain ⟨s, _, hr, e⟩ := ht
    obtain ⟨-, hr1, _, e1⟩ := H.walk hr e
    obtain ⟨hb, hr2, _, e2⟩ := H.walk hr1 e1
    obtain ⟨-, hr3, _, e3⟩ := H.walk hr2 e2
    obtain ⟨-, hr4, _, e4⟩ := H.walk hr3 e3
    obtain ⟨-, hr5, _, e5⟩ := H.walk hr4 e4
    obtain ⟨ha, -, -, -⟩ := H.walk hr5 e5
    rw [Bool.and_eq_true]
    refine ⟨?_, ih _ ⟨_, _, hr4, e4⟩ (by simp only [List.length_cons]; omega)⟩
    rw [Obs.snap.inj hb, Obs.snap.inj ha]
    exact growthSyncOk_model hq hsm hcap hr1 k v
  · -- sync, snap(before), ins k v, snap, sync, snap(after)
    rename_i before k v mid after rest
    obtain ⟨s, _, hr, e⟩ := ht
    obtain ⟨-, hr1, _, e1⟩ := H.walk hr e
    obtain ⟨hb, hr2, _, e2⟩ := H.walk hr1 e1
    obtain ⟨-, hr3, _, e3⟩ := H.walk hr2 e2
    obtain ⟨-, hr4, _, e4⟩ := H.walk hr3 e3
    obtain ⟨-, hr5, _, e5⟩ := H.walk hr4 e4
    obtain ⟨ha, -, -, -⟩ := H.walk hr5 e5
    rw [Bool.and_eq_true]
    refine ⟨?_, ih _ ⟨_, _, hr3, e3⟩ (by simp only [List.length_cons]; omega)⟩
    rw [Obs.snap.inj hb, Obs.snap.inj ha]
    exact growthSyncOk_model hq hsm hcap hr1 k v
  · -- sync, snap(before), freq, ins k v, snap, sync, snap(after)
    rename_i before _ _ k v mid after rest
    obtain ⟨s, _, hr, e⟩ := ht
    obtain ⟨-, hr1, _, e1⟩ := H.walk hr e
    obtain ⟨hb, hr2, _, e2⟩ := H.walk hr1 e1
    obtain ⟨-, hr3, _, e3⟩ := H.walk hr2 e2
    obtain ⟨-, hr4, _, e4⟩ := H.walk hr3 e3
    obtain ⟨-, hr5, _, e5⟩ := H.walk hr4 e4
    obtain ⟨-, hr6, _, e6⟩ := H.walk hr5 e5
    obtain ⟨ha, -, -, -⟩ := H.walk hr6 e6
    rw [Bool.and_eq_true]
    refine ⟨?_, ih _ ⟨_, _, hr4, e4⟩ (by simp only [List.length_cons]; omega)⟩
    rw [Obs.snap.inj hb, Obs.snap.inj ha]
    exact growthSyncOk_model hq hsm hcap hr1 k v
  · exact ih _ (H.tail (isRun p) ht) (Nat.lt_succ_self _)
  · rfl

/-- **Growth eviction on traces** (one-thread model of `sync::Cache`): the oracle accepts
every trace of the model. -/
theorem growthC12Sync_trace {p : Params} (hq : NoQuirks p) (hsm : SmallSketch p) {cap : Nat}
    (hcap : p.cap = some cap) (h : List Op) :
    growthC12Sync cap p.ttl p.tti p.weigh Gen.SYNC_EVICTION_BATCH_SIZE (trace p h) = true :=
  growthC12Sync_runs hq hsm hcap _ ⟨{}, h, init_rinv p, rfl⟩

end Growth
end Sync
end MiniMoka
