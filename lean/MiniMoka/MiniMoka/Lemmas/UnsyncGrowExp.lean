/-
  Growth eviction with stale residents on the unsync model (the `growthExpC12` oracle): unlike
  `growthC12` (Lemmas/UnsyncAdmit.lean), residents may be past a deadline when the lookup runs.
  The timestamps of both lists are non-decreasing from front to back and none lies in the future
  (`TsOk`, an invariant of every reachable state of a cache with expiry); under it, and with at
  most one batch of residents, `evict_expired` removes exactly the expired entries
  (`evictExpired_purged`); the size eviction then runs on the purged state, where
  `evictLru_survivors` applies as it does for `growthC12`.
-/
import MiniMoka.Lemmas.UnsyncRecency
import MiniMoka.Spec.OraclesExt

namespace MiniMoka
namespace Unsync
namespace GrowExp

open Admit Spec

/-- The two sublists of `Unlinks` and the clock of its `aux`: what sortedness of the timestamps
depends on. -/
structure Sub3 (s s' : UState) : Prop where
  prob : s'.prob.Sublist s.prob
  wo : s'.wo.Sublist s.wo
  now : s'.now = s.now

theorem _root_.MiniMoka.Unsync.Unlinks.sub3 {s s' : UState} (h : Unlinks s s') : Sub3 s s' :=
  ⟨h.prob, h.wo, h.aux.now⟩

theorem Sub3.refl (s : UState) : Sub3 s s := (Unlinks.refl s).sub3

theorem Sub3.trans {a b c : UState} (h1 : Sub3 a b) (h2 : Sub3 b c) : Sub3 a c :=
  ⟨h2.prob.trans h1.prob, h2.wo.trans h1.wo, h2.now.trans h1.now⟩

theorem Sub3.of_eq {s s' : UState} (hp : s'.prob = s.prob) (hw : s'.wo = s.wo)
    (hn : s'.now = s.now) : Sub3 s s' :=
  ⟨hp ▸ List.Sublist.refl _, hw ▸ List.Sublist.refl _, hn⟩

def TsLe (a b : Option Nat) : Prop := ∀ t u, a = some t → b = some u → t ≤ u

def TsList (now : Nat) (l : List (Option Nat)) : Prop :=
  l.Pairwise TsLe ∧ ∀ x ∈ l, ∃ t, x = some t ∧ t ≤ now

theorem TsList.nil (now : Nat) : TsList now [] :=
  ⟨List.Pairwise.nil, fun _ h => by cases h⟩

theorem TsList.sublist {now : Nat} {l l' : List (Option Nat)} (h : l'.Sublist l)
    (ht : TsList now l) : TsList now l' :=
  ⟨ht.1.sublist h, fun x hx => ht.2 x (h.subset hx)⟩

theorem TsList.snoc {now : Nat} {l : List (Option Nat)} (ht : TsList now l) :
    TsList now (l ++ [some now]) := by
  refine ⟨List.pairwise_append.mpr ⟨ht.1, List.pairwise_singleton _ _, ?_⟩, ?_⟩
  · intro a ha b hb t u h1 h2
    have hb' : b = some now := by simpa using hb
    rw [hb'] at h2
    cases h2
    obtain ⟨t', ht', hle⟩ := ht.2 a ha
    rw [ht'] at h1; cases h1; exact hle
  · intro x hx
    rcases List.mem_append.mp hx with h | h
    · exact ht.2 x h
    · exact ⟨now, by simpa using h, Nat.le_refl _⟩

theorem TsList.mono {now now' : Nat} {l : List (Option Nat)} (h : now ≤ now')
    (ht : TsList now l) : TsList now' l :=
  ⟨ht.1, fun x hx => let ⟨t, e, le⟩ := ht.2 x hx; ⟨t, e, Nat.le_trans le h⟩⟩

theorem TsList.head_live {now : Nat} {a : Option Nat} {l : List (Option Nat)} (d : Option Nat)
    (ht : TsList now (a :: l)) (ha : expiredAt d a now = false) :
    ∀ x ∈ a :: l, expiredAt d x now = false := by
  intro x hx
  rcases List.mem_cons.mp hx with rfl | hx'
  · exact ha
  · obtain ⟨t, rfl, _⟩ := ht.2 a List.mem_cons_self
    obtain ⟨u, rfl, _⟩ := ht.2 x (List.mem_cons_of_mem _ hx')
    have hle : t ≤ u := (List.pairwise_cons.mp ht.1).1 _ hx' t u rfl rfl
    cases d with
    | none => simp [expiredAt]
    | some d =>
      simp only [expiredAt, decide_eq_false_iff_not] at ha ⊢
      omega

/-- Both lists carry their timestamps in non-decreasing order, front to back, none after `s.now`:
what lets the expiry loops stop at the first unexpired node. -/
structure TsOk (s : UState) : Prop where
  ao : TsList s.now (s.prob.map (·.ts))
  wo : TsList s.now (s.wo.map (·.ts))

theorem TsOk.of_sub3 {s s' : UState} (h : Sub3 s s') (ht : TsOk s) : TsOk s' :=
  ⟨by rw [h.now]; exact ht.ao.sublist (h.prob.map _), by rw [h.now]; exact ht.wo.sublist (h.wo.map _)⟩

theorem TsOk.of_eq {s s' : UState} (ht : TsOk s) (hp : s'.prob = s.prob) (hw : s'.wo = s.wo)
    (hn : s'.now = s.now) : TsOk s' :=
  ht.of_sub3 (Sub3.of_eq hp hw hn)

theorem sub3_maybeEnableSketch (p : Params) (s : UState) : Sub3 s (maybeEnableSketch p s) := by
  rw [maybeEnableSketch_only]; exact Sub3.of_eq rfl rfl rfl

theorem sub3_sketchIncrement (p : Params) (s : UState) (h : UInt64) :
    Sub3 s (sketchIncrement p s h) := by
  rw [sketchIncrement_only]; exact Sub3.of_eq rfl rfl rfl

theorem eraseAo_setTsAo (l : List AoNode) (id t : Nat) :
    eraseAo (setTsAo l id t) id = eraseAo l id := by
  induction l with
  | nil => rfl
  | cons a l ih =>
    simp only [setTsAo]
    by_cases ha : a.id = id
    · simp [ha, eraseAo]
    · simp [ha, eraseAo, ih]

theorem setTsAo_of_none {l : List AoNode} {id : Nat} (t : Nat) (h : findAo l id = none) :
    setTsAo l id t = l := by
  induction l with
  | nil => rfl
  | cons a l ih =>
    simp only [findAo] at h
    by_cases ha : a.id = id
    · simp [ha] at h
    · simp only [ha, if_false] at h
      simp [setTsAo, ha, ih h]

theorem eraseWo_setTsWo (l : List WoNode) (id t : Nat) :
    eraseWo (setTsWo l id t) id = eraseWo l id := by
  induction l with
  | nil => rfl
  | cons a l ih =>
    simp only [setTsWo]
    by_cases ha : a.id = id
    · simp [ha, eraseWo]
    · simp [ha, eraseWo, ih]

theorem setTsWo_of_none {l : List WoNode} {id : Nat} (t : Nat) (h : findWo l id = none) :
    setTsWo l id t = l := by
  induction l with
  | nil => rfl
  | cons a l ih =>
    simp only [findWo] at h
    by_cases ha : a.id = id
    · simp [ha] at h
    · simp only [ha, if_false] at h
      simp [setTsWo, ha, ih h]

theorem tsList_touchAo {now : Nat} (l : List AoNode) (id : Nat)
    (ht : TsList now (l.map (·.ts))) :
    TsList now ((moveToBackAo (setTsAo l id now) id).map (·.ts)) := by
  unfold moveToBackAo
  rw [findAo_setTsAo]
  simp only [if_true]
  cases h : findAo l id with
  | none =>
    simp only [Option.map_none]
    rw [setTsAo_of_none now h]; exact ht
  | some n =>
    simp only [Option.map_some]
    rw [eraseAo_setTsAo]
    simp only [List.map_append, List.map_cons, List.map_nil]
    exact (ht.sublist ((eraseAo_sublist l id).map _)).snoc

theorem tsList_touchWo {now : Nat} (l : List WoNode) (id : Nat)
    (ht : TsList now (l.map (·.ts))) :
    TsList now ((moveToBackWo (setTsWo l id now) id).map (·.ts)) := by
  unfold moveToBackWo
  rw [findWo_setTsWo]
  simp only [if_true]
  cases h : findWo l id with
  | none =>
    simp only [Option.map_none]
    rw [setTsWo_of_none now h]; exact ht
  | some n =>
    simp only [Option.map_some]
    rw [eraseWo_setTsWo]
    simp only [List.map_append, List.map_cons, List.map_nil]
    exact (ht.sublist ((eraseWo_sublist l id).map _)).snoc

theorem tsOk_recordHit {s : UState} (ht : TsOk s) (e : UEntry) :
    TsOk (recordHit s e (some s.now)) := by
  unfold recordHit moveToBackAoE
  cases hao : e.ao with
  | none => exact ht
  | some id =>
    dsimp only
    cases hf : findAo (setTsAo s.prob id s.now) id with
    | some n =>
      exact ⟨tsList_touchAo s.prob id ht.ao, ht.wo⟩
    | none =>
      dsimp only
      rw [findAo_setTsAo] at hf
      simp only [if_true, Option.map_eq_none_iff] at hf
      have ht' : TsOk { s with prob := setTsAo s.prob id s.now } :=
        ht.of_eq (setTsAo_of_none s.now hf) rfl rfl
      exact ht'.of_sub3 (unlinks_fail _ _).sub3

theorem tsOk_pushCandidate {s : UState} (ht : TsOk s) (p : Params) (k : Nat) (hash : UInt64)
    (t : Nat) (htn : t = s.now) : TsOk (pushCandidate p s k hash (some t)) := by
  subst htn
  unfold pushCandidate
  split
  · exact ht.of_sub3 (unlinks_fail _ _).sub3
  · dsimp only
    split
    · refine ⟨?_, ?_⟩
      · simp only [List.map_append, List.map_cons, List.map_nil]; exact ht.ao.snoc
      · simp only [List.map_append, List.map_cons, List.map_nil]; exact ht.wo.snoc
    · refine ⟨?_, ht.wo⟩
      simp only [List.map_append, List.map_cons, List.map_nil]; exact ht.ao.snoc

theorem pushCandidate_now (p : Params) (s : UState) (k : Nat) (hash : UInt64) (ts : Option Nat) :
    (pushCandidate p s k hash ts).now = s.now := by
  rw [pushCandidate_only]

theorem tsOk_handleInsert {s : UState} (ht : TsOk s) (p : Params) (k : Nat) (hash : UInt64)
    (weight : Nat) : TsOk (handleInsert p s k hash weight (some s.now)) := by
  rcases handleInsert_cases p s k hash weight (some s.now) with
    ⟨_, h⟩ | ⟨_, ⟨_, h⟩ | ⟨_, ⟨_, h⟩ | ⟨_, _, h⟩ | ⟨_, _, h⟩⟩⟩ <;> rw [h]
  · refine TsOk.of_sub3 (sub3_maybeEnableSketch p _) ?_
    exact (tsOk_pushCandidate ht p k hash s.now rfl).of_eq rfl rfl rfl
  · exact ht.of_eq rfl rfl rfl
  · exact ht.of_sub3 (unlinks_fail _ _).sub3
  · have h1 := Unlinks.sub3 <| unlinks_removeVictims
      (admitLoop p s weight (s.sk.frequency hash) s.prob {}).victims s
    have h2 := tsOk_pushCandidate (ht.of_sub3 h1) p k hash s.now h1.now.symm
    refine TsOk.of_sub3 (sub3_maybeEnableSketch p _) ?_
    exact h2.of_eq rfl rfl rfl
  · exact ht.of_eq rfl rfl rfl

section

/- `maintain p s` is a state like any other here (see the note in `UnsyncOps`). -/
attribute [local irreducible] maintain

theorem tsOk_insert {p : Params} (hq : NoQuirks p) (hx : p.hasExpiry = true) {s : UState}
    (hi : InvU p s) (ht : TsOk s) (k v : Nat) : TsOk (insert p s k v) := by
  have ht1 : TsOk (maintain p s) := ht.of_sub3 (unlinks_maintain p s).sub3
  cases hg : AL.get? (maintain p s).map k with
  | some old =>
    obtain ⟨id, _, _, _, _, heq⟩ := insert_resident hq hi v hg
    rw [heq, opTs_of_expiry hx]
    refine ⟨tsList_touchAo _ id ht1.ao, ?_⟩
    cases old.wo with
    | none => exact ht1.wo
    | some wid => exact tsList_touchWo _ wid ht1.wo
  | none =>
    rw [insert_new_eq hg, opTs_of_expiry hx]
    exact tsOk_handleInsert (s := { maintain p s with
      map := AL.put (maintain p s).map k { val := v, weight := p.weigh k v } })
      (ht1.of_eq rfl rfl rfl) p k (p.hash k) (p.weigh k v)

theorem tsOk_get {p : Params} (hx : p.hasExpiry = true) {s : UState}
    (ht : TsOk s) (k : Nat) : TsOk (get p s k).1 := by
  have ht1 : TsOk (maintain p s) := ht.of_sub3 (unlinks_maintain p s).sub3
  have h2 := sub3_sketchIncrement p (maintain p s) (p.hash k)
  have ht2 : TsOk (sketchIncrement p (maintain p s) (p.hash k)) := ht1.of_sub3 h2
  rw [get_eq]
  rcases getCore_cases p (maintain p s) k with ⟨_, h⟩ | ⟨_, _, _, _, h⟩ | ⟨e, _, _, h⟩ <;> rw [h]
  · exact ht2
  · exact ht2
  · rw [opTs_of_expiry hx, ← h2.now]
    exact tsOk_recordHit ht2 _

end

def TsInv (p : Params) (s : UState) : Prop := p.hasExpiry = true → TsOk s

theorem tsInv_init (p : Params) : TsInv p {} :=
  fun _ => ⟨TsList.nil _, TsList.nil _⟩

theorem step_tsInv {P : Sketch → Prop} {p : Params} (hq : NoQuirks p) {s : UState} (hi : Inv P p s) (ht : TsInv p s) (op : Op) :
    TsInv p (step p s op).1 := by
  intro hx
  have ht0 := ht hx
  rw [step_state hi.inv.struct.noFault op]
  cases op with
  | ins k v => exact tsOk_insert hq hx hi.inv ht0 k v
  | get k => exact tsOk_get hx ht0 k
  | has k => dsimp only; rw [containsKey_fst]; exact ht0.of_sub3 (unlinks_maintain p s).sub3
  | iter => exact ht0
  | inv k => exact ht0.of_sub3 (unlinks_invalidate p s k).sub3
  | invAll => exact ⟨TsList.nil _, TsList.nil _⟩
  | invIf pr => exact ht0.of_sub3 (unlinks_invalidateEntriesIf p s pr).sub3
  | sync => exact ht0
  | adv d => exact ⟨ht0.ao.mono (Nat.le_add_right _ _), ht0.wo.mono (Nat.le_add_right _ _)⟩
  | snap => exact ht0
  | freq k => exact ht0

theorem isSome_false_eq_none {α : Type} {o : Option α} (h : ¬ o.isSome = true) : o = none := by
  cases o with
  | none => rfl
  | some a => simp at h

/-- The write-order pass on a map no larger than a batch, the time stamps in order: every node
left is unexpired.  Not an induction of its own: the pass ended on a live head, behind which
all are live, or took a full batch and emptied the map. -/
theorem removeExpiredWo_rest_live {p : Params} (hq : NoQuirks p) (fuel : Nat) (s : UState)
    (c w : Nat) (hs : Struct p s) (ht : TsList s.now (s.wo.map (·.ts)))
    (hlen : s.map.length ≤ fuel) :
    ∀ n ∈ (removeExpiredWo p fuel s c w).1.wo, expiredAt p.ttl n.ts s.now = false := by
  have hu := unlinks_removeExpiredWo p fuel s c w
  obtain ⟨hl, hstop⟩ := removeExpiredWo_spec hq fuel s c w hs
  generalize removeExpiredWo p fuel s c w = r at hu hl hstop ⊢
  intro n hn
  rcases hstop with hc | hst
  · obtain ⟨e, he, _⟩ := hl.struct.woBack n hn
    rw [hl.emptied hlen hc] at he
    cases he
  · have ht' : TsList s.now (r.1.wo.map (·.ts)) := ht.sublist (hu.wo.map _)
    cases hw : r.1.wo with
    | nil => rw [hw] at hn; cases hn
    | cons n0 rest =>
      rw [hw] at ht' hn
      have h0 := hst n0 (by rw [hw]; rfl)
      rw [hu.aux.now] at h0
      exact ht'.head_live p.ttl h0 n.ts (List.mem_map_of_mem hn)

theorem removeExpiredAo_rest_live {p : Params} (fuel : Nat) (s : UState)
    (c w : Nat) (hs : Struct p s) (ht : TsList s.now (s.prob.map (·.ts)))
    (hlen : s.map.length ≤ fuel) :
    ∀ n ∈ (removeExpiredAo p fuel s c w).1.prob, expiredAt p.tti n.ts s.now = false := by
  have hu := unlinks_removeExpiredAo p fuel s c w
  obtain ⟨hl, hstop⟩ := removeExpiredAo_spec fuel s c w hs
  generalize removeExpiredAo p fuel s c w = r at hu hl hstop ⊢
  intro n hn
  rcases hstop with hc | hst
  · obtain ⟨e, he, _⟩ := hl.struct.aoBack n hn
    rw [hl.emptied hlen hc] at he
    cases he
  · have ht' : TsList s.now (r.1.prob.map (·.ts)) := ht.sublist (hu.prob.map _)
    cases hw : r.1.prob with
    | nil => rw [hw] at hn; cases hn
    | cons n0 rest =>
      rw [hw] at ht' hn
      have h0 := hst n0 (by rw [hw]; rfl)
      rw [hu.aux.now] at h0
      exact ht'.head_live p.tti h0 n.ts (List.mem_map_of_mem hn)

/-- One pass of the purge: `s'` is `s` without exactly the entries that `dead` marks. -/
structure PhaseOk (p : Params) (s s' : UState) (dead : UEntry → Bool) : Prop where
  inv : InvU p s'
  shrinks : Shrinks s s'
  sub : Sub3 s s'
  len : s'.map.length ≤ s.map.length
  live : ∀ k e, AL.get? s'.map k = some e → dead e = false
  keeps : ∀ k e, AL.get? s.map k = some e → dead e = false → AL.get? s'.map k = some e

theorem PhaseOk.refl {p : Params} {s : UState} {dead : UEntry → Bool} (hi : InvU p s)
    (h : ∀ k e, AL.get? s.map k = some e → dead e = false) : PhaseOk p s s dead :=
  ⟨hi, Shrinks.refl s, Sub3.refl s, Nat.le_refl _, h, fun _ _ hk _ => hk⟩

theorem PhaseOk.comp {p : Params} {s s1 s2 : UState} {d1 d2 d2' : UEntry → Bool}
    (h1 : PhaseOk p s s1 d1) (h2 : PhaseOk p s1 s2 d2)
    (heq : ∀ k e, AL.get? s1.map k = some e → d2 e = d2' e) :
    PhaseOk p s s2 (fun e => d1 e || d2' e) := by
  refine ⟨h2.inv, h1.shrinks.trans h2.shrinks, h1.sub.trans h2.sub, Nat.le_trans h2.len h1.len, ?_, ?_⟩
  · intro k e hk
    have hk1 := h2.shrinks.sub k e hk
    simp only [Bool.or_eq_false_iff]
    exact ⟨h1.live k e hk1, by rw [← heq k e hk1]; exact h2.live k e hk⟩
  · intro k e hk hd
    simp only [Bool.or_eq_false_iff] at hd
    have hk1 := h1.keeps k e hk hd.1
    exact h2.keeps k e hk1 (by rw [heq k e hk1]; exact hd.2)

theorem woPhase {p : Params} (hq : NoQuirks p) {s : UState} (hi : InvU p s) (ht : TsOk s)
    (hlen : s.map.length ≤ EVICTION_BATCH_SIZE) :
    PhaseOk p s (purgeWo p s) (fun e => expiredAt p.ttl (entryLm s e) s.now) := by
  obtain ⟨hi1, hsh1, _⟩ := purgeWo_spec hq hi
  refine ⟨hi1, hsh1, (unlinks_purgeWo p s).sub3,
    length_le_of_sub _ _ hi1.struct.keysNodup hsh1.sub, fun k e hk => ?_, fun k e hk hlive => ?_⟩
  · show expiredAt p.ttl (entryLm s e) s.now = false
    by_cases httl : p.ttl.isSome = true
    · obtain ⟨id, n, hwo, hf, _⟩ := (hi1.struct.woLink k e hk (by simp)).1 httl
      have hlm : entryLm (purgeWo p s) e = n.ts := by
        simp only [entryLm, hwo, hf, Option.bind_some]
      rw [← hsh1.lm k e hk, hlm]
      have hn := (findWo_some hf).1
      unfold purgeWo at hn
      rw [if_pos httl, (settle hi (removeExpiredWo_spec hq _ s 0 0 hi.struct).1).2.2.2.2.2] at hn
      exact removeExpiredWo_rest_live hq _ s 0 0 hi.struct ht.wo hlen n hn
    · simp only [isSome_false_eq_none httl, expiredAt_none]
  · cases hg : AL.get? (purgeWo p s).map k with
    | none => cases (purgeWo_only_expired hq hi.struct k e ⟨hk, hg⟩).symm.trans hlive
    | some e' => rw [← Option.some.inj ((hsh1.sub k e' hg).symm.trans hk)]

theorem aoPhase {p : Params} {s : UState} (hi : InvU p s) (ht : TsOk s)
    (hlen : s.map.length ≤ EVICTION_BATCH_SIZE) :
    PhaseOk p s (purgeAo p s) (fun e => expiredAt p.tti (entryLa s e) s.now) := by
  obtain ⟨hi1, hsh1, _⟩ := purgeAo_spec hi
  refine ⟨hi1, hsh1, (unlinks_purgeAo p s).sub3,
    length_le_of_sub _ _ hi1.struct.keysNodup hsh1.sub, fun k e hk => ?_, fun k e hk hlive => ?_⟩
  · show expiredAt p.tti (entryLa s e) s.now = false
    by_cases htti : p.tti.isSome = true
    · obtain ⟨id, n, hao, hf, _⟩ := hi1.struct.aoLink k e hk (by simp)
      have hla : entryLa (purgeAo p s) e = n.ts := by
        simp only [entryLa, hao, hf, Option.bind_some]
      rw [← hsh1.la k e hk, hla]
      have hn := (findAo_some hf).1
      unfold purgeAo at hn
      rw [if_pos htti, (settle hi (removeExpiredAo_spec _ s 0 0 hi.struct).1).2.2.2.2.1] at hn
      exact removeExpiredAo_rest_live _ s 0 0 hi.struct ht.ao hlen n hn
    · simp only [isSome_false_eq_none htti, expiredAt_none]
  · cases hg : AL.get? (purgeAo p s).map k with
    | none => cases (purgeAo_only_expired hi.struct k e ⟨hk, hg⟩).symm.trans hlive
    | some e' => rw [← Option.some.inj ((hsh1.sub k e' hg).symm.trans hk)]

theorem evictExpired_purged {p : Params} (hq : NoQuirks p) {s : UState} (hi : InvU p s)
    (ht : TsOk s) (hlen : s.map.length ≤ EVICTION_BATCH_SIZE) :
    PhaseOk p s (evictExpired p s) (fun e => isExpiredEntry p s e s.now) := by
  rw [evictExpired_eq]
  have ph1 := woPhase hq hi ht hlen
  have ph2 := aoPhase ph1.inv (ht.of_sub3 ph1.sub) (Nat.le_trans ph1.len hlen)
  exact ph1.comp ph2 fun k e hk => by rw [ph1.shrinks.la k e hk, ph1.sub.now]

theorem evictExpiredIfNeeded_purged {p : Params} (hq : NoQuirks p) {s : UState} (hi : InvU p s)
    (ht : TsInv p s) (hlen : s.map.length ≤ EVICTION_BATCH_SIZE) :
    PhaseOk p s (evictExpiredIfNeeded p s) (fun e => isExpiredEntry p s e s.now) := by
  unfold evictExpiredIfNeeded
  by_cases hx : p.hasExpiry = true
  · simp only [hx, if_true]
    exact evictExpired_purged hq hi (ht hx) hlen
  · simp only [hx]
    refine PhaseOk.refl hi ?_
    intro k e _
    have h1 : p.ttl = none := by
      apply isSome_false_eq_none; intro h; exact hx (by simp [Params.hasExpiry, h])
    have h2 : p.tti = none := by
      apply isSome_false_eq_none; intro h; exact hx (by simp [Params.hasExpiry, h])
    simp only [isExpiredEntry, h1, h2, expiredAt_none, Bool.or_false]

theorem totalW_eq_of_same {m m' : List (Nat × UEntry)} (hn : (AL.keys m).Nodup)
    (hn' : (AL.keys m').Nodup) (h : ∀ k e, AL.get? m k = some e ↔ AL.get? m' k = some e) :
    totalW m = totalW m' :=
  Nat.le_antisymm (totalW_le_of_sub m m' hn (fun k e hk => (h k e).mp hk))
    (totalW_le_of_sub m' m hn' (fun k e hk => (h k e).mpr hk))

theorem sum_filter_view (s : UState) (f : EntryView → Bool) : ∀ m : List (Nat × UEntry),
    (((m.map (entryView s)).filter f).map (·.weight)).sum =
      totalW (m.filter (fun kv => f (entryView s kv)))
  | [] => rfl
  | (k, e) :: rest => by
    simp only [List.map_cons, List.filter_cons]
    by_cases h : f (entryView s (k, e)) = true
    · simp only [h, if_true, List.map_cons, List.sum_cons, totalW]
      rw [sum_filter_view s f rest]
      rfl
    · simp only [h]
      exact sum_filter_view s f rest

def liveOf (ttl tti : Option Nat) (before : Snap) (now : Nat) : List EntryView :=
  before.entries.filter (entryLiveAt ttl tti now none)

/-- The victims the oracle names: the shortest prefix of the live residents in recency order
that covers the live excess. -/
def victimsOf (cap : Nat) (before : Snap) (live : List EntryView) : List Nat :=
  match shortestPrefix before ((live.map (·.weight)).sum - cap)
      ((lruOrder before).filter ((live.map (·.key)).contains ·)) 0 [] with
  | some pre => pre
  | none => (lruOrder before).filter ((live.map (·.key)).contains ·)

/-- What `growthExpC12` tests at one window `snap, op, snap` (the oracle's body copied). -/
def expCheck (cap : Nat) (ttl tti : Option Nat) (batch : Nat) (before : Snap) (op : Op)
    (after : Snap) : Bool :=
  let lookup := match op with
    | .has _ => true
    | .get _ => true
    | _ => false
  !(lookup && (before.entries.all (fun e => e.aoOk) && before.prob.all (·.current) &&
      decide (before.entries.length ≤ batch))) ||
    sameKeys (keysOf after) (((liveOf ttl tti before after.now).map (·.key)).filter
      (fun x => !(victimsOf cap before (liveOf ttl tti before after.now)).contains x))

theorem win3_growthExpC12 (cap : Nat) (ttl tti : Option Nat) (batch : Nat) : Win3 (growthExpC12 cap ttl tti batch) (expCheck cap ttl tti batch) where
  nil := rfl
  win := fun _ _ _ _ _ => rfl
  skip := fun x tr hn => by
    rw [growthExpC12]
    exact fun b op ob a rest h1 h2 => hn b op ob a rest (by rw [h1, h2])

/-- The check the `growthExpC12` oracle performs around a lookup holds for the model: the
purge leaves exactly the live residents, in their old order, and the size eviction then runs
on that state. -/
theorem growthExpCheck_model {p : Params} (hq : NoQuirks p) {s : UState} (hi : InvU p s)
    (ht : TsInv p s) {cap : Nat} (hcap : p.cap = some cap) (op : Op) {s' : UState}
    (hmap : s'.map = (maintain p s).map) (hnow : s'.now = (maintain p s).now) :
    expCheck cap p.ttl p.tti Gen.UNSYNC_EVICTION_BATCH_SIZE (snapshot p s) op (snapshot p s')
      = true := by
  unfold expCheck
  dsimp only
  rw [Bool.or_eq_true, Bool.not_eq_true']
  refine (Bool.eq_false_or_eq_true _).elim (fun happ => Or.inr ?_) Or.inl
  simp only [Bool.and_eq_true, decide_eq_true_eq] at happ
  obtain ⟨_, _, hlen⟩ := happ
  have hnow' : (snapshot p s').now = s.now := hnow.trans (maintain_spec hq hi).2.2.now
  rw [snapshot_length] at hlen
  have ph := evictExpiredIfNeeded_purged hq hi ht hlen
  have hmt : maintain p s = evictLru p (evictExpiredIfNeeded p s) := rfl
  generalize evictExpiredIfNeeded p s = s1 at ph hmt
  rw [hnow']
  -- the live residents are the residents of the purged state
  have hF1 : ∀ x, x ∈ (liveOf p.ttl p.tti (snapshot p s) s.now).map (·.key) ↔
      ∃ e, AL.get? s1.map x = some e := by
    intro x
    simp only [liveOf, snapshot, List.mem_map, List.mem_filter, mem_sortBy]
    constructor
    · rintro ⟨ev, ⟨⟨kv, hkv, rfl⟩, hl⟩, rfl⟩
      obtain ⟨k, e⟩ := kv
      rw [entryLiveAt_view] at hl
      exact ⟨e, ph.keeps k e (AL.get?_of_mem hi.struct.keysNodup hkv) (by simpa using hl)⟩
    · rintro ⟨e, he⟩
      have h0 := ph.shrinks.sub x e he
      refine ⟨entryView s (x, e), ⟨⟨(x, e), AL.mem_of_get? h0, rfl⟩, ?_⟩, rfl⟩
      rw [entryLiveAt_view]
      simp [ph.live x e he]
  -- their weights add up to the weighted size of the purged state
  have hF2 : ((liveOf p.ttl p.tti (snapshot p s) s.now).map (·.weight)).sum = s1.ws := by
    rw [ph.inv.counted.ws]
    have hperm := (sortBy_perm (·.key) (s.map.map (entryView s))).filter
      (entryLiveAt p.ttl p.tti s.now none)
    have hsum : ((liveOf p.ttl p.tti (snapshot p s) s.now).map (·.weight)).sum =
        (((s.map.map (entryView s)).filter (entryLiveAt p.ttl p.tti s.now none)).map
          (·.weight)).sum := (hperm.map _).sum_nat
    rw [hsum, sum_filter_view]
    apply totalW_eq_of_same (AL.keys_filter_nodup _ hi.struct.keysNodup) ph.inv.struct.keysNodup
    intro k e
    rw [AL.get?_filter hi.struct.keysNodup]
    constructor
    · rintro ⟨h1, h2⟩
      rw [entryLiveAt_view] at h2
      exact ph.keeps k e h1 (by simpa using h2)
    · intro h
      refine ⟨ph.shrinks.sub k e h, ?_⟩
      rw [entryLiveAt_view]
      simp [ph.live k e h]
  -- the recency order restricted to them is the recency order of the purged state
  have hF3 : (lruOrder (snapshot p s)).filter
      (((liveOf p.ttl p.tti (snapshot p s) s.now).map (·.key)).contains ·) =
      s1.prob.map (·.key) := by
    rw [lruOrder_snapshot]
    have h1 := sublist_eq_filter (ph.sub.prob.map (·.key)) (prob_keys_nodup hi.struct)
    conv => rhs; rw [h1]
    apply List.filter_congr
    intro x _
    rw [Bool.eq_iff_iff, List.contains_iff_mem, List.contains_iff_mem]
    exact (hF1 x).trans (mem_prob_keys_iff ph.inv.struct x).symm
  have hW : ∀ n ∈ s1.prob, weightOfKey (snapshot p s) n.key = wOf s1 n.key := by
    intro n hn1
    obtain ⟨e, he, _⟩ := ph.inv.struct.aoBack n hn1
    simp only [weightOfKey_snapshot hi.struct, wOf, he, ph.shrinks.sub _ _ he]
  rw [sameKeys_iff]
  intro x
  rw [mem_keysOf_snapshot, hmap, hmt]
  simp only [List.mem_filter, Bool.not_eq_true']
  rw [hF1]
  unfold victimsOf
  rw [hF3, hF2]
  exact evictLru_survivors ph.inv hcap (Nat.le_trans ph.len hlen) (snapshot p s) hW x

theorem growthExpC12_run {P : Sketch → Prop} (L : SketchLaws P) {p : Params} (hq : NoQuirks p)
    (hsm : SmallSketch p) {cap : Nat} (hcap : p.cap = some cap) (h : List Op) {s : UState}
    (hi : Inv P p s) (ht : TsInv p s) :
    growthExpC12 cap p.ttl p.tti Gen.UNSYNC_EVICTION_BATCH_SIZE (run p s h) = true :=
  (win3_growthExpC12 cap p.ttl p.tti _).run
    (isRun p) (I := fun s => Inv P p s ∧ TsInv p s)
    (fun _ op hj => ⟨step_inv L hq hsm hj.1 op, step_tsInv hq hj.1 hj.2 op⟩) (snapshot p)
    (fun _ hj => step_snap L hq hsm hj.1)
    (fun s op hj => by
      by_cases hop : isLookup op = true
      · obtain ⟨hm, _, hn⟩ := step_lookup_frame (hj.1).inv.struct.noFault hop
        exact growthExpCheck_model hq hj.1.inv hj.2 hcap op hm hn
      · cases op <;> first | exact absurd rfl hop | rfl) h s ⟨hi, ht⟩

theorem growthExpC12_trace {P : Sketch → Prop} (L : SketchLaws P) {p : Params} (hq : NoQuirks p)
    (hsm : SmallSketch p) {cap : Nat} (hcap : p.cap = some cap) (h : List Op) :
    growthExpC12 cap p.ttl p.tti Gen.UNSYNC_EVICTION_BATCH_SIZE (trace p h) = true :=
  growthExpC12_run L hq hsm hcap h (init_inv L p) (tsInv_init p)

theorem reachable_tsInv {P : Sketch → Prop} (L : SketchLaws P) {p : Params} (hq : NoQuirks p)
    (hsm : SmallSketch p) (h : List Op) : TsInv p (runState p {} h) :=
  (runState_induct (I := fun s => Inv P p s ∧ TsInv p s)
    (fun _ op hj => ⟨step_inv L hq hsm hj.1 op, step_tsInv hq hj.1 hj.2 op⟩) h
    ⟨init_inv L p, tsInv_init p⟩).2

end GrowExp
end Unsync
end MiniMoka
