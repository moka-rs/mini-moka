/-
  Model R (`MiniMoka/ConcR.lean`) by itself, as the refinement proofs use it.  Maps are compared
  by their lookups (`KVEq`): R's `store`/`remove` are filter-based, the caches' `put`/`erase`
  positional, and `ConcR.step` looks at the map through `lookup` only, so R respects that
  equality (`runFrom_congr`).  What a cache step deletes beside its own operation R deletes by
  `daemon` events on the lost keys (`delKeys`); one complete call of R is a `callFrag`.  `Cpl`
  ties R's records to what the threads of a cache hold (`ConcSR.Ghost`): the part of every
  simulation relation that does not mention the cache.
-/
import MiniMoka.Lemmas.ProjR

namespace MiniMoka
namespace SyncR

open ConcR (KV Key Val Tid Oid Ev State lookup remove store runFrom threadIdle)

def KVEq (m m' : KV) : Prop := ∀ k, lookup m k = lookup m' k

/-- `m'` is `m` with some keys deleted (the smaller map is the second argument). -/
def KVSub (m m' : KV) : Prop := ∀ k v, lookup m' k = some v → lookup m k = some v

theorem KVEq.refl (m : KV) : KVEq m m := fun _ => rfl
theorem KVEq.symm {m m' : KV} (h : KVEq m m') : KVEq m' m := fun k => (h k).symm
theorem KVEq.trans {a b c : KV} (h1 : KVEq a b) (h2 : KVEq b c) : KVEq a c :=
  fun k => (h1 k).trans (h2 k)

theorem KVEq.store {m m' : KV} (h : KVEq m m') (k : Key) (v : Val) :
    KVEq (store m k v) (store m' k v) := by
  intro k'; rw [ConcR.lookup_store, ConcR.lookup_store, h k']

theorem KVEq.remove {m m' : KV} (h : KVEq m m') (k : Key) : KVEq (remove m k) (remove m' k) := by
  intro k'; rw [ConcR.lookup_remove, ConcR.lookup_remove, h k']

/-- R's map after the `daemon` events of `ds` (`runFrom_daemons`). -/
def removeAll (m : KV) (ds : List Key) : KV := ds.foldl remove m

theorem lookup_removeAll (ds : List Key) : ∀ (m : KV) (k : Key),
    lookup (removeAll m ds) k = if k ∈ ds then none else lookup m k := by
  induction ds with
  | nil => intro m k; simp [removeAll]
  | cons d ds ih =>
    intro m k
    show lookup (removeAll (remove m d) ds) k = _
    rw [ih, ConcR.lookup_remove]
    by_cases h1 : k ∈ ds
    · simp [h1]
    · by_cases h2 : d = k
      · simp [h2]
      · have h3 : ¬ k = d := fun e => h2 e.symm
        simp [h1, h2, h3]

def delKeys (m m' : KV) : List Key := (AL.keys m).filter (fun k => (lookup m' k).isNone)

theorem mem_delKeys {m m' : KV} {k : Key} :
    k ∈ delKeys m m' ↔ k ∈ AL.keys m ∧ lookup m' k = none := by
  simp [delKeys, List.mem_filter]

theorem removeAll_delKeys {am m m' : KV} (he : KVEq am m) (hs : KVSub m m') :
    KVEq (removeAll am (delKeys m m')) m' := by
  intro k
  rw [lookup_removeAll]
  cases h : lookup m' k with
  | some v =>
    have hn : ¬ k ∈ delKeys m m' := by rw [mem_delKeys, h]; simp
    rw [if_neg hn, he k]; exact hs k v h
  | none =>
    by_cases hk : k ∈ AL.keys m
    · rw [if_pos (mem_delKeys.2 ⟨hk, h⟩)]
    · have hn : ¬ k ∈ delKeys m m' := by rw [mem_delKeys]; exact fun x => hk x.1
      rw [if_neg hn, he k]
      exact (AL.get?_eq_none_iff m k).2 hk

theorem delKeys_self (m : KV) : delKeys m m = [] := by
  rw [List.eq_nil_iff_forall_not_mem]
  intro k hk
  rw [mem_delKeys] at hk
  exact ((AL.get?_eq_none_iff m k).1 hk.2) hk.1

theorem KVSub.refl (m : KV) : KVSub m m := fun _ _ h => h

/-- `ConcR.runFrom`, the fold of `ConcR.step`, under the name the statements of
`Props/C02Refines.lean` use. -/
abbrev runR : State → List Ev → Option State := runFrom

theorem runFrom_daemons (ds : List Key) : ∀ (a : State),
    runFrom a (ds.map Ev.daemon) = some { a with map := removeAll a.map ds } := by
  induction ds with
  | nil => intro a; rfl
  | cons d ds ih =>
    intro a
    show runFrom { a with map := remove a.map d } (ds.map Ev.daemon) = _
    rw [ih]; rfl

def mapAfter (m : KV) : ConcR.Op → KV
  | .ins k v => store m k v
  | .del k => remove m k
  | .get _ => m

def retOf (m : KV) : ConcR.Op → Option Val
  | .get k => lookup m k
  | _ => none

def callFrag (t : Tid) (o : Oid) (op : ConcR.Op) (ds : List Key) (r : Option Val) : List Ev :=
  [Ev.invoke t o op, Ev.mapStep o] ++ ds.map Ev.daemon ++ [Ev.respond o r]

theorem KVEq.mapAfter {m m' : KV} (h : KVEq m m') (op : ConcR.Op) :
    KVEq (mapAfter m op) (mapAfter m' op) := by
  cases op with
  | ins k v => exact h.store k v
  | del k => exact h.remove k
  | get k => exact h

theorem runFrom_invoke_mapStep (a : State) (t : Tid) (o : Oid) (op : ConcR.Op)
    (hfresh : AL.get? a.ops o = none) (hidle : threadIdle a t = true) :
    runFrom a [Ev.invoke t o op, Ev.mapStep o] =
      some { map := mapAfter a.map op,
             ops := AL.put a.ops o ⟨t, op, .stepped, retOf a.map op⟩ } := by
  have hi : ConcR.step a (.invoke t o op) =
      some { a with ops := AL.put a.ops o ⟨t, op, .invoked, none⟩ } := by
    simp [ConcR.step, hfresh, hidle]
  simp only [runFrom, hi]
  cases op <;>
    simp [ConcR.step, AL.get?_put_self, AL.put_put, mapAfter, retOf]

theorem runFrom_respond {a : State} {o : Oid} {r : ConcR.OpRec} {x : Option Val}
    (hr : AL.get? a.ops o = some r) (hp : r.phase = .stepped) (hx : x = r.ret ∨ x = none) :
    runFrom a [Ev.respond o x] =
      some { a with ops := AL.put a.ops o { r with phase := .done } } := by
  simp only [runFrom, ConcR.step, hr]
  rw [if_pos ⟨hp, hx⟩]

theorem runFrom_callFrag (a : State) (t : Tid) (o : Oid) (op : ConcR.Op) (ds : List Key)
    (r : Option Val) (hfresh : AL.get? a.ops o = none) (hidle : threadIdle a t = true)
    (hr : r = retOf a.map op ∨ r = none) :
    runFrom a (callFrag t o op ds r) =
      some { map := removeAll (mapAfter a.map op) ds,
             ops := AL.put a.ops o ⟨t, op, .done, retOf a.map op⟩ } := by
  unfold callFrag
  rw [List.append_assoc, ConcR.runFrom_append, runFrom_invoke_mapStep a t o op hfresh hidle,
    Option.bind_some, ConcR.runFrom_append, runFrom_daemons, Option.bind_some,
    runFrom_respond (AL.get?_put_self _ o _) rfl hr, AL.put_put]

def StEq (a b : State) : Prop := KVEq a.map b.map ∧ a.ops = b.ops

theorem step_congr {a b : State} (h : StEq a b) (e : Ev) :
    (ConcR.step a e = none ∧ ConcR.step b e = none) ∨
    ∃ a' b', ConcR.step a e = some a' ∧ ConcR.step b e = some b' ∧ StEq a' b' := by
  obtain ⟨am, ops⟩ := a
  obtain ⟨bm, ops'⟩ := b
  obtain ⟨hm, ho⟩ := h
  simp only at hm ho
  subst ho
  cases e with
  | invoke t o op =>
    simp only [ConcR.step]
    by_cases hc : (AL.get? ops o).isNone = true ∧
        threadIdle { map := am, ops := ops } t = true
    · have hc' : (AL.get? ops o).isNone = true ∧
          threadIdle { map := bm, ops := ops } t = true := hc
      rw [if_pos hc, if_pos hc']; exact Or.inr ⟨_, _, rfl, rfl, hm, rfl⟩
    · have hc' : ¬ ((AL.get? ops o).isNone = true ∧
          threadIdle { map := bm, ops := ops } t = true) := hc
      rw [if_neg hc, if_neg hc']; exact Or.inl ⟨rfl, rfl⟩
  | mapStep o =>
    simp only [ConcR.step]
    cases hg : AL.get? ops o with
    | none => exact Or.inl ⟨rfl, rfl⟩
    | some r =>
      simp only
      by_cases hp : r.phase = .invoked
      · rw [if_pos hp, if_pos hp]
        cases hop : r.op with
        | ins k v => exact Or.inr ⟨_, _, rfl, rfl, hm.store k v, rfl⟩
        | del k => exact Or.inr ⟨_, _, rfl, rfl, hm.remove k, rfl⟩
        | get k => exact Or.inr ⟨_, _, rfl, rfl, hm, by simp only [hm k]⟩
      · rw [if_neg hp, if_neg hp]; exact Or.inl ⟨rfl, rfl⟩
  | respond o x =>
    simp only [ConcR.step]
    cases hg : AL.get? ops o with
    | none => exact Or.inl ⟨rfl, rfl⟩
    | some r =>
      simp only
      by_cases hc : r.phase = .stepped ∧ (x = r.ret ∨ x = none)
      · rw [if_pos hc, if_pos hc]; exact Or.inr ⟨_, _, rfl, rfl, hm, rfl⟩
      · rw [if_neg hc, if_neg hc]; exact Or.inl ⟨rfl, rfl⟩
  | daemon k => exact Or.inr ⟨_, _, rfl, rfl, hm.remove k, rfl⟩

theorem runFrom_congr (evs : List Ev) : ∀ {a b : State}, StEq a b →
    (runFrom a evs = none ∧ runFrom b evs = none) ∨
    ∃ a' b', runFrom a evs = some a' ∧ runFrom b evs = some b' ∧ StEq a' b' := by
  induction evs with
  | nil => intro a b h; exact Or.inr ⟨a, b, rfl, rfl, h⟩
  | cons e es ih =>
    intro a b h
    rcases step_congr h e with ⟨h1, h2⟩ | ⟨a', b', h1, h2, h3⟩
    · left; simp only [runFrom, h1, h2, and_self]
    · simp only [runFrom, h1, h2]; exact ih h3

theorem KVSub.of_eq_left {m1 m2 m' : KV} (h : KVSub m1 m') (e : KVEq m1 m2) : KVSub m2 m' := by
  intro k v hk; rw [← e k]; exact h k v hk

theorem retOf_congr {m m' : KV} (h : KVEq m m') (op : ConcR.Op) : retOf m op = retOf m' op := by
  cases op with
  | get k => exact h k
  | _ => rfl

/-- The records of R against what the threads hold.  `hn` and `on` (threads, resp. ids, occur
once in the two association lists) are carried so that membership in them is `AL.get?` and an
`AL.erase` removes the one binding (`Cpl.idle`, `Cpl.done`). -/
structure Cpl (ops : List (Nat × ConcR.OpRec)) (g : ConcSR.Ghost) : Prop where
  hn : (AL.keys g.held).Nodup
  on : (AL.keys ops).Nodup
  /-- every record is below `next`, and is complete or is the one its thread holds -/
  recs : ∀ o r, AL.get? ops o = some r → o < g.next ∧
    (r.phase = .done ∨ (r.phase = .stepped ∧
      ∃ h, AL.get? g.held r.tid = some h ∧ h.oid = o))
  /-- what a thread holds is a record that has made its map step and awaits its response -/
  held : ∀ t h, AL.get? g.held t = some h → ∃ r, AL.get? ops h.oid = some r ∧
    r.tid = t ∧ r.phase = .stepped ∧ r.op = h.op ∧ (h.res = r.ret ∨ h.res = none)

theorem Cpl.fresh {ops : List (Nat × ConcR.OpRec)} {g : ConcSR.Ghost} (h : Cpl ops g) :
    AL.get? ops g.next = none := by
  cases hg : AL.get? ops g.next with
  | none => rfl
  | some r => exact absurd (h.recs _ r hg).1 (Nat.lt_irrefl _)

theorem Cpl.idle {a : State} {g : ConcSR.Ghost} (h : Cpl a.ops g) {t : Nat}
    (ht : AL.get? g.held t = none) : threadIdle a t = true := by
  unfold threadIdle
  rw [List.all_eq_true]
  intro x hx
  have hx' : AL.get? a.ops x.1 = some x.2 := AL.get?_of_mem h.on hx
  rcases (h.recs _ _ hx').2 with hd | ⟨_, hh, hh1, _⟩
  · simp [hd]
  · have : x.2.tid ≠ t := by
      intro e; rw [e, ht] at hh1; cases hh1
    simp [this]

theorem Cpl.next_succ {ops : List (Nat × ConcR.OpRec)} {g : ConcSR.Ghost} (h : Cpl ops g) :
    Cpl ops { g with next := g.next + 1 } :=
  ⟨h.hn, h.on, fun o r hr => ⟨Nat.lt_succ_of_lt (h.recs o r hr).1, (h.recs o r hr).2⟩, h.held⟩

theorem Cpl.stepped {ops : List (Nat × ConcR.OpRec)} {g : ConcSR.Ghost} (h : Cpl ops g) {t : Nat}
    (ht : AL.get? g.held t = none) (rop : ConcR.Op) {ret res : Option Val}
    (hres : res = ret ∨ res = none) :
    Cpl (AL.put ops g.next ⟨t, rop, .stepped, ret⟩)
      { next := g.next + 1, held := AL.put g.held t ⟨g.next, rop, res⟩ } := by
  refine ⟨AL.nodup_put _ _ h.hn, AL.nodup_put _ _ h.on, fun o r hr => ?_, fun t' h' hg => ?_⟩
  · rcases AL.get?_put_some.1 hr with ⟨rfl, rfl⟩ | ⟨_, hr⟩
    · exact ⟨Nat.lt_succ_self _, Or.inr ⟨rfl, _, AL.get?_put_self _ _ _, rfl⟩⟩
    · obtain ⟨h1, h2⟩ := h.recs o r hr
      refine ⟨Nat.lt_succ_of_lt h1, h2.imp_right fun ⟨hs, hh, hh1, hh2⟩ => ⟨hs, hh, ?_, hh2⟩⟩
      have : t ≠ r.tid := by intro e'; rw [← e', ht] at hh1; cases hh1
      exact (AL.get?_put_ne _ this).trans hh1
  · rcases AL.get?_put_some.1 hg with ⟨rfl, rfl⟩ | ⟨_, hg⟩
    · exact ⟨_, AL.get?_put_self _ _ _, rfl, rfl, rfl, hres⟩
    · obtain ⟨r, hr, hrest⟩ := h.held t' h' hg
      exact ⟨r, (AL.get?_put_ne _ (Nat.ne_of_gt (h.recs _ r hr).1)).trans hr, hrest⟩

/-- A thread's instance responds.  Threads and stepped records determine each other: another
record is held by another thread, another thread holds another record. -/
theorem Cpl.done {ops : List (Nat × ConcR.OpRec)} {g : ConcSR.Ghost} (h : Cpl ops g) {t : Nat}
    {hd : ConcSR.Held} (hhd : AL.get? g.held t = some hd) :
    ∃ r, AL.get? ops hd.oid = some r ∧ r.phase = .stepped ∧ (hd.res = r.ret ∨ hd.res = none) ∧
      Cpl (AL.put ops hd.oid { r with phase := .done }) { g with held := AL.erase g.held t } := by
  obtain ⟨r, hr, hr1, hr2, _, hr4⟩ := h.held t hd hhd
  refine ⟨r, hr, hr2, hr4, AL.nodup_erase _ h.hn, AL.nodup_put _ _ h.on, fun o r' hr' => ?_,
    fun t' h' hg => ?_⟩
  · rcases AL.get?_put_some.1 hr' with ⟨rfl, rfl⟩ | ⟨e, hr'⟩
    · exact ⟨(h.recs _ r hr).1, Or.inl rfl⟩
    · obtain ⟨h1, h2⟩ := h.recs o r' hr'
      refine ⟨h1, h2.imp_right fun ⟨hs, hh, hh1, hh2⟩ => ⟨hs, hh, ?_, hh2⟩⟩
      have hne : t ≠ r'.tid := by
        intro e'; rw [← e', hhd] at hh1; cases hh1; exact e hh2
      exact (AL.get?_erase_some h.hn).2 ⟨hne, hh1⟩
  · obtain ⟨e, hg⟩ := (AL.get?_erase_some h.hn).1 hg
    obtain ⟨r', hr', h1, hrest⟩ := h.held t' h' hg
    have hne : hd.oid ≠ h'.oid := by
      intro e'; rw [← e', hr] at hr'; cases hr'; exact e (hr1.symm.trans h1)
    exact ⟨r', (AL.get?_put_ne _ hne).trans hr', h1, hrest⟩

theorem cpl_init : Cpl [] {} :=
  ⟨List.nodup_nil, List.nodup_nil, fun _ _ h => (by cases h), fun _ _ h => (by cases h)⟩

/-- A complete call of an idle thread: `stepped`, then `done`. -/
theorem Cpl.call {ops : List (Nat × ConcR.OpRec)} {g : ConcSR.Ghost} (h : Cpl ops g) {t : Nat}
    (ht : AL.get? g.held t = none) (rop : ConcR.Op) (ret : Option Val) :
    Cpl (AL.put ops g.next ⟨t, rop, .done, ret⟩) { g with next := g.next + 1 } := by
  obtain ⟨_, hr, _, _, hc⟩ := (h.stepped ht rop (ret := ret) (res := none) (Or.inr rfl)).done
    (AL.get?_put_self _ t _)
  cases (AL.get?_put_self _ _ _).symm.trans hr
  rw [AL.put_put, AL.erase_put_of_none _ ht] at hc
  exact hc

theorem resps_callFrag (t : Tid) (o : Oid) (op : ConcR.Op) (ds : List Key) (r : Option Val) :
    resps (callFrag t o op ds r) = [(o, r)] := by
  unfold callFrag
  rw [resps_append, resps_append, resps_daemons]
  rfl

theorem opOf_callFrag (t : Tid) (o : Oid) (op : ConcR.Op) (ds : List Key) (r : Option Val)
    (o' : Oid) : ConcR.opOf (callFrag t o op ds r) o' = if o = o' then some (t, op) else none := by
  unfold callFrag
  rw [List.append_assoc, List.cons_append, List.cons_append, List.nil_append]
  simp only [ConcR.opOf]
  by_cases h : o = o'
  · rw [if_pos h, if_pos h]
  · rw [if_neg h, if_neg h, ConcR.opOf_append, opOf_daemons]; rfl

theorem stepOids_callFrag (t : Tid) (o : Oid) (op : ConcR.Op) (ds : List Key) (r : Option Val) :
    ConcR.stepOids (callFrag t o op ds r) = [o] := by
  unfold callFrag
  rw [ConcR.stepOids_append, ConcR.stepOids_append, stepOids_daemons]
  rfl

end SyncR
end MiniMoka
