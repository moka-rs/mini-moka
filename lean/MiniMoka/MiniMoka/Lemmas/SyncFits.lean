/-
  C03 part B on the one-thread model: between two quiescent snapshots (taken right after
  `sync()`), a fresh key that is inserted — possibly several times, the later inserts being
  updates that share the entry info of the first — is retained if its last value fits in the room
  the residents leave, and nothing unexpired is evicted if every inserted value fits
  (`fitsC03Sync_run`; `fitsC03Sync_run_of` is generic in the invariant, for the many-thread model).
  `syncRun_fit` is the second instance of `syncRun_frameX_over` (only upserts of one key queued,
  `OnlyK`, the weight accounted for it bounded, `KwLe`); `Seg` describes the states inside a window
  (`Win`: what they keep of the state it began in); `KeptB`, carried beside it, says that the
  residents of that state are still there or were expired; and
  `walk_none`/`walk_seg` follow the oracle's scan window by window.
-/
import MiniMoka.Lemmas.SyncExact
import MiniMoka.Lemmas.SnapView
import MiniMoka.Lemmas.SyncCapacity

namespace MiniMoka
namespace Sync

open Spec Counters Nodes

def OnlyK (k : Nat) (Q : List WOp) : Prop :=
  ∀ op, op ∈ Q → ∃ h ve o w, op = WOp.upsert k h ve o w

theorem OnlyK.tail {k : Nat} {op : WOp} {Q : List WOp} (h : OnlyK k (op :: Q)) : OnlyK k Q :=
  fun o ho => h o (List.mem_cons_of_mem _ ho)

theorem node_entry_of_onlyK {p : Params} {s : SState} {Q : List WOp} {k : Nat} (g : G p s Q)
    (hk : OnlyK k Q) {n : AoNode} (hn : n ∈ s.prob) :
    ∃ ve, AL.get? s.map n.key = some ve ∧ ve.info = n.info := by
  rcases g.inv.nodeCur n hn with ⟨k', ve, hk', hi⟩ | ⟨k', ve, hq, _⟩
  · have h1 := g.inv.mapKey k' ve hk'
    have h2 := g.inv.nodeKey n hn
    rw [hi, h2] at h1
    exact ⟨ve, by rw [h1]; exact hk', hi⟩
  · obtain ⟨_, _, _, _, e⟩ := hk _ hq
    cases e

theorem node_weight_of_onlyK {p : Params} {s : SState} {Q : List WOp} {k : Nat} (g : G p s Q)
    (hk : OnlyK k Q) {n : AoNode} (hne : n.key ≠ k) {ve : VE}
    (hve : AL.get? s.map n.key = some ve) (hi : ve.info = n.info) :
    (getInfo s n.info).weight = p.weigh n.key ve.val := by
  rcases g.inv.cur n.key ve hve with ⟨h, o, w, hq⟩ | ⟨_, hw⟩
  · obtain ⟨_, _, _, _, e⟩ := hk _ hq
    simp only [WOp.upsert.injEq] at e
    exact absurd e.1 hne
  · rw [← hi]; exact hw

theorem node_keys_nodup_of_onlyK {p : Params} {s : SState} {Q : List WOp} {k : Nat} (g : G p s Q)
    (hk : OnlyK k Q) : (s.prob.map (·.key)).Nodup := by
  refine nodup_map_of_inj (·.id) (·.key) s.prob g.safe.probIds ?_
  intro a ha b hb e
  obtain ⟨va, h1, i1⟩ := node_entry_of_onlyK g hk ha
  obtain ⟨vb, h2, i2⟩ := node_entry_of_onlyK g hk hb
  have e' : a.key = b.key := e
  rw [e', h2] at h1
  have : vb = va := Option.some.inj h1
  subst this
  exact g.safe.toNodesCore.info_inj ha hb (i1.symm.trans i2)

def blOf (p : Params) (mb : List (Nat × VE)) : List (Nat × Nat) :=
  mb.map fun kv => (kv.1, p.weigh kv.1 kv.2.val)

theorem budOf_blOf (p : Params) (mb : List (Nat × VE)) (k : Nat) :
    budOf (blOf p mb) k = match AL.get? mb k with
      | some ve => p.weigh k ve.val
      | none => 0 := by
  induction mb with
  | nil => rfl
  | cons a mb ih =>
    obtain ⟨k', ve⟩ := a
    simp only [blOf, List.map_cons]
    rw [budOf_cons, AL.get?_cons]
    by_cases e : k' = k
    · rw [if_pos e, if_pos e, e]
    · rw [if_neg e, if_neg e]; exact ih

theorem budTotal_blOf (p : Params) (mb : List (Nat × VE)) :
    budTotal (blOf p mb) = (mb.map fun kv => p.weigh kv.1 kv.2.val).sum := by
  induction mb with
  | nil => rfl
  | cons a mb ih =>
    simp only [blOf, List.map_cons, budTotal, List.sum_cons]
    rw [← ih]; rfl

def kwOf (s : SState) (k : Nat) : Nat :=
  match AL.get? s.map k with
  | some ve => if (getInfo s ve.info).admitted then (getInfo s ve.info).weight else 0
  | none => 0

def OthersIn (k : Nat) (mb : List (Nat × VE)) (s : SState) : Prop :=
  ∀ k' ve, k' ≠ k → AL.get? s.map k' = some ve → AL.get? mb k' = some ve

theorem cws_le_of_onlyK {p : Params} {s : SState} {Q : List WOp} {k : Nat} {mb : List (Nat × VE)}
    (g : G p s Q) (hk : OnlyK k Q) (ho : OthersIn k mb s) :
    s.cws ≤ budTotal (blOf p mb) + kwOf s k := by
  have h1 : wsumOf s ≤
      ((s.prob.map (·.key)).map (budOf ((k, kwOf s k) :: blOf p mb))).sum := by
    unfold wsumOf
    rw [List.map_map]
    refine sum_map_le _ _ _ ?_
    intro n hn
    obtain ⟨ve, hve, hi⟩ := node_entry_of_onlyK g hk hn
    show (getInfo s n.info).weight ≤ budOf ((k, kwOf s k) :: blOf p mb) n.key
    rw [budOf_cons]
    by_cases e : k = n.key
    · rw [if_pos e]
      have hadm : (getInfo s n.info).admitted = true :=
        (g.safe.admIff n.info).mpr (by rw [g.safe.probOwn n hn]; rfl)
      unfold kwOf
      rw [e, hve]
      simp only [hi, hadm, if_true]
      exact Nat.le_refl _
    · rw [if_neg e, budOf_blOf, ho n.key ve (fun h => e h.symm) hve]
      rw [node_weight_of_onlyK g hk (fun h => e h.symm) hve hi]
      exact Nat.le_refl _
  have h2 := sum_budOf_le ((k, kwOf s k) :: blOf p mb) (s.prob.map (·.key))
    (node_keys_nodup_of_onlyK g hk)
  rw [g.inv.wsum]
  simp only [budTotal] at h2
  omega

/-- The weight accounted for the map's entry of `k` (`kwOf`) is at most `M`, unless an upsert of
its info is still in the physical queue `PQ`: everywhere the state's own `writeQ`, which
`seg_insertMap` writes as the queue of the state before the map step (the same list). -/
def KwLe (k M : Nat) (s : SState) (PQ : List WOp) : Prop :=
  ∀ ve, AL.get? s.map k = some ve → (getInfo s ve.info).admitted = true →
    (getInfo s ve.info).weight ≤ M ∨
      ∃ h ve' o w, WOp.upsert k h ve' o w ∈ PQ ∧ ve'.info = ve.info

theorem KwLe.same {k M : Nat} {s s' : SState} (h : KwLe k M s s.writeQ) (hs : Same s s')
    (hq : s'.writeQ = s.writeQ) : KwLe k M s' s'.writeQ := by
  intro ve hve hadm
  rw [hs.map] at hve
  rw [hs.adm] at hadm
  rw [hs.weight, hq]
  exact h ve hve hadm

theorem handleUpsert_fit {p : Params} (hq : NoQuirks p) {c : Nat} (hcap : p.cap = some c)
    {k M : Nat} {mb : List (Nat × VE)} (hB : budTotal (blOf p mb) + M ≤ c)
    {s : SState} {Q : List WOp} {hash : UInt64} {ve : VE} {oldW newW : Nat}
    (g : G p s (WOp.upsert k hash ve oldW newW :: Q))
    (hk : OnlyK k (WOp.upsert k hash ve oldW newW :: Q)) (ho : OthersIn k mb s)
    (hm : ∀ cur, AL.get? s.map k = some cur → p.weigh k cur.val ≤ M) :
    (handleUpsert p s k hash ve oldW newW).map = s.map ∧
    (∀ j, j ≠ ve.info →
      (getInfo (handleUpsert p s k hash ve oldW newW) j).weight = (getInfo s j).weight ∧
      (getInfo (handleUpsert p s k hash ve oldW newW) j).admitted = (getInfo s j).admitted) ∧
    (∀ cur, AL.get? s.map k = some cur → cur.info = ve.info →
      (getInfo (handleUpsert p s k hash ve oldW newW) ve.info).admitted = true →
      (getInfo (handleUpsert p s k hash ve oldW newW) ve.info).weight ≤ M) := by
  have hd10 : p.q.d10 = false := by rw [hq]
  have hnw : ∀ cur, AL.get? s.map k = some cur → cur.info = ve.info →
      currentWeight p s k ve newW = p.weigh k cur.val :=
    fun cur hc hi => currentWeight_of_cur hd10 hc hi newW
  obtain ⟨m, hoth, hself⟩ := handleUpsert_roomy hq s k hash ve oldW newW (fun hna hcur => by
    obtain ⟨cur, hc, hci⟩ := isCurrentEntry_iff.mp hcur
    have hb := cws_le_of_onlyK g hk ho
    have hkw : kwOf s k = 0 := by
      unfold kwOf
      rw [hc]
      simp only [hci, hna, Bool.false_eq_true, if_false]
    have hnwM : currentWeight p s k ve newW ≤ M := by rw [hnw cur hc hci]; exact hm cur hc
    rw [hasEnoughCapacity_some hcap]
    exact decide_eq_true (by omega))
  refine ⟨m, hoth, fun cur hc hi ha => ?_⟩
  rcases hself with h | ⟨_, h⟩
  · rw [h, hnw cur hc hi]; exact hm cur hc
  · rw [h] at ha; cases ha

theorem fit_passInv {p : Params} (hq : NoQuirks p) {c : Nat} (hcap : p.cap = some c) {k M : Nat}
    {mb : List (Nat × VE)} (hB : budTotal (blOf p mb) + M ≤ c) (ex : List WOp)
    {m0 : List (Nat × VE)}
    (ho : ∀ k' ve, k' ≠ k → AL.get? m0 k' = some ve → AL.get? mb k' = some ve)
    (hm : ∀ cur, AL.get? m0 k = some cur → p.weigh k cur.val ≤ M) :
    PassInv p ex (fun t => t.map = m0 ∧ KwLe k M t t.writeQ ∧ OnlyK k (t.writeQ ++ ex)) where
  same j hs hw := ⟨hs.map.trans j.1, j.2.1.same hs hw, by rw [hw]; exact j.2.2⟩
  write := by
    intro s op rest hwq g ⟨m, hw, hk⟩
    rw [hwq] at hw hk
    obtain ⟨hash, ve, oldW, newW, hop⟩ := hk op List.mem_cons_self
    subst hop
    obtain ⟨m1, f2, f3⟩ := handleUpsert_fit (s := { s with writeQ := rest }) hq hcap hB g hk
      (fun k' v hne hv => ho k' v hne (by rw [← m]; exact hv))
      (fun cur hcur => hm cur (by rw [← m]; exact hcur))
    have m1' : (applyWrite p { s with writeQ := rest } (WOp.upsert k hash ve oldW newW)).map
        = s.map := m1
    rw [(applyWrite_maint p { s with writeQ := rest } _).qframe.writeQ]
    refine ⟨m1'.trans m, ?_, hk.tail⟩
    intro cur hcur hadm
    have hcur0 : AL.get? s.map k = some cur := by rw [← m1']; exact hcur
    by_cases e : cur.info = ve.info
    · left
      rw [e] at hadm ⊢
      exact f3 cur hcur0 e hadm
    · obtain ⟨e1, e2⟩ := f2 cur.info e
      have hadm0 : (getInfo s cur.info).admitted = true := by
        have : (getInfo (handleUpsert p { s with writeQ := rest } k hash ve oldW newW)
            cur.info).admitted = true := hadm
        rw [e2] at this; exact this
      rcases hw cur hcur0 hadm0 with h | ⟨h', ve', o, w, hin, hi⟩
      · left
        show (getInfo (handleUpsert p { s with writeQ := rest } k hash ve oldW newW)
          cur.info).weight ≤ M
        rw [e1]; exact h
      · right
        rcases List.mem_cons.mp hin with hin | hin
        · simp only [WOp.upsert.injEq] at hin
          obtain ⟨_, _, rfl, _, _⟩ := hin
          exact absurd hi.symm e
        · exact ⟨h', ve', o, w, hin, hi⟩

theorem syncRun_fit {P : Sketch → Prop} (L : SketchLaws P) {p : Params} (hq : NoQuirks p)
    (hsm : SmallSketch p) {c : Nat} (hcap : p.cap = some c) {k M : Nat} {mb : List (Nat × VE)}
    (hB : budTotal (blOf p mb) + M ≤ c) {s : SState} (ex : List WOp) (h : TopInv P s)
    (hct : CTop p s (s.writeQ ++ ex)) (hk : OnlyK k (s.writeQ ++ ex)) (ho : OthersIn k mb s)
    (hm : ∀ cur, AL.get? s.map k = some cur → p.weigh k cur.val ≤ M)
    (hw : KwLe k M s s.writeQ) : FrameX p s (syncRun p s) := by
  refine (syncRun_frameX_over L hq hsm hcap (fit_passInv hq hcap hB ex ho hm) (fun j => j.1)
    ?_ h hct ⟨rfl, hw, hk⟩).1
  intro t t' ⟨m, w, hk1⟩ hq1 g g' r
  rw [hq1] at w
  rw [hq1, List.nil_append] at hk1
  have hsub := r.frame0.mapSub g.map.kn
  have hb := cws_le_of_onlyK g' hk1
    (fun k' v hne hv => ho k' v hne (by rw [← m]; exact hsub k' v hv))
  have hkw : kwOf t' k ≤ M := by
    unfold kwOf
    cases hc2 : AL.get? t'.map k with
    | none => exact Nat.zero_le _
    | some cur =>
      dsimp only
      by_cases ha : (getInfo t' cur.info).admitted = true
      · rw [if_pos ha, r.weight cur.info]
        rcases w cur (hsub k cur hc2) (r.adm _ ha) with hh | ⟨_, _, _, _, hin, _⟩
        · exact hh
        · cases hin
      · rw [if_neg ha]; exact Nat.zero_le _
  omega

theorem syncOk_fit {p : Params} (hq : NoQuirks p) (hsm : SmallSketch p) {c : Nat}
    (hcap : p.cap = some c) {k M : Nat} {mb : List (Nat × VE)} (hB : budTotal (blOf p mb) + M ≤ c)
    {s : SState} {ex : List WOp} (h : TInv p s ex) (hk : OnlyK k (s.writeQ ++ ex))
    (ho : OthersIn k mb s) (hm : ∀ cur, AL.get? s.map k = some cur → p.weigh k cur.val ≤ M)
    (hw : KwLe k M s s.writeQ) : SyncOk p s :=
  have ha : TopInv Sketch.Good (armed s) ∧ CTop p (armed s) ((armed s).writeQ ++ ex) :=
    (t_callInv hq hsm).flags true _ ⟨h.top, h.c⟩
  syncRun_fit sketchLaws hq hsm hcap hB ex ha.1 ha.2 hk ho hm hw

/-- The clause `vaLe` of `CoupledS` (and `va` of `TsOk`), by itself: part B runs no reference
beside the trace. -/
def VaLe (s : SState) : Prop := ∀ v, s.va = some v → v ≤ s.now

theorem VaLe.frame {s s' : SState} (h : VaLe s) (hf : Frame s s') : VaLe s' := by
  intro v hv
  rw [hf.va] at hv
  rw [hf.now]
  exact h v hv

theorem VaLe.of_eq {s s' : SState} (h : VaLe s) (hv : s'.va = s.va) (hn : s'.now = s.now) :
    VaLe s' := by
  intro v hv'
  rw [hv] at hv'
  rw [hn]
  exact h v hv'

theorem VaLe.step {p : Params} (hq : NoQuirks p) {s : SState} (hqi : QInv s) (h : VaLe s)
    (op : Op) :
    VaLe (step p s op).1 := by
  refine step_keeps hq (fun hf h => h.frame hf) (fun s k v h => ?_) (fun s k h => ?_)
    (fun _ _ h => h.of_eq rfl rfl) (fun s _ v hv => ?_)
    (fun s d h v hv => Nat.le_trans (h v hv) (Nat.le_add_right _ _)) hqi h op
  · obtain ⟨_, _, _, hva, hnow⟩ := ConcS.insertMap_fields p s k v
    exact h.of_eq hva hnow
  · obtain ⟨_, _, _, hva, hnow⟩ := ConcS.invalidateMap_fields s k
    exact h.of_eq hva hnow
  · cases Option.some.inj hv
    exact Nat.le_refl _

/-- What a state inside a window keeps of the quiescent state `sb` the window began in, for the keys
other than `k`: no `get` inside a window (the oracle's scan gives up on one) and no clock step, so
no `last_accessed` moves. -/
structure Win (k : Nat) (sb s : SState) : Prop where
  rq : s.readQ = []
  now : s.now = sb.now
  va : s.va = sb.va
  os : ∀ k' ve, k' ≠ k → AL.get? s.map k' = some ve →
    AL.get? sb.map k' = some ve ∧ (getInfo s ve.info).la = (getInfo sb ve.info).la ∧
      (getInfo s ve.info).lm = (getInfo sb ve.info).lm

theorem Win.frame {k : Nat} {sb a b : SState} (w : Win k sb a) (hn : (AL.keys a.map).Nodup)
    (hf : Frame a b) : Win k sb b := by
  refine ⟨List.eq_nil_iff_forall_not_mem.mpr fun op hop => ?_, hf.now.trans w.now,
    hf.va.trans w.va, fun k' ve hne hve => ?_⟩
  · have := hf.readQ op hop
    rw [w.rq] at this
    cases this
  · obtain ⟨e0, e1, e2⟩ := w.os k' ve hne (hf.mapSub hn k' ve hve)
    exact ⟨e0, (hf.la_eq w.rq _).trans e1, (hf.lm _).trans e2⟩

def KeptB (p : Params) (k : Nat) (sb s : SState) : Prop :=
  ∀ k' ve, k' ≠ k → AL.get? sb.map k' = some ve →
    AL.get? s.map k' = some ve ∨ isExpiredInfo p sb (getInfo sb ve.info) sb.now = true

/-- A run without size eviction removes only what is expired, and inside a window the expiry of the
other keys is judged as in `sb`. -/
theorem Win.keptB {p : Params} {k : Nat} {sb a b : SState} (w : Win k sb a)
    (hn : (AL.keys a.map).Nodup) (hfx : FrameX p a b) (hkb : KeptB p k sb a) : KeptB p k sb b := by
  intro k' ve hne hve
  rcases hkb k' ve hne hve with hh | hh
  · rcases hfx.kept hn k' ve hh with h2 | ⟨_, h2⟩
    · exact Or.inl h2
    · obtain ⟨_, e1, e2⟩ := w.os k' ve hne hh
      exact Or.inr ((isExpiredInfo_congr p (hfx.frame.va.trans w.va) (hfx.frame.now.trans w.now)
        ((hfx.frame.lm _).trans e2) ((hfx.frame.la_eq w.rq _).trans e1)).symm.trans h2)
  · exact Or.inr hh

/-- An invariant of the states reached from the quiescent state `sb`, where `k` is absent
(`seg_init`), by inserts of `k` only, with the maintenance runs they start. -/
structure Seg (p : Params) (k : Nat) (sb s : SState) : Prop extends Win k sb s where
  t : TInv p s []
  vl : VaLe s
  qk : OnlyK k s.writeQ
  s1 : ∀ ve, AL.get? s.map k = some ve → (∃ h o w, WOp.upsert k h ve o w ∈ s.writeQ) ∧
    (getInfo s ve.info).la = s.now ∧ (getInfo s ve.info).lm = s.now

theorem seg_init {p : Params} {k : Nat} {sb : SState} (ht : TInv p sb []) (hv : VaLe sb)
    (hw : sb.writeQ = []) (hr : sb.readQ = []) (hk : AL.get? sb.map k = none) :
    Seg p k sb sb :=
  ⟨⟨hr, rfl, rfl, fun _ _ _ h => ⟨h, rfl, rfl⟩⟩, ht, hv,
    fun op hop => (by rw [hw] at hop; cases hop), fun ve hve => (by rw [hk] at hve; cases hve)⟩

theorem Seg.othersIn {p : Params} {k : Nat} {sb s : SState} (h : Seg p k sb s) :
    OthersIn k sb.map s := fun k' ve hne hve => (h.os k' ve hne hve).1

theorem seg_insertMap {p : Params} {k : Nat} {sb s : SState} (h : Seg p k sb s) (v : Nat) :
    ∃ veN oldW, (ConcS.insertMap p s k v).2 = WOp.upsert k (p.hash k) veN oldW (p.weigh k v) ∧
      veN.val = v ∧
      (ConcS.insertMap p s k v).1.map = AL.put s.map k veN ∧
      (ConcS.insertMap p s k v).1.writeQ = s.writeQ ∧ (ConcS.insertMap p s k v).1.readQ = s.readQ ∧
      (getInfo (ConcS.insertMap p s k v).1 veN.info).la = s.now ∧
      (getInfo (ConcS.insertMap p s k v).1 veN.info).lm = s.now ∧
      (∀ k' ve, k' ≠ k → AL.get? s.map k' = some ve →
        getInfo (ConcS.insertMap p s k v).1 ve.info = getInfo s ve.info) ∧
      (∀ M, KwLe k M (ConcS.insertMap p s k v).1 s.writeQ) := by
  have hc := h.t.cinv
  obtain ⟨ve, inf, oldW, hop, hmap, hval, hinfo, hlm, hla, hcase⟩ := ConcS.insertMap_infos p s k v
  obtain ⟨hwq, hrq, _⟩ := ConcS.insertMap_fields p s k v
  refine ⟨ve, oldW, hop, hval, hmap, hwq, hrq, by rw [hinfo, if_pos rfl]; exact hla,
    by rw [hinfo, if_pos rfl]; exact hlm, ?_, ?_⟩
  · exact fun k' ve' hne hve => insertMap_other_infos p (s := s) k v
      (fun k' ve' h' => ⟨hc.mapKey k' ve' h', h.t.top.map.bound k' ve' h'⟩) (Ne.symm hne) hve
  · intro M cur hcur hadm
    rw [hmap, AL.get?_put_self] at hcur
    cases hcur
    rw [hinfo, if_pos rfl] at hadm
    rcases hcase with ⟨old, hold, hi, _⟩ | ⟨_, _, hna, _⟩
    · obtain ⟨⟨h', o, w, hin⟩, _⟩ := h.s1 old hold
      exact Or.inr ⟨h', old, o, w, hin, hi.symm⟩
    · rw [hna] at hadm
      cases hadm

theorem fresh_not_expired {p : Params} {s : SState} {i : Info} (hv : VaLe s)
    (hl : p.ttl ≠ some 0 ∧ p.tti ≠ some 0) (hla : i.la = s.now) (hlm : i.lm = s.now) :
    isExpiredInfo p s i s.now = false := by
  rw [isExpiredInfo, hla, hlm, Bool.or_eq_false_iff]
  exact ⟨expiredTs_now hv hl.1, expiredTs_now hv hl.2⟩

theorem seg_insert {p : Params} (hq : NoQuirks p) (hsm : SmallSketch p) {c : Nat}
    (hcap : p.cap = some c) {k : Nat} {sb s : SState} (h : Seg p k sb s) (v : Nat) :
    Seg p k sb (insert p s k v) ∧
    (budTotal (blOf p sb.map) + p.weigh k v ≤ c → (p.ttl ≠ some 0 ∧ p.tti ≠ some 0) →
      (∃ ve, AL.get? (insert p s k v).map k = some ve ∧ ve.val = v) ∧
      (KeptB p k sb s → KeptB p k sb (insert p s k v))) := by
  obtain ⟨veN, oldW, hop, hval, hmap, hwq, hrq, hla, hlm, hoth, hkw⟩ := seg_insertMap h v
  have hvn := (ConcS.insertMap_fields p s k v).2.2.2
  have t0 := insertMap_t hq h.t k v
  have hfr : Frame (ConcS.insertMap p s k v).1 (insert p s k v) := by
    rw [ConcS.insert_eq]; exact scheduleWriteOp_frame hq 3 _ _
  have hins : insert p s k v = { housekeepW p (ConcS.insertMap p s k v).1 with
      writeQ := (housekeepW p (ConcS.insertMap p s k v).1).writeQ ++ [(ConcS.insertMap p s k v).2] } := by
    rw [ConcS.insert_eq, scheduleWriteOp_enqueues p 2 t0.q]
  have hkn0 : (AL.keys (ConcS.insertMap p s k v).1.map).Nodup := by
    rw [hmap]; exact AL.nodup_put k _ h.t.top.map.kn
  -- the state between the map step and the housekeeping is inside the window too
  have w0 : Win k sb (ConcS.insertMap p s k v).1 := by
    refine ⟨hrq.trans h.rq, hvn.2.trans h.now, hvn.1.trans h.va, fun k' ve hne hve => ?_⟩
    rw [hmap, AL.get?_put_ne _ (fun e => hne e.symm)] at hve
    rw [hoth k' ve hne hve]
    exact h.os k' ve hne hve
  have hvl0 : VaLe (ConcS.insertMap p s k v).1 := h.vl.of_eq hvn.1 hvn.2
  have hseg : Seg p k sb (insert p s k v) := by
    refine ⟨w0.frame hkn0 hfr, insert_t hq hsm h.t k v, hvl0.frame hfr, ?_, ?_⟩
    · rw [hins]
      intro op hop'
      rcases List.mem_append.mp hop' with hop' | hop'
      · rcases housekeepW_writeQ_cases p _ with e | e
        · rw [e] at hop'; cases hop'
        · rw [e, hwq] at hop'; exact h.qk op hop'
      · simp only [List.mem_singleton] at hop'
        rw [hop', hop]; exact ⟨_, _, _, _, rfl⟩
    · intro ve hve
      have h1 := hfr.mapSub hkn0 k ve hve
      rw [hmap, AL.get?_put_self] at h1
      cases h1
      refine ⟨⟨p.hash k, oldW, p.weigh k v, ?_⟩, ?_, ?_⟩
      · rw [hins]
        show WOp.upsert k (p.hash k) veN oldW (p.weigh k v) ∈ _ ++ [(ConcS.insertMap p s k v).2]
        rw [hop]
        exact List.mem_append_right _ (List.mem_singleton.mpr rfl)
      · rw [hfr.la_eq w0.rq, hla, hfr.now, hvn.2]
      · rw [hfr.lm, hlm, hfr.now, hvn.2]
  refine ⟨hseg, fun hfit hlives => ?_⟩
  -- under `hfit` the maintenance run inside this insert does not evict for size
  have hX : SyncOk p (ConcS.insertMap p s k v).1 := by
    refine syncOk_fit (k := k) hq hsm hcap hfit t0 ?_ ?_ ?_ ?_
    · intro op hop'
      rcases List.mem_append.mp hop' with hop' | hop'
      · rw [hwq] at hop'; exact h.qk op hop'
      · simp only [List.mem_singleton] at hop'
        rw [hop', hop]; exact ⟨_, _, _, _, rfl⟩
    · exact fun k' ve hne hve => (w0.os k' ve hne hve).1
    · intro cur hcur
      rw [hmap, AL.get?_put_self] at hcur
      cases hcur
      rw [hval]; exact Nat.le_refl _
    · rw [hwq]; exact hkw (p.weigh k v)
  have hfx := housekeepW_frameX hX
  have hmapI : (insert p s k v).map = (housekeepW p (ConcS.insertMap p s k v).1).map := by
    rw [hins]
  refine ⟨?_, fun hkb => ?_⟩
  · have hk0 : AL.get? (ConcS.insertMap p s k v).1.map k = some veN := by
      rw [hmap, AL.get?_put_self]
    have hnx := fresh_not_expired hvl0 hlives (by rw [hla, hvn.2]) (by rw [hlm, hvn.2])
    exact ⟨veN, by rw [hmapI]; exact hfx.kept_of_fresh hkn0 hk0 hnx, hval⟩
  · have hkb0 : KeptB p k sb (ConcS.insertMap p s k v).1 := fun k' ve hne hve =>
      (hkb k' ve hne hve).imp_left fun hh => by
        rw [hmap, AL.get?_put_ne _ (fun e => hne e.symm)]; exact hh
    intro k' ve hne hve
    rw [hmapI]
    exact w0.keptB hkn0 hfx hkb0 k' ve hne hve

theorem seg_sync_fit {p : Params} (hq : NoQuirks p) (hsm : SmallSketch p) {c : Nat}
    (hcap : p.cap = some c) {k : Nat} {sb s : SState} (h : Seg p k sb s) {ve : VE}
    (hk : AL.get? s.map k = some ve)
    (hfit : budTotal (blOf p sb.map) + p.weigh k ve.val ≤ c)
    (hlives : p.ttl ≠ some 0 ∧ p.tti ≠ some 0) :
    AL.get? (syncRun p s).map k = some ve ∧ (KeptB p k sb s → KeptB p k sb (syncRun p s)) ∧
    (syncRun p s).now = sb.now ∧ (syncRun p s).va = sb.va := by
  have hfx : FrameX p s (syncRun p s) := by
    have hct : CTop p s (s.writeQ ++ []) := h.t.c
    refine syncRun_fit (k := k) sketchLaws hq hsm hcap hfit [] h.t.top hct ?_ h.othersIn ?_ ?_
    · rw [List.append_nil]; exact h.qk
    · intro cur hcur
      rw [hk] at hcur; cases hcur; exact Nat.le_refl _
    · intro cur hcur _
      obtain ⟨⟨h', o, w, hin⟩, _⟩ := h.s1 cur hcur
      exact Or.inr ⟨h', cur, o, w, hin, rfl⟩
  have hkn := h.t.top.map.kn
  refine ⟨?_, h.toWin.keptB hkn hfx, by rw [hfx.frame.now]; exact h.now,
    by rw [hfx.frame.va]; exact h.va⟩
  obtain ⟨_, e1, e2⟩ := h.s1 ve hk
  exact hfx.kept_of_fresh hkn hk (fresh_not_expired (i := getInfo s ve.info) h.vl hlives e1 e2)

theorem snapWeight_quiescent {p : Params} {s : SState} (h : TInv p s []) (hw : s.writeQ = []) :
    snapWeight (snapshot p s) = budTotal (blOf p s.map) := by
  obtain ⟨_, _, h3, _, _⟩ := quiescent h hw
  rw [budTotal_blOf, (shows p s).snapWeight_eq]
  exact congrArg List.sum (List.map_congr_left h3)

theorem not_live_of_expired (p : Params) {s : SState} (kv : Nat × VE)
    (h : isExpiredInfo p s (getInfo s kv.2.info) s.now = true) :
    entryLiveAt p.ttl p.tti s.now s.va (entryView s kv) = false := by
  rw [entryLiveAt_entryView, h]
  rfl

/-- What `fitsC03Sync` demands of a window whose inserts `collectInserts` has gathered. -/
def winResult (c : Nat) (ttl tti : Option Nat) (w : Nat → Nat → Nat) (before : Snap) :
    Option (Nat × Nat × Nat × Snap) → Bool
  | some (k, v, mw, after) =>
    let fresh := !(before.entries.any (fun e => e.key == k))
    let quiet := before.rq == 0 && before.wq == 0 && after.rq == 0 && after.wq == 0
    let lives := !(ttl == some 0) && !(tti == some 0)
    !(fresh && quiet && lives && decide (snapWeight before + w k v ≤ c)) ||
      (after.entries.any (fun e => e.key == k && e.val == v) &&
       (!(decide (snapWeight before + mw ≤ c)) ||
         before.entries.all (fun e => !(entryLiveAt ttl tti after.now after.va e) ||
           after.entries.any (fun e' => e'.key == e.key))))
  | none => true

theorem fitsC03Sync_window (c : Nat) (ttl tti : Option Nat) (w : Nat → Nat → Nat) (before : Snap)
    (rest : Trace) :
    fitsC03Sync c ttl tti w ((.sync, .ok) :: (.snap, .snap before) :: rest) =
      (winResult c ttl tti w before (collectInserts w rest none) &&
        fitsC03Sync c ttl tti w ((.snap, .snap before) :: rest)) := by
  conv => lhs; unfold fitsC03Sync
  simp only [winResult]
  cases collectInserts w rest none with
  | none => rfl
  | some r => obtain ⟨k, v, mw, after⟩ := r; rfl

theorem fitsC03Sync_other (c : Nat) (ttl tti : Option Nat) (w : Nat → Nat → Nat) (x : Op × Obs)
    (t : Trace) (h : ∀ before rest, ¬ (x = (.sync, .ok) ∧ t = (.snap, .snap before) :: rest)) :
    fitsC03Sync c ttl tti w (x :: t) = fitsC03Sync c ttl tti w t := by
  conv => lhs; unfold fitsC03Sync
  split
  · rename_i e; cases e
  · rename_i before rest e
    simp only [List.cons.injEq] at e
    exact absurd ⟨e.1, e.2⟩ (h before rest)
  · rename_i e
    simp only [List.cons.injEq] at e
    rw [e.2]

/-- What the walk through a window establishes about its closing snapshot. -/
def WinGoal (p : Params) (c k : Nat) (sb : SState) (r : Nat × Nat × Nat × Snap) : Prop :=
  ∃ v mw sa, r = (k, v, mw, snapshot p sa) ∧
    (budTotal (blOf p sb.map) + p.weigh k v ≤ c →
      (∃ ve, AL.get? sa.map k = some ve ∧ ve.val = v) ∧
      (budTotal (blOf p sb.map) + mw ≤ c → KeptB p k sb sa) ∧
      sa.now = sb.now ∧ sa.va = sb.va)

theorem collectInserts_some {w : Nat → Nat → Nat} {x : Op × Obs} {t : Trace}
    {acc : Option (Nat × Nat × Nat)} {r : Nat × Nat × Nat × Snap}
    (h : collectInserts w (x :: t) acc = some r) :
    (∃ k v mw after t', x = (.sync, .ok) ∧ t = (.snap, .snap after) :: t' ∧ acc = some (k, v, mw) ∧
      r = (k, v, mw, after)) ∨
    (∃ k v, x = (.ins k v, .ok) ∧
      ((acc = none ∧ collectInserts w t (some (k, v, w k v)) = some r) ∨
       ∃ v0 mw, acc = some (k, v0, mw) ∧
         collectInserts w t (some (k, v, max mw (w k v))) = some r)) ∨
    (((∃ sn, x = (.snap, .snap sn)) ∨ ∃ k n, x = (.freq k, .freq n)) ∧
      collectInserts w t acc = some r) := by
  unfold collectInserts at h
  split at h
  · rename_i e
    cases e; cases h
    exact Or.inl ⟨_, _, _, _, _, rfl, rfl, rfl, rfl⟩
  · rename_i e
    cases e
    exact Or.inr (Or.inl ⟨_, _, rfl, Or.inl ⟨rfl, h⟩⟩)
  · rename_i e
    cases e
    split at h
    · rename_i e
      rw [eq_of_beq e] at h ⊢
      exact Or.inr (Or.inl ⟨_, _, rfl, Or.inr ⟨_, _, rfl, h⟩⟩)
    · cases h
  · rename_i e
    cases e
    exact Or.inr (Or.inr ⟨Or.inl ⟨_, rfl⟩, h⟩)
  · rename_i e
    cases e
    exact Or.inr (Or.inr ⟨Or.inr ⟨_, _, rfl⟩, h⟩)
  · cases h

theorem collectInserts_key (w : Nat → Nat → Nat) (k : Nat) :
    ∀ (t : Trace) (v mw : Nat) r, collectInserts w t (some (k, v, mw)) = some r → r.1 = k := by
  intro t
  induction t with
  | nil => intro v mw r h; cases h
  | cons x t ih =>
    intro v mw r h
    rcases collectInserts_some h with
      ⟨_, _, _, _, _, _, _, ea, rfl⟩ | ⟨_, _, _, ⟨ea, _⟩ | ⟨_, _, ea, h'⟩⟩ | ⟨_, h'⟩
    · cases ea; rfl
    · cases ea
    · cases ea; exact ih _ _ r h'
    · exact ih _ _ r h'

/-- The part of a window after its first insert.  Two implications are carried: the latest value
is resident if IT fits, and the other residents of `sb` are kept (`KeptB`) if the heaviest value
so far, the running maximum `mw`, fits; an insert that fits establishes the first and preserves the
second, one that does not may evict, after which only the first is owed again, by the next insert
that fits. -/
theorem walk_seg {p : Params} (hq : NoQuirks p) (hsm : SmallSketch p) {c : Nat}
    (hcap : p.cap = some c) {k : Nat} {sb : SState}
    (hlives : p.ttl ≠ some 0 ∧ p.tti ≠ some 0) :
    ∀ (h : List Op) (s : SState) (v mw : Nat), Seg p k sb s →
      (budTotal (blOf p sb.map) + p.weigh k v ≤ c →
        ∃ ve, AL.get? s.map k = some ve ∧ ve.val = v) →
      (budTotal (blOf p sb.map) + mw ≤ c → KeptB p k sb s) →
      ∀ r, collectInserts p.weigh (run p s h) (some (k, v, mw)) = some r → WinGoal p c k sb r := by
  intro h
  induction h with
  | nil => intro s v mw _ _ _ r hr; cases hr
  | cons op rest ih =>
    intro s v mw hseg hres hkept r hr
    rw [(isRun p).cons] at hr
    have hst := step_fst (p := p) hseg.t.top.nofault op
    rcases collectInserts_some hr with
      ⟨_, _, _, after, _, ex, et, ea, rfl⟩ | ⟨k2, v2, ex, ⟨ea, _⟩ | ⟨_, _, ea, hr'⟩⟩ | ⟨hx, hr'⟩
    · obtain ⟨rfl, _⟩ := Prod.mk.inj ex
      cases ea
      rw [hst] at et
      obtain ⟨op2, _, _, e2, _⟩ := (isRun p).eq_cons (s := syncRun p s) et
      have hafter := step_snap p (syncRun p s) op2 after (Prod.mk.inj e2).2.symm
      refine ⟨v, mw, syncRun p s, by rw [hafter], fun hf => ?_⟩
      obtain ⟨ve, hve, hval⟩ := hres hf
      obtain ⟨a1, a2, a3, a4⟩ := seg_sync_fit hq hsm hcap hseg hve (by rw [hval]; exact hf) hlives
      exact ⟨⟨ve, a1, hval⟩, fun hm => a2 (hkept hm), a3, a4⟩
    · cases ea
    · obtain ⟨rfl, _⟩ := Prod.mk.inj ex
      cases ea
      rw [hst] at hr'
      obtain ⟨hseg', hfit'⟩ := seg_insert hq hsm hcap hseg v2
      refine ih _ v2 (max mw (p.weigh k v2)) hseg' (fun hf => (hfit' hf hlives).1) ?_ r hr'
      intro hf
      have h1 : budTotal (blOf p sb.map) + mw ≤ c :=
        Nat.le_trans (Nat.add_le_add_left (Nat.le_max_left _ _) _) hf
      have h2 : budTotal (blOf p sb.map) + p.weigh k v2 ≤ c :=
        Nat.le_trans (Nat.add_le_add_left (Nat.le_max_right _ _) _) hf
      exact (hfit' h2 hlives).2 (hkept h1)
    · rcases hx with ⟨_, e⟩ | ⟨_, _, e⟩ <;> obtain ⟨rfl, _⟩ := Prod.mk.inj e <;>
        (rw [hst] at hr'; exact ih s v mw hseg hres hkept r hr')

theorem walk_none {p : Params} (hq : NoQuirks p) (hsm : SmallSketch p) {c : Nat}
    (hcap : p.cap = some c) {sb : SState} (ht : TInv p sb []) (hv : VaLe sb)
    (hw : sb.writeQ = []) (hrq : sb.readQ = [])
    (hlives : p.ttl ≠ some 0 ∧ p.tti ≠ some 0) :
    ∀ (h : List Op) r, collectInserts p.weigh (run p sb h) none = some r →
      AL.get? sb.map r.1 = none → WinGoal p c r.1 sb r := by
  intro h
  induction h with
  | nil => intro r hr; cases hr
  | cons op rest ih =>
    intro r hr hfr
    rw [(isRun p).cons] at hr
    have hst := step_fst (p := p) ht.top.nofault op
    rcases collectInserts_some hr with
      ⟨_, _, _, _, _, _, _, ea, _⟩ | ⟨k, v, ex, ⟨_, hr'⟩ | ⟨_, _, ea, _⟩⟩ | ⟨hx, hr'⟩
    · cases ea
    · obtain ⟨rfl, _⟩ := Prod.mk.inj ex
      rw [hst] at hr'
      rw [collectInserts_key _ _ _ _ _ r hr'] at hfr ⊢
      obtain ⟨hseg', hfit'⟩ := seg_insert hq hsm hcap (seg_init (p := p) ht hv hw hrq hfr) v
      exact walk_seg hq hsm hcap hlives rest _ v (p.weigh k v) hseg'
        (fun hfit => (hfit' hfit hlives).1)
        (fun hfit => (hfit' hfit hlives).2 (fun _ _ _ hh => Or.inl hh)) r hr'
    · cases ea
    · rcases hx with ⟨_, e⟩ | ⟨_, _, e⟩ <;> obtain ⟨rfl, _⟩ := Prod.mk.inj e <;>
        (rw [hst] at hr'; exact ih r hr' hfr)

theorem winResult_ok {p : Params} (hq : NoQuirks p) (hsm : SmallSketch p) {c : Nat}
    (hcap : p.cap = some c) {sb : SState} (ht : TInv p sb []) (hv : VaLe sb)
    (hw : sb.writeQ = []) (hrq : sb.readQ = []) (h : List Op) :
    winResult c p.ttl p.tti p.weigh (snapshot p sb)
      (collectInserts p.weigh (run p sb h) none) = true := by
  cases hres : collectInserts p.weigh (run p sb h) none with
  | none => rfl
  | some r =>
    obtain ⟨k, v, mw, after⟩ := r
    simp only [winResult]
    by_cases hcond : ((!(snapshot p sb).entries.any fun e => e.key == k) &&
        ((snapshot p sb).rq == 0 && (snapshot p sb).wq == 0 && after.rq == 0 && after.wq == 0) &&
        (!p.ttl == some 0 && !p.tti == some 0) &&
        decide (snapWeight (snapshot p sb) + p.weigh k v ≤ c)) = true
    · simp only [Bool.and_eq_true, Bool.not_eq_true', decide_eq_true_eq, beq_eq_false_iff_ne,
        ne_eq] at hcond
      obtain ⟨⟨⟨hfresh, _⟩, hl1, hl2⟩, hfit⟩ := hcond
      have hlives : p.ttl ≠ some 0 ∧ p.tti ≠ some 0 := ⟨hl1, hl2⟩
      have hfr : AL.get? sb.map k = none := by
        rw [(shows p sb).any_entry ht.top.map.kn k] at hfresh
        cases hg : AL.get? sb.map k with
        | none => rfl
        | some ve => rw [hg] at hfresh; cases hfresh
      rw [snapWeight_quiescent ht hw] at hfit ⊢
      obtain ⟨v', mw', sa, hr', hg⟩ := walk_none hq hsm hcap ht hv hw hrq hlives h _ hres hfr
      simp only [Prod.mk.injEq] at hr'
      obtain ⟨_, rfl, rfl, rfl⟩ := hr'
      obtain ⟨⟨ve, hve, hval⟩, hkept, hnow, hva⟩ := hg hfit
      rw [Bool.or_eq_true]
      right
      rw [Bool.and_eq_true]
      refine ⟨by rw [← hval]; exact (shows p sa).any_key_val hve, ?_⟩
      by_cases hm : budTotal (blOf p sb.map) + mw ≤ c
      · rw [Bool.or_eq_true]
        right
        rw [List.all_eq_true]
        intro e he
        obtain ⟨kv, hkv, rfl⟩ := (shows p sb).mem_entries.mp he
        have hg0 := AL.get?_of_mem ht.top.map.kn hkv
        have hne : kv.1 ≠ k := by
          intro e; rw [e, hfr] at hg0; cases hg0
        rcases hkept hm kv.1 kv.2 hne hg0 with hh | hh
        · have : (snapshot p sa).entries.any (fun e' => e'.key == (entryView sb kv).key) = true :=
            (shows p sa).any_key hh
          rw [this, Bool.or_true]
        · have hnl := not_live_of_expired p kv hh
          have e1 : (snapshot p sa).now = sb.now := hnow
          have e2 : (snapshot p sa).va = sb.va := hva
          rw [e1, e2, hnl]
          rfl
      · simp [hm]
    · simp only [Bool.not_eq_true] at hcond
      rw [hcond]; rfl

theorem fitsC03Sync_run_of {p : Params} (hq : NoQuirks p) (hsm : SmallSketch p) {c : Nat}
    (hcap : p.cap = some c) {I : SState → Prop} (hstep : ∀ s op, I s → I (step p s op).1)
    (hnf : ∀ s, I s → s.fault = none)
    (hquiet : ∀ s, I s → s.writeQ = [] → s.readQ = [] → TInv p s [] ∧ VaLe s) :
    ∀ (h : List Op) (s : SState), I s →
      fitsC03Sync c p.ttl p.tti p.weigh (run p s h) = true := by
  intro h
  induction h with
  | nil => intro s _; rfl
  | cons op rest ih =>
    intro s hi
    rw [(isRun p).cons]
    have hi1 := hstep s op hi
    have ih' := ih _ hi1
    by_cases hwin : ∃ before rst, (op, (step p s op).2) = (Op.sync, Obs.ok) ∧
        run p (step p s op).1 rest = (Op.snap, Obs.snap before) :: rst
    · obtain ⟨before, rst, e1, e2⟩ := hwin
      rw [e1, e2, fitsC03Sync_window, Bool.and_eq_true]
      refine ⟨?_, by rw [← e2]; exact ih'⟩
      simp only [Prod.mk.injEq] at e1
      obtain ⟨eop, _⟩ := e1
      subst eop
      have hst : (step p s .sync).1 = syncRun p s := step_fst (hnf s hi) .sync
      rw [hst] at e2 hi1
      obtain ⟨ht1, hv1⟩ := hquiet _ hi1 (syncRun_writeQ p s) (syncRun_readQ p s)
      obtain ⟨hb, rest2, erst⟩ := run_snap_uncons ht1.top.nofault e2
      rw [hb, ← erst]
      exact winResult_ok hq hsm hcap ht1 hv1 (syncRun_writeQ p s) (syncRun_readQ p s) rest2
    · rw [fitsC03Sync_other _ _ _ _ _ _ (fun b r hh => hwin ⟨b, r, hh.1, hh.2⟩)]
      exact ih'

theorem fitsC03Sync_run {p : Params} (hq : NoQuirks p) (hsm : SmallSketch p) {c : Nat}
    (hcap : p.cap = some c) (h : List Op) (s : SState) (ht : TInv p s []) (hv : VaLe s) :
    fitsC03Sync c p.ttl p.tti p.weigh (run p s h) = true :=
  fitsC03Sync_run_of hq hsm hcap (I := fun s => TInv p s [] ∧ VaLe s)
    (fun _ op hi => ⟨step_t hq hsm hi.1 op, hi.2.step hq hi.1.q op⟩) (fun _ hi => hi.1.top.nofault)
    (fun _ hi _ _ => hi) h s ⟨ht, hv⟩

end Sync
end MiniMoka
