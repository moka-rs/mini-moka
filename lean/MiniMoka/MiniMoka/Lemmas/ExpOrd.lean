/-
  The list algebra behind "recency is order of use": `expOrd L0 L M` is the oracle's
  `Spec.expectedOrder` on plain key lists, and how it changes when keys leave the order or a key is
  used.  No cache model; the namespace is `Unsync.Admit` because `expOrd` and `useKey` were first
  stated for the single-threaded cache and keep those names.
-/
import MiniMoka.Spec.Oracles

namespace MiniMoka
namespace Unsync
namespace Admit

open Spec

/-- `expectedOrder` on plain key lists: `L0` the order at the start of the segment, `L` the
order now, `M` the keys used since (order of last use). -/
def expOrd (L0 L M : List Nat) : List Nat :=
  L0.filter (fun k => L.contains k && !M.contains k) ++ M.filter (L.contains ·)

theorem expectedOrder_eq (b sn : Snap) (M : List Nat) :
    expectedOrder b sn M = expOrd (lruOrder b) (lruOrder sn) M := rfl

/-- What `Spec.recencyWalk` does to its list of moved keys at a use of `k`. -/
def useKey (M : List Nat) (k : Nat) : List Nat := M.filter (· != k) ++ [k]

theorem sublist_eq_filter {L' L : List Nat} (h : L'.Sublist L) (hn : L.Nodup) :
    L' = L.filter (L'.contains ·) := by
  induction h with
  | slnil => rfl
  | @cons l1 l2 a hs ih =>
    simp only [List.nodup_cons] at hn
    have ha : ¬ a ∈ l1 := fun h => hn.1 (hs.subset h)
    rw [List.filter_cons_of_neg (by simpa using ha)]
    exact ih hn.2
  | @cons_cons l1 l2 a hs ih =>
    simp only [List.nodup_cons] at hn
    rw [List.filter_cons_of_pos (by simp)]
    congr 1
    have := ih hn.2
    rw [this]
    apply List.filter_congr
    intro x hx
    have hxa : x ≠ a := fun e => hn.1 (e ▸ hx)
    rw [← this]
    simp [hxa]

theorem erase_eq_filter_of_nodup {L : List Nat} (hn : L.Nodup) (k : Nat) :
    L.erase k = L.filter (· != k) := by
  induction L with
  | nil => rfl
  | cons a L ih =>
    simp only [List.nodup_cons] at hn
    by_cases h : a = k
    · subst h
      rw [List.erase_cons_head, List.filter_cons_of_neg (by simp)]
      symm
      rw [List.filter_eq_self]
      intro x hx
      have : x ≠ a := fun e => hn.1 (e ▸ hx)
      simpa using this
    · rw [List.erase_cons_tail (by simpa using h), List.filter_cons_of_pos (by simpa using h),
        ih hn.2]

theorem expOrd_sub {L0 M L L' : List Nat} (hr : L = expOrd L0 L M) (hn : L.Nodup)
    (hs : L'.Sublist L) : L' = expOrd L0 L' M := by
  have h1 := sublist_eq_filter hs hn
  have hsub : ∀ x, x ∈ L' → x ∈ L := fun x hx => hs.subset hx
  conv => lhs; rw [h1, hr]
  unfold expOrd
  rw [List.filter_append, List.filter_filter, List.filter_filter]
  congr 1
  · apply List.filter_congr
    intro x _
    by_cases hx : x ∈ L'
    · simp [hx, hsub x hx]
    · simp [hx]
  · apply List.filter_congr
    intro x _
    by_cases hx : x ∈ L'
    · simp [hx, hsub x hx]
    · simp [hx]

/-- A use that leaves `k` at the back (hit, update, admitted insert). -/
theorem expOrd_use {L0 M L : List Nat} (hr : L = expOrd L0 L M) (k : Nat) :
    L.filter (· != k) ++ [k] = expOrd L0 (L.filter (· != k) ++ [k]) (useKey M k) := by
  conv => lhs; rw [hr]
  unfold expOrd useKey
  rw [List.filter_append, List.filter_filter, List.filter_filter, List.filter_append,
    List.filter_filter, List.append_assoc]
  congr 1
  · apply List.filter_congr
    intro x _
    by_cases hxk : x = k
    · subst hxk; simp
    · by_cases hxL : x ∈ L <;> by_cases hxM : x ∈ M <;> simp [hxk, hxL, hxM]
  · congr 1
    · apply List.filter_congr
      intro x _
      by_cases hxk : x = k
      · subst hxk; simp
      · by_cases hxL : x ∈ L <;> simp [hxk, hxL]
    · simp

/-- A use of a key that is not resident afterwards (rejected insert). -/
theorem expOrd_use_absent {L0 M L : List Nat} (hr : L = expOrd L0 L M) {k : Nat} (hk : ¬ k ∈ L) :
    L = expOrd L0 L (useKey M k) := by
  conv => lhs; rw [hr]
  unfold expOrd useKey
  rw [List.filter_append]
  congr 1
  · apply List.filter_congr
    intro x _
    by_cases hxk : x = k
    · subst hxk; simp [hk]
    · by_cases hxL : x ∈ L <;> by_cases hxM : x ∈ M <;> simp [hxk, hxL, hxM]
  · rw [List.filter_filter]
    have : [k].filter (L.contains ·) = [] := by simp [hk]
    rw [this, List.append_nil]
    apply List.filter_congr
    intro x _
    by_cases hxk : x = k
    · subst hxk; simp [hk]
    · simp [hxk]

theorem expOrd_refl (L : List Nat) : L = expOrd L L [] := by
  unfold expOrd
  simp only [List.filter_nil, List.append_nil, List.contains_nil, Bool.not_false, Bool.and_true]
  symm
  rw [List.filter_eq_self]
  intro x hx
  simpa using hx

theorem filter_ne_self {L : List Nat} {k : Nat} (hk : ¬ k ∈ L) : L.filter (· != k) = L := by
  rw [List.filter_eq_self]
  intro x hx
  have : x ≠ k := fun e => hk (e ▸ hx)
  simpa using this

end Admit
end Unsync
end MiniMoka
