/-
  The pointer-level deque `MiniMoka.DequeHeap` against lists of node addresses. `WF s l`: the heap of
  `s` encodes the list `l`. The pointer assignments of an operation are heap transformers `relink`;
  that the resulting heap links the new list is one of two list facts, `links_unlink` (join the
  neighbours of the `k`-th node) and `links_push` (hang a node behind the last). An operation takes
  `WF s l` to `WF s' l'` and relinks only (`Pres`), frees one node (`Frees`) or allocates one
  (`Allocs`); the iterator's cursor moves by `curAfter`, and by `curLeave` when its node leaves.
  Sequences of calls: the heap model against an interpreter on plain lists (`rstep` on `Cmd`) under
  the callers' preconditions (`LegalSeq`; `Sim`, `sim_run`). No lemma is about the facade
  `FOp`/`fstep`/`walk`/`dumpM` of the model file.
-/
import MiniMoka.DequeHeap

namespace MiniMoka
namespace DequeHeap

/-! ## Heap; the pointer assignments `relink` -/

theorem hget_hset (h : Heap) (a b : Nat) (v : Option Node) :
    hget (hset h a v) b = if a = b then v else hget h b := by
  induction h with
  | nil => simp [hset, hget]
  | cons kv r ih =>
    obtain ⟨k, w⟩ := kv
    by_cases hk : k = a
    · subst hk
      by_cases hb : k = b <;> simp [hset, hget, hb]
    · by_cases hb : k = b
      · subst hb
        have : ¬ a = k := fun h => hk h.symm
        simp [hset, hget, hk, this]
      · simp [hset, hget, hk, hb, ih]

/-- Rewrite the node at `p` by `f` (a field assignment through a raw pointer); `p = none`
stands for "no such node" and changes nothing. -/
def relink (f : Node → Node) (h : Heap) (p : Option Nat) : Heap :=
  p.elim h fun a => hset h a ((hget h a).map f)

/-- `(*p).next = v` -/
abbrev relinkNext (h : Heap) (p v : Option Nat) : Heap := relink (fun n => { n with next := v }) h p

/-- `(*p).prev = v` -/
abbrev relinkPrev (h : Heap) (p v : Option Nat) : Heap := relink (fun n => { n with prev := v }) h p

@[simp] theorem relink_none (f : Node → Node) (h : Heap) : relink f h none = h := rfl

theorem hget_relink (f : Node → Node) (h : Heap) (p : Option Nat) (b : Nat) :
    hget (relink f h p) b = if p = some b then (hget h b).map f else hget h b := by
  cases p with
  | none => simp
  | some a =>
    by_cases hab : a = b
    · subst hab; simp [relink, hget_hset]
    · simp [relink, hget_hset, hab]

theorem hget_relink_ne {f : Node → Node} {h : Heap} {p : Option Nat} {b : Nat} (hne : p ≠ some b) :
    hget (relink f h p) b = hget h b := by
  rw [hget_relink, if_neg hne]

@[simp] theorem hget_relink_self (f : Node → Node) (h : Heap) (a : Nat) :
    hget (relink f h (some a)) a = (hget h a).map f := by
  rw [hget_relink, if_pos rfl]

@[simp] theorem isSome_relink (f : Node → Node) (h : Heap) (p : Option Nat) (b : Nat) :
    (hget (relink f h p) b).isSome = (hget h b).isSome := by
  rw [hget_relink]; split <;> simp

theorem hget_relink_congr {f : Node → Node} {h h' : Heap} {b : Nat} (p : Option Nat)
    (hh : hget h b = hget h' b) : hget (relink f h p) b = hget (relink f h' p) b := by
  rw [hget_relink, hget_relink, hh]

/-- A `prev` and a `next` assignment commute; with `hget_relink_congr` this brings the heap of
`moveToBack_run` into the form "unlink, then push" that `links_push ∘ links_unlink` speaks of
(`moveToBack_inner`). -/
theorem hget_relinkPrev_relinkNext (h : Heap) (p v q w : Option Nat) (b : Nat) :
    hget (relinkPrev (relinkNext h p v) q w) b = hget (relinkNext (relinkPrev h q w) p v) b := by
  simp only [hget_relink]
  split <;> split <;> simp [Option.map_map, Function.comp_def]

@[simp] theorem elem_relink {f : Node → Node} (hf : ∀ n, (f n).elem = n.elem) (h : Heap)
    (p : Option Nat) (b : Nat) :
    (hget (relink f h p) b).map (·.elem) = (hget h b).map (·.elem) := by
  rw [hget_relink]; split <;> simp [Function.comp_def, hf]

/-! ## Lists: index facts -/

theorem lt_of_getElem? {l : List Nat} {i a : Nat} (h : l[i]? = some a) : i < l.length :=
  (List.getElem?_eq_some_iff.mp h).1

theorem nodup_inj {l : List Nat} (hn : l.Nodup) {i j a : Nat}
    (hi : l[i]? = some a) (hj : l[j]? = some a) : i = j := by
  rw [List.getElem?_eq_some_iff] at hi hj
  obtain ⟨hi', hi⟩ := hi
  obtain ⟨hj', hj⟩ := hj
  have hp := List.pairwise_iff_getElem.mp hn
  rcases Nat.lt_trichotomy i j with h | h | h
  · exact absurd (hi.trans hj.symm) (hp i j hi' hj' h)
  · exact h
  · exact absurd (hj.trans hi.symm) (hp j i hj' hi' h)

theorem ne_of_idx_ne {l : List Nat} (hn : l.Nodup) {i j x y : Nat}
    (hi : l[i]? = some x) (hj : l[j]? = some y) (hij : i ≠ j) : x ≠ y :=
  fun hxy => hij (nodup_inj hn hi (hxy ▸ hj))

theorem not_mem_eraseIdx {l : List Nat} (hn : l.Nodup) {k a : Nat} (hk : l[k]? = some a) :
    a ∉ l.eraseIdx k := by
  intro hm
  obtain ⟨i, hi⟩ := List.mem_iff_getElem?.mp hm
  rw [List.getElem?_eraseIdx] at hi
  split at hi
  · have := nodup_inj hn hi hk; omega
  · have := nodup_inj hn hi hk; omega

theorem nodup_concat {l : List Nat} {a : Nat} (hn : l.Nodup) (ha : a ∉ l) : (l ++ [a]).Nodup := by
  rw [List.nodup_append]
  refine ⟨hn, by simp, ?_⟩
  intro x hx y hy
  simp at hy; subst hy
  intro hh; subst hh; exact ha hx

theorem getElem?_idxOf {l : List Nat} {a : Nat} (h : a ∈ l) : l[l.idxOf a]? = some a := by
  grind

theorem idxOf_eq {l : List Nat} (hn : l.Nodup) {j a : Nat} (hj : l[j]? = some a) :
    l.idxOf a = j :=
  nodup_inj hn (getElem?_idxOf (List.mem_of_getElem? hj)) hj

theorem erase_eq_eraseIdx_idxOf (l : List Nat) (a : Nat) : l.erase a = l.eraseIdx (l.idxOf a) :=
  List.erase_eq_eraseIdx_of_idxOf rfl

theorem getLast?_eq_some_iff_idx {l : List Nat} (hn : l.Nodup) {k a : Nat} (hk : l[k]? = some a) :
    l.getLast? = some a ↔ k + 1 = l.length := by
  have hlt := lt_of_getElem? hk
  rw [List.getLast?_eq_getElem?]
  constructor
  · intro h; have := nodup_inj hn h hk; omega
  · intro h
    have : l.length - 1 = k := by omega
    rw [this]; exact hk

theorem eraseIdx_last_append {l : List Nat} {k a : Nat} (hk : l[k]? = some a)
    (hlast : k + 1 = l.length) : l.eraseIdx k ++ [a] = l := by
  apply List.ext_getElem?
  intro i
  simp only [List.getElem?_append, List.getElem?_eraseIdx, List.length_eraseIdx]
  have := lt_of_getElem? hk
  grind

def prevAt (l : List Nat) (i : Nat) : Option Nat := if i = 0 then none else l[i-1]?

@[simp] theorem prevAt_zero (l : List Nat) : prevAt l 0 = none := rfl

@[simp] theorem prevAt_succ (l : List Nat) (i : Nat) : prevAt l (i + 1) = l[i]? := rfl

theorem prevAt_eq_some {l : List Nat} {i b : Nat} :
    prevAt l i = some b ↔ ∃ j, i = j + 1 ∧ l[j]? = some b := by
  unfold prevAt
  rcases i with _ | j <;> simp

theorem prevAt_mem {l : List Nat} {i b : Nat} (h : prevAt l i = some b) : b ∈ l := by
  obtain ⟨j, _, hj⟩ := prevAt_eq_some.mp h
  exact List.mem_of_getElem? hj

theorem prevAt_eraseIdx (l : List Nat) (k i : Nat) :
    prevAt (l.eraseIdx k) i = if i ≤ k then prevAt l i else prevAt l (i + 1) := by
  rcases i with _ | i
  · simp [prevAt]
  · simp only [prevAt, List.getElem?_eraseIdx]; grind

theorem prevAt_append {l l' : List Nat} {i : Nat} (hi : i ≤ l.length) :
    prevAt (l ++ l') i = prevAt l i := by
  rcases i with _ | i
  · rfl
  · simp only [prevAt, List.getElem?_append]; grind

theorem prevAt_length (l : List Nat) : prevAt l l.length = l.getLast? := by
  rw [List.getLast?_eq_getElem?]; unfold prevAt; split <;> simp_all

theorem head?_eraseIdx (l : List Nat) (k : Nat) :
    (l.eraseIdx k).head? = if k = 0 then l[k+1]? else l.head? := by
  rw [List.head?_eq_getElem?, List.head?_eq_getElem?, List.getElem?_eraseIdx]
  rcases k with _ | k <;> simp

theorem getLast?_eraseIdx {l : List Nat} {k : Nat} (hk : k < l.length) :
    (l.eraseIdx k).getLast? = if l[k+1]? = none then prevAt l k else l.getLast? := by
  rw [List.eraseIdx_eq_take_drop_succ, List.getLast?_append, List.getLast?_drop, List.getLast?_take]
  by_cases hl : l.length ≤ k + 1
  · rw [if_pos hl, if_pos (List.getElem?_eq_none_iff.mpr hl), Option.none_or]
    unfold prevAt
    split
    · rfl
    · rw [List.getElem?_eq_getElem (by omega)]; rfl
  · rw [if_neg hl, if_neg (fun hh => hl (List.getElem?_eq_none_iff.mp hh))]
    cases ht : l.getLast? with
    | some t => rfl
    | none => rw [List.getLast?_eq_none_iff] at ht; subst ht; simp at hk

/-! ## The monad: evaluation rules -/

@[simp] theorem bind_apply {α β : Type} (m : M α) (f : α → M β) (s : DState) :
    (m >>= f) s = match m s with
      | .error e => .error e
      | .ok (a, s') => f a s' := rfl

@[simp] theorem pure_apply {α : Type} (a : α) (s : DState) :
    (pure a : M α) s = .ok (a, s) := rfl

@[simp] theorem getS_apply (s : DState) : getS s = .ok (s, s) := rfl

@[simp] theorem modS_apply (f : DState → DState) (s : DState) : modS f s = .ok ((), f s) := rfl

@[simp] theorem fail_apply {α : Type} (f : Fault) (s : DState) :
    (fail f : M α) s = .error f := rfl

@[simp] theorem load_apply (a : Nat) (s : DState) :
    load a s = match hget s.heap a with
      | some n => .ok (n, s)
      | none => .error .useAfterFree := rfl

@[simp] theorem store_apply (a : Nat) (n : Node) (s : DState) :
    store a n s = match hget s.heap a with
      | some _ => .ok ((), { s with heap := hset s.heap a (some n) })
      | none => .error .useAfterFree := rfl

@[simp] theorem free_apply (a : Nat) (s : DState) :
    free a s = match hget s.heap a with
      | some n => .ok (n, { s with heap := hset s.heap a none, freed := a :: s.freed })
      | none => .error .useAfterFree := rfl

@[simp] theorem alloc_apply (n : Node) (s : DState) :
    alloc n s = .ok (s.next, { s with heap := hset s.heap s.next (some n), next := s.next + 1 }) :=
  rfl

attribute [local simp] touch getNext getPrev
-- `bind_apply` before the subterms are visited: `simp` then runs the first statement on the state and
-- only afterwards enters the continuation, with the result put in. As a post-rule it first simplifies
-- the whole continuation under its binder (where every `match` on the still unknown state fails to
-- reduce), once for every statement before it.
attribute [local simp ↓] bind_apply

@[simp] theorem setNext_ok {s : DState} {a : Nat} (v : Option Nat) (hl : (hget s.heap a).isSome) :
    setNext a v s = .ok ((), { s with heap := relinkNext s.heap (some a) v }) := by
  cases hn : hget s.heap a with
  | none => simp [hn] at hl
  | some n => simp [setNext, relink, hn]

@[simp] theorem setPrev_ok {s : DState} {a : Nat} (v : Option Nat) (hl : (hget s.heap a).isSome) :
    setPrev a v s = .ok ((), { s with heap := relinkPrev s.heap (some a) v }) := by
  cases hn : hget s.heap a with
  | none => simp [hn] at hl
  | some n => simp [setPrev, relink, hn]

/-- The only fact proved about `exec`; its fault branches are exercised by the `decide` examples of
`Props/C08Deque.lean` only. -/
theorem exec_ok {α : Type} {m : M α} {s s' : DState} {a : α} (hf : s.fault = none)
    (h : m s = .ok (a, s')) : exec m s = (s', some a) := by
  simp [exec, hf, h]

/-! ## Well-formedness -/

abbrev CursorIn (c : Option Cursor) (l : List Nat) : Prop :=
  c = none ∨ c = some .done ∨ ∃ a, c = some (.node a) ∧ a ∈ l

/-- The heap of `s` encodes the list of node addresses `l`. -/
structure WF (s : DState) (l : List Nat) : Prop where
  nodup : l.Nodup
  links : ∀ i a, l[i]? = some a →
    ∃ e, hget s.heap a = some ⟨l[i+1]?, if i = 0 then none else l[i-1]?, e⟩
  head : s.head = l.head?
  tail : s.tail = l.getLast?
  len : s.len = l.length
  cursor : s.cursor = none ∨ s.cursor = some .done ∨ ∃ a, s.cursor = some (.node a) ∧ a ∈ l
  fault : s.fault = none
  bound : ∀ a n, hget s.heap a = some n → a < s.next
  freedNodup : s.freed.Nodup
  freedDead : ∀ a, a ∈ s.freed → hget s.heap a = none ∧ a < s.next

/-- `a` is live, not linked into `l`, and carries no links (what `unlink` leaves behind and
what `DeqNode::new` produces). -/
def Detached (s : DState) (l : List Nat) (a : Nat) : Prop :=
  a ∉ l ∧ ∃ e, hget s.heap a = some ⟨none, none, e⟩

def elemAt (s : DState) (a : Nat) : Nat :=
  match hget s.heap a with
  | some n => n.elem
  | none => 0

theorem elemAt_of {s : DState} {a : Nat} {n : Node} (h : hget s.heap a = some n) :
    elemAt s a = n.elem := by simp [elemAt, h]

/-- The heap `h` links the nodes of `l` in this order; `e` names their elements. -/
def Links (h : Heap) (e : Nat → Nat) (l : List Nat) : Prop :=
  ∀ {i b}, l[i]? = some b → hget h b = some ⟨l[i+1]?, prevAt l i, e b⟩

theorem WF.links' {s l} (h : WF s l) : Links s.heap (elemAt s) l := by
  intro i a hi
  obtain ⟨e, he⟩ := h.links i a hi
  simp [elemAt, he, prevAt]

theorem WF.live {s l} (h : WF s l) {a} (ha : a ∈ l) : ∃ n, hget s.heap a = some n := by
  obtain ⟨i, hi⟩ := List.mem_iff_getElem?.mp ha
  exact ⟨_, h.links' hi⟩

theorem WF.head_eq {s l} (h : WF s l) : s.head = l[0]? := by
  rw [h.head, List.head?_eq_getElem?]

theorem WF.tail_eq {s l} (h : WF s l) : s.tail = l[l.length - 1]? := by
  rw [h.tail, List.getLast?_eq_getElem?]

/-- `s'` differs from `s` by relinking only: same allocation counter, same ghost log, same
fault; every address keeps its liveness and its element; nodes outside `l` and `l'` are
untouched (the two lists are there for `frame` alone). -/
structure Pres (s s' : DState) (l l' : List Nat) : Prop where
  next : s'.next = s.next
  freed : s'.freed = s.freed
  fault : s'.fault = s.fault
  elems : ∀ b, (hget s'.heap b).map (·.elem) = (hget s.heap b).map (·.elem)
  frame : ∀ b, b ∉ l → b ∉ l' → hget s'.heap b = hget s.heap b

theorem Pres.live_eq {s s' l l'} (hp : Pres s s' l l') (b : Nat) :
    (hget s'.heap b).isSome = (hget s.heap b).isSome := by
  have := congrArg Option.isSome (hp.elems b)
  simpa using this

theorem Pres.elemAt {s s' l l'} (hp : Pres s s' l l') (b : Nat) :
    elemAt s' b = elemAt s b := by
  have := hp.elems b
  unfold DequeHeap.elemAt
  cases h1 : hget s'.heap b <;> cases h2 : hget s.heap b <;> simp_all

/-- `hlinks` names the elements through the OLD state: that is what `links_unlink` and `links_push`
deliver from `h.links'`. -/
theorem wf_pres_intro {s s' : DState} {l l' : List Nat} (h : WF s l)
    (hnext : s'.next = s.next) (hfreed : s'.freed = s.freed) (hfault : s'.fault = s.fault)
    (helems : ∀ b, (hget s'.heap b).map (·.elem) = (hget s.heap b).map (·.elem))
    (hframe : ∀ b, b ∉ l → b ∉ l' → hget s'.heap b = hget s.heap b)
    (hnodup : l'.Nodup)
    (hlinks : Links s'.heap (elemAt s) l')
    (hhead : s'.head = l'.head?) (htail : s'.tail = l'.getLast?) (hlen : s'.len = l'.length)
    (hcur : CursorIn s'.cursor l') :
    WF s' l' ∧ Pres s s' l l' := by
  have hp : Pres s s' l l' := ⟨hnext, hfreed, hfault, helems, hframe⟩
  refine ⟨?_, hp⟩
  refine
    { nodup := hnodup
      links := fun i b hb => ⟨_, hlinks hb⟩
      head := hhead, tail := htail, len := hlen, cursor := hcur
      fault := hfault.trans h.fault
      bound := ?_, freedNodup := hfreed ▸ h.freedNodup, freedDead := ?_ }
  · intro a n hn
    have hl := hp.live_eq a
    rw [hn] at hl
    cases h2 : hget s.heap a with
    | none => simp [h2] at hl
    | some n' => rw [hnext]; exact h.bound a n' h2
  · intro a ha
    rw [hfreed] at ha
    obtain ⟨hd, hb⟩ := h.freedDead a ha
    have hl := hp.live_eq a
    rw [hd] at hl
    refine ⟨?_, hnext ▸ hb⟩
    cases h2 : hget s'.heap a with
    | none => rfl
    | some n' => simp [h2] at hl

theorem Pres.detached {s s' l l'} (hp : Pres s s' l l') {b : Nat} (hd : Detached s l b)
    (hb : b ∉ l') : Detached s' l' b := by
  obtain ⟨hbl, e, he⟩ := hd
  exact ⟨hb, e, by rw [hp.frame b hbl hb]; exact he⟩

/-- What a freeing operation guarantees besides `WF`: exactly `a` is freed. -/
structure Frees (s s' : DState) (a : Nat) : Prop where
  next : s'.next = s.next
  freed : s'.freed = a :: s.freed
  dead : hget s'.heap a = none
  wasLive : ∃ n, hget s.heap a = some n
  elems : ∀ b, b ≠ a → (hget s'.heap b).map (·.elem) = (hget s.heap b).map (·.elem)

theorem Frees.live_eq {s s' a} (hp : Frees s s' a) (b : Nat) (hb : b ≠ a) :
    (hget s'.heap b).isSome = (hget s.heap b).isSome := by
  have := congrArg Option.isSome (hp.elems b hb)
  simpa using this

/-- What `push_back` of a new element guarantees besides `WF`. -/
structure Allocs (s s' : DState) (e : Nat) : Prop where
  next : s'.next = s.next + 1
  freed : s'.freed = s.freed
  wasDead : hget s.heap s.next = none
  elem : (hget s'.heap s.next).map (·.elem) = some e
  elems : ∀ b, b ≠ s.next → (hget s'.heap b).map (·.elem) = (hget s.heap b).map (·.elem)

theorem Allocs.live_eq {s s' e} (hp : Allocs s s' e) (b : Nat) (hb : b ≠ s.next) :
    (hget s'.heap b).isSome = (hget s.heap b).isSome := by
  have := congrArg Option.isSome (hp.elems b hb)
  simpa using this

/-! ## Relinking on lists -/

theorem links_unlink {h : Heap} {e : Nat → Nat} {l : List Nat} {k a : Nat} (hn : l.Nodup)
    (hk : l[k]? = some a) (hl : Links h e l) :
    Links (relinkPrev (relinkNext h (prevAt l k) l[k+1]?) l[k+1]? (prevAt l k)) e
      (l.eraseIdx k) := by
  intro i b hb
  -- `b` sits at `j ≠ k` in `l`
  obtain ⟨j, hj, hij⟩ : ∃ j, l[j]? = some b ∧ (i < k ∧ j = i ∨ k ≤ i ∧ j = i + 1) := by
    rw [List.getElem?_eraseIdx] at hb
    split at hb
    · exact ⟨i, hb, by omega⟩
    · exact ⟨i + 1, hb, by omega⟩
  have hjlt := lt_of_getElem? hj
  have hp : prevAt l k = some b ↔ j + 1 = k := by
    rw [prevAt_eq_some]
    constructor
    · rintro ⟨j', rfl, hj'⟩; rw [nodup_inj hn hj hj']
    · intro h; exact ⟨j, h.symm, hj⟩
  have hx : l[k+1]? = some b ↔ j = k + 1 := by
    constructor
    · intro h; exact nodup_inj hn hj h
    · intro h; rw [← h]; exact hj
  rw [hget_relink, hget_relink, hl hj]
  simp only [hp, hx, List.getElem?_eraseIdx, prevAt_eraseIdx, Option.map_some]
  rcases hij with ⟨hik, rfl⟩ | ⟨hki, rfl⟩ <;> grind

theorem hget_joined_self {h : Heap} {l : List Nat} {k a : Nat} (hn : l.Nodup) (hk : l[k]? = some a) :
    hget (relinkPrev (relinkNext h (prevAt l k) l[k+1]?) l[k+1]? (prevAt l k)) a = hget h a := by
  rw [hget_relink_ne, hget_relink_ne]
  · rw [Ne, prevAt_eq_some]; rintro ⟨j, rfl, hj⟩; have := nodup_inj hn hj hk; omega
  · intro hh; have := nodup_inj hn hh hk; omega

theorem links_push {h : Heap} {e : Nat → Nat} {l : List Nat} {a : Nat} {n : Node} (hn : l.Nodup)
    (hal : a ∉ l) (ha : hget h a = some n) (he : e a = n.elem) (hl : Links h e l) :
    Links (relinkNext (relinkPrev (relinkNext h (some a) none) (some a) l.getLast?)
      l.getLast? (some a)) e (l ++ [a]) := by
  intro i b hb
  have hlast : l.getLast? ≠ some a := fun hh => hal (List.mem_of_getLast? hh)
  rw [List.getElem?_append] at hb
  split at hb
  · rename_i hi
    have hba : a ≠ b := fun hh => hal (hh ▸ List.mem_of_getElem? hb)
    have ht := getLast?_eq_some_iff_idx hn hb
    rw [hget_relink, hget_relink, hget_relink, hl hb]
    simp only [ht, hba, Option.some.injEq, if_false, Option.map_some, prevAt_append (Nat.le_of_lt hi),
      List.getElem?_append]
    grind
  · rename_i hi
    obtain ⟨rfl, rfl⟩ : i = l.length ∧ a = b := by
      have := lt_of_getElem? hb
      simp only [List.length_singleton] at this
      have hi' : i = l.length := by omega
      subst hi'; simpa using hb
    rw [hget_relink, if_neg hlast, hget_relink, if_pos rfl, hget_relink, if_pos rfl, ha]
    simp [prevAt_append, prevAt_length, he]

/-! ## The cursor leaves a node -/

theorem cursor_mono {c : Option Cursor} {l l' : List Nat} (hsub : ∀ a, a ∈ l → a ∈ l')
    (hc : CursorIn c l) : CursorIn c l' := by
  rcases hc with hc | hc | ⟨a, hc, ha⟩
  · exact Or.inl hc
  · exact Or.inr (Or.inl hc)
  · exact Or.inr (Or.inr ⟨a, hc, hsub a ha⟩)

theorem WF.setCursor {s l} (h : WF s l) (c : Option Cursor) (hc : CursorIn c l) :
    WF { s with cursor := c } l :=
  { h with cursor := hc }

/-- The cursor step: from the node at index `j` to its successor, or to `Done` behind the last node
(`advance_cursor` at a node; also the cursor after `next` has yielded the node at `j`). -/
def curAfter (l : List Nat) (j : Nat) : Option Cursor :=
  match l[j+1]? with
  | some b => some (.node b)
  | none => some .done

/-- The cursor when the node `a = l[k]` is about to leave its position: a cursor at `a` takes the
cursor step, any other stays. `leave` is this at `k = l.idxOf a` (`leave_eq`). -/
def curLeave (l : List Nat) (k : Nat) (a : Nat) (c : Option Cursor) : Option Cursor :=
  if c = some (.node a) then curAfter l k else c

theorem leaveCursor_spec {s l k a} (h : WF s l) (hk : l[k]? = some a) :
    leaveCursor a s = .ok ((), { s with cursor := curLeave l k a s.cursor }) := by
  have ha := h.links' hk
  rcases h.cursor with hc | hc | ⟨c, hc, hcl⟩
  · simp [leaveCursor, touch, isAtCursor, ha, hc, curLeave]; cases s; simp_all
  · simp [leaveCursor, touch, isAtCursor, ha, hc, curLeave]; cases s; simp_all
  · obtain ⟨j, hj⟩ := List.mem_iff_getElem?.mp hcl
    have hcn := h.links' hj
    by_cases hca : c = a
    · subst hca
      cases hnx : l[k+1]? <;>
        simp [leaveCursor, touch, isAtCursor, advanceCursor, getNext, ha, hc, curLeave, curAfter, hnx]
    · simp [leaveCursor, touch, isAtCursor, ha, hc, curLeave, hca, hcn]; cases s; simp_all

theorem curLeave_ok {s l k a} (h : WF s l) (hk : l[k]? = some a) :
    CursorIn (curLeave l k a s.cursor) (l.eraseIdx k) := by
  unfold curLeave curAfter
  split
  · cases hnx : l[k+1]? with
    | none => exact Or.inr (Or.inl rfl)
    | some nx =>
      refine Or.inr (Or.inr ⟨nx, rfl, ?_⟩)
      refine List.mem_iff_getElem?.mpr ⟨k, ?_⟩
      simp [List.getElem?_eraseIdx, hnx]
  · rename_i hne
    rcases h.cursor with hc | hc | ⟨c, hc, hcl⟩
    · exact Or.inl hc
    · exact Or.inr (Or.inl hc)
    · refine Or.inr (Or.inr ⟨c, hc, ?_⟩)
      obtain ⟨j, hj⟩ := List.mem_iff_getElem?.mp hcl
      have hca : c ≠ a := by intro hh; subst hh; exact hne hc
      have hjk : j ≠ k := by intro hh; subst hh; rw [hk] at hj; exact hca (Option.some.inj hj).symm
      refine List.mem_iff_getElem?.mpr ?_
      by_cases hlt : j < k
      · exact ⟨j, by simp [List.getElem?_eraseIdx, hlt, hj]⟩
      · refine ⟨j - 1, ?_⟩
        have : ¬ (j - 1 < k) := by omega
        have e : j - 1 + 1 = j := by omega
        simp [List.getElem?_eraseIdx, this, e, hj]

theorem curLeave_ne_self {l : List Nat} (hn : l.Nodup) {k a : Nat} (hk : l[k]? = some a)
    (c : Option Cursor) : curLeave l k a c ≠ some (.node a) := by
  unfold curLeave curAfter
  split
  · cases hnx : l[k+1]? with
    | none => simp
    | some b =>
      intro hh
      obtain rfl : b = a := by simpa using hh
      have := nodup_inj hn hnx hk; omega
  · rename_i h; exact h

/-! ## `unlink` -/

theorem unlink_run {s l k a} (h : WF s l) (hk : l[k]? = some a) :
    unlink a s = .ok ((), { s with
      heap := relinkNext (relinkPrev (relinkPrev (relinkNext s.heap (prevAt l k) l[k+1]?)
        l[k+1]? (prevAt l k)) (some a) none) (some a) none
      head := if k = 0 then l[k+1]? else s.head
      tail := if l[k+1]? = none then prevAt l k else s.tail
      len := s.len - 1
      cursor := curLeave l k a s.cursor }) := by
  have ha := h.links' hk
  have hlc := leaveCursor_spec h hk
  have hlen : ¬ s.len = 0 := by have := h.len; have := lt_of_getElem? hk; omega
  rcases k with _ | k
  · cases hnx : l[0+1]? with
    | none =>
      simp [unlink, hlc, ha, hnx, decLen, hlen]
    | some nx =>
      have hnxn := h.links' hnx
      simp [unlink, hlc, ha, hnx, hnxn, decLen, hlen]
  · obtain ⟨p, hp⟩ : ∃ p, l[k]? = some p := ⟨l[k]'(by have := lt_of_getElem? hk; omega), by simp⟩
    have hpn := h.links' hp
    have hpa := ne_of_idx_ne h.nodup hp hk (by omega)
    cases hnx : l[k+1+1]? with
    | none =>
      simp [unlink, hlc, ha, hp, hpn, hpa, hnx, hget_relink_ne, decLen, hlen]
    | some nx =>
      have hnxn := h.links' hnx
      simp [unlink, hlc, ha, hp, hpn, hpa, hnx, hnxn, hget_relink_ne, decLen, hlen]

theorem unlink_spec {s l k a} (h : WF s l) (hk : l[k]? = some a) :
    ∃ s', unlink a s = .ok ((), s') ∧ ((WF s' (l.eraseIdx k) ∧ Pres s s' l (l.eraseIdx k)) ∧
      s'.cursor = curLeave l k a s.cursor ∧
      hget s'.heap a = some ⟨none, none, elemAt s a⟩) := by
  have hklt := lt_of_getElem? hk
  have hal := List.mem_of_getElem? hk
  refine ⟨_, unlink_run h hk, wf_pres_intro h rfl rfl rfl ?_ ?_ (h.nodup.eraseIdx _) ?_ ?_ ?_ ?_
    (curLeave_ok h hk), rfl, ?_⟩
  · intro b
    simp
  · intro b hb _
    have ha : some a ≠ some b := fun hh => hb (Option.some.inj hh ▸ hal)
    rw [hget_relink_ne ha, hget_relink_ne ha,
      hget_relink_ne fun hh => hb (List.mem_of_getElem? hh),
      hget_relink_ne fun hh => hb (prevAt_mem hh)]
  · intro i b hb
    have hba : some a ≠ some b := fun hh =>
      not_mem_eraseIdx h.nodup hk (Option.some.inj hh ▸ List.mem_of_getElem? hb)
    rw [hget_relink_ne hba, hget_relink_ne hba]
    exact links_unlink h.nodup hk h.links' hb
  · exact (head?_eraseIdx l k).trans (by rw [h.head]) |>.symm
  · exact (getLast?_eraseIdx hklt).trans (by rw [h.tail]) |>.symm
  · simp only [h.len, List.length_eraseIdx, hklt, if_true]
  · simp [hget_joined_self h.nodup hk, h.links' hk]

/-! ## The empty deque and the read-only operations -/

theorem new_wf : WF new [] := by
  refine ⟨List.nodup_nil, ?_, rfl, rfl, rfl, Or.inl rfl, rfl, ?_, List.nodup_nil, ?_⟩
  · intro i a h; simp at h
  · intro a n h; simp [new, hget] at h
  · intro a h; simp [new] at h

theorem peekFrontPtr_spec {s l} (h : WF s l) : peekFrontPtr s = .ok (l.head?, s) := by
  simp [peekFrontPtr, h.head]

theorem peekFront_spec {s l} (h : WF s l) : peekFront s = .ok (l.head?, s) := by
  cases hl : l[0]? with
  | none => simp [peekFront, h.head_eq, hl, List.head?_eq_getElem?]
  | some a =>
    have ha := h.links' hl
    simp [peekFront, h.head_eq, hl, ha, List.head?_eq_getElem?]

theorem nextNodePtr_spec {s l k a} (h : WF s l) (hk : l[k]? = some a) :
    nextNodePtr a s = .ok (l[k+1]?, s) := by
  simp [nextNodePtr, h.links' hk]

theorem nextNodePtr_detached {s l a} (hd : Detached s l a) :
    nextNodePtr a s = .ok (none, s) := by
  obtain ⟨_, e, he⟩ := hd
  simp [nextNodePtr, he]

theorem contains_mem {s l a} (h : WF s l) (ha : a ∈ l) : contains a s = .ok (true, s) := by
  obtain ⟨k, hk⟩ := List.mem_iff_getElem?.mp ha
  have han := h.links' hk
  rcases Nat.eq_zero_or_pos k with hk0 | hkpos
  · subst hk0
    simp [contains, han, isHead, h.head_eq, hk]
  · have : k - 1 < l.length := by have := lt_of_getElem? hk; omega
    have hp : l[k-1]? = some l[k-1] := by simp [this]
    have hk0 : ¬ k = 0 := by omega
    simp [contains, han, hk0, hp, prevAt]

theorem contains_detached {s l a} (h : WF s l) (hd : Detached s l a) :
    contains a s = .ok (false, s) := by
  obtain ⟨hal, e, he⟩ := hd
  cases hl : l[0]? with
  | none => simp [contains, he, isHead, h.head_eq, hl]
  | some b =>
    have hb := h.links' hl
    have : b ≠ a := by intro hh; subst hh; exact hal (List.mem_of_getElem? hl)
    simp [contains, he, isHead, h.head_eq, hl, hb, this]

theorem contains_spec {s l a} (h : WF s l) (ha : a ∈ l ∨ Detached s l a) :
    contains a s = .ok (decide (a ∈ l), s) := by
  rcases ha with ha | ha
  · simp [contains_mem h ha, ha]
  · simp [contains_detached h ha, ha.1]

/-! ## Freeing: a detached node, `unlink_and_drop` -/

def freeState (s : DState) (a : Nat) : DState :=
  { s with heap := hset s.heap a none, freed := a :: s.freed }

theorem free_detached {s l a} (hd : Detached s l a) :
    free a s = .ok (⟨none, none, elemAt s a⟩, freeState s a) := by
  obtain ⟨_, e, he⟩ := hd
  simp [he, freeState, elemAt]

theorem WF.free {s l a} (h : WF s l) (hd : Detached s l a) : WF (freeState s a) l := by
  obtain ⟨hal, e, he⟩ := hd
  refine
    { nodup := h.nodup, links := ?_, head := h.head, tail := h.tail, len := h.len,
      cursor := h.cursor, fault := h.fault, bound := ?_, freedNodup := ?_, freedDead := ?_ }
  · intro i b hb
    have hba : a ≠ b := by intro hh; subst hh; exact hal (List.mem_of_getElem? hb)
    simpa [freeState, hget_hset, hba] using h.links i b hb
  · intro b n hn
    by_cases hba : a = b
    · subst hba; exact h.bound _ _ he
    · simp [freeState, hget_hset, hba] at hn
      exact h.bound b n hn
  · simp only [freeState, List.nodup_cons]
    refine ⟨?_, h.freedNodup⟩
    intro hf
    have := (h.freedDead a hf).1
    rw [he] at this; cases this
  · intro b hb
    simp only [freeState, List.mem_cons] at hb
    by_cases hba : a = b
    · subst hba
      exact ⟨by simp [freeState, hget_hset], h.bound _ _ he⟩
    · have hb' : b ∈ s.freed := by
        rcases hb with hb | hb
        · exact absurd hb.symm hba
        · exact hb
      have := h.freedDead b hb'
      simpa [freeState, hget_hset, hba] using this

theorem freeState_other {s a b} (hb : b ≠ a) : hget (freeState s a).heap b = hget s.heap b := by
  simp [freeState, hget_hset, Ne.symm hb]

theorem freeState_self {s a} : hget (freeState s a).heap a = none := by
  simp [freeState, hget_hset]

theorem Detached.free_other {s l a b} (hd : Detached s l b) (hb : b ≠ a) :
    Detached (freeState s a) l b := by
  obtain ⟨hbl, e, he⟩ := hd
  exact ⟨hbl, e, by rw [freeState_other hb]; exact he⟩

theorem free_unlinked {s s1 l k a} (h : WF s l) (hk : l[k]? = some a) (hwf : WF s1 (l.eraseIdx k))
    (hpres : Pres s s1 l (l.eraseIdx k)) (hdet : hget s1.heap a = some ⟨none, none, elemAt s a⟩) :
    WF (freeState s1 a) (l.eraseIdx k) ∧ Frees s (freeState s1 a) a ∧ (∀ b, b ∉ l → hget (freeState s1 a).heap b = hget s.heap b) := by
  have hal : a ∈ l := List.mem_of_getElem? hk
  refine ⟨hwf.free ⟨not_mem_eraseIdx h.nodup hk, _, hdet⟩,
    ⟨hpres.next, by simp [freeState, hpres.freed], freeState_self, h.live hal, ?_⟩, ?_⟩
  · intro b hb
    rw [freeState_other hb]; exact hpres.elems b
  · intro b hb
    rw [freeState_other (by intro hh; subst hh; exact hb hal)]
    exact hpres.frame b hb (fun hm => hb (List.mem_of_mem_eraseIdx hm))

theorem unlinkAndDrop_spec {s l k a} (h : WF s l) (hk : l[k]? = some a) :
    ∃ s', unlinkAndDrop a s = .ok ((), s') ∧ (WF s' (l.eraseIdx k) ∧ Frees s s' a ∧
      s'.cursor = curLeave l k a s.cursor ∧
      (∀ b, b ∉ l → hget s'.heap b = hget s.heap b)) := by
  obtain ⟨s1, hrun, ⟨hwf, hpres⟩, hcur, hdet⟩ := unlink_spec h hk
  obtain ⟨hwf', hfr, hframe⟩ := free_unlinked h hk hwf hpres hdet
  exact ⟨_, by simp [unlinkAndDrop, hrun, hdet, freeState], hwf', hfr, hcur, hframe⟩

/-! ## `pop_front` -/

theorem popFrontBox_nil {s} (h : WF s []) : popFrontBox s = .ok (none, s) := by
  simp [popFrontBox, h.head]

theorem popFront_nil {s} (h : WF s []) : popFront s = .ok (none, s) := by
  simp [popFront, popFrontBox_nil h]

theorem popFrontBox_eq {s l a} (h : WF s l) (hk : l[0]? = some a) :
    popFrontBox s = (do unlink a; pure (some a)) s := by
  have ha := h.links' hk
  have hlc := leaveCursor_spec h hk
  have hlen : ¬ s.len = 0 := by have := h.len; have := lt_of_getElem? hk; omega
  rw [bind_apply, unlink_run h hk]
  cases hnx : l[0+1]? with
  | none =>
    simp [popFrontBox, h.head_eq, hk, hlc, ha, hnx, decLen, hlen]
  | some nx =>
    have hnxn := h.links' hnx
    simp [popFrontBox, h.head_eq, hk, hlc, ha, hnx, hnxn, decLen, hlen]

theorem popFront_spec {s l a} (h : WF s l) (hk : l[0]? = some a) :
    ∃ s', popFront s = .ok (some (a, elemAt s a), s') ∧ (WF s' l.tail ∧ Frees s s' a ∧
      s'.cursor = curLeave l 0 a s.cursor ∧
      (∀ b, b ∉ l → hget s'.heap b = hget s.heap b)) := by
  obtain ⟨s1, hrun, ⟨hwf, hpres⟩, hcur, hdet⟩ := unlink_spec h hk
  obtain ⟨hwf', hfr, hframe⟩ := free_unlinked h hk hwf hpres hdet
  refine ⟨_, ?_, by simpa using hwf', hfr, hcur, hframe⟩
  simp [popFront, popFrontBox_eq h hk, hrun, hdet, freeState]

/-! ## `push_back` -/

theorem pushBackBox_run {s l a n} (h : WF s l) (han : hget s.heap a = some n) :
    pushBackBox a s = .ok (a, { s with
      heap := relinkNext (relinkPrev (relinkNext s.heap (some a) none) (some a) s.tail) s.tail (some a)
      head := if s.tail = none then some a else s.head
      tail := some a
      len := s.len + 1 }) := by
  cases ht : s.tail with
  | none => simp [pushBackBox, han, ht, setPrev_ok]
  | some t =>
    obtain ⟨m, hm⟩ := h.live (List.mem_of_getLast? (h.tail ▸ ht))
    simp [pushBackBox, han, ht, hm, setPrev_ok]

theorem pushBackBox_spec {s l a n} (h : WF s l) (hal : a ∉ l) (han : hget s.heap a = some n) :
    ∃ s', pushBackBox a s = .ok (a, s') ∧ ((WF s' (l ++ [a]) ∧ Pres s s' l (l ++ [a])) ∧
      s'.cursor = s.cursor) := by
  have hcur := cursor_mono (l' := l ++ [a]) (fun x hx => List.mem_append_left _ hx) h.cursor
  refine ⟨_, pushBackBox_run h han, wf_pres_intro h rfl rfl rfl ?_ ?_ (nodup_concat h.nodup hal) ?_ ?_ ?_ ?_ hcur, rfl⟩
  · intro b
    simp
  · intro b hb hb'
    have ht : s.tail ≠ some b := fun hh => hb (List.mem_of_getLast? (h.tail ▸ hh))
    have ha : some a ≠ some b := fun hh => hb' (by simp [Option.some.inj hh])
    rw [hget_relink_ne ht, hget_relink_ne ha, hget_relink_ne ha]
  · rw [h.tail]
    exact links_push h.nodup hal han (elemAt_of han) h.links'
  · simp only [h.tail, h.head, List.head?_append]; cases l <;> simp
  · simp
  · simp [h.len]

def allocState (s : DState) (n : Node) : DState :=
  { s with heap := hset s.heap s.next (some n), next := s.next + 1 }

theorem allocState_self (s : DState) (n : Node) : hget (allocState s n).heap s.next = some n := by
  simp [allocState, hget_hset]

theorem allocState_other {s : DState} {n : Node} {b : Nat} (hb : b ≠ s.next) :
    hget (allocState s n).heap b = hget s.heap b := by
  simp [allocState, hget_hset, Ne.symm hb]

theorem alloc_fresh {s l} (h : WF s l) :
    hget s.heap s.next = none ∧ s.next ∉ s.freed ∧ s.next ∉ l := by
  refine ⟨?_, ?_, ?_⟩
  · cases hn : hget s.heap s.next with
    | none => rfl
    | some n => exact absurd (h.bound _ _ hn) (Nat.lt_irrefl _)
  · intro hf; exact absurd (h.freedDead _ hf).2 (Nat.lt_irrefl _)
  · intro hm
    obtain ⟨n, hn⟩ := h.live hm
    exact absurd (h.bound _ _ hn) (Nat.lt_irrefl _)

theorem WF.alloc {s l} (h : WF s l) (n : Node) : WF (allocState s n) l := by
  obtain ⟨hf1, hf2, hf3⟩ := alloc_fresh h
  refine
    { nodup := h.nodup, links := ?_, head := h.head, tail := h.tail, len := h.len,
      cursor := h.cursor, fault := h.fault, bound := ?_, freedNodup := h.freedNodup,
      freedDead := ?_ }
  · intro i b hb
    have hba : s.next ≠ b := by intro hh; subst hh; exact hf3 (List.mem_of_getElem? hb)
    simpa [allocState, hget_hset, hba] using h.links i b hb
  · intro b m hm
    by_cases hba : s.next = b
    · subst hba; simp [allocState]
    · simp [allocState, hget_hset, hba] at hm
      have := h.bound b m hm
      simp [allocState]; omega
  · intro b hb
    have hb' : b ∈ s.freed := hb
    have hba : s.next ≠ b := by intro hh; subst hh; exact hf2 hb'
    have := h.freedDead b hb'
    simp [allocState, hget_hset, hba, this.1]; omega

theorem pushBack_spec {s l} (h : WF s l) (e : Nat) :
    ∃ s', pushBack e s = .ok (s.next, s') ∧ (WF s' (l ++ [s.next]) ∧ Allocs s s' e ∧
      s'.cursor = s.cursor ∧
      (∀ b, b ∉ l → b ≠ s.next → hget s'.heap b = hget s.heap b)) := by
  obtain ⟨hf1, hf2, hf3⟩ := alloc_fresh h
  have h0 := h.alloc ⟨none, none, e⟩
  have hlive := allocState_self s ⟨none, none, e⟩
  obtain ⟨s', hrun, ⟨hwf, hpres⟩, hcur⟩ := pushBackBox_spec h0 hf3 hlive
  have hother : ∀ b, b ≠ s.next → hget (allocState s ⟨none, none, e⟩).heap b = hget s.heap b :=
    fun b => allocState_other
  refine ⟨s', ?_, hwf, ?_, ?_, ?_⟩
  · have : pushBack e s = pushBackBox s.next (allocState s ⟨none, none, e⟩) := by
      simp [pushBack, allocState]
    rw [this]; exact hrun
  · refine ⟨by simp [hpres.next, allocState], by simp [hpres.freed, allocState], hf1, ?_, ?_⟩
    · rw [hpres.elems, hlive]; rfl
    · intro b hb; rw [hpres.elems, hother b hb]
  · simpa [allocState] using hcur
  · intro b hb hbn
    rw [hpres.frame b hb (by simp [hb, hbn]), hother b hbn]

/-! ## `move_to_back` -/

theorem moveToBack_last {s l k a} (h : WF s l) (hk : l[k]? = some a) (hlast : k + 1 = l.length) :
    moveToBack a s = .ok ((), s) := by
  have ha := h.links' hk
  have hk' : l.length - 1 = k := by omega
  simp [moveToBack, isTail, ha, h.tail_eq, hk', hk]

theorem moveToBack_run {s l k a nx t} (h : WF s l) (hk : l[k]? = some a) (hnx : l[k+1]? = some nx)
    (ht : l.getLast? = some t) :
    moveToBack a s = .ok ((), { s with
      heap := relinkNext (relinkPrev (relinkPrev (relinkNext (relinkNext s.heap (prevAt l k) (some nx))
        (some a) none) (some nx) (prevAt l k)) (some a) (some t)) (some t) (some a)
      head := if k = 0 then some nx else s.head
      tail := some a
      cursor := curLeave l k a s.cursor }) := by
  have ha := h.links' hk
  have hlc := leaveCursor_spec h hk
  obtain ⟨_, hnxn⟩ := h.live (List.mem_of_getElem? hnx)
  obtain ⟨_, htn⟩ := h.live (List.mem_of_getLast? ht)
  have hta : t ≠ a := by
    intro hh; subst hh
    have := (getLast?_eq_some_iff_idx h.nodup hk).mp ht; have := lt_of_getElem? hnx; omega
  rcases k with _ | k
  · simp [moveToBack, isTail, hlc, ha, hnx, hnxn, h.tail, ht, htn, hta]
  · obtain ⟨p, hp⟩ : ∃ p, l[k]? = some p := ⟨l[k]'(by have := lt_of_getElem? hk; omega), by simp⟩
    have hpn := h.links' hp
    have hpa := ne_of_idx_ne h.nodup hp hk (by omega)
    simp [moveToBack, isTail, hlc, ha, hnx, hnxn, hp, hpn, hpa, h.tail, ht, htn, hta, hget_relink_ne]

theorem moveToBack_inner {s l k a} (h : WF s l) (hk : l[k]? = some a) (hin : k + 1 < l.length) :
    ∃ s', moveToBack a s = .ok ((), s') ∧
      ((WF s' (l.eraseIdx k ++ [a]) ∧ Pres s s' l (l.eraseIdx k ++ [a])) ∧
      s'.cursor = curLeave l k a s.cursor) := by
  have hklt := lt_of_getElem? hk
  obtain ⟨nx, hnx⟩ : ∃ nx, l[k+1]? = some nx := ⟨l[k+1], by simp [hin]⟩
  obtain ⟨t, ht⟩ : ∃ t, l.getLast? = some t := by
    cases ht : l.getLast? with
    | some t => exact ⟨t, rfl⟩
    | none => rw [List.getLast?_eq_none_iff] at ht; subst ht; simp at hklt
  have ht1 : (l.eraseIdx k).getLast? = some t :=
    (getLast?_eraseIdx hklt).trans (by rw [hnx, if_neg (Option.some_ne_none nx), ht])
  have hal := not_mem_eraseIdx h.nodup hk
  refine ⟨_, moveToBack_run h hk hnx ht, wf_pres_intro h rfl rfl rfl ?_ ?_
    (nodup_concat (h.nodup.eraseIdx k) hal) ?_ ?_ ?_ ?_ (cursor_mono (fun x hx => List.mem_append_left _ hx) (curLeave_ok h hk)), rfl⟩
  · intro b
    simp
  · intro b hb _
    have hne : ∀ c ∈ l, some c ≠ some b := fun c hc hh => hb (Option.some.inj hh ▸ hc)
    have ha := hne a (List.mem_of_getElem? hk)
    rw [hget_relink_ne (hne t (List.mem_of_getLast? ht)), hget_relink_ne ha,
      hget_relink_ne (hne nx (List.mem_of_getElem? hnx)), hget_relink_ne ha,
      hget_relink_ne fun hh => hb (prevAt_mem hh)]
  · -- on the nodes of the list the heap is the one `unlink` followed by `push_back` would leave
    intro i b hb
    have := links_push (h.nodup.eraseIdx k) hal
      ((hget_joined_self h.nodup hk).trans (h.links' hk)) rfl
      (links_unlink h.nodup hk h.links') hb
    rw [ht1, hnx] at this
    rw [← this]
    exact hget_relink_congr (some t) (hget_relink_congr (some a) (hget_relinkPrev_relinkNext ..))
  · show (if k = 0 then some nx else s.head) = _
    rw [List.head?_append, head?_eraseIdx, hnx, h.head]
    split
    · rfl
    · cases l with
      | nil => simp at hklt
      | cons x l => rfl
  · simp
  · show s.len = _
    rw [h.len, List.length_append, List.length_eraseIdx, if_pos hklt, List.length_singleton]; omega

theorem moveFrontToBack_nil {s} (h : WF s []) : moveFrontToBack s = .ok ((), s) := by
  simp [moveFrontToBack, h.head]

theorem moveFrontToBack_eq {s l a} (h : WF s l) (hk : l[0]? = some a) :
    moveFrontToBack s = moveToBack a s := by
  simp [moveFrontToBack, h.head_eq, hk]

/-! ## Iterator -/

theorem iterNext_at {s l c j} (h : WF s l) (hc : s.cursor = some (.node c)) (hj : l[j]? = some c) :
    iterNext s = .ok (some (c, elemAt s c), { s with cursor := curAfter l j }) := by
  have hcn := h.links' hj
  cases hnx : l[j+1]? <;>
    simp [iterNext, hc, getElem, advanceCursor, getNext, hcn, hnx, curAfter]

theorem iterNext_done {s} (hc : s.cursor = some .done) :
    iterNext s = .ok (none, { s with cursor := none }) := by
  simp [iterNext, hc, advanceCursor]

theorem iterNext_start_nil {s} (h : WF s []) (hc : s.cursor = none) :
    iterNext s = .ok (none, s) := by
  have hh : s.head = none := by simpa using h.head
  simp [iterNext, hc, hh, advanceCursor]
  cases s; simp_all

theorem iterNext_start {s l a} (h : WF s l) (hc : s.cursor = none) (hk : l[0]? = some a) :
    iterNext s = .ok (some (a, elemAt s a), { s with cursor := curAfter l 0 }) := by
  have han := h.links' hk
  cases hnx : l[0+1]? <;>
    simp [iterNext, hc, h.head_eq, hk, getElem, advanceCursor, getNext, han, hnx, curAfter]

theorem curAfter_ok (l : List Nat) (j : Nat) : CursorIn (curAfter l j) l := by
  unfold curAfter
  cases hnx : l[j+1]? with
  | none => exact Or.inr (Or.inl rfl)
  | some b => exact Or.inr (Or.inr ⟨b, rfl, List.mem_of_getElem? hnx⟩)

def iterRun : Nat → M (List (Option (Nat × Nat)))
  | 0 => pure []
  | n + 1 => do
    let x ← iterNext
    let xs ← iterRun n
    pure (x :: xs)

theorem iterRun_from {s l} (h : WF s l) :
    ∀ d j, d + j = l.length →
      s.cursor = (match l[j]? with | some c => some (.node c) | none => some .done) →
      iterRun (d + 1) s =
        .ok ((l.drop j).map (fun a => some (a, elemAt s a)) ++ [none], { s with cursor := none }) := by
  intro d
  induction d generalizing s with
  | zero =>
    intro j hd hc
    have hlj : l.length ≤ j := by omega
    rw [List.getElem?_eq_none_iff.mpr hlj] at hc
    simp [iterRun, iterNext_done hc, List.drop_eq_nil_of_le hlj]
  | succ d ih =>
    intro j hd hc
    obtain ⟨c, hj⟩ : ∃ c, l[j]? = some c := ⟨l[j]'(by omega), by simp⟩
    rw [hj] at hc
    have hdrop : l.drop j = c :: l.drop (j + 1) := by
      rw [List.drop_eq_getElem_cons (lt_of_getElem? hj)]
      congr 1
      exact (List.getElem?_eq_some_iff.mp hj).2
    have := ih (h.setCursor (curAfter l j) (curAfter_ok l j)) (j + 1) (by omega) rfl
    have hel : ∀ x, elemAt { s with cursor := curAfter l j } x = elemAt s x := fun x => rfl
    simp only [hel] at this
    rw [iterRun]
    simp [iterNext_at h hc hj, this, hdrop]

theorem iterRun_all {s l} (h : WF s l) (hc : s.cursor = none) :
    iterRun (l.length + 1) s =
      .ok (l.map (fun a => some (a, elemAt s a)) ++ [none], s) := by
  have hs : ({ s with cursor := none } : DState) = s := by cases s; simp_all
  cases l with
  | nil => simp [iterRun, iterNext_start_nil h hc]
  | cons a t =>
    have := iterRun_from (h.setCursor (curAfter (a :: t) 0) (curAfter_ok _ 0)) t.length 1 rfl rfl
    have hel : ∀ x, elemAt { s with cursor := curAfter (a :: t) 0 } x = elemAt s x := fun x => rfl
    simp only [hel] at this
    rw [List.length_cons, iterRun]
    simp [iterNext_start h hc (List.getElem?_cons_zero), this, hs]

/-! ## `Drop` -/

theorem dropLoop_spec : ∀ (l : List Nat) (s : DState) (fuel : Nat), WF s l → l.length < fuel →
    ∃ s', dropLoop fuel s = .ok ((), s') ∧ WF s' [] ∧
      s'.freed = l.reverse ++ s.freed ∧ s'.next = s.next ∧
      (∀ a, a ∈ l → hget s'.heap a = none) ∧
      (∀ b, b ∉ l → hget s'.heap b = hget s.heap b) := by
  intro l
  induction l with
  | nil =>
    intro s fuel h hf
    obtain ⟨f, rfl⟩ : ∃ f, fuel = f + 1 := ⟨fuel - 1, by simp at hf; omega⟩
    refine ⟨s, ?_, h, by simp, rfl, by simp, fun _ _ => rfl⟩
    simp [dropLoop, popFront_nil h]
  | cons a t ih =>
    intro s fuel h hf
    obtain ⟨f, rfl⟩ : ∃ f, fuel = f + 1 := ⟨fuel - 1, by simp at hf; omega⟩
    have hk : (a :: t)[0]? = some a := by simp
    obtain ⟨s1, hrun, hwf, hfr, _, hframe⟩ := popFront_spec h hk
    have hwf' : WF s1 t := by simpa using hwf
    obtain ⟨s2, hrun2, hwf2, hfreed2, hnext2, hdead2, hframe2⟩ :=
      ih s1 f hwf' (by simp at hf; omega)
    have hat : a ∉ t := (List.nodup_cons.mp h.nodup).1
    refine ⟨s2, ?_, hwf2, ?_, by rw [hnext2, hfr.next], ?_, ?_⟩
    · simp [dropLoop, hrun, hrun2]
    · rw [hfreed2, hfr.freed]; simp
    · intro b hb
      rcases List.mem_cons.mp hb with hb | hb
      · subst hb; rw [hframe2 b hat]; exact hfr.dead
      · exact hdead2 b hb
    · intro b hb
      have hbt : b ∉ t := fun hm => hb (List.mem_cons_of_mem _ hm)
      rw [hframe2 b hbt, hframe b hb]

theorem dropAll_spec {s l} (h : WF s l) :
    ∃ s', dropAll s = .ok ((), s') ∧ WF s' [] ∧
      s'.freed = l.reverse ++ s.freed ∧ s'.next = s.next ∧
      (∀ a, a ∈ l → hget s'.heap a = none) ∧
      (∀ b, b ∉ l → hget s'.heap b = hget s.heap b) := by
  obtain ⟨s', hrun, rest⟩ := dropLoop_spec l s (s.len + 1) h (by rw [h.len]; omega)
  exact ⟨s', by simp [dropAll, hrun], rest⟩

/-! ## The operations on a member, stated with `erase`, `succOf`, `leave` -/

def succOf (l : List Nat) (a : Nat) : Option Nat := l[l.idxOf a + 1]?

/-- List-level cursor update when `a` leaves its position in `l` (it is unlinked, popped or
moved to the back): a cursor at `a` steps to the successor of `a`, or to `Done`. -/
def leave (l : List Nat) (a : Nat) (c : Option Cursor) : Option Cursor :=
  if c = some (.node a) then
    (match succOf l a with
     | some b => some (.node b)
     | none => some .done)
  else c

theorem leave_eq (l : List Nat) (a : Nat) (c : Option Cursor) :
    leave l a c = curLeave l (l.idxOf a) a c := rfl

theorem leave_ne {l : List Nat} (hn : l.Nodup) {a : Nat} (ha : a ∈ l) (c : Option Cursor) :
    leave l a c ≠ some (.node a) :=
  curLeave_ne_self hn (getElem?_idxOf ha) c

theorem nextNodePtr_ok {s l a} (h : WF s l) (ha : a ∈ l) :
    nextNodePtr a s = .ok (succOf l a, s) :=
  nextNodePtr_spec h (getElem?_idxOf ha)

theorem unlink_ok {s l a} (h : WF s l) (ha : a ∈ l) :
    ∃ s', unlink a s = .ok ((), s') ∧ WF s' (l.erase a) ∧ Pres s s' l (l.erase a) ∧
      s'.cursor = leave l a s.cursor ∧ Detached s' (l.erase a) a := by
  have hk := getElem?_idxOf ha
  obtain ⟨s', hrun, ⟨hwf, hpres⟩, hcur, hdet⟩ := unlink_spec h hk
  rw [← erase_eq_eraseIdx_idxOf] at hwf hpres
  refine ⟨s', hrun, hwf, hpres, hcur, ?_, _, hdet⟩
  rw [erase_eq_eraseIdx_idxOf]; exact not_mem_eraseIdx h.nodup hk

theorem unlinkAndDrop_ok {s l a} (h : WF s l) (ha : a ∈ l) :
    ∃ s', unlinkAndDrop a s = .ok ((), s') ∧ WF s' (l.erase a) ∧ Frees s s' a ∧
      s'.cursor = leave l a s.cursor ∧ (∀ b, b ∉ l → hget s'.heap b = hget s.heap b) := by
  have hk := getElem?_idxOf ha
  obtain ⟨s', hrun, hwf, hfr, hcur, hframe⟩ := unlinkAndDrop_spec h hk
  rw [← erase_eq_eraseIdx_idxOf] at hwf
  exact ⟨s', hrun, hwf, hfr, hcur, hframe⟩

theorem popFront_ok {s a t} (h : WF s (a :: t)) :
    ∃ s', popFront s = .ok (some (a, elemAt s a), s') ∧ WF s' t ∧ Frees s s' a ∧
      s'.cursor = leave (a :: t) a s.cursor ∧
      (∀ b, b ∉ a :: t → hget s'.heap b = hget s.heap b) := by
  have hk : (a :: t)[0]? = some a := by simp
  obtain ⟨s', hrun, hwf, hfr, hcur, hframe⟩ := popFront_spec h hk
  have hidx : (a :: t).idxOf a = 0 := by simp
  refine ⟨s', hrun, by simpa using hwf, hfr, ?_, hframe⟩
  rw [leave_eq, hidx]; exact hcur

theorem moveToBack_ok {s l a} (h : WF s l) (ha : a ∈ l) :
    ∃ s', moveToBack a s = .ok ((), s') ∧ WF s' (l.erase a ++ [a]) ∧
      Pres s s' l (l.erase a ++ [a]) ∧
      s'.cursor = if l.getLast? = some a then s.cursor else leave l a s.cursor := by
  have hk := getElem?_idxOf ha
  have hlt := lt_of_getElem? hk
  by_cases hlast : l.idxOf a + 1 = l.length
  · have hl := (getLast?_eq_some_iff_idx h.nodup hk).mpr hlast
    have hlist : l.erase a ++ [a] = l := by rw [erase_eq_eraseIdx_idxOf]; exact eraseIdx_last_append hk hlast
    refine ⟨s, moveToBack_last h hk hlast, by rw [hlist]; exact h, ?_, by simp [hl]⟩
    exact ⟨rfl, rfl, rfl, fun _ => rfl, fun _ _ _ => rfl⟩
  · have hl : ¬ l.getLast? = some a := fun hh => hlast ((getLast?_eq_some_iff_idx h.nodup hk).mp hh)
    obtain ⟨s', hrun, ⟨hwf, hpres⟩, hcur⟩ := moveToBack_inner h hk (by omega)
    rw [← erase_eq_eraseIdx_idxOf] at hwf hpres
    exact ⟨s', hrun, hwf, hpres, by simp [hl, leave_eq, hcur]⟩

/-! ## Sequences of commands: the heap model against an interpreter on lists -/

/-- What the owner of a deque (a cache) can do with it. Node arguments are addresses. -/
inductive Cmd where
  | push (e : Nat)            -- `push_back(Box::new(DeqNode::new(e)))`
  | popFront                  -- `pop_front()` and drop of the box
  | peekFront
  | contains (a : Nat)
  | moveToBack (a : Nat)
  | moveFrontToBack
  | unlink (a : Nat)          -- the node stays live and is owned by the caller
  | relinkBack (a : Nat)      -- `push_back` of a box obtained from `unlink`
  | unlinkAndDrop (a : Nat)
  | dropDetached (a : Nat)    -- caller-side drop of a node obtained from `unlink`
  | nextOf (a : Nat)          -- `DeqNode::next_node_ptr`
  | iterNext
  deriving Repr, DecidableEq

inductive Out where
  | unit
  | bool (b : Bool)
  | addr (a : Option Nat)
  | node (n : Option (Nat × Nat))
  deriving Repr, DecidableEq

def mstep : Cmd → M Out
  | .push e => do pure (.addr (some (← pushBack e)))
  | .popFront => do pure (.node (← popFront))
  | .peekFront => do pure (.addr (← peekFront))
  | .contains a => do pure (.bool (← contains a))
  | .moveToBack a => do moveToBack a; pure .unit
  | .moveFrontToBack => do moveFrontToBack; pure .unit
  | .unlink a => do unlink a; pure .unit
  | .relinkBack a => do pure (.addr (some (← pushBackBox a)))
  | .unlinkAndDrop a => do unlinkAndDrop a; pure .unit
  | .dropDetached a => do let _ ← free a; pure .unit
  | .nextOf a => do pure (.addr (← nextNodePtr a))
  | .iterNext => do pure (.node (← iterNext))

def mrun : List Cmd → M (List Out)
  | [] => pure []
  | c :: cs => do
    let o ← mstep c
    let os ← mrun cs
    pure (o :: os)

/-- State of the list interpreter (`rstep` below is the reference the heap model is compared with). -/
structure RState where
  l : List Nat := []                 -- the deque, front to back
  det : List Nat := []               -- unlinked nodes that are still live
  cur : Option Cursor := none
  n : Nat := 0                       -- next fresh address
  freed : List Nat := []             -- addresses freed so far, newest first
  elems : List (Nat × Nat) := []     -- element of every address ever allocated
  deriving Repr, DecidableEq

def RState.elemOf (r : RState) (a : Nat) : Nat := (AL.get? r.elems a).getD 0

def rmoveToBack (r : RState) (a : Nat) : RState :=
  if r.l.getLast? = some a then r
  else { r with l := r.l.erase a ++ [a], cur := leave r.l a r.cur }

/-- `Iterator::next` on lists: `None → Node(head) → … → Done → None`. -/
def riterNext (r : RState) : RState × Option (Nat × Nat) :=
  match (if r.cur = none then r.l.head?.map Cursor.node else r.cur) with
  | some (.node x) =>
    ({ r with cur := match succOf r.l x with
                     | some b => some (.node b)
                     | none => some .done },
      some (x, r.elemOf x))
  | _ => ({ r with cur := none }, none)

def rstep (r : RState) : Cmd → RState × Out
  | .push e =>
    ({ r with l := r.l ++ [r.n], n := r.n + 1, elems := (r.n, e) :: r.elems }, .addr (some r.n))
  | .popFront =>
    match r.l with
    | [] => (r, .node none)
    | a :: t =>
      ({ r with l := t, cur := leave (a :: t) a r.cur, freed := a :: r.freed },
        .node (some (a, r.elemOf a)))
  | .peekFront => (r, .addr r.l.head?)
  | .contains a => (r, .bool (decide (a ∈ r.l)))
  | .moveToBack a => (rmoveToBack r a, .unit)
  | .moveFrontToBack =>
    match r.l.head? with
    | none => (r, .unit)
    | some a => (rmoveToBack r a, .unit)
  | .unlink a =>
    ({ r with l := r.l.erase a, det := a :: r.det, cur := leave r.l a r.cur }, .unit)
  | .relinkBack a => ({ r with l := r.l ++ [a], det := r.det.erase a }, .addr (some a))
  | .unlinkAndDrop a =>
    ({ r with l := r.l.erase a, cur := leave r.l a r.cur, freed := a :: r.freed }, .unit)
  | .dropDetached a => ({ r with det := r.det.erase a, freed := a :: r.freed }, .unit)
  | .nextOf a => (r, .addr (succOf r.l a))
  | .iterNext => ((riterNext r).1, .node (riterNext r).2)

def rrun (r : RState) : List Cmd → RState × List Out
  | [] => (r, [])
  | c :: cs =>
    let (r1, o) := rstep r c
    let (r2, os) := rrun r1 cs
    (r2, o :: os)

/-- The preconditions the Rust callers guarantee. -/
def Legal (r : RState) : Cmd → Prop
  | .contains a => a ∈ r.l ∨ a ∈ r.det
  | .moveToBack a => a ∈ r.l
  | .unlink a => a ∈ r.l
  | .unlinkAndDrop a => a ∈ r.l
  | .nextOf a => a ∈ r.l
  | .relinkBack a => a ∈ r.det
  | .dropDetached a => a ∈ r.det
  | _ => True

instance Legal.dec (r : RState) : (c : Cmd) → Decidable (Legal r c)
  | .contains a => inferInstanceAs (Decidable (a ∈ r.l ∨ a ∈ r.det))
  | .moveToBack a => inferInstanceAs (Decidable (a ∈ r.l))
  | .unlink a => inferInstanceAs (Decidable (a ∈ r.l))
  | .unlinkAndDrop a => inferInstanceAs (Decidable (a ∈ r.l))
  | .nextOf a => inferInstanceAs (Decidable (a ∈ r.l))
  | .relinkBack a => inferInstanceAs (Decidable (a ∈ r.det))
  | .dropDetached a => inferInstanceAs (Decidable (a ∈ r.det))
  | .push _ => isTrue trivial
  | .popFront => isTrue trivial
  | .peekFront => isTrue trivial
  | .moveFrontToBack => isTrue trivial
  | .iterNext => isTrue trivial

def LegalSeq : RState → List Cmd → Prop
  | _, [] => True
  | r, c :: cs => Legal r c ∧ LegalSeq (rstep r c).1 cs

def LegalSeq.dec : (r : RState) → (cs : List Cmd) → Decidable (LegalSeq r cs)
  | _, [] => isTrue trivial
  | r, c :: cs =>
    have := LegalSeq.dec (rstep r c).1 cs
    inferInstanceAs (Decidable (Legal r c ∧ LegalSeq (rstep r c).1 cs))

instance (r : RState) (cs : List Cmd) : Decidable (LegalSeq r cs) := LegalSeq.dec r cs

/-- The simulation invariant between heap state and interpreter state. Beyond `WF`: detached nodes
(`det`) must stay live and unlinked until they are relinked or dropped, and `elems` remembers the
element of every address ever allocated, since outputs name elements of nodes that are freed by
the same call. -/
structure Sim (s : DState) (r : RState) : Prop where
  wf : WF s r.l
  cur : s.cursor = r.cur
  next : s.next = r.n
  freed : s.freed = r.freed
  det : ∀ a, a ∈ r.det → Detached s r.l a
  detNodup : r.det.Nodup
  elems : ∀ a n, hget s.heap a = some n → AL.get? r.elems a = some n.elem

theorem Sim.elemOf {s r} (h : Sim s r) {a n} (ha : hget s.heap a = some n) :
    r.elemOf a = elemAt s a := by
  simp [RState.elemOf, h.elems a n ha, elemAt_of ha]

theorem sim_new : Sim new {} :=
  ⟨new_wf, rfl, rfl, rfl, by intro a h; simp at h, List.nodup_nil,
    by intro a n h; simp [new, hget] at h⟩

theorem elems_ok_of_map {h h' : Heap} {a : Nat} {el : List (Nat × Nat)}
    (hm : (hget h' a).map (·.elem) = (hget h a).map (·.elem))
    (hok : ∀ n, hget h a = some n → AL.get? el a = some n.elem) :
    ∀ n, hget h' a = some n → AL.get? el a = some n.elem := by
  intro n hn
  rw [hn] at hm
  cases h2 : hget h a with
  | none => simp [h2] at hm
  | some m =>
    simp [h2] at hm
    rw [hm]; exact hok m h2

theorem Pres.elems_ok {s s' l l'} (hp : Pres s s' l l') {el : List (Nat × Nat)}
    (h : ∀ a n, hget s.heap a = some n → AL.get? el a = some n.elem) :
    ∀ a n, hget s'.heap a = some n → AL.get? el a = some n.elem :=
  fun a => elems_ok_of_map (hp.elems a) (h a)

theorem Frees.elems_ok {s s' x} (hp : Frees s s' x) {el : List (Nat × Nat)}
    (h : ∀ a n, hget s.heap a = some n → AL.get? el a = some n.elem) :
    ∀ a n, hget s'.heap a = some n → AL.get? el a = some n.elem := by
  intro a n hn
  by_cases hax : a = x
  · subst hax; rw [hp.dead] at hn; cases hn
  · exact elems_ok_of_map (hp.elems a hax) (h a) n hn

theorem Sim.pres {s s' : DState} {r : RState} {l' det' : List Nat} (h : Sim s r)
    (hwf : WF s' l') (hp : Pres s s' r.l l') (hnd : det'.Nodup)
    (hdet : ∀ b, b ∈ det' → Detached s' l' b ∨ (b ∈ r.det ∧ b ∉ l')) :
    Sim s' { r with l := l', det := det', cur := s'.cursor } :=
  ⟨hwf, rfl, hp.next.trans h.next, hp.freed.trans h.freed,
    fun b hb => (hdet b hb).elim id fun hb => hp.detached (h.det b hb.1) hb.2,
    hnd, hp.elems_ok h.elems⟩

/-- A step that frees a node OF THE LIST keeps the simulation (`hframe` can hold only then; the
detached set is untouched). `dropDetached` frees a detached node and is done directly. -/
theorem Sim.frees {s s' : DState} {r : RState} {l' : List Nat} {a : Nat} (h : Sim s r)
    (hwf : WF s' l') (hf : Frees s s' a) (hsub : ∀ b, b ∈ l' → b ∈ r.l)
    (hframe : ∀ b, b ∉ r.l → hget s'.heap b = hget s.heap b) :
    Sim s' { r with l := l', cur := s'.cursor, freed := a :: r.freed } :=
  ⟨hwf, rfl, hf.next.trans h.next, by rw [hf.freed, h.freed],
    fun b hb => by
      obtain ⟨hbl, eb, heb⟩ := h.det b hb
      exact ⟨fun hm => hbl (hsub b hm), eb, by rw [hframe b hbl]; exact heb⟩,
    h.detNodup, hf.elems_ok h.elems⟩

theorem sim_moveToBack {s r a} (h : Sim s r) (ha : a ∈ r.l) :
    ∃ s', moveToBack a s = .ok ((), s') ∧ Sim s' (rmoveToBack r a) := by
  obtain ⟨s', hrun, hwf, hpres, hcur⟩ := moveToBack_ok h.wf ha
  refine ⟨s', hrun, ?_⟩
  have hsim := h.pres hwf hpres h.detNodup fun b hb => .inr ⟨hb, fun hm => by
    rcases List.mem_append.mp hm with hm | hm
    · exact (h.det b hb).1 (List.mem_of_mem_erase hm)
    · exact (h.det b hb).1 (List.mem_singleton.mp hm ▸ ha)⟩
  unfold rmoveToBack
  by_cases hl : r.l.getLast? = some a
  · have hlist : r.l.erase a ++ [a] = r.l := by
      rw [erase_eq_eraseIdx_idxOf]
      exact eraseIdx_last_append (getElem?_idxOf ha)
        ((getLast?_eq_some_iff_idx h.wf.nodup (getElem?_idxOf ha)).mp hl)
    rw [if_pos hl] at hcur ⊢
    rwa [hlist, hcur, h.cur] at hsim
  · rw [if_neg hl] at hcur ⊢
    rwa [hcur, h.cur] at hsim

theorem Sim.setCursor {s r} (h : Sim s r) (c : Option Cursor) (hc : CursorIn c r.l) :
    Sim { s with cursor := c } { r with cur := c } :=
  ⟨h.wf.setCursor c hc, rfl, h.next, h.freed, h.det, h.detNodup, h.elems⟩

theorem sim_iterNext {s r} (h : Sim s r) :
    ∃ s', iterNext s = .ok ((riterNext r).2, s') ∧ Sim s' (riterNext r).1 := by
  have hwf := h.wf
  have hcur := h.cur
  rcases hwf.cursor with hc | hc | ⟨c, hc, hcl⟩
  · have hrc : r.cur = none := by rw [← hcur]; exact hc
    cases hl0 : r.l with
    | nil =>
      refine ⟨s, ?_, ?_⟩
      · simpa [riterNext, hrc, hl0] using iterNext_start_nil (hl0 ▸ hwf) hc
      · have hs : Sim s { r with cur := none } := hrc ▸ h
        simpa [riterNext, hrc, hl0] using hs
    | cons a t =>
      have hk : r.l[0]? = some a := by simp [hl0]
      have hstep := iterNext_start hwf hc hk
      have hidx := idxOf_eq hwf.nodup hk
      obtain ⟨na, hna⟩ := hwf.live (List.mem_of_getElem? hk)
      have hel := h.elemOf hna
      have hs := h.setCursor (curAfter r.l 0) (curAfter_ok _ _)
      rw [hl0] at hidx hs
      have h2 : (riterNext r).2 = some (a, elemAt s a) := by
        simp [riterNext, hrc, hl0, hel]
      rw [h2]
      refine ⟨_, hstep, ?_⟩
      simpa [riterNext, hrc, hl0, succOf, hidx, curAfter] using hs
  · have hrc : r.cur = some .done := by rw [← hcur]; exact hc
    have h2 : (riterNext r).2 = none := by simp [riterNext, hrc]
    rw [h2]
    refine ⟨_, iterNext_done hc, ?_⟩
    simpa [riterNext, hrc] using h.setCursor none (Or.inl rfl)
  · have hrc : r.cur = some (.node c) := by rw [← hcur]; exact hc
    obtain ⟨j, hj⟩ := List.mem_iff_getElem?.mp hcl
    have hstep := iterNext_at hwf hc hj
    have hidx := idxOf_eq hwf.nodup hj
    obtain ⟨nc, hnc⟩ := hwf.live hcl
    have hel := h.elemOf hnc
    have hs := h.setCursor (curAfter r.l j) (curAfter_ok _ _)
    have h2 : (riterNext r).2 = some (c, elemAt s c) := by
      simp [riterNext, hrc, hel]
    rw [h2]
    refine ⟨_, hstep, ?_⟩
    simpa [riterNext, hrc, succOf, hidx, curAfter] using hs

theorem sim_step {s r c} (h : Sim s r) (hl : Legal r c) :
    ∃ s', mstep c s = .ok ((rstep r c).2, s') ∧ Sim s' (rstep r c).1 := by
  cases c with
  | push e =>
    -- the one allocating command: `Sim` is rebuilt from `Allocs` in place
    obtain ⟨s', hrun, hwf, hal, hcur, hframe⟩ := pushBack_spec h.wf e
    refine ⟨s', by simp [mstep, hrun, rstep, h.next], ?_⟩
    simp only [rstep]
    rw [← h.next]
    refine ⟨hwf, hcur.trans h.cur, hal.next, hal.freed.trans h.freed, ?_, h.detNodup, ?_⟩
    · intro b hb
      obtain ⟨hbl, eb, heb⟩ := h.det b hb
      have hbn : b ≠ s.next := by
        have := h.wf.bound b _ heb; omega
      refine ⟨by simp [hbl, hbn], eb, ?_⟩
      rw [hframe b hbl hbn]; exact heb
    · intro a n hn
      by_cases han : a = s.next
      · subst han
        have := hal.elem
        rw [hn] at this
        simp at this
        simp [AL.get?, this]
      · have := hal.elems a han
        rw [hn] at this
        have hne : ¬ s.next = a := fun hh => han hh.symm
        cases h2 : hget s.heap a with
        | none => simp [h2] at this
        | some m =>
          simp [h2] at this
          simp [AL.get?, hne, this, h.elems a m h2]
  | popFront =>
    cases hlist : r.l with
    | nil =>
      have hwf := h.wf
      rw [hlist] at hwf
      refine ⟨s, by simp [mstep, popFront_nil hwf, rstep, hlist], ?_⟩
      simp only [rstep, hlist]
      exact h
    | cons a t =>
      have hwf := h.wf
      rw [hlist] at hwf
      obtain ⟨s', hrun, hwf', hfr, hcur, hframe⟩ := popFront_ok hwf
      obtain ⟨na, hna⟩ := hfr.wasLive
      have hel := h.elemOf hna
      refine ⟨s', by simp [mstep, hrun, rstep, hlist, hel], ?_⟩
      simp only [rstep, hlist]
      have := h.frees hwf' hfr (fun b hb => hlist ▸ List.mem_cons_of_mem _ hb) (hlist ▸ hframe)
      rwa [hcur, h.cur] at this
  | peekFront =>
    exact ⟨s, by simp [mstep, peekFront_spec h.wf, rstep], h⟩
  | contains a =>
    have hpre : a ∈ r.l ∨ Detached s r.l a := by
      rcases hl with hl | hl
      · exact Or.inl hl
      · exact Or.inr (h.det a hl)
    exact ⟨s, by simp [mstep, contains_spec h.wf hpre, rstep], h⟩
  | moveToBack a =>
    obtain ⟨s', hrun, hsim⟩ := sim_moveToBack h hl
    exact ⟨s', by simp [mstep, hrun, rstep], hsim⟩
  | moveFrontToBack =>
    cases hhd : r.l.head? with
    | none =>
      have hnil : r.l = [] := List.head?_eq_none_iff.mp hhd
      have hwf := h.wf
      rw [hnil] at hwf
      refine ⟨s, by simp [mstep, moveFrontToBack_nil hwf, rstep, hhd], ?_⟩
      simp only [rstep, hhd]; exact h
    | some a =>
      have hk : r.l[0]? = some a := by rw [← List.head?_eq_getElem?]; exact hhd
      have ha : a ∈ r.l := List.mem_of_getElem? hk
      obtain ⟨s', hrun, hsim⟩ := sim_moveToBack h ha
      refine ⟨s', by simp [mstep, moveFrontToBack_eq h.wf hk, hrun, rstep, hhd], ?_⟩
      simp only [rstep, hhd]; exact hsim
  | unlink a =>
    have ha : a ∈ r.l := hl
    obtain ⟨s', hrun, hwf, hpres, hcur, hdet⟩ := unlink_ok h.wf ha
    refine ⟨s', by simp [mstep, hrun, rstep], ?_⟩
    simp only [rstep]
    have := h.pres hwf hpres (List.nodup_cons.mpr ⟨fun hm => (h.det a hm).1 ha, h.detNodup⟩)
      fun b hb => (List.mem_cons.mp hb).elim (fun e => .inl (e ▸ hdet))
        fun hb => .inr ⟨hb, fun hm => (h.det b hb).1 (List.mem_of_mem_erase hm)⟩
    rwa [hcur, h.cur] at this
  | relinkBack a =>
    have ha : a ∈ r.det := hl
    obtain ⟨hal, ea, hea⟩ := h.det a ha
    obtain ⟨s', hrun, ⟨hwf, hpres⟩, hcur⟩ := pushBackBox_spec h.wf hal hea
    refine ⟨s', by simp [mstep, hrun, rstep], ?_⟩
    simp only [rstep]
    have := h.pres hwf hpres (h.detNodup.erase a) fun b hb =>
      have hb' := (h.detNodup.mem_erase_iff).mp hb
      .inr ⟨hb'.2, by simp [(h.det b hb'.2).1, hb'.1]⟩
    rwa [hcur, h.cur] at this
  | unlinkAndDrop a =>
    have ha : a ∈ r.l := hl
    obtain ⟨s', hrun, hwf, hfr, hcur, hframe⟩ := unlinkAndDrop_ok h.wf ha
    refine ⟨s', by simp [mstep, hrun, rstep], ?_⟩
    simp only [rstep]
    have := h.frees hwf hfr (fun b => List.mem_of_mem_erase) hframe
    rwa [hcur, h.cur] at this
  | dropDetached a =>
    -- frees a node outside the list: not an instance of `Sim.frees`
    have ha : a ∈ r.det := hl
    have hd := h.det a ha
    refine ⟨freeState s a, by simp [mstep, rstep, -free_apply, free_detached hd], ?_⟩
    simp only [rstep]
    refine ⟨h.wf.free hd, h.cur, h.next, by simp [freeState, h.freed], ?_, h.detNodup.erase a, ?_⟩
    · intro b hb
      have hb' := (h.detNodup.mem_erase_iff).mp hb
      exact (h.det b hb'.2).free_other hb'.1
    · intro b n hn
      by_cases hba : b = a
      · subst hba; rw [freeState_self] at hn; cases hn
      · rw [freeState_other hba] at hn; exact h.elems b n hn
  | nextOf a =>
    exact ⟨s, by simp [mstep, nextNodePtr_ok h.wf hl, rstep], h⟩
  | iterNext =>
    obtain ⟨s', hrun, hsim⟩ := sim_iterNext h
    exact ⟨s', by simp [mstep, hrun, rstep], hsim⟩

theorem sim_run : ∀ (cmds : List Cmd) (s : DState) (r : RState), Sim s r → LegalSeq r cmds →
    ∃ s', mrun cmds s = .ok ((rrun r cmds).2, s') ∧ Sim s' (rrun r cmds).1 := by
  intro cmds
  induction cmds with
  | nil => intro s r h _; exact ⟨s, rfl, h⟩
  | cons c cs ih =>
    intro s r h hl
    obtain ⟨hl1, hl2⟩ := hl
    obtain ⟨s1, hrun1, hsim1⟩ := sim_step h hl1
    obtain ⟨s2, hrun2, hsim2⟩ := ih s1 _ hsim1 hl2
    refine ⟨s2, ?_, ?_⟩
    · simp [mrun, hrun1, hrun2, rrun]
    · simpa [rrun] using hsim2

theorem run_legal (cmds : List Cmd) (hl : LegalSeq {} cmds) :
    ∃ s, mrun cmds new = .ok ((rrun {} cmds).2, s) ∧ Sim s (rrun {} cmds).1 :=
  sim_run cmds new {} sim_new hl

end DequeHeap

end MiniMoka
