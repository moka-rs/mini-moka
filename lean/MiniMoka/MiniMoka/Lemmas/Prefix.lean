/-
  The closed form of the TinyLFU admission decision, without any cache model: `shortestPre cw ws`
  is the length of the shortest prefix of a list of weights that reaches `cw`; the oracle's
  prefix search `Spec.shortestPrefix` and its prediction `Spec.predictAdmission` are `shortestPre`
  over the weights and estimates a snapshot shows for the keys of its access order; `scanLen` is
  the victim scan of `admit` on weights and estimates, with its closed form.
  The namespace is `Unsync.Admit`, for both caches: `shortestPre`, `prefLen`, `IsShortestPre` are
  named in the single-threaded cache's results, which other statements mention.
-/
import MiniMoka.Spec.OraclesExt

namespace MiniMoka
namespace Unsync
namespace Admit

/-- The least `n` such that the first `n` weights sum to at least `cw`; `none` when even
the whole list does not reach `cw`. (`cw - w` is truncated subtraction: `0` = reached.) -/
def shortestPre : Nat → List Nat → Option Nat
  | cw, [] => if cw = 0 then some 0 else none
  | cw, w :: rest => if cw = 0 then some 0 else (shortestPre (cw - w) rest).map (· + 1)

def IsShortestPre (cw : Nat) (ws : List Nat) (n : Nat) : Prop :=
  n ≤ ws.length ∧ cw ≤ (ws.take n).sum ∧ ∀ m, m < n → (ws.take m).sum < cw

@[simp] theorem shortestPre_zero (ws : List Nat) : shortestPre 0 ws = some 0 := by
  cases ws <;> simp [shortestPre]

theorem shortestPre_cons_pos {cw : Nat} (h : cw ≠ 0) (w : Nat) (rest : List Nat) :
    shortestPre cw (w :: rest) = (shortestPre (cw - w) rest).map (· + 1) := by
  simp [shortestPre, h]

theorem shortestPre_nil_pos {cw : Nat} (h : cw ≠ 0) : shortestPre cw [] = none := by
  simp [shortestPre, h]

theorem shortestPre_eq_some_iff (ws : List Nat) :
    ∀ (cw n : Nat), shortestPre cw ws = some n ↔ IsShortestPre cw ws n := by
  induction ws with
  | nil =>
    intro cw n
    unfold IsShortestPre
    by_cases h : cw = 0
    · subst h
      simp only [shortestPre_zero, Option.some.injEq, List.length_nil, List.take_nil, List.sum_nil]
      constructor
      · intro e; subst e; simp
      · intro ⟨h1, _, _⟩; omega
    · rw [shortestPre_nil_pos h]
      simp only [List.length_nil, List.take_nil, List.sum_nil]
      constructor
      · intro e; cases e
      · intro ⟨_, h2, _⟩; omega
  | cons w rest ih =>
    intro cw n
    by_cases h : cw = 0
    · subst h
      unfold IsShortestPre
      simp only [shortestPre_zero, Option.some.injEq]
      constructor
      · intro e; subst e; simp
      · intro ⟨_, _, h3⟩
        cases n with
        | zero => rfl
        | succ n => exact absurd (h3 0 (Nat.succ_pos _)) (by simp)
    · rw [shortestPre_cons_pos h]
      cases n with
      | zero =>
        unfold IsShortestPre
        constructor
        · intro e
          cases hh : shortestPre (cw - w) rest <;> simp [hh] at e
        · intro ⟨_, h2, _⟩
          simp at h2; exact absurd h2 h
      | succ n =>
        have : (Option.map (· + 1) (shortestPre (cw - w) rest) = some (n + 1)) ↔
            shortestPre (cw - w) rest = some n := by
          cases hh : shortestPre (cw - w) rest <;> simp
        rw [this, ih (cw - w) n]
        unfold IsShortestPre
        simp only [List.length_cons, List.take_succ_cons, List.sum_cons]
        constructor
        · intro ⟨h1, h2, h3⟩
          refine ⟨by omega, by omega, ?_⟩
          intro m hm
          cases m with
          | zero => simp; omega
          | succ m =>
            have := h3 m (by omega)
            simp only [List.take_succ_cons, List.sum_cons]; omega
        · intro ⟨h1, h2, h3⟩
          refine ⟨by omega, by omega, ?_⟩
          intro m hm
          have := h3 (m + 1) (by omega)
          simp only [List.take_succ_cons, List.sum_cons] at this; omega

theorem shortestPre_eq_none_iff (ws : List Nat) :
    ∀ (cw : Nat), shortestPre cw ws = none ↔ ws.sum < cw := by
  induction ws with
  | nil =>
    intro cw
    by_cases h : cw = 0
    · subst h; simp
    · rw [shortestPre_nil_pos h]; simp; omega
  | cons w rest ih =>
    intro cw
    by_cases h : cw = 0
    · subst h; simp
    · rw [shortestPre_cons_pos h]
      have : (Option.map (· + 1) (shortestPre (cw - w) rest) = none) ↔
          shortestPre (cw - w) rest = none := by
        cases hh : shortestPre (cw - w) rest <;> simp
      rw [this, ih (cw - w)]
      simp only [List.sum_cons]; omega

theorem shortestPre_le_length {cw : Nat} {ws : List Nat} {n : Nat}
    (h : shortestPre cw ws = some n) : n ≤ ws.length :=
  ((shortestPre_eq_some_iff ws cw n).mp h).1

theorem IsShortestPre.unique {cw : Nat} {ws : List Nat} {n m : Nat}
    (h1 : IsShortestPre cw ws n) (h2 : IsShortestPre cw ws m) : n = m := by
  have a := (shortestPre_eq_some_iff ws cw n).mpr h1
  have b := (shortestPre_eq_some_iff ws cw m).mpr h2
  rw [a] at b; exact Option.some.inj b

def prefLen (need : Nat) (ws : List Nat) : Nat := (shortestPre need ws).getD ws.length

@[simp] theorem prefLen_zero (ws : List Nat) : prefLen 0 ws = 0 := by simp [prefLen]

theorem prefLen_cons_pos {need : Nat} (h : need ≠ 0) (w : Nat) (rest : List Nat) :
    prefLen need (w :: rest) = prefLen (need - w) rest + 1 := by
  unfold prefLen
  rw [shortestPre_cons_pos h]
  cases shortestPre (need - w) rest <;> simp

theorem prefLen_le_length (need : Nat) (ws : List Nat) : prefLen need ws ≤ ws.length := by
  unfold prefLen
  cases h : shortestPre need ws with
  | none => simp
  | some n => simpa using shortestPre_le_length h

theorem prefLen_nil (need : Nat) : prefLen need [] = 0 := by
  have := prefLen_le_length need []
  simpa using this

/-- The victim scan of `admit` on weights and estimates alone: the number of nodes it takes from
`l`, having gathered the weight `vw` and the estimate `vf`.  It goes on while the weight is short
of `cw` and the estimate has not passed `cf`.  Both caches' `admitLoop` are this scan
(`admitLoop_scan`). -/
def scanLen {α : Type} (w f : α → Nat) (cw cf : Nat) : List α → Nat → Nat → Nat
  | [], _, _ => 0
  | x :: rest, vw, vf =>
    if vw < cw ∧ ¬ cf < vf then scanLen w f cw cf rest (vw + w x) (vf + f x) + 1 else 0

theorem scanLen_go {α : Type} {w f : α → Nat} {cw cf vw vf : Nat} (h : vw < cw ∧ ¬ cf < vf)
    (x : α) (rest : List α) :
    scanLen w f cw cf (x :: rest) vw vf = scanLen w f cw cf rest (vw + w x) (vf + f x) + 1 := by
  rw [scanLen, if_pos h]

theorem scanLen_stop {α : Type} {w f : α → Nat} {cw cf vw vf : Nat} (h : ¬ (vw < cw ∧ ¬ cf < vf))
    (l : List α) : scanLen w f cw cf l vw vf = 0 := by
  cases l with
  | nil => rfl
  | cons x rest => rw [scanLen, if_neg h]

/-- **Closed formula of the scan.**  Its final test (weight reached, estimate below `cf`) passes iff
the shortest prefix whose weight reaches `cw` exists and its summed estimate stays below `cf`; the
scan has then taken exactly that prefix (`cw = 0`: the empty prefix, passing iff `cf > 0`).  The
early exit `cf < vf` is harmless because estimates only add up. -/
theorem scanLen_closed {α : Type} (w f : α → Nat) (cw cf : Nat) : ∀ (l : List α) (vw vf : Nat),
    ((cw ≤ vw + ((l.map w).take (scanLen w f cw cf l vw vf)).sum ∧
        vf + ((l.map f).take (scanLen w f cw cf l vw vf)).sum < cf) ↔
      ∃ n, shortestPre (cw - vw) (l.map w) = some n ∧ vf + ((l.map f).take n).sum < cf) ∧
    (∀ n, shortestPre (cw - vw) (l.map w) = some n → vf + ((l.map f).take n).sum < cf →
      scanLen w f cw cf l vw vf = n) := by
  intro l
  induction l with
  | nil =>
    intro vw vf
    simp only [scanLen, List.map_nil, List.take_nil, List.sum_nil, Nat.add_zero]
    by_cases h : cw - vw = 0
    · rw [h]
      simp only [shortestPre_zero, Option.some.injEq]
      exact ⟨⟨fun ⟨_, h2⟩ => ⟨0, rfl, h2⟩, fun ⟨_, _, h2⟩ => ⟨by omega, h2⟩⟩, fun n hn _ => hn⟩
    · rw [shortestPre_nil_pos h]
      exact ⟨⟨fun ⟨h1, _⟩ => absurd h1 (by omega), fun ⟨_, h1, _⟩ => by cases h1⟩,
        fun n h1 => by cases h1⟩
  | cons x rest ih =>
    intro vw vf
    by_cases hc : vw < cw ∧ ¬ cf < vf
    · rw [scanLen_go hc]
      have hne : cw - vw ≠ 0 := by omega
      obtain ⟨ih1, ih2⟩ := ih (vw + w x) (vf + f x)
      simp only [List.map_cons, List.take_succ_cons, List.sum_cons]
      rw [shortestPre_cons_pos hne]
      have hsub : cw - vw - w x = cw - (vw + w x) := by omega
      rw [hsub, ← Nat.add_assoc, ← Nat.add_assoc]
      refine ⟨ih1.trans ⟨?_, ?_⟩, ?_⟩
      · rintro ⟨n, h1, h2⟩
        refine ⟨n + 1, by rw [h1]; rfl, ?_⟩
        simp only [List.take_succ_cons, List.sum_cons]
        omega
      · rintro ⟨n, h1, h2⟩
        obtain ⟨n', h1', rfl⟩ := Option.map_eq_some_iff.mp h1
        refine ⟨n', h1', ?_⟩
        simp only [List.take_succ_cons, List.sum_cons] at h2
        omega
      · intro n h1 h2
        obtain ⟨n', h1', rfl⟩ := Option.map_eq_some_iff.mp h1
        simp only [List.take_succ_cons, List.sum_cons] at h2
        rw [ih2 n' h1' (by omega)]
    · rw [scanLen_stop hc]
      simp only [List.take_zero, List.sum_nil, Nat.add_zero]
      by_cases hge : cw ≤ vw
      · have h0 : cw - vw = 0 := by omega
        rw [h0]
        simp only [shortestPre_zero, Option.some.injEq]
        exact ⟨⟨fun ⟨_, h2⟩ => ⟨0, rfl, by rw [List.take_zero, List.sum_nil]; exact h2⟩,
          fun ⟨n, hn, h2⟩ => ⟨hge, by subst hn; rw [List.take_zero, List.sum_nil] at h2; exact h2⟩⟩,
          fun n hn _ => hn⟩
      · have hlt : cf < vf := by
          by_cases h : cf < vf
          · exact h
          · exact absurd ⟨by omega, h⟩ hc
        exact ⟨⟨fun ⟨h1, _⟩ => absurd h1 hge, fun ⟨n, _, h2⟩ => by omega⟩, fun n _ h2 => by omega⟩

theorem scanLen_closed_zero {α : Type} (w f : α → Nat) (cw cf : Nat) (l : List α) :
    ((cw ≤ ((l.map w).take (scanLen w f cw cf l 0 0)).sum ∧
        ((l.map f).take (scanLen w f cw cf l 0 0)).sum < cf) ↔
      ∃ n, shortestPre cw (l.map w) = some n ∧ ((l.map f).take n).sum < cf) ∧
    (∀ n, shortestPre cw (l.map w) = some n → ((l.map f).take n).sum < cf →
      scanLen w f cw cf l 0 0 = n) := by
  have h := scanLen_closed w f cw cf l 0 0
  simp only [Nat.zero_add, Nat.sub_zero] at h
  exact h

open Spec

theorem shortestPrefixBy_eq (w : Nat → Nat) (need : Nat) :
    ∀ (rest : List Nat) (got : Nat) (acc : List Nat),
      shortestPrefixBy w need rest got acc =
        (shortestPre (need - got) (rest.map w)).map (fun n => acc ++ rest.take n) := by
  intro rest
  induction rest with
  | nil =>
    intro got acc
    unfold shortestPrefixBy
    by_cases h : got ≥ need
    · have h0 : need - got = 0 := by omega
      simp [h, h0]
    · have h0 : need - got ≠ 0 := by omega
      simp [h, shortestPre_nil_pos h0]
  | cons k rest ih =>
    intro got acc
    unfold shortestPrefixBy
    by_cases h : got ≥ need
    · have h0 : need - got = 0 := by omega
      simp [h, h0]
    · have h0 : need - got ≠ 0 := by omega
      simp only [h, if_false, List.map_cons]
      rw [ih, shortestPre_cons_pos h0]
      have : need - got - w k = need - (got + w k) := by omega
      rw [this, Option.map_map]
      congr 1
      funext n
      simp

/-- The oracle's two prefix searches are one, the weight read off the snapshot. -/
theorem shortestPrefix_by (sn : Snap) (need : Nat) : ∀ (rest : List Nat) (got : Nat) (acc : List Nat),
    shortestPrefix sn need rest got acc = shortestPrefixBy (weightOfKey sn) need rest got acc := by
  intro rest
  induction rest with
  | nil => intro got acc; unfold shortestPrefix shortestPrefixBy; rfl
  | cons k rest ih =>
    intro got acc
    unfold shortestPrefix shortestPrefixBy
    dsimp only
    rw [ih]

theorem shortestPrefix_eq (sn : Snap) (need : Nat) (rest : List Nat) (got : Nat) (acc : List Nat) :
    shortestPrefix sn need rest got acc =
      (shortestPre (need - got) (rest.map (weightOfKey sn))).map (fun n => acc ++ rest.take n) := by
  rw [shortestPrefix_by, shortestPrefixBy_eq]

theorem sameKeys_iff (a b : List Nat) : sameKeys a b = true ↔ ∀ x, x ∈ a ↔ x ∈ b := by
  simp only [sameKeys, Bool.and_eq_true, List.all_eq_true, List.contains_iff_mem]
  constructor
  · rintro ⟨h1, h2⟩ x; exact ⟨h1 x, h2 x⟩
  · intro h; exact ⟨fun x hx => (h x).mp hx, fun x hx => (h x).mpr hx⟩

theorem predictAdmission_lists {sn : Snap} {ks ws fs : List Nat} (ho : lruOrder sn = ks)
    (hW : ks.map (weightOfKey sn) = ws) (hF : ks.map (freqOfKey sn) = fs) (w f : Nat) :
    predictAdmission sn w f =
      match shortestPre w ws with
      | none => none
      | some n => if f > (fs.take n).sum then some (ks.take n) else none := by
  unfold predictAdmission
  rw [shortestPrefix_eq, ho, hW, Nat.sub_zero]
  cases shortestPre w ws with
  | none => rfl
  | some n => simp only [Option.map_some, List.nil_append, ← hF, List.map_take]

end Admit
end Unsync
end MiniMoka
