/-
  Snapshots of the one-thread model: a snapshot observed in a trace is the snapshot of a `TInv`
  state, and the snapshot of a `TInv` state shows exact counters with an empty write queue and
  live objects as C11 counts them; hence the C10 and C11 checks accept every run from every `TInv`
  state.  `snapCountersOk_readQ`: the many-thread statements apply `snapshot_counters` to a state
  with its read queue set aside.
-/
import MiniMoka.Lemmas.SyncCounters
import MiniMoka.Lemmas.SnapView
import MiniMoka.Lemmas.OracleParts
import MiniMoka.Lemmas.SyncQueues

namespace MiniMoka
namespace Sync

open Sync.Nodes Sync.Counters

theorem run_snap_t {p : Params} (hq : Sync.NoQuirks p) (hsm : SmallSketch p)
    (h : List Op) {s : SState} (hs : TInv p s []) (op : Op) (sn : Snap)
    (hm : (op, Obs.snap sn) ∈ Sync.run p s h) : ∃ s', TInv p s' [] ∧ sn = Sync.snapshot p s' :=
  Sync.run_snap_state (I := fun s => TInv p s []) (fun _ op hs => step_t hq hsm hs op) h hs hm

theorem all_snaps_t {p : Params} (hq : Sync.NoQuirks p) (hsm : SmallSketch p)
    (P : Snap → Bool) (hP : ∀ s, TInv p s [] → P (Sync.snapshot p s) = true) {s : SState}
    (hs : TInv p s []) (h : List Op) :
    ((Sync.run p s h).all fun oo => match oo.2 with
      | .snap sn => P sn
      | _ => true) = true := by
  refine (Sync.isRun p).all (I := fun s => TInv p s []) (fun _ op hs => step_t hq hsm hs op) _
    (fun s' op hs' => ?_) h s hs
  cases e : (Sync.step p s' op).2 with
  | snap sn => rw [step_snap p s' op sn e]; exact hP s' hs'
  | _ => rfl

/-- C10 at a state: with an empty write queue the published counters are exact. -/
theorem snapshot_counters {p : Params} {s : SState} (h : TInv p s [])
    (hw : s.writeQ = []) : Spec.snapCountersOk p.weigh (Sync.snapshot p s) = true := by
  obtain ⟨q1, q2, q3, _, _⟩ := quiescent h hw
  unfold Spec.snapCountersOk
  rw [(shows p s).length_entries, (shows p s).sum_entries, (shows p s).sum_entries]
  have e1 : (Sync.snapshot p s).ec = s.ec := rfl
  have e2 : (Sync.snapshot p s).ws = s.ws := rfl
  have e3 : (s.map.map fun kv => (entryView s kv).weight)
      = s.map.map fun kv => (getInfo s kv.2.info).weight := rfl
  have e4 : (s.map.map fun kv => p.weigh (entryView s kv).key (entryView s kv).val)
      = s.map.map fun kv => (getInfo s kv.2.info).weight :=
    List.map_congr_left (fun kv hkv => (q3 kv hkv).symm)
  rw [e1, e2, e3, e4, q1, q2]
  simp

theorem snapshot_quiet {p : Params} {s : SState}
    (h : ((Sync.snapshot p s).rq == 0 && (Sync.snapshot p s).wq == 0) = true) :
    s.readQ = [] ∧ s.writeQ = [] := by
  rw [Bool.and_eq_true, beq_iff_eq, beq_iff_eq] at h
  exact ⟨List.eq_nil_of_length_eq_zero h.1, List.eq_nil_of_length_eq_zero h.2⟩

/-- C11 at a state, first half: with both queues empty, as many live key objects and live
value objects as entries. -/
theorem snapshot_liveOk {p : Params} {s : SState} (h : TInv p s []) :
    Spec.liveOk (Sync.snapshot p s) = true := by
  unfold Spec.liveOk
  cases hqz : ((Sync.snapshot p s).rq == 0 && (Sync.snapshot p s).wq == 0) with
  | false => rfl
  | true =>
    obtain ⟨hr, hw⟩ := snapshot_quiet hqz
    obtain ⟨_, _, _, q4, q5⟩ := quiescent h hw
    obtain ⟨n1, n2⟩ := map_ids_nodup h
    have hK : (Sync.snapshot p s).liveK = s.map.length := by
      simp only [Sync.snapshot, hw, List.map_nil, List.append_nil]
      rw [countDistinct_eq_length _ (s.map.map (·.2.slot)) n2 ?_ ?_, List.length_map]
      · intro x hx
        simp only [List.mem_append] at hx
        rcases hx with (hx | hx) | hx
        · exact hx
        · obtain ⟨n, hn, rfl⟩ := List.mem_map.mp hx
          exact q4 n hn
        · obtain ⟨n, hn, rfl⟩ := List.mem_map.mp hx
          exact q5 n hn
      · intro x hx
        exact List.mem_append_left _ (List.mem_append_left _ hx)
    have hV : (Sync.snapshot p s).liveV = s.map.length := by
      simp only [Sync.snapshot, hw, hr, List.map_nil, List.filterMap_nil, List.append_nil]
      rw [countDistinct_nodup _ n1, List.length_map]
    rw [hK, hV, (shows p s).length_entries, beq_self_eq_true]
    rfl

/-- C11 at a state, second half (any state at all): the live objects are bounded by what the
map, the lists and the queues hold. -/
theorem snapshot_liveBounded (p : Params) (s : SState) :
    Spec.liveBounded (Sync.snapshot p s) = true := by
  unfold Spec.liveBounded
  rw [(shows p s).length_entries, Bool.and_eq_true, decide_eq_true_eq, decide_eq_true_eq]
  constructor
  · refine Nat.le_trans (countDistinct_le_length _) ?_
    simp only [Sync.snapshot, List.length_append, List.length_map]
    exact Nat.le_refl _
  · refine Nat.le_trans (countDistinct_le_length _) ?_
    simp only [Sync.snapshot, List.length_append, List.length_map]
    exact Nat.add_le_add_left (List.length_filterMap_le _ _) _

theorem snapshot_live {p : Params} {s : SState} (h : TInv p s []) :
    (Spec.liveOk (Sync.snapshot p s) && Spec.liveBounded (Sync.snapshot p s)) = true := by
  rw [snapshot_liveOk h, snapshot_liveBounded]
  rfl

theorem snapshot_quietOk {p : Params} {s : SState} (h : TInv p s []) :
    Spec.quietOk p.weigh (Sync.snapshot p s) = true := by
  unfold Spec.quietOk
  split
  · rename_i hqz
    exact snapshot_counters h (snapshot_quiet hqz).2
  · rfl

theorem oracleC10_go_run {p : Params} (hq : Sync.NoQuirks p) (hsm : SmallSketch p) {s : SState}
    (hs : TInv p s []) (h : List Op) : Spec.oracleC10.go p.weigh (Sync.run p s h) = true :=
  Spec.oracleC10_go_of_all _ _
    (all_snaps_t hq hsm (Spec.quietOk p.weigh) (fun _ hs => snapshot_quietOk hs) hs h)

theorem oracleC11_run {p : Params} (hq : Sync.NoQuirks p) (hsm : SmallSketch p) {s : SState}
    (hs : TInv p s []) (h : List Op) : Spec.oracleC11 (Sync.run p s h) = true :=
  Spec.oracleC11_of_all _ (all_snaps_t hq hsm _ (fun _ hs => snapshot_live hs) hs h)

end Sync

namespace Props

theorem snapCountersOk_readQ (p : Params) (s : Sync.SState) (w : Nat → Nat → Nat) :
    Spec.snapCountersOk w (Sync.snapshot p s)
      = Spec.snapCountersOk w (Sync.snapshot p { s with readQ := [] }) := rfl

end Props
end MiniMoka
