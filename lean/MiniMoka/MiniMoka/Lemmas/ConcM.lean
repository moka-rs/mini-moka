/-
  Lemmas about `MiniMoka/ConcM.lean`.  A run executed back to back (`MPath`) is `Sync.trySync` /
  `Sync.syncRun`, so `ConcS ⊆ ConcM`; `Body` lists what a micro-step other than `finish` does to the
  cache state (not the next phase).  The invariant `MInv` is `CSInv` of `ConcS` for a view of the
  state in which the run-local counters are published (`view`); between two micro-steps that is the
  run-local form `RInv` (`csinvX_view`), and the view is how the steps of other threads are handled
  by the lemmas of `Lemmas/ConcS.lean` (`step_view`).  That all reachable states satisfy `MInv` is
  NOT proved here by induction: `ConcM ⊆ ConcF`, and the invariant of `ConcF` read through the
  embedding is `MInv` (`reach_minv` in `Lemmas/ConcF.lean`).
-/
import MiniMoka.ConcM
import MiniMoka.Lemmas.ConcS

namespace MiniMoka
namespace ConcM

open Sync Sync.Nodes Sync.Counters ConcS

/- In the three equations below the continuation of the loop is abstracted (`K`) before the body
is unfolded.  Written out, the test `(body).2 = true` carries a second copy of the body in its
`Decidable` instance, which `dsimp` leaves as it is, so that only `split` could take the tests one
by one, simplifying both sides each time; with `K` the tests are plain `cases` on Booleans. -/
theorem removeExpiredAo_succ (p : Params) (n : Nat) (s : SState) :
    removeExpiredAo p (n + 1) s =
      if (expireAoBody p s).2 = true then removeExpiredAo p n (expireAoBody p s).1
      else (expireAoBody p s).1 := by
  show _ = (fun r : SState × Bool => if r.2 = true then removeExpiredAo p n r.1 else r.1)
    (expireAoBody p s)
  generalize hK : (fun r : SState × Bool => if r.2 = true then removeExpiredAo p n r.1 else r.1) = K
  rw [removeExpiredAo]
  unfold expireAoBody
  generalize s.prob = l
  cases l with
  | nil => subst hK; rfl
  | cons nd rest =>
    dsimp only
    cases expiredTs p.tti s.va (getInfo s nd.info).la s.now with
    | false => subst hK; rfl
    | true =>
      cases entryOfNode p s nd.key nd.info with
      -- `match trySkipUpdated s k with | (s', c) => …` is the same term in the projections, by eta
      | none => subst hK; rfl
      | some ve =>
        dsimp only
        cases expiredTs p.tti s.va (getInfo s ve.info).la s.now <;> (subst hK; rfl)

theorem removeExpiredWo_succ (p : Params) (n : Nat) (s : SState) :
    removeExpiredWo p (n + 1) s =
      if (expireWoBody p s).2 = true then removeExpiredWo p n (expireWoBody p s).1
      else (expireWoBody p s).1 := by
  show _ = (fun r : SState × Bool => if r.2 = true then removeExpiredWo p n r.1 else r.1)
    (expireWoBody p s)
  generalize hK : (fun r : SState × Bool => if r.2 = true then removeExpiredWo p n r.1 else r.1) = K
  rw [removeExpiredWo]
  unfold expireWoBody
  generalize s.wo = l
  cases l with
  | nil => subst hK; rfl
  | cons nd rest =>
    dsimp only
    -- the entry the map holds for the key of a node that is not a victim
    have hskip : (match AL.get? s.map nd.key with
          | some ve =>
            if (getInfo s ve.info).dirty = true then
              removeExpiredWo p n (moveToBackWoE (moveToBackAoE s ve.info) ve.info)
            else s
          | none => removeExpiredWo p n (moveNodeToBackWo s nd.id)) =
        K (match AL.get? s.map nd.key with
          | some ve =>
            if (getInfo s ve.info).dirty = true then
              (moveToBackWoE (moveToBackAoE s ve.info) ve.info, true)
            else (s, false)
          | none => (moveNodeToBackWo s nd.id, true)) := by
      cases AL.get? s.map nd.key with
      | none => subst hK; rfl
      | some ve =>
        dsimp only
        cases (getInfo s ve.info).dirty <;> (subst hK; rfl)
    cases expiredTs p.ttl s.va (getInfo s nd.info).lm s.now with
    | false => subst hK; rfl
    | true =>
      cases entryOfNode p s nd.key nd.info with
      | none => exact hskip
      | some ve =>
        dsimp only
        cases expiredTs p.ttl s.va (getInfo s ve.info).lm s.now with
        | false => exact hskip
        | true => subst hK; rfl

theorem evictLruLoop_succ (p : Params) (n : Nat) (s : SState) (wte ev : Nat) :
    evictLruLoop p (n + 1) s wte ev =
      if (lruBody p s wte ev).2.2 = true then
        evictLruLoop p n (lruBody p s wte ev).1 wte (lruBody p s wte ev).2.1
      else (lruBody p s wte ev).1 := by
  show _ = (fun r : SState × Nat × Bool =>
    if r.2.2 = true then evictLruLoop p n r.1 wte r.2.1 else r.1) (lruBody p s wte ev)
  generalize hK : (fun r : SState × Nat × Bool =>
    if r.2.2 = true then evictLruLoop p n r.1 wte r.2.1 else r.1) = K
  rw [evictLruLoop]
  unfold lruBody
  by_cases hw : ev ≥ wte
  · rw [if_pos hw, if_pos hw]; subst hK; rfl
  · rw [if_neg hw, if_neg hw]
    generalize s.prob = l
    cases l with
    | nil => subst hK; rfl
    | cons nd rest =>
      dsimp only
      cases (getInfo s nd.info).dirty with
      | true => subst hK; rfl
      | false =>
        cases entryOfNode p s nd.key nd.info with
        | none => subst hK; rfl
        | some ve =>
          dsimp only
          cases (getInfo s ve.info).lm == (getInfo s nd.info).lm <;> (subst hK; rfl)

/-- One iteration is the loop with fuel 1: the lemmas about the loops apply to the bodies. -/
theorem expireAoBody_eq (p : Params) (s : SState) :
    (expireAoBody p s).1 = removeExpiredAo p 1 s := by
  rw [removeExpiredAo_succ]
  split <;> rfl

theorem expireWoBody_eq (p : Params) (s : SState) :
    (expireWoBody p s).1 = removeExpiredWo p 1 s := by
  rw [removeExpiredWo_succ]
  split <;> rfl

theorem lruBody_eq (p : Params) (s : SState) (wte ev : Nat) :
    (lruBody p s wte ev).1 = evictLruLoop p 1 s wte ev := by
  rw [evictLruLoop_succ]
  split <;> rfl

/-- Micro-steps of one run with nothing in between. -/
inductive MPath (p : Params) (ex : Bool) : SState × Phase → SState × Option Phase → Prop where
  | refl (s : SState) (ph : Phase) : MPath p ex (s, ph) (s, some ph)
  | step {s s1 : SState} {ph ph1 : Phase} {r : SState × Option Phase} :
      micro p ex s ph = (s1, some ph1) → MPath p ex (s1, ph1) r → MPath p ex (s, ph) r
  | last {s s1 : SState} {ph : Phase} : micro p ex s ph = (s1, none) → MPath p ex (s, ph) (s1, none)

theorem MPath.trans {p : Params} {ex : Bool} {a : SState × Phase} {b r : SState × Option Phase}
    (h1 : MPath p ex a b) : ∀ {s1 : SState} {ph1 : Phase}, b = (s1, some ph1) →
      MPath p ex (s1, ph1) r → MPath p ex a r := by
  induction h1 with
  | refl s ph =>
    intro s1 ph1 e h2
    injection e with e1 e2
    injection e2 with e2
    subst e1; subst e2
    exact h2
  | step hm _ ih => intro s1 ph1 e h2; exact MPath.step hm (ih e h2)
  | last hm => intro s1 ph1 e _; injection e with _ e2; cases e2

theorem MPath.one {p : Params} {ex : Bool} {s s1 : SState} {ph ph1 : Phase}
    (h : micro p ex s ph = (s1, some ph1)) : MPath p ex (s, ph) (s1, some ph1) :=
  MPath.step h (MPath.refl _ _)

theorem mpath_reads (p : Params) (ex : Bool) (f : Nat) : ∀ (n : Nat) (s : SState),
    MPath p ex (s, .reads f n)
      (applyReads p n s, some (.writes f (applyReads p n s).writeQ.length)) := by
  intro n
  induction n with
  | zero => intro s; exact MPath.one rfl
  | succ n ih =>
    intro s
    cases hq : s.readQ with
    | nil =>
      have h1 : applyReads p (n + 1) s = s := by rw [applyReads, hq]
      rw [h1]
      exact MPath.one (by simp only [micro, hq])
    | cons op rest =>
      have h1 : applyReads p (n + 1) s = applyReads p n (applyRead p { s with readQ := rest } op) := by
        rw [applyReads, hq]
      rw [h1]
      exact MPath.step (by simp only [micro, hq]) (ih _)

theorem mpath_writes (p : Params) (ex : Bool) (f : Nat) : ∀ (n : Nat) (s : SState),
    MPath p ex (s, .writes f n) (applyWrites p n s, some (.enable f)) := by
  intro n
  induction n with
  | zero => intro s; exact MPath.one rfl
  | succ n ih =>
    intro s
    cases hq : s.writeQ with
    | nil =>
      have h1 : applyWrites p (n + 1) s = s := by rw [applyWrites, hq]
      rw [h1]
      exact MPath.one (by simp only [micro, hq])
    | cons op rest =>
      have h1 : applyWrites p (n + 1) s
          = applyWrites p n (applyWrite p { s with writeQ := rest } op) := by
        rw [applyWrites, hq]
      rw [h1]
      exact MPath.step (by simp only [micro, hq]) (ih _)

theorem applyReads_guard (p : Params) (s : SState) :
    (if s.readQ.length > 0 then applyReads p s.readQ.length s else s)
      = applyReads p s.readQ.length s := by
  split
  · rfl
  · rename_i h
    have : s.readQ.length = 0 := by omega
    rw [this]; rfl

theorem applyWrites_guard (p : Params) (s : SState) :
    (if s.writeQ.length > 0 then applyWrites p s.writeQ.length s else s)
      = applyWrites p s.writeQ.length s := by
  split
  · rfl
  · rename_i h
    have : s.writeQ.length = 0 := by omega
    rw [this]; rfl

theorem mpath_loop (p : Params) (ex : Bool) : ∀ (fuel : Nat) (s : SState),
    MPath p ex (s, passStart p fuel s)
      (syncLoop p fuel s, some (afterLoop p (syncLoop p fuel s))) := by
  intro fuel
  induction fuel with
  | zero => intro s; exact MPath.refl _ _
  | succ f ih =>
    intro s
    have hr := mpath_reads p ex f s.readQ.length s
    generalize hs1 : applyReads p s.readQ.length s = s1 at hr
    have hw := mpath_writes p ex f s1.writeQ.length s1
    generalize hs2 : applyWrites p s1.writeQ.length s1 = s2 at hw
    generalize hs3 : (if shouldEnableSketch p s2 = true then enableSketch p s2 else s2) = s3
    have hunf : syncLoop p (f + 1) s =
        if (s3.readQ.length ≥ Gen.READ_LOG_FLUSH_POINT ||
            s3.writeQ.length ≥ Gen.WRITE_LOG_FLUSH_POINT) = true
        then syncLoop p f s3 else s3 := by
      rw [syncLoop_succ]
      unfold syncPass
      simp only [(applyReads_guard p s).trans hs1]
      simp only [(applyWrites_guard p s1).trans hs2, hs3]
    refine (hr.trans rfl (hw.trans rfl ?_))
    rw [hunf]
    by_cases hc : (s3.readQ.length ≥ Gen.READ_LOG_FLUSH_POINT ||
        s3.writeQ.length ≥ Gen.WRITE_LOG_FLUSH_POINT) = true
    · rw [if_pos hc]
      exact MPath.step (ph1 := passStart p f s3) (by simp only [micro, hs3]; rw [if_pos hc]) (ih _)
    · rw [if_neg hc]
      exact MPath.one (by simp only [micro, hs3]; rw [if_neg hc])

theorem mpath_expireWo (p : Params) (ex : Bool) : ∀ (n : Nat) (s : SState),
    MPath p ex (s, .expireWo n)
      (removeExpiredWo p n s, some (aoStart p (removeExpiredWo p n s))) := by
  intro n
  induction n with
  | zero => intro s; exact MPath.one rfl
  | succ n ih =>
    intro s
    rw [removeExpiredWo_succ]
    by_cases hc : (expireWoBody p s).2 = true
    · rw [if_pos hc]
      exact MPath.step (by simp only [micro, if_pos hc]) (ih _)
    · rw [if_neg hc]
      exact MPath.one (by simp only [micro, if_neg hc])

theorem mpath_expireAo (p : Params) (ex : Bool) : ∀ (n : Nat) (s : SState),
    MPath p ex (s, .expireAo n)
      (removeExpiredAo p n s, some (lruStart p (removeExpiredAo p n s))) := by
  intro n
  induction n with
  | zero => intro s; exact MPath.one rfl
  | succ n ih =>
    intro s
    rw [removeExpiredAo_succ]
    by_cases hc : (expireAoBody p s).2 = true
    · rw [if_pos hc]
      exact MPath.step (by simp only [micro, if_pos hc]) (ih _)
    · rw [if_neg hc]
      exact MPath.one (by simp only [micro, if_neg hc])

theorem mpath_lru (p : Params) (ex : Bool) (wte : Nat) : ∀ (n : Nat) (s : SState) (ev : Nat),
    MPath p ex (s, .lru n wte ev) (evictLruLoop p n s wte ev, some .finish) := by
  intro n
  induction n with
  | zero => intro s ev; exact MPath.one rfl
  | succ n ih =>
    intro s ev
    rw [evictLruLoop_succ]
    by_cases hc : (lruBody p s wte ev).2.2 = true
    · rw [if_pos hc]
      exact MPath.step (by simp only [micro, if_pos hc]) (ih _ _)
    · rw [if_neg hc]
      exact MPath.one (by simp only [micro, if_neg hc])

theorem mpath_lruStart (p : Params) (ex : Bool) (s : SState) :
    MPath p ex (s, lruStart p s)
      (if weightsToEvict p s > 0
        then evictLruLoop p Gen.SYNC_EVICTION_BATCH_SIZE s (weightsToEvict p s) 0 else s,
       some .finish) := by
  unfold lruStart
  by_cases h : weightsToEvict p s > 0
  · rw [if_pos h, if_pos h]; exact mpath_lru p ex _ _ _ _
  · rw [if_neg h, if_neg h]; exact MPath.refl _ _

theorem mpath_afterLoop (p : Params) (ex : Bool) (s : SState) :
    MPath p ex (s, afterLoop p s)
      (if (p.hasExpiry || s.va.isSome) = true then evictExpired p s else s,
       some (lruStart p (if (p.hasExpiry || s.va.isSome) = true then evictExpired p s else s))) := by
  unfold afterLoop
  by_cases h : (p.hasExpiry || s.va.isSome) = true
  · rw [if_pos h, if_pos h]
    unfold evictExpired
    dsimp only
    have hao : ∀ s1 : SState, MPath p ex (s1, aoStart p s1)
        (if (p.tti.isSome || s1.va.isSome) = true
          then removeExpiredAo p Gen.SYNC_EVICTION_BATCH_SIZE s1 else s1,
         some (lruStart p (if (p.tti.isSome || s1.va.isSome) = true
          then removeExpiredAo p Gen.SYNC_EVICTION_BATCH_SIZE s1 else s1))) := by
      intro s1
      unfold aoStart
      by_cases h2 : (p.tti.isSome || s1.va.isSome) = true
      · rw [if_pos h2, if_pos h2]; exact mpath_expireAo p ex _ _
      · rw [if_neg h2, if_neg h2]; exact MPath.refl _ _
    by_cases h1 : p.ttl.isSome = true
    · rw [if_pos h1, if_pos h1]
      exact (mpath_expireWo p ex _ s).trans rfl (hao _)
    · rw [if_neg h1, if_neg h1]
      exact hao s
  · rw [if_neg h, if_neg h]; exact MPath.refl _ _

/-- The `let` block is the body of `Sync.syncRun`: the loop, the expiry part, the LRU part; the
`finish` step publishes the counters. -/
theorem mpath_run (p : Params) (ex : Bool) (s0 : SState) :
    MPath p ex (s0, passStart p (Gen.MAX_SYNC_REPEATS + 1) s0)
      ((micro p ex
        (let s1 := syncLoop p (Gen.MAX_SYNC_REPEATS + 1) s0
         let s2 := if (p.hasExpiry || s1.va.isSome) = true then evictExpired p s1 else s1
         if weightsToEvict p s2 > 0
           then evictLruLoop p Gen.SYNC_EVICTION_BATCH_SIZE s2 (weightsToEvict p s2) 0 else s2)
        .finish).1, none) := by
  dsimp only
  have h1 := mpath_loop p ex (Gen.MAX_SYNC_REPEATS + 1) s0
  generalize syncLoop p (Gen.MAX_SYNC_REPEATS + 1) s0 = s1 at h1 ⊢
  have h2 := mpath_afterLoop p ex s1
  generalize (if (p.hasExpiry || s1.va.isSome) = true then evictExpired p s1 else s1) = s2 at h2 ⊢
  have h3 := mpath_lruStart p ex s2
  generalize (if weightsToEvict p s2 > 0
    then evictLruLoop p Gen.SYNC_EVICTION_BATCH_SIZE s2 (weightsToEvict p s2) 0 else s2) = s3
    at h3 ⊢
  refine h1.trans rfl (h2.trans rfl (h3.trans rfl (MPath.last ?_)))
  cases ex <;> rfl

theorem run_is_syncRun (p : Params) (s : SState) :
    MPath p true (beginRun s true, passStart p (Gen.MAX_SYNC_REPEATS + 1) (beginRun s true))
      (syncRun p s, none) :=
  mpath_run p true (beginRun s true)

theorem run_is_trySync (p : Params) (s : SState) (hr : s.running = false) :
    MPath p false (beginRun s false, passStart p (Gen.MAX_SYNC_REPEATS + 1) (beginRun s false))
      (trySync p s, none) := by
  have h := mpath_run p false (beginRun s false)
  unfold trySync
  rw [if_neg (by rw [hr]; exact Bool.false_ne_true)]
  exact h

theorem MPath.done_of {p : Params} {ex : Bool} {a : SState × Phase}
    {s1 : SState} {ph1 : Phase} (h : MPath p ex a (s1, some ph1))
    (hd : ∃ s', MPath p ex (s1, ph1) (s', none)) : ∃ s', MPath p ex a (s', none) :=
  let ⟨s', h2⟩ := hd
  ⟨s', h.trans rfl h2⟩

/-- Each phase runs into a later one; the `while should_sync` loop has its fuel. -/
theorem mpath_done (p : Params) (ex : Bool) (s : SState) (ph : Phase) :
    ∃ s', MPath p ex (s, ph) (s', none) := by
  have hfin : ∀ s0, ∃ s', MPath p ex (s0, .finish) (s', none) := fun s0 => by
    cases ex <;> exact ⟨_, MPath.last rfl⟩
  have hlru : ∀ s0, ∃ s', MPath p ex (s0, lruStart p s0) (s', none) :=
    fun s0 => (mpath_lruStart p ex s0).done_of (hfin _)
  have hafter : ∀ s0, ∃ s', MPath p ex (s0, afterLoop p s0) (s', none) :=
    fun s0 => (mpath_afterLoop p ex s0).done_of (hlru _)
  have hpass : ∀ f s0, ∃ s', MPath p ex (s0, passStart p f s0) (s', none) :=
    fun f s0 => (mpath_loop p ex f s0).done_of (hafter _)
  have henable : ∀ f s0, ∃ s', MPath p ex (s0, .enable f) (s', none) := by
    intro f s0
    generalize hs1 : (if shouldEnableSketch p s0 = true then enableSketch p s0 else s0) = s1
    by_cases hc : (s1.readQ.length ≥ Gen.READ_LOG_FLUSH_POINT ||
        s1.writeQ.length ≥ Gen.WRITE_LOG_FLUSH_POINT) = true
    · exact (MPath.one (ph1 := passStart p f s1) (by simp only [micro, hs1]; rw [if_pos hc])).done_of
        (hpass f s1)
    · exact (MPath.one (ph1 := afterLoop p s1) (by simp only [micro, hs1]; rw [if_neg hc])).done_of
        (hafter s1)
  have hwrites : ∀ f n s0, ∃ s', MPath p ex (s0, .writes f n) (s', none) :=
    fun f n s0 => (mpath_writes p ex f n s0).done_of (henable f _)
  have hao : ∀ s0, ∃ s', MPath p ex (s0, aoStart p s0) (s', none) := by
    intro s0
    unfold aoStart
    split
    · exact (mpath_expireAo p ex _ s0).done_of (hlru _)
    · exact hlru s0
  cases ph with
  | reads f n => exact (mpath_reads p ex f n s).done_of (hwrites f _ _)
  | writes f n => exact hwrites f n s
  | enable f => exact henable f s
  | expireWo n => exact (mpath_expireWo p ex n s).done_of (hao _)
  | expireAo n => exact (mpath_expireAo p ex n s).done_of (hlru _)
  | lru n wte ev => exact (mpath_lru p ex wte n s ev).done_of (hfin _)
  | finish => exact hfin s

/-- A step of a thread, as both `ConcM.step` and `ConcF.step` define it (hence `α`). -/
theorem other_eq_some {α : Type} {p : Params} {s : SState} {pd : List (Tid × Pend)} {e : ConcS.Ev}
    {f : CState → α} {c' : α}
    (hs : (if isPlain e = true then (ConcS.step p ⟨s, pd⟩ e).map f else none) = some c') :
    isPlain e = true ∧ ∃ c1, ConcS.step p ⟨s, pd⟩ e = some c1 ∧ c' = f c1 := by
  split at hs
  · rename_i hpl
    cases h0 : ConcS.step p ⟨s, pd⟩ e with
    | none => rw [h0] at hs; cases hs
    | some c1 => rw [h0] at hs; exact ⟨hpl, c1, rfl, (Option.some.inj hs).symm⟩
  · cases hs

theorem step_other {p : Params} {c c' : MState} {e : ConcS.Ev}
    (hs : step p c (.other e) = some c') :
    isPlain e = true ∧ ∃ c1, ConcS.step p ⟨c.s, c.pending⟩ e = some c1 ∧
      c' = { c with s := c1.s, pending := c1.pending } :=
  other_eq_some hs

theorem step_mBegin {p : Params} {c c' : MState} {t : Tid} {ex : Bool}
    (hs : step p c (.mBegin t ex) = some c') :
    c' = c ∨ (c.run = none ∧
      c' = { c with s := beginRun c.s ex,
                    run := some ⟨t, ex, passStart p (Gen.MAX_SYNC_REPEATS + 1) (beginRun c.s ex)⟩ }) := by
  simp only [step] at hs
  split at hs
  · split at hs
    · cases hs
    · split at hs
      · exact Or.inl (Option.some.inj hs).symm
      · cases hs
  · rename_i hr
    exact Or.inr ⟨hr, (Option.some.inj hs).symm⟩

theorem step_mStep {p : Params} {c c' : MState} {t : Tid} (hs : step p c (.mStep t) = some c') :
    ∃ r, c.run = some r ∧ r.tid = t ∧
      c' = { c with s := (micro p r.explicit c.s r.phase).1,
                    run := (micro p r.explicit c.s r.phase).2.map fun ph => { r with phase := ph } } := by
  simp only [step] at hs
  split at hs
  · cases hs
  · rename_i r hr
    split at hs
    · rename_i ht
      exact ⟨r, hr, ht, (Option.some.inj hs).symm⟩
    · cases hs

theorem isPath (p : Params) : IsPath (step p) (runEvs p) :=
  ⟨fun _ => rfl, fun c e rest => by simp only [runEvs]; cases step p c e <;> rfl⟩

theorem runEvs_append (p : Params) (c : MState) (l1 l2 : List Ev) :
    runEvs p c (l1 ++ l2) = match runEvs p c l1 with
      | some c' => runEvs p c' l2
      | none => none := by
  rw [(isPath p).append]
  cases runEvs p c l1 <;> rfl

theorem runEvs_of_mpath {p : Params} {ex : Bool} {a : SState × Phase} {b : SState × Option Phase}
    (h : MPath p ex a b) (t : Tid) (pd : List (Tid × Pend)) :
    ∃ evs, runEvs p ⟨a.1, pd, some ⟨t, ex, a.2⟩⟩ evs =
      some ⟨b.1, pd, b.2.map fun ph => ⟨t, ex, ph⟩⟩ := by
  induction h with
  | refl s ph => exact ⟨[], rfl⟩
  | step hm _ ih =>
    obtain ⟨evs, he⟩ := ih
    refine ⟨.mStep t :: evs, ?_⟩
    simp only [runEvs, step, if_true, hm, Option.map_some]
    exact he
  | last hm =>
    refine ⟨[.mStep t], ?_⟩
    simp only [runEvs, step, if_true, hm, Option.map_none]

/-- The state of a run with its run-local counters published and the flag released: what the
state would be if the run ended now. -/
def view (s : SState) : SState := { s with ec := s.cec, ws := s.cws, running := false }

/-- The invariant between two micro-steps of a run, on the run's own state: the run-local forms
`RunInv` and `CInv` of what `CSInv` says with `TopInv` and `CTop` (`csinvX_view`). -/
structure RInv (p : Params) (s : SState) (pd : List (Tid × Pend)) : Prop where
  run : RunInv Sketch.Good s
  cinv : CInv p s (s.writeQ ++ pendWrites pd)
  tids : (pd.map (·.1)).Nodup
  wq : s.writeQ.length ≤ Gen.WRITE_LOG_SIZE
  rq : s.readQ.length ≤ Gen.READ_LOG_SIZE

theorem csinvX_view {p : Params} {s : SState} {pd : List (Tid × Pend)} {ex : List WOp} :
    CSInvX p ex ⟨view s, pd⟩ ↔
      RunInv Sketch.Good s ∧ CInv p s (s.writeQ ++ (pendWrites pd ++ ex)) ∧
      (pd.map (·.1)).Nodup ∧ s.writeQ.length ≤ Gen.WRITE_LOG_SIZE ∧
      s.readQ.length ≤ Gen.READ_LOG_SIZE := by
  constructor
  · intro h
    refine ⟨⟨⟨⟨h.top.nodes.toNodesCore.congr (fun _ => rfl) (fun _ => rfl) (fun _ => rfl)
      (List.Perm.refl _) (List.Perm.refl _) (Nat.le_refl _), h.top.nodes.count⟩, h.top.nofault⟩,
      ⟨h.top.map.kn, h.top.map.bound⟩, ⟨h.top.sk.sk, h.top.sk.skOff⟩⟩, ?_, h.tids, h.wq, h.rq⟩
    have h1 : CInv p { view s with cec := (view s).ec, cws := (view s).ws }
        (s.writeQ ++ (pendWrites pd ++ ex)) := h.cinv
    exact h1.same (same_of_eq rfl rfl rfl rfl rfl rfl)
  · rintro ⟨hr, hc, ht, hw, hq⟩
    refine ⟨⟨⟨⟨hr.safe.toNodesCore.congr (fun _ => rfl) (fun _ => rfl) (fun _ => rfl)
      (List.Perm.refl _) (List.Perm.refl _) (Nat.le_refl _), hr.safe.count⟩,
      ⟨hr.map.kn, hr.map.bound⟩, ⟨hr.sk.sk, hr.sk.skOff⟩⟩, hr.safe.nofault⟩,
      rfl, ht, ?_, hw, hq⟩
    show CInv p { view s with cec := (view s).ec, cws := (view s).ws }
      (s.writeQ ++ (pendWrites pd ++ ex))
    exact hc.same (same_of_eq rfl rfl rfl rfl rfl rfl)

theorem rinv_of_view {p : Params} {s : SState} {pd : List (Tid × Pend)}
    (h : CSInv p ⟨view s, pd⟩) : RInv p s pd :=
  have ⟨a1, a2, a3, a4, a5⟩ := csinvX_view.1 (csinvX_nil.2 h)
  ⟨a1, by rw [List.append_nil] at a2; exact a2, a3, a4, a5⟩

theorem view_of_rinv {p : Params} {s : SState} {pd : List (Tid × Pend)} (h : RInv p s pd) :
    CSInv p ⟨view s, pd⟩ :=
  csinvX_nil.1 (csinvX_view.2 ⟨h.run, by rw [List.append_nil]; exact h.cinv, h.tids, h.wq, h.rq⟩)

def viewOf (c : MState) : SState :=
  match c.run with
  | none => c.s
  | some _ => view c.s

/-- The invariant of the reachable states of `ConcM`: the invariant of `ConcS` for the view.  An
explicit run never takes the flag; that is carried because its `finish` step does not release it
either, and the state after that step is the view only if the flag is down
(`view_eq_of_not_running`). -/
structure MInv (p : Params) (c : MState) : Prop where
  core : CSInv p ⟨viewOf c, c.pending⟩
  flag : ∀ r, c.run = some r → r.explicit = true → c.s.running = false

theorem minv_csinv {p : Params} {c : MState} (h : MInv p c) : CSInv p ⟨viewOf c, c.pending⟩ :=
  h.core

theorem rinv_of_g {p : Params} {s s' : SState} {pd : List (Tid × Pend)} (h : RInv p s pd)
    (g : G p s' (s'.writeQ ++ pendWrites pd)) (hk : SkOK Sketch.Good s')
    (hw : s'.writeQ.length ≤ s.writeQ.length) (hr : s'.readQ.length ≤ s.readQ.length) :
    RInv p s' pd :=
  ⟨⟨g.safe, g.map, hk⟩, g.inv, h.tids, Nat.le_trans hw h.wq, Nat.le_trans hr h.rq⟩

theorem RInv.g {p : Params} {s : SState} {pd : List (Tid × Pend)} (h : RInv p s pd) :
    G p s (s.writeQ ++ pendWrites pd) := ⟨h.run.safe, h.run.map, h.cinv⟩

theorem RInv.of_maint {p : Params} {s s' : SState} {pd : List (Tid × Pend)} {w : Bool}
    (h : RInv p s pd) (hm : Maint w s s') (hg : G p s' (s.writeQ ++ pendWrites pd)) :
    RInv p s' pd ∧ s'.running = s.running :=
  have hqf := hm.qframe
  ⟨rinv_of_g h (by rw [hqf.writeQ]; exact hg) (h.run.sk.same hm.skSame)
    (by rw [hqf.writeQ]; exact Nat.le_refl _) (by rw [hqf.readQ]; exact Nat.le_refl _),
    hqf.running⟩

/-- What a micro-step other than `finish` does to the cache state.  The phase is recorded only to
tell that an LRU iteration happens in an `lru` phase (for `ConcF.mstep_kept_none`). -/
inductive Body (p : Params) (s : SState) (ph : Phase) : SState → Prop where
  | skip : Body p s ph s
  | read (op : ROp) (rest : List ROp) :
      s.readQ = op :: rest → Body p s ph (applyRead p { s with readQ := rest } op)
  | write (op : WOp) (rest : List WOp) :
      s.writeQ = op :: rest → Body p s ph (applyWrite p { s with writeQ := rest } op)
  | enable : shouldEnableSketch p s = true → Body p s ph (enableSketch p s)
  | expireWo : Body p s ph (removeExpiredWo p 1 s)
  | expireAo : Body p s ph (removeExpiredAo p 1 s)
  | lru (n wte ev : Nat) : ph = .lru n wte ev → Body p s ph (evictLruLoop p 1 s wte ev)

theorem micro_body (p : Params) (ex : Bool) (s : SState) (ph : Phase) (hf : ph ≠ .finish) :
    Body p s ph (micro p ex s ph).1 := by
  cases ph with
  | reads f n =>
    cases n with
    | zero => exact .skip
    | succ n =>
      cases hrq : s.readQ with
      | nil => simp only [micro, hrq]; exact .skip
      | cons op rest => simp only [micro, hrq]; exact .read op rest hrq
  | writes f n =>
    cases n with
    | zero => exact .skip
    | succ n =>
      cases hwq : s.writeQ with
      | nil => simp only [micro, hwq]; exact .skip
      | cons op rest => simp only [micro, hwq]; exact .write op rest hwq
  | enable f =>
    have hm : (micro p ex s (.enable f)).1
        = (if shouldEnableSketch p s = true then enableSketch p s else s) := by
      simp only [micro]; split <;> (split <;> rfl)
    rw [hm]
    split
    · exact .enable ‹_›
    · exact .skip
  | expireWo n =>
    cases n with
    | zero => exact .skip
    | succ n =>
      have hm : (micro p ex s (.expireWo (n + 1))).1 = (expireWoBody p s).1 := by
        simp only [micro]; split <;> rfl
      rw [hm, expireWoBody_eq]
      exact .expireWo
  | expireAo n =>
    cases n with
    | zero => exact .skip
    | succ n =>
      have hm : (micro p ex s (.expireAo (n + 1))).1 = (expireAoBody p s).1 := by
        simp only [micro]; split <;> rfl
      rw [hm, expireAoBody_eq]
      exact .expireAo
  | lru n wte ev =>
    cases n with
    | zero => exact .skip
    | succ n =>
      have hm : (micro p ex s (.lru (n + 1) wte ev)).1 = (lruBody p s wte ev).1 := by
        simp only [micro]; split <;> rfl
      rw [hm, lruBody_eq]
      exact .lru _ wte ev rfl
  | finish => exact absurd rfl hf

theorem Body.rinv {p : Params} (hq : NoQuirks p) (hsm : SmallSketch p) {s s' : SState}
    {ph : Phase} {pd : List (Tid × Pend)} (hb : Body p s ph s') (h : RInv p s pd) :
    RInv p s' pd ∧ s'.running = s.running := by
  cases hb with
  | skip => exact ⟨h, rfl⟩
  | read op rest hrq =>
    have hs0 : Safe { s with readQ := rest } :=
      h.run.safe.of_eq rfl rfl rfl (Nat.le_refl _) rfl rfl
    have hk0 : SkOK Sketch.Good { s with readQ := rest } := ⟨h.run.sk.sk, h.run.sk.skOff⟩
    obtain ⟨a1, a2⟩ := applyRead_inv sketchLaws hq hs0 hk0 op
    have hqf := applyRead_qframe p { s with readQ := rest } op
    have hc0 : CInv p { s with readQ := rest } (s.writeQ ++ pendWrites pd) :=
      h.cinv.same (same_of_eq rfl rfl rfl rfl rfl rfl)
    refine ⟨rinv_of_g h ⟨a1, h.run.map.frame (applyRead_frame hq s op rest hrq), ?_⟩ a2
      (by rw [hqf.writeQ]; exact Nat.le_refl _)
      (by rw [hqf.readQ]; show rest.length ≤ _; rw [hrq]; exact Nat.le_succ _), hqf.running⟩
    rw [hqf.writeQ]
    exact hc0.same (applyRead_same p _ op)
  | write op rest hwq =>
    have g0 : G p { s with writeQ := rest } (op :: (rest ++ pendWrites pd)) := by
      have hc := h.cinv
      rw [hwq] at hc
      exact ⟨safe_setWriteQ h.run.safe rest, ⟨h.run.map.kn, h.run.map.bound⟩,
        hc.same (same_of_eq rfl rfl rfl rfl rfl rfl)⟩
    have g1 := applyWrite_g hq op g0
    have hqf := (applyWrite_maint p { s with writeQ := rest } op).qframe
    have hk0 : SkOK Sketch.Good { s with writeQ := rest } := ⟨h.run.sk.sk, h.run.sk.skOff⟩
    exact ⟨rinv_of_g h (by rw [hqf.writeQ]; exact g1) (hk0.same (applyWrite_maint _ _ _).skSame)
      (by rw [hqf.writeQ]; show rest.length ≤ _; rw [hwq]; exact Nat.le_succ _)
      (by rw [hqf.readQ]; exact Nat.le_refl _), hqf.running⟩
  | enable hen =>
    have hqf := enableSketch_qframe p s
    refine ⟨rinv_of_g h ⟨enableSketch_safe p h.run.safe,
      h.run.map.frame0 (enableSketch_frame0 _ _), ?_⟩
      (enableSketch_skOK sketchLaws hsm h.run.sk hen)
      (by rw [hqf.writeQ]; exact Nat.le_refl _) (by rw [hqf.readQ]; exact Nat.le_refl _),
      hqf.running⟩
    rw [hqf.writeQ]
    exact h.cinv.same (enableSketch_same p s)
  | expireWo =>
    exact h.of_maint (removeExpiredWo_maint p 1 s)
      ((removeExpiredWo_evicts (x := false) 1 s).keeps Evict.g h.g)
  | expireAo =>
    exact h.of_maint (removeExpiredAo_maint p 1 s)
      ((removeExpiredAo_evicts (x := false) 1 s).keeps Evict.g h.g)
  | lru n wte ev _ =>
    exact h.of_maint (evictLruLoop_maint p 1 s wte ev) (evictLruLoop_g 1 s wte ev h.g)

theorem micro_rinv {p : Params} (hq : NoQuirks p) (hsm : SmallSketch p) {s : SState}
    {pd : List (Tid × Pend)} (ex : Bool) (h : RInv p s pd) (ph : Phase) :
    RInv p (micro p ex s ph).1 pd ∧
      ((micro p ex s ph).2.isSome = true ∨ ex = true → (micro p ex s ph).1.running = s.running) := by
  by_cases hf : ph = .finish
  · subst hf
    -- publication of the counters: nothing the invariant mentions changes
    have hfin : ∀ s' : SState, s'.map = s.map → s'.infos = s.infos → s'.prob = s.prob →
        s'.wo = s.wo → s'.cec = s.cec → s'.cws = s.cws → s'.nextId = s.nextId → s'.sk = s.sk →
        s'.skOn = s.skOn → s'.fault = s.fault → s'.writeQ = s.writeQ → s'.readQ = s.readQ →
        RInv p s' pd := by
      intro s' e1 e2 e3 e4 e5 e6 e7 e8 e9 e10 e11 e12
      refine ⟨⟨h.run.safe.of_eq e2 e3 e4 (by rw [e7]; exact Nat.le_refl _) e5 e10,
        ⟨by rw [e1]; exact h.run.map.kn, by rw [e1, e7]; exact h.run.map.bound⟩,
        ⟨by rw [e8]; exact h.run.sk.sk, by rw [e8, e9]; exact h.run.sk.skOff⟩⟩, ?_, h.tids,
        by rw [e11]; exact h.wq, by rw [e12]; exact h.rq⟩
      rw [e11]
      exact h.cinv.same (same_of_eq e1 e2 e3 e4 e6 e7)
    cases ex with
    | true => exact ⟨hfin _ rfl rfl rfl rfl rfl rfl rfl rfl rfl rfl rfl rfl, fun _ => rfl⟩
    | false =>
      refine ⟨hfin _ rfl rfl rfl rfl rfl rfl rfl rfl rfl rfl rfl rfl, fun hx => ?_⟩
      rcases hx with hx | hx <;> cases hx
  · obtain ⟨a, b⟩ := (micro_body p ex s ph hf).rinv hq hsm h
    exact ⟨a, fun _ => b⟩

theorem Body.frame {p : Params} (hq : NoQuirks p) {s s' : SState}
    {ph : Phase} (hb : Body p s ph s') : Frame s s' ∧ ∀ op, op ∈ s'.writeQ → op ∈ s.writeQ := by
  cases hb with
  | skip => exact ⟨Frame.refl s, fun _ h => h⟩
  | read op rest hrq =>
    refine ⟨applyRead_frame hq s op rest hrq, fun o ho => ?_⟩
    rw [(applyRead_qframe p { s with readQ := rest } op).writeQ] at ho
    exact ho
  | write op rest hwq =>
    refine ⟨((frame0_set_writeQ s rest).trans (applyWrite_maint _ _ _).frame0).toFrame,
      fun o ho => ?_⟩
    rw [(applyWrite_maint p { s with writeQ := rest } op).qframe.writeQ] at ho
    rw [hwq]
    exact List.mem_cons_of_mem _ ho
  | enable _ =>
    refine ⟨(enableSketch_frame0 p s).toFrame, fun o ho => ?_⟩
    rw [(enableSketch_qframe p s).writeQ] at ho; exact ho
  | expireWo =>
    refine ⟨(removeExpiredWo_maint p 1 s).frame0.toFrame, fun o ho => ?_⟩
    rw [(removeExpiredWo_maint p 1 s).qframe.writeQ] at ho; exact ho
  | expireAo =>
    refine ⟨(removeExpiredAo_maint p 1 s).frame0.toFrame, fun o ho => ?_⟩
    rw [(removeExpiredAo_maint p 1 s).qframe.writeQ] at ho; exact ho
  | lru n wte ev _ =>
    refine ⟨(evictLruLoop_maint p 1 s wte ev).frame0.toFrame, fun o ho => ?_⟩
    rw [(evictLruLoop_maint p 1 s wte ev).qframe.writeQ] at ho; exact ho

theorem micro_frame {p : Params} (hq : NoQuirks p) (ex : Bool) (s : SState) (ph : Phase) :
    Frame s (micro p ex s ph).1 ∧ ∀ op, op ∈ (micro p ex s ph).1.writeQ → op ∈ s.writeQ := by
  by_cases hf : ph = .finish
  · subst hf
    cases ex with
    | true => exact ⟨(frame0_set_ec_ws s _ _).toFrame, fun _ h => h⟩
    | false =>
      exact ⟨((frame0_set_ec_ws s _ _).trans (frame0_set_running _ _)).toFrame, fun _ h => h⟩
  · exact (micro_body p ex s ph hf).frame hq

theorem insertMap_view (p : Params) (s : SState) (k v : Nat) :
    insertMap p (view s) k v = (view (insertMap p s k v).1, (insertMap p s k v).2) := by
  unfold insertMap view
  dsimp only
  generalize AL.get? s.map k = o
  cases o <;> rfl

theorem invalidateMap_view (s : SState) (k : Nat) :
    invalidateMap (view s) k = (view (invalidateMap s k).1, (invalidateMap s k).2) := by
  unfold invalidateMap view
  dsimp only
  generalize AL.get? s.map k = o
  cases o <;> rfl

theorem lookup_view (p : Params) (s : SState) (k : Nat) : lookup p (view s) k = lookup p s k := rfl

theorem step_view (p : Params) (s : SState) (pd : List (Tid × Pend)) (e : ConcS.Ev)
    (he : isPlain e = true) :
    ConcS.step p ⟨view s, pd⟩ e =
      (ConcS.step p ⟨s, pd⟩ e).map fun c' => ⟨view c'.s, c'.pending⟩ := by
  cases e with
  | insMap t k v =>
    simp only [ConcS.step, insertMap_view]
    cases pendOf pd t <;> rfl
  | invMap t k =>
    simp only [ConcS.step, invalidateMap_view]
    cases pendOf pd t with
    | some x => rfl
    | none =>
      dsimp only
      cases (invalidateMap s k).2 <;> rfl
  | getMap t k =>
    simp only [ConcS.step, lookup_view]
    cases pendOf pd t <;> rfl
  | maint t => cases he
  | sync t => cases he
  | enq t =>
    simp only [ConcS.step]
    cases pendOf pd t with
    | none => rfl
    | some x =>
      cases x with
      | write op =>
        dsimp only
        show (if s.writeQ.length < Gen.WRITE_LOG_SIZE then _ else _) = _
        split <;> rfl
      | read op =>
        dsimp only
        show (if s.readQ.length < Gen.READ_LOG_SIZE then _ else _) = _
        split <;> rfl
  | tick d => rfl
  | invAll t => rfl

theorem step_running (p : Params) (c c' : CState) (e : ConcS.Ev) (he : isPlain e = true)
    (hs : ConcS.step p c e = some c') : c'.s.running = c.s.running := by
  cases Step.of_eq hs with
  | insMap t k v => exact (insertMap_fields p c.s k v).2.2.1
  | invMap t k op => exact (invalidateMap_fields c.s k).2.2.1
  | maint t => cases he
  | sync t => cases he
  | _ => rfl

theorem micro_none {p : Params} {ex : Bool} {s : SState} {ph : Phase}
    (h : (micro p ex s ph).2 = none) : ph = .finish := by
  cases ph with
  | finish => rfl
  | enable f => simp only [micro] at h; split at h <;> (split at h <;> cases h)
  | reads f n | writes f n | expireWo n | expireAo n | lru n wte ev =>
    cases n with
    | zero => cases h
    | succ n => simp only [micro] at h; split at h <;> cases h

/-- The view of the state in which a run starts, as one record update of `s`: proofs that read it
field by field need not look through `view` and the two branches of `beginRun` at every field. -/
theorem view_beginRun (s : SState) (ex : Bool) :
    view (beginRun s ex) =
      { s with cec := s.ec, cws := s.ws, running := false,
               syncAfter := (beginRun s ex).syncAfter } := by
  cases ex <;> rfl

theorem begin_view {p : Params} {s : SState} {pd : List (Tid × Pend)} (h : CSInv p ⟨s, pd⟩)
    (ex : Bool) : CSInv p ⟨view (beginRun s ex), pd⟩ := by
  rw [view_beginRun]
  exact ⟨h.top.of_eq rfl rfl rfl rfl rfl rfl rfl rfl rfl, rfl, h.tids,
    h.cinv.of_eq rfl rfl rfl rfl rfl rfl, h.wq, h.rq⟩

theorem beginRun_frame0 (s : SState) (ex : Bool) : Frame0 s (beginRun s ex) := by
  cases ex
  · exact (frame0_set_running_after s _ _).trans (frame0_set_cec_cws _ _ _)
  · exact frame0_set_cec_cws s _ _

theorem view_eq_of_not_running {s : SState} (h : s.running = false) :
    ({ s with ec := s.cec, ws := s.cws } : SState) = view s := by
  unfold view
  rw [← h]

def embed (c : CState) : MState := ⟨c.s, c.pending, none⟩

theorem path_of_concS_step (p : Params) {c c' : CState} (e : ConcS.Ev)
    (hs : ConcS.step p c e = some c') : ∃ evs, runEvs p (embed c) evs = some (embed c') := by
  have hplain : isPlain e = true → ∃ evs, runEvs p (embed c) evs = some (embed c') := fun hpl =>
    ⟨[.other e], by simp only [runEvs, step, if_pos hpl, embed, hs, Option.map_some]⟩
  have hrun : ∀ (t : Tid) (ex : Bool) {s' : SState},
      MPath p ex (beginRun c.s ex, passStart p (Gen.MAX_SYNC_REPEATS + 1) (beginRun c.s ex))
        (s', none) → ∃ evs, runEvs p (embed c) evs = some (embed ⟨s', c.pending⟩) := by
    intro t ex s' hp
    obtain ⟨evs, he⟩ := runEvs_of_mpath hp t c.pending
    exact ⟨.mBegin t ex :: evs, by simp only [runEvs, step, embed]; exact he⟩
  cases ConcS.Step.of_eq hs with
  | maint t hr => exact hrun t false (run_is_trySync p c.s hr)
  | sync t => exact hrun t true (run_is_syncRun p c.s)
  | _ => exact hplain rfl

theorem reach_of_runEvs {p : Params} : ∀ (evs : List Ev) (c c' : MState), Reach p c →
    runEvs p c evs = some c' → Reach p c' :=
  (isPath p).inv fun _ _ e h hs => Reach.step e h hs

theorem reach_embed {p : Params} {c : CState} (h : ConcS.Reach p c) : Reach p (embed c) := by
  induction h with
  | init => exact Reach.init
  | step e _ hs ih =>
    obtain ⟨evs, he⟩ := path_of_concS_step p e hs
    exact reach_of_runEvs evs _ _ ih he

end ConcM
end MiniMoka
