/-
  Transition systems whose steps project to fragments of model R (`MiniMoka/ConcR.lean`).  The ids
  of R's operations are the positions of the events; a ghost (`ConcSR.Ghost`) carries the next id
  and what each thread holds.  From the shape of the per-event projection alone follow who was
  invoked as what, the order of the map steps and what the responses carry; from a per-step
  simulation, that R accepts the projection of every path (`Sys.refines_R`); from both, the C02
  theorems in terms of the events of the path.  There is no instance for `ConcM`, whose executions
  are executions of `ConcF` (`ConcF.reach_embedM`).
-/
import MiniMoka.ConcR
import MiniMoka.Lemmas.ConcR
import MiniMoka.Lemmas.IsPath

namespace MiniMoka
namespace SyncR

open ConcR (Key Val Tid Oid Ev)

def resps : List Ev → List (Oid × Option Val)
  | [] => []
  | .respond o r :: es => (o, r) :: resps es
  | _ :: es => resps es

/-- Instance, thread, operation (`ConcR.opOf`: its invocation in the trace) and returned
value of every response of `evs`, in response order. -/
def callsOf (evs : List Ev) : List (Oid × Tid × ConcR.Op × Option Val) :=
  (resps evs).filterMap fun x => (ConcR.opOf evs x.1).map fun y => (x.1, y.1, y.2, x.2)

theorem resps_append (l1 l2 : List Ev) : resps (l1 ++ l2) = resps l1 ++ resps l2 := by
  induction l1 with
  | nil => rfl
  | cons e es ih => cases e <;> simp [resps, ih]

theorem resps_daemons (ds : List Key) : resps (ds.map Ev.daemon) = [] := by
  induction ds with
  | nil => rfl
  | cons d ds ih => simpa [resps] using ih

theorem opOf_daemons (ds : List Key) (o : Oid) : ConcR.opOf (ds.map Ev.daemon) o = none := by
  induction ds with
  | nil => rfl
  | cons d ds ih => simpa [ConcR.opOf] using ih

theorem stepOids_daemons (ds : List Key) : ConcR.stepOids (ds.map Ev.daemon) = [] := by
  induction ds with
  | nil => rfl
  | cons d ds ih => simpa [ConcR.stepOids] using ih

theorem mem_resps {E : List Ev} {o : Oid} {r : Option Val} :
    (o, r) ∈ resps E ↔ Ev.respond o r ∈ E := by
  induction E with
  | nil => simp [resps]
  | cons e es ih =>
    cases e <;> simp [resps, ih]

theorem mem_callsOf {E : List Ev} {o : Oid} {t : Tid} {op : ConcR.Op} {r : Option Val}
    (h : (o, t, op, r) ∈ callsOf E) :
    Ev.respond o r ∈ E ∧ ConcR.opOf E o = some (t, op) := by
  unfold callsOf at h
  rw [List.mem_filterMap] at h
  obtain ⟨x, hx, hm⟩ := h
  cases ho : ConcR.opOf E x.1 with
  | none => rw [ho] at hm; cases hm
  | some y =>
    rw [ho] at hm
    simp only [Option.map_some, Option.some.injEq, Prod.mk.injEq] at hm
    obtain ⟨h1, h2, h3, h4⟩ := hm
    subst h1 h2 h3 h4
    exact ⟨mem_resps.1 hx, ho⟩

end SyncR

namespace ConcSR

open ConcR (Val)

structure Held where
  oid : Nat
  op : ConcR.Op
  /-- the result decided at the map step (`none` for `ins` / `del`) -/
  res : Option Val
  deriving DecidableEq, Repr, Inhabited

structure Ghost where
  /-- id for the next operation: the number of events so far -/
  next : Nat := 0
  held : List (Nat × Held) := []
  deriving Repr, Inhabited

/-- The prefix `pre` of the R trace knows the invocations of the held instances and nothing
of future ids. -/
def PreOk (pre : List ConcR.Ev) (g : Ghost) : Prop :=
  (∀ x ∈ g.held, ConcR.opOf pre x.2.oid = some (x.1, x.2.op)) ∧
  (∀ o, g.next ≤ o → ConcR.opOf pre o = none)

theorem preOk_init : PreOk [] {} := ⟨fun _ hx => (by cases hx), fun _ _ => rfl⟩

end ConcSR

namespace ProjR

open ConcR (KV Key Val Tid Oid State lookup runFrom)
open SyncR ConcSR

/-- Instance, thread, operation, returned value. -/
abbrev Call := Oid × Tid × ConcR.Op × Option Val

/-- A transition system (`step`) whose events stand for fragments of executions of R.  The ghost
counts the events (`next`: the id of the operation the next event may invoke) and records what
each thread holds between its map step and its response. -/
structure Sys (σ ε : Type) where
  step : σ → ε → Option σ
  /-- the events of R an event stands for, in the state and ghost before it -/
  proj : σ → Ghost → ε → List ConcR.Ev
  gstep : σ → Ghost → ε → Ghost
  /-- thread and operation, if the event is the map step of a call -/
  mop : ε → Option (Tid × ConcR.Op)
  /-- the calls that return in this event, with what they return -/
  resp : σ → Ghost → ε → List Call
  /-- what the event's map step fixes for the call with this id (a bare counter: `decidedFrom`
  needs no ghost) -/
  dec : σ → Nat → ε → List Call
  next : ∀ c g e, (gstep c g e).next = g.next + 1
  opOf : ∀ c g e o, ConcR.opOf (proj c g e) o = if g.next = o then mop e else none
  steps : ∀ c g e, ConcR.stepOids (proj c g e) = if (mop e).isSome then [g.next] else []
  held : ∀ c g e x, x ∈ (gstep c g e).held →
    x ∈ g.held ∨ (x.2.oid, x.1, x.2.op, x.2.res) ∈ dec c g.next e
  decm : ∀ c n e y, y ∈ dec c n e → y.1 = n ∧ mop e = some (y.2.1, y.2.2.1)
  /-- `resp` is what `callsOf` reads off the event's projection, whatever execution `T` follows
  (ids invoked in `T` are later positions): this is `Sys.callsOf_projFrom` for one event -/
  calls : ∀ c g pre e T, PreOk pre g →
    (resps (proj c g e)).filterMap
        (fun x => (ConcR.opOf (pre ++ proj c g e ++ T) x.1).map
          fun y => (x.1, y.1, y.2, x.2)) = resp c g e
  /-- a call returns only what was decided: now, or earlier and held since -/
  respDec : ∀ c g e (D : List Call), (∀ x ∈ g.held, (x.2.oid, x.1, x.2.op, x.2.res) ∈ D) →
    ∀ y ∈ resp c g e, y ∈ D ++ dec c g.next e

variable {σ ε : Type} (S : Sys σ ε)

def Sys.run : σ → List ε → Option σ
  | c, [] => some c
  | c, e :: rest =>
    match S.step c e with
    | some c' => Sys.run c' rest
    | none => none

def Sys.projFrom : σ → Ghost → List ε → List ConcR.Ev
  | _, _, [] => []
  | c, g, e :: rest =>
    S.proj c g e ++
      (match S.step c e with
       | some c' => Sys.projFrom c' (S.gstep c g e) rest
       | none => [])

def Sys.callsFrom : σ → Ghost → List ε → List Call
  | _, _, [] => []
  | c, g, e :: rest =>
    S.resp c g e ++
      (match S.step c e with
       | some c' => Sys.callsFrom c' (S.gstep c g e) rest
       | none => [])

/-- `n` is the position of the first event. -/
def Sys.decidedFrom : σ → Nat → List ε → List Call
  | _, _, [] => []
  | c, n, e :: rest =>
    S.dec c n e ++
      (match S.step c e with
       | some c' => Sys.decidedFrom c' (n + 1) rest
       | none => [])

theorem Sys.isPath : IsPath S.step S.run :=
  ⟨fun _ => rfl, fun c e rest => by simp only [Sys.run]; cases S.step c e <;> rfl⟩

theorem Sys.refines {R : State → σ → Ghost → Prop}
    (hstep : ∀ {a c c' g} (e : ε), R a c g → S.step c e = some c' →
      ∃ a', runFrom a (S.proj c g e) = some a' ∧ R a' c' (S.gstep c g e))
    (evs : List ε) : ∀ (a : State) (c c' : σ) (g : Ghost), R a c g → S.run c evs = some c' →
      ∃ a' g', runFrom a (S.projFrom c g evs) = some a' ∧ R a' c' g' := by
  induction evs with
  | nil => intro a c c' g h hr; cases hr; exact ⟨a, g, rfl, h⟩
  | cons e rest ih =>
    intro a c c' g h hr
    obtain ⟨c1, hs, hr⟩ := S.isPath.cons_some hr
    obtain ⟨a1, hr1, h1⟩ := hstep e h hs
    obtain ⟨a2, g2, hr2, h2⟩ := ih a1 c1 c' _ h1 hr
    refine ⟨a2, g2, ?_, h2⟩
    simp only [Sys.projFrom, hs]
    rw [ConcR.runFrom_append, hr1]; exact hr2

theorem Sys.preOk_step {c : σ} {g : Ghost} {pre : List ConcR.Ev} (h : PreOk pre g) (e : ε) :
    PreOk (pre ++ S.proj c g e) (S.gstep c g e) := by
  constructor
  · intro x hx
    rcases S.held c g e x hx with hx | hx
    · exact ConcR.opOf_append_of_some _ (h.1 x hx)
    · obtain ⟨h1, h2⟩ := S.decm _ _ _ _ hx
      simp only at h1 h2
      rw [ConcR.opOf_append, h1, h.2 g.next (Nat.le_refl _), S.opOf, if_pos rfl, h2]
      rfl
  · intro o ho
    rw [S.next] at ho
    rw [ConcR.opOf_append, h.2 o (Nat.le_of_succ_le ho), S.opOf, if_neg (Nat.ne_of_lt ho)]
    rfl

theorem Sys.callsOf_projFrom (evs : List ε) :
    ∀ (c : σ) (g : Ghost) (pre : List ConcR.Ev), PreOk pre g →
      (resps (S.projFrom c g evs)).filterMap
          (fun x => (ConcR.opOf (pre ++ S.projFrom c g evs) x.1).map
            fun y => (x.1, y.1, y.2, x.2)) =
        S.callsFrom c g evs := by
  induction evs with
  | nil => intro c g pre _; rfl
  | cons e rest ih =>
    intro c g pre h
    simp only [Sys.projFrom, Sys.callsFrom]
    rw [resps_append, List.filterMap_append, ← List.append_assoc, S.calls c g pre e _ h]
    cases hs : S.step c e with
    | none => simp only [resps, List.filterMap_nil]
    | some c1 =>
      simp only
      rw [ih c1 _ (pre ++ S.proj c g e) (S.preOk_step h e)]

theorem Sys.callsOf_proj (c : σ) (evs : List ε) :
    callsOf (S.projFrom c {} evs) = S.callsFrom c {} evs := by
  have := S.callsOf_projFrom evs c {} [] preOk_init
  rw [List.nil_append] at this
  exact this

theorem Sys.callsFrom_decided (evs : List ε) :
    ∀ (c : σ) (g : Ghost) (D : List Call),
      (∀ x ∈ g.held, (x.2.oid, x.1, x.2.op, x.2.res) ∈ D) →
      ∀ y ∈ S.callsFrom c g evs, y ∈ D ++ S.decidedFrom c g.next evs := by
  induction evs with
  | nil => intro c g D _ y hy; cases hy
  | cons e rest ih =>
    intro c g D hD y hy
    simp only [Sys.callsFrom, Sys.decidedFrom] at hy ⊢
    rcases List.mem_append.1 hy with hy | hy
    · rcases List.mem_append.1 (S.respDec c g e D hD y hy) with h | h
      · exact List.mem_append_left _ h
      · exact List.mem_append_right _ (List.mem_append_left _ h)
    · cases hs : S.step c e with
      | none => rw [hs] at hy; cases hy
      | some c1 =>
        rw [hs] at hy
        simp only at hy ⊢
        have := ih c1 (S.gstep c g e) (D ++ S.dec c g.next e) (by
          intro x hx
          rcases S.held c g e x hx with hx | hx
          · exact List.mem_append_left _ (hD x hx)
          · exact List.mem_append_right _ hx) y hy
        rw [S.next, List.append_assoc] at this
        exact this

theorem Sys.refines_R {R : State → σ → Ghost → Prop}
    (hstep : ∀ {a c c' g} (e : ε), R a c g → S.step c e = some c' →
      ∃ a', runFrom a (S.proj c g e) = some a' ∧ R a' c' (S.gstep c g e))
    {c0 c : σ} (h0 : R State.init c0 {}) {evs : List ε} (hrun : S.run c0 evs = some c) :
    ∃ a' g', ConcR.run (S.projFrom c0 {} evs) = some a' ∧ R a' c g' ∧
      ConcR.WF (S.projFrom c0 {} evs) ∧
      callsOf (S.projFrom c0 {} evs) = S.callsFrom c0 {} evs ∧
      ∀ y ∈ S.callsFrom c0 {} evs, y ∈ S.decidedFrom c0 0 evs := by
  obtain ⟨a', g', h1, h2⟩ := S.refines hstep evs State.init c0 c {} h0 hrun
  refine ⟨a', g', h1, h2, ConcR.WF_iff.2 ⟨a', h1⟩, S.callsOf_proj c0 evs, fun y hy => ?_⟩
  have := S.callsFrom_decided evs c0 {} [] (fun _ hx => by cases hx) y hy
  rw [List.nil_append] at this
  exact this

theorem Sys.opOf_projFrom (evs : List ε) :
    ∀ (c c' : σ) (g : Ghost), S.run c evs = some c' →
      (∀ i, ConcR.opOf (S.projFrom c g evs) (g.next + i) = (evs[i]?).bind S.mop) ∧
      (∀ o, o < g.next → ConcR.opOf (S.projFrom c g evs) o = none) := by
  induction evs with
  | nil => intro c c' g _; exact ⟨fun _ => rfl, fun _ _ => rfl⟩
  | cons e rest ih =>
    intro c c' g hr
    obtain ⟨c1, hs, hr⟩ := S.isPath.cons_some hr
    obtain ⟨ih1, ih2⟩ := ih c1 c' (S.gstep c g e) hr
    rw [S.next] at ih1 ih2
    simp only [Sys.projFrom, hs]
    constructor
    · intro i
      rw [ConcR.opOf_append, S.opOf]
      cases i with
      | zero =>
        rw [Nat.add_zero, if_pos rfl, ih2 _ (Nat.lt_succ_self _), Option.or_none]
        rfl
      | succ i =>
        rw [if_neg (by omega), show g.next + (i + 1) = g.next + 1 + i by omega, ih1 i]
        rfl
    · intro o ho
      rw [ConcR.opOf_append, S.opOf, if_neg (Nat.ne_of_gt ho), ih2 o (Nat.lt_succ_of_lt ho)]
      rfl

theorem Sys.opOf_proj {c0 c : σ} {evs : List ε} (hrun : S.run c0 evs = some c) (o : Nat) :
    ConcR.opOf (S.projFrom c0 {} evs) o = (evs[o]?).bind S.mop := by
  have := (S.opOf_projFrom evs c0 c {} hrun).1 o
  rwa [show ({} : Ghost).next + o = o from Nat.zero_add o] at this

theorem Sys.mem_stepOids_projFrom (evs : List ε) :
    ∀ (c c' : σ) (g : Ghost) (i : Nat), S.run c evs = some c' →
      ((evs[i]?).bind S.mop).isSome = true →
      g.next + i ∈ ConcR.stepOids (S.projFrom c g evs) := by
  induction evs with
  | nil => intro c c' g i _ h; cases h
  | cons e rest ih =>
    intro c c' g i hr h
    obtain ⟨c1, hs, hr⟩ := S.isPath.cons_some hr
    simp only [Sys.projFrom, hs]
    rw [ConcR.stepOids_append, List.mem_append]
    cases i with
    | zero => left; rw [S.steps, if_pos (show (S.mop e).isSome = true from h)]; exact List.mem_singleton_self _
    | succ i =>
      right
      have := ih c1 c' (S.gstep c g e) i hr h
      rwa [S.next, Nat.add_right_comm, Nat.add_assoc] at this

theorem Sys.stepOids_sorted (evs : List ε) :
    ∀ (c : σ) (g : Ghost),
      (∀ o ∈ ConcR.stepOids (S.projFrom c g evs), g.next ≤ o) ∧
      (ConcR.stepOids (S.projFrom c g evs)).Pairwise (· < ·) := by
  induction evs with
  | nil => intro c g; simp [Sys.projFrom, ConcR.stepOids]
  | cons e rest ih =>
    intro c g
    simp only [Sys.projFrom]
    rw [ConcR.stepOids_append, S.steps]
    cases hs : S.step c e with
    | none =>
      simp only [ConcR.stepOids, List.append_nil]
      split <;> simp
    | some c1 =>
      simp only
      obtain ⟨ih1, ih2⟩ := ih c1 (S.gstep c g e)
      rw [S.next] at ih1
      constructor
      · intro o ho
        rcases List.mem_append.1 ho with ho | ho
        · split at ho
          · simp only [List.mem_singleton] at ho; rw [ho]; exact Nat.le_refl _
          · cases ho
        · exact Nat.le_of_succ_le (ih1 o ho)
      · rw [List.pairwise_append]
        refine ⟨by split <;> simp, ih2, ?_⟩
        intro a ha b hb
        split at ha
        · simp only [List.mem_singleton] at ha; rw [ha]; exact ih1 b hb
        · cases ha

/-- C02 (read-from) for the projection of any path.  Ids are positions in `evs`: if the `get k`
whose map step is event `g` returned `some v`, there is an earlier event `w`, the map step of an
`ins k v`, with no map step of a write of `k` between them in `evs`, and no write of `k` at all
(daemons included) between their map steps, at positions `i < j` of the projection. -/
theorem Sys.read_from {c0 c : σ} {evs : List ε} (hrun : S.run c0 evs = some c)
    {a' : ConcR.State} (hr : ConcR.run (S.projFrom c0 {} evs) = some a')
    {g : Nat} {t : Tid} {k : Key} {v : Val}
    (hret : (g, t, ConcR.Op.get k, some v) ∈ S.callsFrom c0 {} evs) :
    (evs[g]?).bind S.mop = some (t, .get k) ∧
    ∃ w tw, w < g ∧ (evs[w]?).bind S.mop = some (tw, .ins k v) ∧
      (∀ m, w < m → m < g → ∀ t' rop, (evs[m]?).bind S.mop = some (t', rop) →
        ¬ ((∃ v', rop = .ins k v') ∨ rop = .del k)) ∧
      ∃ i j, i < j ∧ (S.projFrom c0 {} evs)[i]? = some (.mapStep w) ∧
        (S.projFrom c0 {} evs)[j]? = some (.mapStep g) ∧
        ConcR.NoWriteIn (S.projFrom c0 {} evs) k (i + 1) j := by
  rw [← S.callsOf_proj] at hret
  obtain ⟨hresp, hop⟩ := mem_callsOf hret
  have hopC := S.opOf_proj hrun
  refine ⟨by rw [← hopC g]; exact hop, ?_⟩
  obtain ⟨a, ha⟩ := List.mem_iff_getElem?.1 hresp
  obtain ⟨j, _, hj⟩ := ConcR.respond_after_mapStep hr ha
  obtain ⟨i, w, tw, hij, hi, hw, hnw⟩ := ConcR.read_from hr hj hop hresp
  have hsorted := ConcR.stepOids_pairwise_iff.1 (S.stepOids_sorted evs c0 {}).2
  have hwg : w < g := hsorted _ _ _ _ hij hi hj
  refine ⟨w, tw, hwg, by rw [← hopC w]; exact hw, ?_, i, j, hij, hi, hj, hnw⟩
  intro m hwm hmg t' rop hme hrop
  have hopm : ConcR.opOf (S.projFrom c0 {} evs) m = some (t', rop) := by rw [hopC m]; exact hme
  have hmem : m ∈ ConcR.stepOids (S.projFrom c0 {} evs) := by
    have := S.mem_stepOids_projFrom evs c0 c {} m hrun (by rw [hme]; rfl)
    rwa [show ({} : Ghost).next + m = m from Nat.zero_add m] at this
  obtain ⟨q, hq'⟩ := List.mem_iff_getElem?.1 (ConcR.mem_stepOids.1 hmem)
  -- the map step of `m` lies between those of `w` and `g`, where nothing writes `k`
  have hiq : i < q := by
    rcases Nat.lt_trichotomy i q with h | h | h
    · exact h
    · subst h; rw [hi] at hq'; cases hq'; omega
    · have hlt : m < w := hsorted _ _ _ _ h hq' hi
      omega
  have hqj : q < j := by
    rcases Nat.lt_trichotomy q j with h | h | h
    · exact h
    · subst h; rw [hj] at hq'; cases hq'; omega
    · have hlt : g < m := hsorted _ _ _ _ h hj hq'
      omega
  have hfalse := hnw q (by omega) hqj _ hq'
  rw [ConcR.writesKey_mapStep_of_op hopm hrop] at hfalse
  cases hfalse

/-- C02 (not superseded) for the projection of any path.  If the get `g` of `k` returned `some v`
and a write `u` of `k` had responded (position `a`) before `g` was invoked (position `b`), then
the insert `w` that `g` read from is `u` or a later event. -/
theorem Sys.not_superseded {c0 c : σ} {evs : List ε} (hrun : S.run c0 evs = some c)
    {a' : ConcR.State} (hr : ConcR.run (S.projFrom c0 {} evs) = some a')
    {g : Nat} {t : Tid} {k : Key} {v : Val}
    (hret : (g, t, ConcR.Op.get k, some v) ∈ S.callsFrom c0 {} evs)
    {u : Nat} {tu : Tid} {opu : ConcR.Op} {a b : Nat} {x : Option Val}
    (hu : (evs[u]?).bind S.mop = some (tu, opu)) (hk : (∃ v', opu = .ins k v') ∨ opu = .del k)
    (hures : (S.projFrom c0 {} evs)[a]? = some (.respond u x))
    (hginv : (S.projFrom c0 {} evs)[b]? = some (.invoke t g (.get k))) (hab : a < b) :
    ∃ w tw, w < g ∧ (evs[w]?).bind S.mop = some (tw, .ins k v) ∧ u ≤ w := by
  rw [← S.callsOf_proj] at hret
  obtain ⟨hresp, hop⟩ := mem_callsOf hret
  have hopC := S.opOf_proj hrun
  obtain ⟨ar, har⟩ := List.mem_iff_getElem?.1 hresp
  obtain ⟨j, _, hj⟩ := ConcR.respond_after_mapStep hr har
  obtain ⟨pu, _, hpu⟩ := ConcR.respond_after_mapStep hr hures
  have hsorted := ConcR.stepOids_pairwise_iff.1 (S.stepOids_sorted evs c0 {}).2
  have hopu : ConcR.opOf (S.projFrom c0 {} evs) u = some (tu, opu) := by rw [hopC u]; exact hu
  obtain ⟨i, w, tw, hij, hi, hw, _, hle⟩ :=
    ConcR.not_superseded hr hj hop hresp hopu hk hures hginv hab hpu
  have hwg : w < g := hsorted _ _ _ _ hij hi hj
  refine ⟨w, tw, hwg, by rw [← hopC w]; exact hw, ?_⟩
  rcases Nat.lt_or_eq_of_le hle with h | h
  · exact Nat.le_of_lt (hsorted _ _ _ _ h hpu hi)
  · subst h; rw [hi] at hpu; cases hpu; exact Nat.le_refl _

/-- C02 (final state) for the projection of any path.  A key bound to `v` at the end was last
written by the map step of an `ins k v`; a key whose deletion (`daemon k`, or the map step of a
`del k`, at position `m`) no map step of an insert of `k` follows is unbound at the end. -/
theorem Sys.final {c0 c : σ} {evs : List ε} (hrun : S.run c0 evs = some c)
    {a' : ConcR.State} (hr : ConcR.run (S.projFrom c0 {} evs) = some a') (k : Key) :
    (∀ v, lookup a'.map k = some v →
      ∃ i w tw, (S.projFrom c0 {} evs)[i]? = some (.mapStep w) ∧
        (evs[w]?).bind S.mop = some (tw, .ins k v) ∧
        ConcR.NoWriteIn (S.projFrom c0 {} evs) k (i + 1) (S.projFrom c0 {} evs).length) ∧
    (∀ (m : Nat) (e : ConcR.Ev), (S.projFrom c0 {} evs)[m]? = some e →
      (e = .daemon k ∨ ∃ d td, e = .mapStep d ∧ (evs[d]?).bind S.mop = some (td, .del k)) →
      (∀ (m' : Nat) w tw v, m < m' → (S.projFrom c0 {} evs)[m']? = some (.mapStep w) →
        (evs[w]?).bind S.mop ≠ some (tw, .ins k v)) →
      lookup a'.map k = none) := by
  simp only [← S.opOf_proj hrun]
  exact ⟨fun _ hv => ConcR.final_state_some hr hv,
    fun _ _ hm he hlast => ConcR.final_state_none hr hm (ConcR.effect_of_delete he) hlast⟩

end ProjR
end MiniMoka
