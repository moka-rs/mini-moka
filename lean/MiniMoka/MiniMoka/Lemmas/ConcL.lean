/-
  Lemmas for model L (`MiniMoka/ConcL.lean`): the invariant `Inv` is preserved by every step;
  under it an unfinished system can step (maximal-rank argument) and every step decreases the
  total remaining code; the checker implies `CodeWf` of every unfolding, which is how the table
  of `sync::Cache` meets the generic theorems. `Props/C09Conc.lean` states the results.
-/
import MiniMoka.ConcL

namespace MiniMoka.ConcL

-- `[DecidableEq L]` rides along in every statement about `L`; `State.set_self/_ne` do not use it
set_option linter.unusedSectionVars false

variable {L : Type} [DecidableEq L]

/-! ## Invariant -/

/-- The invariant of a system of `n` threads under the lock order `rank`: every thread's remaining
code respects the order given what it holds (`wf`), a lock is held by at most one thread (`excl`),
and the threads from `n` on are done (`idle`: that is why `measure n` sees all remaining code). -/
structure Inv (rank : L → Nat) (n : Nat) (s : State L) : Prop where
  wf : ∀ i, CodeWf rank (s i).held (s i).code
  excl : ∀ i j l, l ∈ (s i).held → l ∈ (s j).held → i = j
  idle : ∀ i, n ≤ i → (s i).code = .done

theorem held_nil_of_done {rank : L → Nat} {n : Nat} {s : State L} (hI : Inv rank n s)
    {i : Nat} (hd : (s i).code = .done) : (s i).held = [] := by
  have h := hI.wf i
  rw [hd] at h
  simpa [CodeWf] using h

theorem State.set_self (s : State L) (i : Nat) (t : Thread L) : s.set i t i = t := by
  simp [State.set]

theorem State.set_ne (s : State L) {i j : Nat} (t : Thread L) (h : j ≠ i) :
    s.set i t j = s j := by
  simp [State.set, h]

theorem inv_step {rank : L → Nat} {n : Nat} {s s' : State L} (hI : Inv rank n s)
    (hs : Step s s') : Inv rank n s' := by
  cases hs with
  | @mk i t' ht =>
    generalize hsi : s i = t at ht
    have hwf := hI.wf i
    rw [hsi] at hwf
    have hexcl : ∀ j l, j ≠ i → l ∈ t.held → l ∈ (s j).held → False := by
      intro j l hj h1 h2
      have : l ∈ (s i).held := by rw [hsi]; exact h1
      exact hj (hI.excl j i l h2 this)
    -- facts about the new thread, by cases on the step
    have key : CodeWf rank t'.held t'.code ∧
        (∀ j l, j ≠ i → l ∈ t'.held → l ∈ (s j).held → False) ∧ t.code ≠ .done := by
      cases ht with
      | @acq h l k hfree =>
        simp only [CodeWf] at hwf
        refine ⟨hwf.2, ?_, by simp⟩
        intro j x hj h1 h2
        rcases List.mem_cons.1 h1 with rfl | h1
        · exact hfree ⟨j, h2⟩
        · exact hexcl j x hj h1 h2
      | @rel h l k =>
        simp only [CodeWf] at hwf
        refine ⟨hwf.2, ?_, by simp⟩
        intro j x hj h1 h2
        exact hexcl j x hj (List.mem_of_mem_erase h1) h2
      | @tryOk h l a b hfree =>
        simp only [CodeWf] at hwf
        refine ⟨hwf.1, ?_, by simp⟩
        intro j x hj h1 h2
        rcases List.mem_cons.1 h1 with rfl | h1
        · exact hfree ⟨j, h2⟩
        · exact hexcl j x hj h1 h2
      | @tryFail h l a b _ =>
        simp only [CodeWf] at hwf
        exact ⟨hwf.2, fun j x hj h1 h2 => hexcl j x hj h1 h2, by simp⟩
    obtain ⟨k1, k2, k3⟩ := key
    refine ⟨?_, ?_, ?_⟩
    · intro j
      by_cases hj : j = i
      · subst hj; rw [State.set_self]; exact k1
      · rw [State.set_ne _ _ hj]; exact hI.wf j
    · intro a b l ha hb
      by_cases haI : a = i <;> by_cases hbI : b = i
      · rw [haI, hbI]
      · subst haI
        rw [State.set_self] at ha
        rw [State.set_ne _ _ hbI] at hb
        exact (k2 b l hbI ha hb).elim
      · subst hbI
        rw [State.set_self] at hb
        rw [State.set_ne _ _ haI] at ha
        exact (k2 a l haI hb ha).elim
      · rw [State.set_ne _ _ haI] at ha
        rw [State.set_ne _ _ hbI] at hb
        exact hI.excl a b l ha hb
    · intro j hj
      by_cases hji : j = i
      · subst hji
        have := hI.idle j hj
        rw [hsi] at this
        exact (k3 this).elim
      · rw [State.set_ne _ _ hji]; exact hI.idle j hj

theorem inv_reach {rank : L → Nat} {n : Nat} {s s' : State L} (hI : Inv rank n s)
    (hr : Reach s s') : Inv rank n s' := by
  induction hr with
  | refl => exact hI
  | step _ hs ih => exact inv_step ih hs

theorem inv_init {rank : L → Nat} {n : Nat} {s0 : State L}
    (hinit : ∀ i, (s0 i).held = [] ∧ CodeWf rank [] (s0 i).code)
    (hidle : ∀ i, n ≤ i → (s0 i).code = .done) : Inv rank n s0 := by
  refine ⟨?_, ?_, hidle⟩
  · intro i
    rw [(hinit i).1]; exact (hinit i).2
  · intro i j l hi
    rw [(hinit i).1] at hi
    exact absurd hi (by simp)

theorem Reach.head {s s1 s' : State L} (h : Step s s1) (hr : Reach s1 s') : Reach s s' := by
  induction hr with
  | refl => exact Reach.step (Reach.refl _) h
  | step _ hs ih => exact Reach.step ih hs

theorem Reach.trans {s s1 s' : State L} (h : Reach s s1) (hr : Reach s1 s') : Reach s s' := by
  induction hr with
  | refl => exact h
  | step _ hs ih => exact Reach.step ih hs

/-! ## No deadlock -/

/-- Rank of the lock a thread is about to block on (0 if its next event is not a
blocking acquire). -/
def waitRank (rank : L → Nat) : Code L → Nat
  | .acq l _ => rank l
  | _ => 0

theorem exists_max (p : Nat → Prop) (f : Nat → Nat) :
    ∀ n, (∃ i, i < n ∧ p i) → ∃ i, i < n ∧ p i ∧ ∀ j, j < n → p j → f j ≤ f i := by
  intro n
  induction n with
  | zero => rintro ⟨i, hi, _⟩; omega
  | succ n ih =>
    rintro ⟨i, hi, hp⟩
    by_cases hprev : ∃ i, i < n ∧ p i
    · obtain ⟨m, hm, hpm, hmax⟩ := ih hprev
      by_cases hn : p n ∧ f m < f n
      · refine ⟨n, by omega, hn.1, ?_⟩
        intro j hj hpj
        by_cases hjn : j = n
        · subst hjn; exact Nat.le_refl _
        · have := hmax j (by omega) hpj; omega
      · refine ⟨m, by omega, hpm, ?_⟩
        intro j hj hpj
        by_cases hjn : j = n
        · subst hjn
          have : ¬ f m < f j := fun h => hn ⟨hpj, h⟩
          omega
        · exact hmax j (by omega) hpj
    · have hin : i = n := by
        by_cases h : i = n
        · exact h
        · exact (hprev ⟨i, by omega, hp⟩).elim
      subst hin
      refine ⟨i, by omega, hp, ?_⟩
      intro j hj hpj
      by_cases hjn : j = i
      · subst hjn; exact Nat.le_refl _
      · exact (hprev ⟨j, by omega, hpj⟩).elim

theorem blocked_of_no_step {s : State L} {i : Nat} (hnd : (s i).code ≠ .done)
    (hno : ¬ ∃ t', TStep s (s i) t') :
    ∃ l k, (s i).code = .acq l k ∧ Holds s l := by
  rcases hsi : s i with ⟨h, c⟩
  rw [hsi] at hnd hno
  cases c with
  | done => exact (hnd rfl).elim
  | acq l k =>
    by_cases hh : Holds s l
    · exact ⟨l, k, rfl, hh⟩
    · exact (hno ⟨_, TStep.acq hh⟩).elim
  | rel l k => exact (hno ⟨_, TStep.rel⟩).elim
  | tryL l a b =>
    by_cases hh : Holds s l
    · exact (hno ⟨_, TStep.tryFail hh⟩).elim
    · exact (hno ⟨_, TStep.tryOk hh⟩).elim

/-- If no thread can step, take an unfinished thread whose awaited lock has maximal rank: its
holder is unfinished, hence blocked, and by `CodeWf` waits for a lock of strictly higher rank. -/
theorem no_deadlock_of_inv {rank : L → Nat} {n : Nat} {s : State L} (hI : Inv rank n s)
    (hun : ∃ i, (s i).code ≠ .done) : ∃ s', Step s s' := by
  by_cases hstep : ∃ i t', TStep s (s i) t'
  · obtain ⟨i, t', ht⟩ := hstep
    exact ⟨_, Step.mk i ht⟩
  · exfalso
    have hblocked : ∀ i, (s i).code ≠ .done → ∃ l k, (s i).code = .acq l k ∧ Holds s l :=
      fun i hnd => blocked_of_no_step hnd (fun ⟨t', ht⟩ => hstep ⟨i, t', ht⟩)
    have hlt : ∀ i, (s i).code ≠ .done → i < n := by
      intro i hnd
      by_cases h : i < n
      · exact h
      · exact (hnd (hI.idle i (by omega))).elim
    obtain ⟨i0, hi0⟩ := hun
    obtain ⟨i, _, hpi, hmax⟩ :=
      exists_max (fun i => (s i).code ≠ .done) (fun i => waitRank rank (s i).code) n
        ⟨i0, hlt i0 hi0, hi0⟩
    obtain ⟨l, k, hcode, j, hj⟩ := hblocked i hpi
    have hjnd : (s j).code ≠ .done := by
      intro hd
      have := held_nil_of_done hI hd
      rw [this] at hj
      exact absurd hj (by simp)
    obtain ⟨l', k', hcode', _⟩ := hblocked j hjnd
    have hwf := hI.wf j
    rw [hcode'] at hwf
    simp only [CodeWf] at hwf
    have h1 : rank l < rank l' := hwf.1 l hj
    have h2 := hmax j (hlt j hjnd) hjnd
    simp only [hcode, hcode', waitRank] at h2
    omega

/-! ## Progress measure -/

theorem sumTo_le {f g : Nat → Nat} (h : ∀ j, g j ≤ f j) : ∀ n, sumTo g n ≤ sumTo f n := by
  intro n
  induction n with
  | zero => simp [sumTo]
  | succ n ih => simp only [sumTo]; have := h n; omega

theorem sumTo_lt {f g : Nat → Nat} (h : ∀ j, g j ≤ f j) {i : Nat} (hi : g i < f i) :
    ∀ n, i < n → sumTo g n < sumTo f n := by
  intro n
  induction n with
  | zero => intro h0; omega
  | succ n ih =>
    intro hin
    simp only [sumTo]
    by_cases hn : i = n
    · subst hn
      have := sumTo_le h i
      omega
    · have := ih (by omega)
      have := h n
      omega

theorem tstep_size_lt {s : State L} {t t' : Thread L} (h : TStep s t t') :
    t'.code.size < t.code.size := by
  cases h <;> simp only [Code.size] <;> omega

theorem step_measure_lt {rank : L → Nat} {n : Nat} {s s' : State L} (hI : Inv rank n s)
    (hs : Step s s') : measure n s' < measure n s := by
  cases hs with
  | @mk i t' ht =>
    have hlt := tstep_size_lt ht
    have hin : i < n := by
      by_cases h : i < n
      · exact h
      · have := hI.idle i (by omega)
        rw [this] at hlt
        simp [Code.size] at hlt
    unfold measure
    apply sumTo_lt (i := i) _ _ n hin
    · intro j
      by_cases hj : j = i
      · subst hj; simp only [State.set_self]; omega
      · simp only [State.set_ne _ _ hj]; exact Nat.le_refl _
    · simp only [State.set_self]; exact hlt

theorem all_return_of_inv {rank : L → Nat} {n : Nat} :
    ∀ (m : Nat) (s : State L), Inv rank n s → measure n s < m →
      ∃ s', Reach s s' ∧ ∀ i, (s' i).code = .done
  | 0, _, _, hm => absurd hm (Nat.not_lt_zero _)
  | m + 1, s, hI, hm => by
    by_cases hall : ∀ i, (s i).code = .done
    · exact ⟨s, Reach.refl s, hall⟩
    · obtain ⟨s1, hs1⟩ := no_deadlock_of_inv hI (Classical.not_forall.1 hall)
      have hlt := step_measure_lt hI hs1
      obtain ⟨s', hr, hd⟩ := all_return_of_inv m s1 (inv_step hI hs1) (by omega)
      exact ⟨s', Reach.head hs1 hr, hd⟩

theorem all_return {rank : L → Nat} {n : Nat} {s : State L} (hI : Inv rank n s) :
    ∃ s', Reach s s' ∧ (∀ i, (s' i).code = .done) ∧ ∀ l, ¬ Holds s' l := by
  obtain ⟨s', hr', hd⟩ := all_return_of_inv (measure n s + 1) s hI (Nat.lt_succ_self _)
  refine ⟨s', hr', hd, ?_⟩
  rintro l ⟨i, hi⟩
  rw [held_nil_of_done (inv_reach hI hr') (hd i)] at hi
  cases hi

/-- Length-indexed runs, to state that every run is bounded. -/
inductive ReachN : Nat → State L → State L → Prop where
  | refl (s) : ReachN 0 s s
  | step {m s s' s''} : ReachN m s s' → Step s' s'' → ReachN (m + 1) s s''

theorem ReachN.reach {m : Nat} {s s' : State L} (h : ReachN m s s') : Reach s s' := by
  induction h with
  | refl => exact Reach.refl _
  | step _ hs ih => exact Reach.step ih hs

theorem run_length_le {rank : L → Nat} {n : Nat} {s s' : State L} {m : Nat}
    (hI : Inv rank n s) (h : ReachN m s s') : m + measure n s' ≤ measure n s := by
  induction h with
  | refl => omega
  | step hr hs ih =>
    have h1 := step_measure_lt (inv_reach hI hr.reach) hs
    have h2 := ih hI
    omega

/-! ## Soundness of the checker -/

section Check
variable {κ : Type} [DecidableEq κ]

theorem check_body {a : Option (List κ)} {h r : List κ}
    (hc : (match a with
      | some a => if a = h then some h else none
      | none => none) = some r) : a = some h ∧ r = h := by
  split at hc
  · split at hc
    · rename_i hah
      cases hc
      exact ⟨by rw [hah], rfl⟩
    · cases hc
  · cases hc

theorem check_arms {a b : Option (List κ)} {r : List κ}
    (hc : (match a, b with
      | some a, some b => if a = b then some a else none
      | _, _ => none) = some r) : a = some r ∧ b = some r := by
  split at hc
  · split at hc
    · rename_i hab
      cases hc
      exact ⟨rfl, by rw [hab]⟩
    · cases hc
  · cases hc

theorem check_seq {rank : κ → Nat} {p q : Prog κ} {h hc' : List κ}
    (hc : check rank (.seq p q) h = some hc') :
    ∃ h1, check rank p h = some h1 ∧ check rank q h1 = some hc' := by
  simp only [check] at hc
  split at hc
  · exact ⟨_, ‹_›, hc⟩
  · cases hc

/-- Soundness: if the class-level check accepts `p` from the classes of `h`, then every
unfolding of `p` (any branches, loop counts, lock instances) ends holding locks whose
classes are the predicted ones, and is well-formed provided the continuation is. -/
theorem check_sound (rank : κ → Nat) (cls : L → κ) {h h' : List L} {p : Prog κ}
    {k c : Code L} (hu : Unfolds cls h p h' k c) :
    ∀ hc', check rank p (h.map cls) = some hc' →
      h'.map cls = hc' ∧
      (CodeWf (fun l => rank (cls l)) h' k → CodeWf (fun l => rank (cls l)) h c) := by
  induction hu with
  | skip =>
    intro hc' hc
    simp only [check] at hc
    exact ⟨Option.some.inj hc, id⟩
  | sleep =>
    intro hc' hc
    simp only [check] at hc
    split at hc
    · exact ⟨Option.some.inj hc, id⟩
    · exact absurd hc (by simp)
  | @acq h k c l hl =>
    intro hc' hc
    simp only [check] at hc
    split at hc
    · rename_i hall
      refine ⟨?_, ?_⟩
      · rw [← Option.some.inj hc]; simp [hl]
      · intro hk
        simp only [CodeWf]
        refine ⟨?_, hk⟩
        intro x hx
        rw [List.all_eq_true] at hall
        have := hall (cls x) (List.mem_map.2 ⟨x, hx, rfl⟩)
        rw [hl]
        simpa using this
    · exact absurd hc (by simp)
  | @rel h k c l hl =>
    intro hc' hc
    simp only [check, List.map_cons, hl, if_true] at hc
    refine ⟨Option.some.inj hc, ?_⟩
    intro hk
    simp only [CodeWf]
    exact ⟨by simp, by simpa using hk⟩
  | @seq h h1 h2 p q k c1 c _ _ ih1 ih2 =>
    intro hc' hc
    obtain ⟨x, hp, hq⟩ := check_seq hc
    obtain ⟨e1, w1⟩ := ih1 x hp
    rw [← e1] at hq
    obtain ⟨e2, w2⟩ := ih2 hc' hq
    exact ⟨e2, fun hk => w1 (w2 hk)⟩
  | altL _ ih =>
    intro hc' hc
    exact ih hc' (check_arms hc).1
  | altR _ ih =>
    intro hc' hc
    exact ih hc' (check_arms hc).2
  | loopZ =>
    intro hc' hc
    exact ⟨(check_body hc).2.symm, id⟩
  | @loopS h h1 h2 n p k c1 c _ _ ih1 ih2 =>
    intro hc' hc
    -- the check of a loop does not look at its bound
    obtain ⟨e1, w1⟩ := ih1 _ (check_body hc).1
    obtain ⟨e2, w2⟩ := ih2 hc' (show check rank (.loop n p) _ = _ from e1 ▸ hc)
    exact ⟨e2, fun hk => w1 (w2 hk)⟩
  | starZ =>
    intro hc' hc
    exact ⟨(check_body hc).2.symm, id⟩
  | @starS h h1 h2 p k c1 c _ _ ih1 ih2 =>
    intro hc' hc
    obtain ⟨e1, w1⟩ := ih1 _ (check_body hc).1
    obtain ⟨e2, w2⟩ := ih2 hc' (e1 ▸ hc)
    exact ⟨e2, fun hk => w1 (w2 hk)⟩
  | @tryL h h' cl ok fail k c1 c2 l hl _ _ ih1 ih2 =>
    intro hc' hc
    obtain ⟨hok, hfail⟩ := check_arms hc
    have hok' : check rank ok ((l :: h).map cls) = some hc' := by
      simp only [List.map_cons, hl]; exact hok
    obtain ⟨e1, w1⟩ := ih1 hc' hok'
    obtain ⟨_, w2⟩ := ih2 hc' hfail
    refine ⟨e1, ?_⟩
    intro hk
    simp only [CodeWf]
    exact ⟨w1 hk, w2 hk⟩

end Check

/-! ## A computable default unfolding (used only for non-vacuity examples) -/

/-- One particular unfolding, computed: instance 0 everywhere, the right arm of every
branch (for `opt p` that is `p`), zero rounds of every loop. Returns the resulting stack
and the code as a function of the continuation. -/
def unf : Prog Cls → List Lock → Option (List Lock × (Code Lock → Code Lock))
  | .skip, h => some (h, id)
  | .sleep, h => some (h, id)
  | .acq c, h => some (⟨c, 0⟩ :: h, fun k => .acq ⟨c, 0⟩ k)
  | .rel _, [] => none
  | .rel c, l :: h => if l.cls = c then some (h, fun k => .rel l k) else none
  | .seq p q, h =>
      match unf p h with
      | some (h1, f1) =>
          match unf q h1 with
          | some (h2, f2) => some (h2, fun k => f1 (f2 k))
          | none => none
      | none => none
  | .alt _ q, h => unf q h
  | .loop _ _, h => some (h, id)
  | .star _, h => some (h, id)
  | .tryL c a b, h =>
      match unf a (⟨c, 0⟩ :: h), unf b h with
      | some (h1, f1), some (h2, f2) =>
          if h1 = h2 then some (h1, fun k => .tryL ⟨c, 0⟩ (f1 k) (f2 k)) else none
      | _, _ => none

theorem unf_sound (p : Prog Cls) :
    ∀ (h h' : List Lock) (f : Code Lock → Code Lock), unf p h = some (h', f) →
      ∀ k, Unfolds Lock.cls h p h' k (f k) := by
  induction p with
  | skip => intro h h' f hu k; cases hu; exact .skip
  | sleep => intro h h' f hu k; cases hu; exact .sleep
  | acq c => intro h h' f hu k; cases hu; exact .acq _ rfl
  | rel c =>
    intro h h' f hu k
    cases h with
    | nil => simp [unf] at hu
    | cons l h0 =>
      simp only [unf] at hu
      split at hu
      · rename_i hl
        simp only [Option.some.injEq, Prod.mk.injEq] at hu
        obtain ⟨rfl, rfl⟩ := hu
        exact .rel l hl
      · exact absurd hu (by simp)
  | seq p q ihp ihq =>
    intro h h' f hu k
    simp only [unf] at hu
    split at hu
    · rename_i h1 f1 hp
      split at hu
      · rename_i h2 f2 hq
        simp only [Option.some.injEq, Prod.mk.injEq] at hu
        obtain ⟨rfl, rfl⟩ := hu
        exact .seq (ihp _ _ _ hp _) (ihq _ _ _ hq k)
      · exact absurd hu (by simp)
    · exact absurd hu (by simp)
  | alt p q _ ihq =>
    intro h h' f hu k
    simp only [unf] at hu
    exact .altR (ihq _ _ _ hu k)
  | loop n p _ => intro h h' f hu k; cases hu; exact .loopZ
  | star p _ => intro h h' f hu k; cases hu; exact .starZ
  | tryL c a b iha ihb =>
    intro h h' f hu k
    simp only [unf] at hu
    split at hu
    · rename_i h1 f1 h2 f2 ha hb
      split at hu
      · rename_i h12
        subst h12
        simp only [Option.some.injEq, Prod.mk.injEq] at hu
        obtain ⟨rfl, rfl⟩ := hu
        exact .tryL _ rfl (iha _ _ _ ha k) (ihb _ _ _ hb k)
      · exact absurd hu (by simp)
    · exact absurd hu (by simp)

/-- Number of lock events of the default unfolding started with no lock held (0 if there
is none). -/
def unfSize (p : Prog Cls) : Nat :=
  match unf p [] with
  | some (_, f) => (f .done).size
  | none => 0

theorem unfolds_of_unfSize {p : Prog Cls} (h : 0 < unfSize p) :
    ∃ h' c, Unfolds Lock.cls [] p h' .done c ∧ c ≠ .done := by
  unfold unfSize at h
  split at h
  · rename_i h' f hu
    refine ⟨h', f .done, unf_sound p _ _ _ hu _, ?_⟩
    intro hd
    rw [hd] at h
    simp [Code.size] at h
  · omega

/-! ## The table of `sync::Cache` -/

theorem check_table (o : Op) : check Cls.rank (table o) [] = some [] := by
  cases o <;> decide

theorem tableOk_true : tableOk = true :=
  List.all_eq_true.2 fun o _ => by rw [check_table]; rfl

theorem check_trySync : check Cls.rank trySync [] = some [] := by decide

theorem check_opsProg (ops : List Op) : check Cls.rank (opsProg ops) [] = some [] := by
  induction ops with
  | nil => rfl
  | cons o os ih => simp only [opsProg, check, check_table, ih]

theorem cacheThread_wf {t : Thread Lock} (ht : IsCacheThread t) :
    t.held = [] ∧ CodeWf Lock.rank [] t.code := by
  obtain ⟨hh, ops, h', hu⟩ := ht
  refine ⟨hh, ?_⟩
  have := check_sound Cls.rank Lock.cls hu [] (by simpa using check_opsProg ops)
  obtain ⟨e, w⟩ := this
  have hnil : h' = [] := by simpa using e
  subst hnil
  exact w (by simp [CodeWf])

theorem cache_init {n : Nat} {s0 : State Lock} (hth : ∀ i, i < n → IsCacheThread (s0 i))
    (hidle : ∀ i, n ≤ i → s0 i = ⟨[], .done⟩) :
    (∀ i, (s0 i).held = [] ∧ CodeWf Lock.rank [] (s0 i).code) ∧
    ∀ i, n ≤ i → (s0 i).code = .done := by
  refine ⟨fun i => ?_, fun i hi => by rw [hidle i hi]⟩
  by_cases h : i < n
  · exact cacheThread_wf (hth i h)
  · rw [hidle i (by omega)]; simp [CodeWf]

end MiniMoka.ConcL
