/-
  C03 part A on the unsync model: while nothing is evicted for size, the cache is exactly a
  map with expiry.  Two-way coupling between the model state and the reference `Spec.Ref`:
  soundness is the coupling `Coupled` of `UnsyncLookup.lean` (through the projection
  `toGhost`), completeness (`Complete`) says every entry the reference requires is resident.
-/
import MiniMoka.Lemmas.UnsyncCapacity
import MiniMoka.Lemmas.Ghost

namespace MiniMoka
namespace Unsync

open Spec

def Complete (p : Params) (s : UState) (r : Ref) : Prop :=
  ∀ k re, AL.get? r.ents k = some re → mustLive p.ttl p.tti r re = true →
    ∃ e, AL.get? s.map k = some e

theorem complete_mapEnts {p : Params} {s' : UState} {r : Ref} (g : Nat → REntry → REntry)
    (h : ∀ k re, AL.get? r.ents k = some re → mustLive p.ttl p.tti r (g k re) = true →
      ∃ e, AL.get? s'.map k = some e) :
    Complete p s' { r with ents := mapEnts g r.ents } := by
  intro k re' hre' hl'
  obtain ⟨re, hre, rfl⟩ := mapEnts_some hre'
  exact h k re hre hl'

/-- A resident entry that the reference requires carries the reference's value and is not
expired in the model (`now < t + d` against the model's `t + d ≤ now`). -/
theorem live_entry {p : Params} {s : UState} {r : Ref} (hc : Coupled p s (toGhost r))
    (hr : RefOk r) {k : Nat} {re : REntry} {e : UEntry} (hre : AL.get? r.ents k = some re)
    (hl : mustLive p.ttl p.tti r re = true) (he : AL.get? s.map k = some e) :
    e.val = re.val ∧ isExpiredEntry p s e s.now = false := by
  obtain ⟨ge, g1, _, g3, g4, g5⟩ := hc.ents k e he
  have hge : ge = toGE re := by
    simp only [toGhost, get?_toGhostEnts, hre, Option.map_some, Option.some.injEq] at g1
    exact g1.symm
  subst hge
  have hnow : r.now = s.now := hc.now
  have hsure := hr.sure k re hre
  obtain ⟨_, _, h2, h3⟩ := mustLive_iff.mp hl
  refine ⟨g3.symm, ?_⟩
  simp only [isExpiredEntry, Bool.or_eq_false_iff]
  refine ⟨?_, ?_⟩
  · cases httl : p.ttl with
    | none => exact expiredAt_none _ _
    | some d =>
      have := h2 d httl
      rw [g4 (by simp [httl])]
      simp only [expiredAt, toGE]
      exact decide_eq_false (by omega)
  · cases htti : p.tti with
    | none => exact expiredAt_none _ _
    | some d =>
      have := h3 d htti
      rw [g5 (by simp [Params.hasExpiry, htti])]
      simp only [expiredAt, toGE]
      exact decide_eq_false (by omega)

theorem complete_maintain {P : Sketch → Prop} {p : Params} (hq : NoQuirks p) {s : UState}
    {r : Ref} (hi : Inv P p s) (hc : Coupled p s (toGhost r)) (hr : RefOk r)
    (hcomp : Complete p s r) (hfit : ∀ c, p.cap = some c → s.ws ≤ c) {k : Nat} {re : REntry}
    (hre : AL.get? r.ents k = some re) (hl : mustLive p.ttl p.tti r re = true) :
    ∃ e, AL.get? (maintain p s).map k = some e ∧ e.val = re.val ∧
      isExpiredEntry p (maintain p s) e (maintain p s).now = false := by
  obtain ⟨e, he⟩ := hcomp k re hre hl
  obtain ⟨hv, hx⟩ := live_entry hc hr hre hl he
  obtain ⟨h1, h2⟩ := kept_by_maintain hq hi hfit he hx
  exact ⟨e, h1, hv, h2⟩

theorem get_result {p : Params} {s : UState} {k : Nat} {e : UEntry}
    (he : AL.get? (maintain p s).map k = some e)
    (hx : isExpiredEntry p (maintain p s) e (maintain p s).now = false) :
    (get p s k).2 = some e.val := by
  rw [get_eq]
  rcases getCore_cases p (maintain p s) k with ⟨hg, _⟩ | ⟨e', hg, _, hexp, _⟩ | ⟨e', hg, _, h⟩ <;>
    rw [he] at hg
  · cases hg
  · cases Option.some.inj hg
    rw [hx] at hexp
    cases hexp
  · cases Option.some.inj hg
    rw [h]

theorem get_some_resident (p : Params) (s : UState) (k : Nat) {v : Nat}
    (h : (get p s k).2 = some v) : ∃ e, AL.get? (maintain p s).map k = some e := by
  rcases getCore_cases p (maintain p s) k with ⟨_, e⟩ | ⟨e', hg, _⟩ | ⟨e', hg, _⟩
  · rw [get_eq, e] at h
    cases h
  · exact ⟨e', hg⟩
  · exact ⟨e', hg⟩

theorem containsKey_result {p : Params} {s : UState} {k : Nat} {e : UEntry}
    (he : AL.get? (maintain p s).map k = some e)
    (hx : isExpiredEntry p (maintain p s) e (maintain p s).now = false) :
    (containsKey p s k).2 = true := by
  unfold containsKey
  simp only [he]
  split
  · simp [hx]
  · rfl

theorem iter_mem {p : Params} {s : UState} {k : Nat} {e : UEntry}
    (he : AL.get? s.map k = some e) (hx : isExpiredEntry p s e s.now = false) :
    (k, e.val) ∈ sortBy (·.1) (iter p s) := by
  rw [mem_sortBy]
  simp only [iter, List.mem_map, List.mem_filter]
  exact ⟨(k, e), ⟨AL.mem_of_get? he, by simp [hx]⟩, rfl⟩

theorem insert_keeps {P : Sketch → Prop} {p : Params} (hq : NoQuirks p) {s : UState}
    (hi : Inv P p s) (k v : Nat)
    (hfit : hasEnoughCapacity p (p.weigh k v) (maintain p s).ws = true) :
    (∃ e, AL.get? (insert p s k v).map k = some e) ∧
    (∀ k' e', AL.get? (maintain p s).map k' = some e' →
      ∃ e'', AL.get? (insert p s k v).map k' = some e'') := by
  cases hg : AL.get? (maintain p s).map k with
  | none =>
    obtain ⟨⟨e, h1, _⟩, h2⟩ := insert_hasroom_keeps hq hi k v hg hfit
    refine ⟨⟨e, h1⟩, ?_⟩
    intro k' e' h
    obtain ⟨e'', h3, _⟩ := h2 k' e' h
    exact ⟨e'', h3⟩
  | some old =>
    obtain ⟨_, _, _, _, _, heq⟩ := insert_resident hq hi.inv v hg
    rw [heq]
    refine ⟨⟨_, AL.get?_put_self _ _ _⟩, ?_⟩
    intro k' e' h
    rw [AL.get?_put]
    by_cases hk : k = k'
    · exact ⟨_, by rw [if_pos hk]⟩
    · exact ⟨e', by rw [if_neg hk]; exact h⟩

theorem step_ws_le_add {P : Sketch → Prop} {p : Params} (hq : NoQuirks p) {s : UState} (hi : Inv P p s) (op : Op) :
    (step p s op).1.ws ≤ s.ws + insW p op := by
  rw [step_state hi.inv.struct.noFault op]
  cases op with
  | ins k v => exact insert_ws_le_add hq hi.inv k v
  | get k => dsimp only [insW]; rw [(get_frame p s k).2.1]; exact maintain_ws_le hq hi.inv
  | has k => dsimp only [insW]; rw [containsKey_fst]; exact maintain_ws_le hq hi.inv
  | iter => exact Nat.le_refl _
  | inv k => exact invalidate_ws_le hq hi k
  | invAll => simp [invalidateAll]
  | invIf pr => exact invalidateEntriesIf_ws_le hq hi pr
  | sync => exact Nat.le_refl _
  | adv d => exact Nat.le_refl _
  | snap => exact Nat.le_refl _
  | freq k => exact Nat.le_refl _

structure CoupledR (p : Params) (s : UState) (r : Ref) : Prop where
  sound : Coupled p s (toGhost r)
  ok : RefOk r
  complete : Complete p s r

theorem coupledR_init (p : Params) : CoupledR p {} {} :=
  ⟨init_coupled p, refOk_init, fun k re h => by simp at h⟩

/-- One step with room for what it inserts (`hroom`; vacuous without `max_capacity`): the
lookup returns everything the reference requires, and the coupling is re-established. -/
theorem step_exact {P : Sketch → Prop} (L : SketchLaws P) {p : Params} (hq : NoQuirks p)
    (hsm : SmallSketch p) {s : UState} {r : Ref} (hi : Inv P p s) (hcr : CoupledR p s r) (op : Op)
    (hroom : ∀ c, p.cap = some c → s.ws + insW p op ≤ c) :
    stops (step p s op).2 = true ∨
    (checkExact p.ttl p.tti r op (step p s op).2 = true ∧
      CoupledR p (step p s op).1 (refStep .unsync r op (step p s op).2)) := by
  have hfit : ∀ c, p.cap = some c → s.ws ≤ c := fun c hc => by have := hroom c hc; omega
  have hsound' : Coupled p (step p s op).1 (toGhost (refStep .unsync r op (step p s op).2)) := by
    rw [toGhost_refStep]; exact (step_coupled L hq hsm hi hcr.sound op).2
  have hok' := refOk_step hcr.ok op (step p s op).2
  suffices h : stops (step p s op).2 = true ∨
      (checkExact p.ttl p.tti r op (step p s op).2 = true ∧
        Complete p (step p s op).1 (refStep .unsync r op (step p s op).2)) by
    rcases h with h | ⟨h1, h2⟩
    · exact Or.inl h
    · exact Or.inr ⟨h1, ⟨hsound', hok', h2⟩⟩
  -- what the reference requires is still there after the maintenance
  have hkeep : ∀ k re, AL.get? r.ents k = some re → mustLive p.ttl p.tti r re = true →
      ∃ e, AL.get? (maintain p s).map k = some e ∧ e.val = re.val ∧
        isExpiredEntry p (maintain p s) e (maintain p s).now = false :=
    fun k re h1 h2 => complete_maintain hq hi hcr.sound hcr.ok hcr.complete hfit h1 h2
  rw [step_obs L hq hsm hi op, step_state hi.inv.struct.noFault op]
  cases op with
  | ins k v =>
    right
    refine ⟨rfl, ?_⟩
    dsimp only
    have hfitI : hasEnoughCapacity p (p.weigh k v) (maintain p s).ws = true := by
      unfold hasEnoughCapacity
      cases hc : p.cap with
      | none => rfl
      | some c =>
        have h1 := hroom c hc
        have h2 := maintain_ws_le hq hi.inv
        simp only [insW] at h1
        simp only [decide_eq_true_eq]
        omega
    obtain ⟨hk, hothers⟩ := insert_keeps hq hi k v hfitI
    intro k' re' hre' hl'
    simp only [refStep, AL.get?_put] at hre'
    by_cases hkk : k = k'
    · subst hkk; exact hk
    · rw [if_neg hkk] at hre'
      have hl : mustLive p.ttl p.tti r re' = true := hl'
      obtain ⟨e, he, _, _⟩ := hkeep k' re' hre' hl
      exact hothers k' e he
  | get k =>
    right
    dsimp only
    refine ⟨?_, ?_⟩
    · simp only [checkExact]
      cases hre : AL.get? r.ents k with
      | none => rfl
      | some re =>
        dsimp only
        by_cases hl : mustLive p.ttl p.tti r re = true
        · obtain ⟨e, he, hv, hx⟩ := hkeep k re hre hl
          rw [get_result he hx, hv]
          simp
        · simp [hl]
    · intro k' re' hre' hl'
      rw [(get_frame p s k).1]
      -- stated for an `r'` equal to `r` so that `rfl` can identify the unfolded `refStep …` with `r`
      have hsame : ∀ (r' : Ref), r' = r → AL.get? r'.ents k' = some re' →
          mustLive p.ttl p.tti r' re' = true → ∃ e, AL.get? (maintain p s).map k' = some e := by
        intro r' hr' h1 h2
        subst hr'
        obtain ⟨e, he, _, _⟩ := hkeep k' re' h1 h2
        exact ⟨e, he⟩
      cases hres : (get p s k).2 with
      | none =>
        rw [hres] at hre' hl'
        exact hsame _ rfl hre' hl'
      | some v =>
        rw [hres] at hre' hl'
        simp only [refStep] at hre' hl'
        cases hre : AL.get? r.ents k with
        | none =>
          rw [hre] at hre' hl'
          exact hsame _ rfl hre' hl'
        | some re =>
          rw [hre] at hre' hl'
          dsimp only at hre' hl'
          by_cases hkk : k = k'
          · subst hkk; exact get_some_resident p s k hres
          · rw [AL.get?_put_ne _ hkk] at hre'
            have hl : mustLive p.ttl p.tti r re' = true := hl'
            exact hsame _ rfl hre' hl
  | has k =>
    right
    dsimp only
    refine ⟨?_, ?_⟩
    · simp only [checkExact]
      cases hre : AL.get? r.ents k with
      | none => rfl
      | some re =>
        dsimp only
        by_cases hl : mustLive p.ttl p.tti r re = true
        · obtain ⟨e, he, _, hx⟩ := hkeep k re hre hl
          rw [containsKey_result he hx]
          simp
        · simp [hl]
    · intro k' re' hre' hl'
      rw [containsKey_fst]
      obtain ⟨e, he, _, _⟩ := hkeep k' re' hre' hl'
      exact ⟨e, he⟩
  | iter =>
    right
    dsimp only
    refine ⟨?_, hcr.complete⟩
    simp only [checkExact, List.all_eq_true]
    rintro ⟨k, re⟩ hmem
    have hre := AL.get?_of_mem hcr.ok.nodup hmem
    by_cases hl : mustLive p.ttl p.tti r re = true
    · obtain ⟨e, he⟩ := hcr.complete k re hre hl
      obtain ⟨hv, hx⟩ := live_entry hcr.sound hcr.ok hre hl he
      have := iter_mem he hx
      rw [hv] at this
      simp [this]
    · simp [hl]
  | inv k =>
    right
    refine ⟨rfl, complete_mapEnts _ fun k' re hre hl => ?_⟩
    by_cases hkk : k' = k
    · rw [dead_not_mustLive (by simp [hkk])] at hl; cases hl
    · rw [if_neg (by simpa using hkk)] at hl
      obtain ⟨e, he, _, _⟩ := hkeep k' re hre hl
      exact ⟨e, by rw [invalidate_exact hq hi k k', if_neg (Ne.symm hkk)]; exact he⟩
  | invAll =>
    right
    refine ⟨rfl, complete_mapEnts _ fun k' re _ hl => ?_⟩
    rw [dead_not_mustLive rfl] at hl; cases hl
  | invIf pr =>
    right
    refine ⟨rfl, complete_mapEnts _ fun k' re hre hl => ?_⟩
    cases hpr : pr.eval k' re.val with
    | true => rw [dead_not_mustLive (by simp [hpr])] at hl; cases hl
    | false =>
      rw [hpr, if_neg Bool.false_ne_true] at hl
      obtain ⟨e, he⟩ := hcr.complete k' re hre hl
      obtain ⟨hv, _⟩ := live_entry hcr.sound hcr.ok hre hl he
      exact ⟨e, (invalidateEntriesIf_exact hq hi pr k' e).mpr ⟨he, by rw [hv]; exact hpr⟩⟩
  | sync => left; rfl
  | adv d =>
    right
    refine ⟨rfl, ?_⟩
    dsimp only
    intro k' re' hre' hl'
    have hl : mustLive p.ttl p.tti r re' = true :=
      mustLive_mono (r := r) (by simp [refStep]) hl'
    exact hcr.complete k' re' hre' hl
  | snap => right; exact ⟨rfl, hcr.complete⟩
  | freq k => right; exact ⟨rfl, hcr.complete⟩

theorem totalInserted_run (p : Params) : ∀ (h : List Op) (s : UState),
    totalInserted p.weigh (run p s h) = totalIns p h := by
  intro h
  induction h with
  | nil => intro s; rfl
  | cons op rest ih =>
    intro s
    rw [(isRun p).cons]
    cases op <;> simp [totalInserted, totalIns, insW, ih]

theorem exactC03_run {P : Sketch → Prop} (L : SketchLaws P) {p : Params} (hq : NoQuirks p)
    (hsm : SmallSketch p) (h : List Op) (s : UState) (r : Ref) (hi : Inv P p s)
    (hcr : CoupledR p s r) (hroom : ∀ c, p.cap = some c → s.ws + totalIns p h ≤ c) :
    exactC03 .unsync p.ttl p.tti r (run p s h) = true :=
  (exactC03_refWalk .unsync p.ttl p.tti).run (isRun p)
    (C := fun h s r => Inv P p s ∧ CoupledR p s r ∧
      ∀ c, p.cap = some c → s.ws + totalIns p h ≤ c)
    (fun s r op rest ⟨hi, hcr, hroom⟩ => by
      have hroom1 : ∀ c, p.cap = some c → s.ws + insW p op ≤ c := by
        intro c hc
        have := hroom c hc
        simp only [totalIns] at this
        omega
      refine (step_exact L hq hsm hi hcr op hroom1).imp id fun ⟨h1, h2⟩ =>
        ⟨h1, step_inv L hq hsm hi op, h2, fun c hc => ?_⟩
      have h3 := hroom c hc
      have h4 := step_ws_le_add hq hi op
      simp only [totalIns] at h3
      omega)
    h s r ⟨hi, hcr, hroom⟩

end Unsync
end MiniMoka
