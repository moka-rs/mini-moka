/-
  Paths of a step function that may be disabled (`step c e = none`).  `IsPath step run` is the pair
  of defining equations that the `runEvs` of the interleaving models have in common (`none` as soon
  as a step is not enabled); what follows from the equations alone is proved once, here.
  `IsLin step obs lin`: `lin c evs` lists what the events of the path contribute (`obs`), up to
  the first step that is not enabled.
-/
namespace MiniMoka

structure IsPath {σ ε : Type} (step : σ → ε → Option σ) (run : σ → List ε → Option σ) : Prop where
  nil : ∀ c, run c [] = some c
  cons : ∀ c e rest, run c (e :: rest) = (step c e).bind fun c' => run c' rest

namespace IsPath

variable {σ ε : Type} {step : σ → ε → Option σ} {run : σ → List ε → Option σ}
  (hr : IsPath step run)
include hr

theorem cons_some {c c' : σ} {e : ε} {rest : List ε} (h : run c (e :: rest) = some c') :
    ∃ c1, step c e = some c1 ∧ run c1 rest = some c' := by
  rw [hr.cons] at h
  cases hs : step c e with
  | none => rw [hs] at h; cases h
  | some c1 => rw [hs] at h; exact ⟨c1, rfl, h⟩

theorem append (c : σ) (l1 l2 : List ε) :
    run c (l1 ++ l2) = (run c l1).bind fun c' => run c' l2 := by
  induction l1 generalizing c with
  | nil => rw [List.nil_append, hr.nil, Option.bind_some]
  | cons e l1 ih =>
    rw [List.cons_append, hr.cons, hr.cons]
    cases step c e with
    | none => rfl
    | some c' => exact ih c'

theorem inv {P : σ → Prop} (hs : ∀ c c' e, P c → step c e = some c' → P c') :
    ∀ (evs : List ε) (c c' : σ), P c → run c evs = some c' → P c' := by
  intro evs
  induction evs with
  | nil =>
    intro c c' h0 h
    rw [hr.nil] at h
    cases h
    exact h0
  | cons e rest ih =>
    intro c c' h0 h
    obtain ⟨c1, he, h⟩ := hr.cons_some h
    exact ih c1 c' (hs c c1 e h0 he) h

theorem unique {run' : σ → List ε → Option σ} (hr' : IsPath step run') : run = run' := by
  funext c evs
  induction evs generalizing c with
  | nil => rw [hr.nil, hr'.nil]
  | cons e rest ih =>
    rw [hr.cons, hr'.cons]
    cases step c e with
    | none => rfl
    | some c' => exact ih c'

end IsPath

structure IsLin {σ ε ω : Type} (step : σ → ε → Option σ) (obs : σ → ε → Option ω)
    (lin : σ → List ε → List ω) : Prop where
  nil : ∀ c, lin c [] = []
  cons : ∀ c e rest, lin c (e :: rest) =
    (step c e).elim [] fun c' => (obs c e).toList ++ lin c' rest

end MiniMoka
