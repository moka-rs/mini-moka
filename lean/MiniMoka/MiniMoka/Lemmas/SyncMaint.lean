/-
  What the write side of a maintenance run is made of.  `apply_writes` and the eviction loops of
  `Inner::sync` change the state only by eleven kinds of primitive update (`Prim`, closure `Maint`),
  so a reflexive, transitive relation that every primitive satisfies holds across them by one case
  analysis (`Maint.induct`).  A property whose preservation depends on WHICH entry a step removes or
  moves, or on why, goes through the eviction loops as paths of six kinds of step that carry the
  guards the model tests (`Evict`, `Evicts.keeps`, `Evicts.rel`).
-/
import MiniMoka.Sync

namespace MiniMoka
namespace Sync

inductive InfoUpd where
  | dropAo | dropWo | dropNodes | unadmit
  | clean | weigh (w : Nat) | linkAo (id : Nat) | linkWo (id : Nat) | setAdmitted

def InfoUpd.apply : InfoUpd → Info → Info
  | .dropAo, i => { i with ao := none }
  | .dropWo, i => { i with wo := none }
  | .dropNodes, i => { i with ao := none, wo := none }
  | .unadmit, i => { i with admitted := false }
  | .clean, i => { i with dirty := false }
  | .weigh w, i => { i with weight := w }
  | .linkAo id, i => { i with ao := some id }
  | .linkWo id, i => { i with wo := some id }
  | .setAdmitted, i => { i with admitted := true }

def InfoUpd.removal : InfoUpd → Bool
  | .dropAo | .dropWo | .dropNodes | .unadmit => true
  | _ => false

/-- With `w = false` only the updates of the removal paths (eviction, expiry, `handle_remove`), with
`w = true` also those of applying a queued upsert.  What `apply_reads` and
`enable_frequency_sketch` do is not here (`Act`, `SyncActs.lean`).  `fail` excludes `hang`, which
only the retry loop of `schedule_write_op` raises (`QFrame.hang`).  `sub` subtracts with truncation
and says nothing of the old counters: an underflow of `subCounters` is `fail overflow` followed by
`sub 0`. -/
inductive Prim (w : Bool) : SState → SState → Prop
  | fail (s : SState) (f : Fault) (hf : f ≠ .hang) : Prim w s (s.fail f)
  | info (s : SState) (i : Nat) (u : InfoUpd) (hu : u.removal = true ∨ w = true) :
      Prim w s (withInfo s i u.apply)
  | erase (s : SState) (k : Nat) : Prim w s { s with map := AL.erase s.map k }
  | aoErase (s : SState) (id : Nat) : Prim w s { s with prob := eraseAo s.prob id }
  | aoBack (s : SState) (id : Nat) (n : AoNode) (h : findAo s.prob id = some n) :
      Prim w s { s with prob := eraseAo s.prob id ++ [n] }
  | woErase (s : SState) (id : Nat) : Prim w s { s with wo := eraseWo s.wo id }
  | woBack (s : SState) (id : Nat) (n : WoNode) (h : findWo s.wo id = some n) :
      Prim w s { s with wo := eraseWo s.wo id ++ [n] }
  | sub (s : SState) (n weight : Nat) :
      Prim w s { s with cec := s.cec - n, cws := s.cws - weight }
  | add (s : SState) (n weight : Nat) (hw : w = true) : Prim w s (addCounters s n weight)
  | aoPush (s : SState) (n : AoNode) (hid : n.id = s.nextId) (hw : w = true) :
      Prim w s { s with prob := s.prob ++ [n], nextId := s.nextId + 1 }
  | woPush (s : SState) (n : WoNode) (hid : n.id = s.nextId) (hw : w = true) :
      Prim w s { s with wo := s.wo ++ [n], nextId := s.nextId + 1 }

inductive Maint (w : Bool) : SState → SState → Prop
  | refl (s : SState) : Maint w s s
  | step {a b c : SState} : Maint w a b → Prim w b c → Maint w a c

namespace Maint

variable {w : Bool}

theorem trans {a b c : SState} (h1 : Maint w a b) (h2 : Maint w b c) : Maint w a c := by
  induction h2 with
  | refl => exact h1
  | step _ hp ih => exact ih.step hp

theorem prim {a b : SState} (h : Prim w a b) : Maint w a b := (refl a).step h

theorem toWrite {a b : SState} (h : Maint false a b) : Maint true a b := by
  induction h with
  | refl => exact refl _
  | step _ hp ih =>
    refine ih.step ?_
    cases hp with
    | fail f hf => exact .fail _ f hf
    | info i u hu => exact .info _ i u (hu.imp_right fun h => by cases h)
    | erase k => exact .erase _ k
    | aoErase id => exact .aoErase _ id
    | aoBack id n h => exact .aoBack _ id n h
    | woErase id => exact .woErase _ id
    | woBack id n h => exact .woBack _ id n h
    | sub n wt => exact .sub _ n wt
    | add _ _ hw => cases hw
    | aoPush _ _ hw => cases hw
    | woPush _ _ hw => cases hw

theorem induct {R : SState → SState → Prop} (hr : ∀ s, R s s)
    (ht : ∀ {a b c}, R a b → R b c → R a c) (hp : ∀ {a b}, Prim w a b → R a b)
    {s s' : SState} (h : Maint w s s') : R s s' := by
  induction h with
  | refl => exact hr _
  | step _ hb ih => exact ht ih (hp hb)

end Maint

theorem moveNodeToBackAo_maint (s : SState) (id : Nat) : Maint false s (moveNodeToBackAo s id) := by
  unfold moveNodeToBackAo
  split
  · next n h => exact .prim (.aoBack s id n h)
  · exact .prim (.fail s _ (by decide))

theorem moveNodeToBackWo_maint (s : SState) (id : Nat) : Maint false s (moveNodeToBackWo s id) := by
  unfold moveNodeToBackWo
  split
  · next n h => exact .prim (.woBack s id n h)
  · exact .prim (.fail s _ (by decide))

theorem moveToBackAoE_maint (s : SState) (i : Nat) : Maint false s (moveToBackAoE s i) := by
  unfold moveToBackAoE
  split
  · exact .refl s
  · exact moveNodeToBackAo_maint s _

theorem moveToBackWoE_maint (s : SState) (i : Nat) : Maint false s (moveToBackWoE s i) := by
  unfold moveToBackWoE
  split
  · exact .refl s
  · exact moveNodeToBackWo_maint s _

theorem unlinkAo_maint (s : SState) (i : Nat) : Maint false s (unlinkAo s i) := by
  unfold unlinkAo
  split
  · exact .refl s
  · next id _ =>
    refine (Maint.prim (.info s i .dropAo (.inl rfl))).trans ?_
    dsimp only
    split
    · exact .prim (.aoErase _ id)
    · exact .prim (.fail _ _ (by decide))

theorem unlinkWo_maint (s : SState) (i : Nat) : Maint false s (unlinkWo s i) := by
  unfold unlinkWo
  split
  · exact .refl s
  · next id _ =>
    refine (Maint.prim (.info s i .dropWo (.inl rfl))).trans ?_
    dsimp only
    split
    · exact .prim (.woErase _ id)
    · exact .prim (.fail _ _ (by decide))

theorem subCounters_maint (s : SState) (n weight : Nat) : Maint false s (subCounters s n weight) := by
  unfold subCounters
  dsimp only
  split
  · exact (Maint.prim (.fail s .overflow (by decide))).step (.sub _ 0 weight)
  · exact .prim (.sub s n weight)

theorem handleRemove_maint (s : SState) (ve : VE) : Maint false s (handleRemove s ve) := by
  unfold handleRemove
  dsimp only
  split
  · exact (((Maint.prim (.info s ve.info .unadmit (.inl rfl))).trans
      (subCounters_maint _ _ _)).trans (unlinkAo_maint _ _)).trans (unlinkWo_maint _ _)
  · exact .prim (.info s ve.info .dropNodes (.inl rfl))

theorem removeVictims_maint (p : Params) (vs : List AoNode) :
    ∀ (s : SState) (sk : List AoNode), Maint false s (removeVictims p vs s sk).1 := by
  induction vs with
  | nil => intro s _; exact .refl s
  | cons v rest ih =>
    intro s sk
    unfold removeVictims
    split
    · exact (Maint.prim (.fail s _ (by decide))).trans (ih _ _)
    · split
      · exact ((Maint.prim (.erase s v.key)).trans (handleRemove_maint _ _)).trans (ih _ _)
      · exact ih _ _

theorem moveSkipped_maint (ns : List AoNode) : ∀ (s : SState), Maint false s (moveSkipped ns s) := by
  induction ns with
  | nil => intro s; exact .refl s
  | cons n rest ih => intro s; exact (moveNodeToBackAo_maint s n.id).trans (ih _)

theorem removeCandidate_maint (p : Params) (s : SState) (key : Nat) (ve : VE) :
    Maint false s (removeCandidate p s key ve) := by
  unfold removeCandidate
  split
  · split
    · exact .prim (.erase s key)
    · exact .refl s
  · exact .refl s

/-- The victim test of the three eviction loops of `Sync.lean` is written as this `match`. -/
theorem victim_some {o : Option VE} {c : VE → Prop} [DecidablePred c] {ve : VE}
    (h : (match o with
      | some v => if c v then some v else none
      | none => none) = some ve) : o = some ve ∧ c ve := by
  cases o with
  | none => cases h
  | some v =>
    dsimp only at h
    split at h
    · rename_i hc; cases h; exact ⟨rfl, hc⟩
    · cases h

/-- One step of `evict_expired` / `evict_lru_entries`, with the tests that led to it.
With `x = false` only the steps of the expiry loops are allowed. -/
inductive Evict (p : Params) (x : Bool) : SState → SState → Prop
  | expAo {s : SState} {n : AoNode} {rest : List AoNode} {ve : VE} (hp : s.prob = n :: rest)
      (hv : entryOfNode p s n.key n.info = some ve)
      (hx : expiredTs p.tti s.va (getInfo s ve.info).la s.now = true) :
      Evict p x s (handleRemove { s with map := AL.erase s.map n.key } ve)
  | expWo {s : SState} {n : WoNode} {rest : List WoNode} {ve : VE} (hp : s.wo = n :: rest)
      (hv : entryOfNode p s n.key n.info = some ve)
      (hx : expiredTs p.ttl s.va (getInfo s ve.info).lm s.now = true) :
      Evict p x s (handleRemove { s with map := AL.erase s.map n.key } ve)
  | lru {s : SState} {n : AoNode} {rest : List AoNode} {ve : VE} (hp : s.prob = n :: rest)
      (hc : ¬ (getInfo s n.info).dirty = true) (hv : entryOfNode p s n.key n.info = some ve)
      (hl : x = true) :
      Evict p x s (handleRemove { s with map := AL.erase s.map n.key } ve)
  /-- The nodes of a dirty entry move to the back (`try_skip_updated_entry`, `remove_expired_wo`);
  that `k` is the key of the node at the head is not kept: no user needs it. -/
  | touch {s : SState} {k : Nat} {ve : VE} (hg : AL.get? s.map k = some ve)
      (hd : (getInfo s ve.info).dirty = true) :
      Evict p x s (moveToBackWoE (moveToBackAoE s ve.info) ve.info)
  | headAo {s : SState} {n : AoNode} {rest : List AoNode} (hp : s.prob = n :: rest)
      (hg : AL.get? s.map n.key = none) : Evict p x s (moveNodeToBackAo s n.id)
  | headWo {s : SState} {n : WoNode} {rest : List WoNode} (hp : s.wo = n :: rest)
      (hg : AL.get? s.map n.key = none) : Evict p x s (moveNodeToBackWo s n.id)

/-- Paths of `Evict`, built from the front (unlike `Maint`): `Evicts.rel` asks a property of the
state in which each step starts. -/
inductive Evicts (p : Params) (x : Bool) : SState → SState → Prop
  | refl (s : SState) : Evicts p x s s
  | head {a b c : SState} : Evict p x a b → Evicts p x b c → Evicts p x a c

namespace Evicts

variable {p : Params} {x : Bool}

theorem one {a b : SState} (h : Evict p x a b) : Evicts p x a b := .head h (.refl b)

theorem trans {a b c : SState} (h1 : Evicts p x a b) (h2 : Evicts p x b c) : Evicts p x a c := by
  induction h1 with
  | refl => exact h2
  | head h _ ih => exact .head h (ih h2)

theorem keeps {I : SState → Prop} (hI : ∀ {a b}, Evict p x a b → I a → I b) {s s' : SState}
    (h : Evicts p x s s') : I s → I s' := by
  induction h with
  | refl => exact id
  | head h _ ih => exact fun hs => ih (hI h hs)

theorem rel {I : SState → Prop} {R : SState → SState → Prop} (hr : ∀ s, R s s)
    (ht : ∀ {a b c}, I a → R a b → R b c → R a c)
    (hI : ∀ {a b}, Evict p x a b → I a → I b ∧ R a b) {s s' : SState} (h : Evicts p x s s') :
    I s → I s' ∧ R s s' := by
  induction h with
  | refl => exact fun hs => ⟨hs, hr _⟩
  | head h _ ih =>
    intro hs
    obtain ⟨h1, r1⟩ := hI h hs
    obtain ⟨h2, r2⟩ := ih h1
    exact ⟨h2, ht hs r1 r2⟩

end Evicts

section
variable {p : Params} {x : Bool}

theorem trySkipUpdated_evicts {s : SState} {n : AoNode} {rest : List AoNode}
    (hp : s.prob = n :: rest) : Evicts p x s (trySkipUpdated s n.key).1 := by
  unfold trySkipUpdated
  split
  · split
    · exact .one (.touch ‹_› ‹_›)
    · exact .refl s
  · rw [hp]
    exact .one (.headAo hp ‹_›)

theorem removeExpiredAo_evicts (n : Nat) : ∀ (s : SState), Evicts p x s (removeExpiredAo p n s) := by
  induction n with
  | zero => intro s; exact .refl s
  | succ n ih =>
    intro s
    unfold removeExpiredAo
    split
    · exact .refl s
    · rename_i hp
      -- `iteInduction` where the branches are large: `split` simplifies the whole goal
      refine iteInduction (fun _ => ?_) fun _ => .refl s
      dsimp only
      split
      · rename_i hv
        exact .head (.expAo hp (victim_some hv).1 (victim_some hv).2) (ih _)
      · exact iteInduction (fun _ => (trySkipUpdated_evicts hp).trans (ih _))
          fun _ => trySkipUpdated_evicts hp

theorem removeExpiredWo_evicts (n : Nat) : ∀ (s : SState), Evicts p x s (removeExpiredWo p n s) := by
  induction n with
  | zero => intro s; exact .refl s
  | succ n ih =>
    intro s
    unfold removeExpiredWo
    split
    · exact .refl s
    · rename_i hw
      refine iteInduction (fun _ => ?_) fun _ => .refl s
      dsimp only
      split
      · rename_i hv
        exact .head (.expWo hw (victim_some hv).1 (victim_some hv).2) (ih _)
      · split
        · exact iteInduction (fun hd => .head (.touch ‹_› hd) (ih _)) fun _ => .refl s
        · exact .head (.headWo hw ‹_›) (ih _)

theorem evictExpired_evicts (s : SState) : Evicts p x s (evictExpired p s) := by
  unfold evictExpired
  dsimp only
  split
  · split
    · exact (removeExpiredWo_evicts _ _).trans (removeExpiredAo_evicts _ _)
    · exact removeExpiredWo_evicts _ _
  · split
    · exact removeExpiredAo_evicts _ _
    · exact .refl s

theorem evictLruLoop_evicts (n : Nat) :
    ∀ (s : SState) (wte ev : Nat), Evicts p true s (evictLruLoop p n s wte ev) := by
  induction n with
  | zero => intro s _ _; exact .refl s
  | succ n ih =>
    intro s wte ev
    unfold evictLruLoop
    refine iteInduction (fun _ => .refl s) fun _ => ?_
    split
    · exact .refl s
    · next nd _ hp =>
      have hskip : Evicts p true s
          (if (trySkipUpdated s nd.key).2 = true then
            evictLruLoop p n (trySkipUpdated s nd.key).1 wte ev
          else (trySkipUpdated s nd.key).1) :=
        iteInduction (fun _ => (trySkipUpdated_evicts hp).trans (ih _ _ _))
          fun _ => trySkipUpdated_evicts hp
      dsimp only
      refine iteInduction (fun _ => hskip) fun hc => ?_
      split
      · rename_i hv
        exact .head (.lru hp hc (victim_some hv).1 rfl) (ih _ _ _)
      · exact hskip

theorem Evict.maint {a b : SState} (h : Evict p x a b) : Maint false a b := by
  cases h with
  | expAo _ _ _ => exact (Maint.prim (.erase _ _)).trans (handleRemove_maint _ _)
  | expWo _ _ _ => exact (Maint.prim (.erase _ _)).trans (handleRemove_maint _ _)
  | lru _ _ _ _ => exact (Maint.prim (.erase _ _)).trans (handleRemove_maint _ _)
  | touch _ _ => exact (moveToBackAoE_maint _ _).trans (moveToBackWoE_maint _ _)
  | headAo _ _ => exact moveNodeToBackAo_maint _ _
  | headWo _ _ => exact moveNodeToBackWo_maint _ _

theorem Evicts.maint {s s' : SState} (h : Evicts p x s s') : Maint false s s' :=
  h.keeps (I := Maint false s) (fun e hs => hs.trans e.maint) (.refl s)

end

theorem removeExpiredAo_maint (p : Params) (n : Nat) (s : SState) :
    Maint false s (removeExpiredAo p n s) := (removeExpiredAo_evicts (x := false) n s).maint

theorem removeExpiredWo_maint (p : Params) (n : Nat) (s : SState) :
    Maint false s (removeExpiredWo p n s) := (removeExpiredWo_evicts (x := false) n s).maint

theorem evictExpired_maint (p : Params) (s : SState) : Maint false s (evictExpired p s) :=
  (evictExpired_evicts (x := false) s).maint

theorem evictLruLoop_maint (p : Params) (n : Nat) (s : SState) (wte ev : Nat) :
    Maint false s (evictLruLoop p n s wte ev) := (evictLruLoop_evicts n s wte ev).maint

theorem handleAdmit_maint (p : Params) (s : SState) (key : Nat) (hash : UInt64) (ve : VE)
    (wt : Nat) : Maint true s (handleAdmit p s key hash ve wt) := by
  have hi (s : SState) (u : InfoUpd) : Maint true s (withInfo s ve.info u.apply) :=
    .prim (.info s ve.info u (.inr rfl))
  have h1 : Maint true s
      (if p.q.d8 then addCounters s 1 wt
       else withInfo (addCounters s 1 wt) ve.info (InfoUpd.weigh wt).apply) := by
    split
    · exact .prim (.add s 1 wt rfl)
    · exact (Maint.prim (.add s 1 wt rfl)).trans (hi _ _)
  unfold handleAdmit
  dsimp only
  refine Maint.trans ?_ (hi _ .setAdmitted)
  refine iteInduction (fun _ => ?_) fun _ => ?_
  · refine Maint.trans ?_ (hi _ (.linkWo _))
    refine Maint.step ?_ (.woPush _ _ rfl rfl)
    refine Maint.trans ?_ (hi _ (.linkAo _))
    exact h1.step (.aoPush _ _ rfl rfl)
  · refine Maint.trans ?_ (hi _ (.linkAo _))
    exact h1.step (.aoPush _ _ rfl rfl)

theorem applyUpdate_maint (p : Params) (s : SState) (ve : VE) (oldW newW : Nat) :
    Maint true s (applyUpdate p s ve oldW newW) := by
  unfold applyUpdate
  dsimp only
  refine Maint.trans ?_ (moveToBackWoE_maint _ _).toWrite
  refine Maint.trans ?_ (moveToBackAoE_maint _ _).toWrite
  generalize (if p.q.d8 then oldW else (getInfo s ve.info).weight) = x
  have h1 := (subCounters_maint s 0 x).toWrite.step (.add _ 0 newW rfl)
  split
  · exact h1
  · exact h1.step (.info _ ve.info (.weigh newW) (.inr rfl))

theorem admitOrReject_maint (p : Params) (s : SState) (key : Nat) (hash : UInt64) (ve : VE)
    (newW : Nat) : Maint true s (admitOrReject p s key hash ve newW) := by
  unfold admitOrReject
  dsimp only
  split
  · exact ((removeVictims_maint _ _ _ _).toWrite.trans (handleAdmit_maint _ _ _ _ _ _)).trans
      (moveSkipped_maint _ _).toWrite
  · exact ((removeCandidate_maint _ _ _ _).trans (moveSkipped_maint _ _)).toWrite

theorem handleUpsert_maint (p : Params) (s : SState) (key : Nat) (hash : UInt64) (ve : VE)
    (oldW newW : Nat) : Maint true s (handleUpsert p s key hash ve oldW newW) := by
  unfold handleUpsert
  dsimp only
  refine (Maint.prim (.info s ve.info .clean (.inr rfl))).trans ?_
  refine iteInduction (fun _ => applyUpdate_maint _ _ _ _ _) fun _ => ?_
  refine iteInduction (fun _ => .refl _) fun _ => ?_
  refine iteInduction (fun _ => handleAdmit_maint _ _ _ _ _ _) fun _ => ?_
  exact iteInduction (fun _ => (removeCandidate_maint _ _ _ _).toWrite)
    fun _ => admitOrReject_maint _ _ _ _ _ _

theorem applyWrite_maint (p : Params) (s : SState) (op : WOp) :
    Maint true s (applyWrite p s op) := by
  cases op with
  | upsert key hash ve oldW newW => exact handleUpsert_maint _ _ _ _ _ _ _
  | remove key ve => exact (handleRemove_maint _ _).toWrite

end Sync
end MiniMoka
