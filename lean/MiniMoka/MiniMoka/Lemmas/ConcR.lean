/-
  Model R (`MiniMoka/ConcR.lean`). `MapValAt evs k j x`, "the value of `k` just before position `j` is
  `x`", is what every coherence statement is made of; `Inv` is the state/trace invariant. The acceptor
  `acceptR` is sound, its search complete, and it is complete for R: the history recorded from a
  complete execution is accepted, with the linearisation `linOf` by map steps. What the refinement
  proofs need of R beyond this is in `Lemmas/ConcRFrags.lean`.
-/

import MiniMoka.ConcR

import MiniMoka.Lemmas.AL

namespace MiniMoka
namespace ConcR

/-! ## Association lists -/

theorem lookup_remove (m : KV) (k k' : Key) :
    lookup (remove m k) k' = if k = k' then none else lookup m k' := by
  induction m with
  | nil => simp [lookup, remove, AL.get?]
  | cons p rest ih =>
    obtain ⟨a, b⟩ := p
    simp only [lookup, remove, List.filter] at ih ⊢
    by_cases hak : a = k
    · subst hak
      simp only [ne_eq, not_true_eq_false, decide_false]
      rw [ih]; simp only [AL.get?]; split <;> simp_all
    · simp only [ne_eq, hak, not_false_eq_true, decide_true, AL.get?]
      rw [ih]; split <;> split <;> simp_all

theorem lookup_store (m : KV) (k k' : Key) (v : Val) :
    lookup (store m k v) k' = if k = k' then some v else lookup m k' := by
  have h := lookup_remove m k k'
  simp only [lookup] at h
  simp only [lookup, store, AL.get?, h]
  split <;> simp_all

/-! ## The fold -/

theorem runFrom_eq_foldlM (s : State) (l : List Ev) : runFrom s l = l.foldlM step s := by
  induction l generalizing s with
  | nil => simp [runFrom]
  | cons e es ih =>
    simp only [runFrom, List.foldlM_cons]
    cases step s e with
    | none => simp
    | some s' => simp [ih]

theorem runFrom_append (s : State) (l1 l2 : List Ev) :
    runFrom s (l1 ++ l2) = (runFrom s l1).bind (fun s' => runFrom s' l2) := by
  simp only [runFrom_eq_foldlM, List.foldlM_append, Option.bind_eq_bind]

theorem run_snoc (pre : List Ev) (e : Ev) (s' : State) :
    run (pre ++ [e]) = some s' ↔ ∃ s, run pre = some s ∧ step s e = some s' := by
  unfold run
  rw [runFrom_append]
  cases h : runFrom State.init pre with
  | none => simp
  | some s =>
    simp only [Option.bind_some, runFrom]
    cases hs : step s e <;> simp [hs]

theorem WF_iff {evs : List Ev} : WF evs ↔ ∃ s, run evs = some s := by
  unfold WF; exact Option.isSome_iff_exists

theorem run_prefix {evs : List Ev} {s : State} (h : run evs = some s) (p : Nat) :
    ∃ sp, run (evs.take p) = some sp := by
  have : evs = evs.take p ++ evs.drop p := (List.take_append_drop p evs).symm
  rw [this] at h
  unfold run at h ⊢
  rw [runFrom_append] at h
  cases h' : runFrom State.init (List.take p evs) with
  | none => simp [h'] at h
  | some sp => exact ⟨sp, rfl⟩

theorem run_prefix_step {evs : List Ev} {s : State} (h : run evs = some s) (p : Nat) (e : Ev)
    (he : evs[p]? = some e) :
    ∃ sp sp', run (evs.take p) = some sp ∧ step sp e = some sp' ∧
      run (evs.take (p + 1)) = some sp' := by
  obtain ⟨sp', hsp'⟩ := run_prefix h (p + 1)
  have hlt : p < evs.length := by
    rcases Nat.lt_or_ge p evs.length with h1 | h1
    · exact h1
    · simp [List.getElem?_eq_none h1] at he
  have : evs.take (p + 1) = evs.take p ++ [e] := by
    rw [List.take_add_one, he]; rfl
  rw [this, run_snoc] at hsp'
  obtain ⟨sp, h1, h2⟩ := hsp'
  exact ⟨sp, sp', h1, h2, by rw [this, run_snoc]; exact ⟨sp, h1, h2⟩⟩

/-! ## `opOf`, `effect` and their stability under extension of the trace -/

theorem opOf_append (l1 l2 : List Ev) (o : Oid) :
    opOf (l1 ++ l2) o = (opOf l1 o).or (opOf l2 o) := by
  induction l1 with
  | nil => simp [opOf]
  | cons e es ih =>
    cases e <;> simp only [List.cons_append, opOf, ih]
    split <;> simp

theorem opOf_append_of_some {l1 : List Ev} {o : Oid} {x : Tid × Op} (l2 : List Ev)
    (h : opOf l1 o = some x) : opOf (l1 ++ l2) o = some x := by
  simp [opOf_append, h]

theorem opOf_take {evs : List Ev} {p : Nat} {o : Oid} {x : Tid × Op}
    (h : opOf (evs.take p) o = some x) : opOf evs o = some x := by
  have := opOf_append_of_some (evs.drop p) h
  rwa [List.take_append_drop] at this

theorem opOf_some_pos {l : List Ev} {o : Oid} {t : Tid} {op : Op}
    (h : opOf l o = some (t, op)) : ∃ q : Nat, l[q]? = some (Ev.invoke t o op) := by
  induction l with
  | nil => simp [opOf] at h
  | cons e es ih =>
    cases e with
    | invoke t' o' op' =>
      simp only [opOf] at h
      split at h
      · refine ⟨0, ?_⟩; simp_all
      · obtain ⟨q, hq⟩ := ih h; exact ⟨q + 1, by simpa using hq⟩
    | _ =>
      simp only [opOf] at h
      obtain ⟨q, hq⟩ := ih h; exact ⟨q + 1, by simpa using hq⟩

theorem opOf_none_not_mem {l : List Ev} {o : Oid} (h : opOf l o = none) (t : Tid) (op : Op) :
    Ev.invoke t o op ∉ l := by
  induction l with
  | nil => simp
  | cons e es ih =>
    cases e with
    | invoke t' o' op' =>
      simp only [opOf] at h
      split at h
      · simp at h
      · simp only [List.mem_cons, Ev.invoke.injEq, not_or]
        exact ⟨by grind, ih h⟩
    | _ =>
      simp only [opOf] at h
      simp [ih h]

def Closed (l : List Ev) : Prop := ∀ o, Ev.mapStep o ∈ l → opOf l o ≠ none

theorem effect_append {l : List Ev} (l' : List Ev) {e : Ev} (hc : Closed l) (he : e ∈ l) :
    effect (l ++ l') e = effect l e := by
  cases e with
  | mapStep o =>
    have := hc o he
    cases h : opOf l o with
    | none => exact absurd h this
    | some x => simp only [effect, opOf_append_of_some l' h, h]
  | _ => rfl

theorem writesKey_append {l : List Ev} (l' : List Ev) {e : Ev} (hc : Closed l) (he : e ∈ l)
    (k : Key) : writesKey (l ++ l') e k = writesKey l e k := by
  simp only [writesKey, effect_append l' hc he]

theorem NoWriteIn_append {l : List Ev} (l' : List Ev) (hc : Closed l) (k : Key) (lo hi : Nat)
    (hhi : hi ≤ l.length) (h : NoWriteIn l k lo hi) : NoWriteIn (l ++ l') k lo hi := by
  intro m h1 h2 e he
  rw [List.getElem?_append_left (by omega)] at he
  rw [writesKey_append l' hc (List.mem_of_getElem? he)]
  exact h m h1 h2 e he

theorem NoWriteIn_succ {l : List Ev} {k : Key} {lo j : Nat} (h : NoWriteIn l k lo j)
    (hj : ∀ e, l[j]? = some e → writesKey l e k = false) : NoWriteIn l k lo (j + 1) := by
  intro m h1 h2 e he
  rcases Nat.lt_or_ge m j with hlt | hge
  · exact h m h1 hlt e he
  · obtain rfl : m = j := by omega
    exact hj e he

theorem effect_some_val {evs : List Ev} {e : Ev} {k : Key} {v : Val}
    (h : effect evs e = some (k, some v)) :
    ∃ w tw, e = .mapStep w ∧ opOf evs w = some (tw, .ins k v) := by
  cases e with
  | mapStep o =>
    simp only [effect] at h
    split at h
    · rename_i t k' v' hop
      simp only [Option.some.injEq, Prod.mk.injEq] at h
      obtain ⟨rfl, rfl⟩ := h
      exact ⟨o, t, rfl, hop⟩
    · simp at h
    · simp at h
  | _ => simp [effect] at h

theorem effect_of_delete {evs : List Ev} {e : Ev} {k : Key}
    (h : e = .daemon k ∨ ∃ d td, e = .mapStep d ∧ opOf evs d = some (td, .del k)) :
    effect evs e = some (k, none) := by
  rcases h with rfl | ⟨d, td, rfl, hd⟩
  · rfl
  · simp [effect, hd]

theorem writesKey_of_effect {evs : List Ev} {e : Ev} {k k' : Key} {y : Option Val}
    (he : effect evs e = some (k, y)) : writesKey evs e k' = (k == k') := by
  simp [writesKey, he]

theorem writesKey_of_effect_none {evs : List Ev} {e : Ev} {k' : Key}
    (he : effect evs e = none) : writesKey evs e k' = false := by
  simp [writesKey, he]

theorem writesKey_iff {evs : List Ev} {e : Ev} {k : Key} :
    writesKey evs e k = true ↔
      e = .daemon k ∨
      ∃ o t, e = .mapStep o ∧
        ((∃ v, opOf evs o = some (t, .ins k v)) ∨ opOf evs o = some (t, .del k)) := by
  cases e with
  | daemon k' => simp [writesKey, effect]
  | mapStep o =>
    simp only [writesKey, effect, reduceCtorEq, Ev.mapStep.injEq, false_or]
    cases hop : opOf evs o with
    | none => simp [hop]
    | some x =>
      obtain ⟨t, op⟩ := x
      cases op <;> simp [hop] <;> grind
  | _ => simp [writesKey, effect]

theorem writesKey_mapStep_of_op {evs : List Ev} {u : Oid} {tu : Tid} {opu : Op} {k : Key}
    (hu : opOf evs u = some (tu, opu)) (hk : (∃ v, opu = .ins k v) ∨ opu = .del k) :
    writesKey evs (.mapStep u) k = true := by
  rw [writesKey_iff]
  right
  refine ⟨u, tu, rfl, ?_⟩
  rcases hk with ⟨v, rfl⟩ | rfl
  · exact Or.inl ⟨v, hu⟩
  · exact Or.inr hu

/-- "The value of key `k` just before position `j` is `x`": no write to `k` before `j` and
`x = none`, or the last write to `k` before `j` has effect `(k, x)`. -/
def MapValAt (evs : List Ev) (k : Key) (j : Nat) (x : Option Val) : Prop :=
  (x = none ∧ NoWriteIn evs k 0 j) ∨
  (∃ i e, i < j ∧ evs[i]? = some e ∧ effect evs e = some (k, x) ∧ NoWriteIn evs k (i + 1) j)

theorem MapValAt_append {l : List Ev} (l' : List Ev) (hc : Closed l) {k : Key} {j : Nat}
    {x : Option Val} (hj : j ≤ l.length) (h : MapValAt l k j x) : MapValAt (l ++ l') k j x := by
  rcases h with ⟨h1, h2⟩ | ⟨i, e, h1, h2, h3, h4⟩
  · exact Or.inl ⟨h1, NoWriteIn_append l' hc k 0 j hj h2⟩
  · refine Or.inr ⟨i, e, h1, ?_, ?_, NoWriteIn_append l' hc k (i + 1) j hj h4⟩
    · rw [List.getElem?_append_left (by omega)]; exact h2
    · rw [effect_append l' hc (List.mem_of_getElem? h2)]; exact h3

theorem MapValAt_snoc_skip {pre : List Ev} {e : Ev} (hc : Closed pre) {k : Key}
    {x : Option Val} (hw : writesKey (pre ++ [e]) e k = false)
    (h : MapValAt pre k pre.length x) : MapValAt (pre ++ [e]) k (pre.length + 1) x := by
  have hlast : ∀ e', (pre ++ [e])[pre.length]? = some e' →
      writesKey (pre ++ [e]) e' k = false := by
    intro e' he'
    simp at he'
    subst he'
    exact hw
  rcases MapValAt_append [e] hc (Nat.le_refl _) h with ⟨h1, h2⟩ | ⟨i, e0, h1, h2, h3, h4⟩
  · exact Or.inl ⟨h1, NoWriteIn_succ h2 hlast⟩
  · exact Or.inr ⟨i, e0, by omega, h2, h3, NoWriteIn_succ h4 hlast⟩

theorem MapValAt_snoc_write {pre : List Ev} {e : Ev} {k : Key} {y : Option Val}
    (he : effect (pre ++ [e]) e = some (k, y)) :
    MapValAt (pre ++ [e]) k (pre.length + 1) y := by
  refine Or.inr ⟨pre.length, e, by omega, by simp, he, ?_⟩
  intro m h1 h2; omega

theorem MapValAt_unique {evs : List Ev} {k : Key} {j : Nat} {x y : Option Val}
    (hx : MapValAt evs k j x) (hy : MapValAt evs k j y) : x = y := by
  rcases hx with ⟨rfl, hx⟩ | ⟨i, e, h1, h2, h3, h4⟩
  · rcases hy with ⟨rfl, _⟩ | ⟨i', e', h1', h2', h3', _⟩
    · rfl
    · have := hx i' (by omega) h1' e' h2'
      rw [writesKey_of_effect h3'] at this; simp at this
  · rcases hy with ⟨rfl, hy⟩ | ⟨i', e', h1', h2', h3', h4'⟩
    · have := hy i (by omega) h1 e h2
      rw [writesKey_of_effect h3] at this; simp at this
    · rcases Nat.lt_trichotomy i i' with hc | hc | hc
      · have := h4 i' (by omega) h1' e' h2'
        rw [writesKey_of_effect h3'] at this; simp at this
      · subst hc
        rw [h2] at h2'; simp only [Option.some.injEq] at h2'; subst h2'
        rw [h3] at h3'; simpa using h3'
      · have := h4' i (by omega) h1 e h2
        rw [writesKey_of_effect h3] at this; simp at this

theorem MapValAt_some {evs : List Ev} {k : Key} {j : Nat} {v : Val}
    (h : MapValAt evs k j (some v)) :
    ∃ i w tw, i < j ∧ evs[i]? = some (.mapStep w) ∧ opOf evs w = some (tw, .ins k v) ∧
      NoWriteIn evs k (i + 1) j := by
  rcases h with ⟨h1, _⟩ | ⟨i, e, h1, h2, h3, h4⟩
  · cases h1
  · obtain ⟨w, tw, rfl, hw⟩ := effect_some_val h3
    exact ⟨i, w, tw, h1, h2, hw, h4⟩

/-! ## Inversion of `step` -/

theorem step_invoke_some {s s' : State} {t : Tid} {o : Oid} {op : Op}
    (h : step s (.invoke t o op) = some s') :
    AL.get? s.ops o = none ∧ threadIdle s t = true ∧
      s' = { s with ops := AL.put s.ops o ⟨t, op, .invoked, none⟩ } := by
  simp only [step] at h
  split at h
  · rename_i hc
    simp only [Option.some.injEq] at h
    exact ⟨by simpa using hc.1, hc.2, h.symm⟩
  · simp at h

theorem step_mapStep_some {s s' : State} {o : Oid} (h : step s (.mapStep o) = some s') :
    ∃ r, AL.get? s.ops o = some r ∧ r.phase = .invoked ∧
      s'.ops = AL.put s.ops o
        { r with phase := .stepped,
                 ret := match r.op with | .get k => lookup s.map k | _ => r.ret } ∧
      s'.map = match r.op with
        | .ins k v => store s.map k v | .del k => remove s.map k | .get _ => s.map := by
  simp only [step] at h
  split at h
  · simp at h
  · rename_i r hr
    split at h
    · rename_i hp
      refine ⟨r, hr, hp, ?_⟩
      split at h <;> simp only [Option.some.injEq] at h <;> subst h <;> simp_all
    · simp at h

theorem step_respond_some {s s' : State} {o : Oid} {x : Option Val}
    (h : step s (.respond o x) = some s') :
    ∃ r, AL.get? s.ops o = some r ∧ r.phase = .stepped ∧ (x = r.ret ∨ x = none) ∧
      s' = { s with ops := AL.put s.ops o { r with phase := .done } } := by
  simp only [step] at h
  split at h
  · simp at h
  · rename_i r hr
    split at h
    · rename_i hp
      simp only [Option.some.injEq] at h
      exact ⟨r, hr, hp.1, hp.2, h.symm⟩
    · simp at h

theorem step_daemon_some {s s' : State} {k : Key} (h : step s (.daemon k) = some s') :
    s' = { s with map := remove s.map k } := by
  simp only [step, Option.some.injEq] at h; exact h.symm

/-! ## The state/trace invariant -/

/-- What the state reached by `pre` records of it. The record of `o` exists iff `o` was invoked
(`ops_eq`); it has left phase `invoked` iff `pre` holds its map step, and then a `get` holds in
`ret` the value its key had just before that step (`step_rec`, `stepped`); it is `done` iff `pre`
holds its response, which carries `ret` or `none` (`resp_rec`, `done_resp`). -/
structure Inv (pre : List Ev) (s : State) : Prop where
  ops_eq : ∀ o, opOf pre o = (AL.get? s.ops o).map (fun r => (r.tid, r.op))
  step_rec : ∀ o, Ev.mapStep o ∈ pre → ∃ r, AL.get? s.ops o = some r ∧ r.phase ≠ .invoked
  stepped : ∀ o r, AL.get? s.ops o = some r → r.phase ≠ .invoked →
    ∃ j : Nat, pre[j]? = some (Ev.mapStep o) ∧ ∀ k, r.op = .get k → MapValAt pre k j r.ret
  resp_rec : ∀ o x, Ev.respond o x ∈ pre →
    ∃ r, AL.get? s.ops o = some r ∧ r.phase = .done ∧ (x = r.ret ∨ x = none)
  done_resp : ∀ o r, AL.get? s.ops o = some r → r.phase = .done → ∃ x, Ev.respond o x ∈ pre
  mapv : ∀ k, MapValAt pre k pre.length (lookup s.map k)

theorem Inv.closed {pre : List Ev} {s : State} (h : Inv pre s) : Closed pre := by
  intro o ho
  obtain ⟨r, hr, _⟩ := h.step_rec o ho
  rw [h.ops_eq, hr]; simp

theorem Inv_init : Inv [] State.init :=
  ⟨fun _ => rfl, fun _ h => (by cases h), fun _ _ h => (by cases h), fun _ _ h => (by cases h),
    fun _ _ h => (by cases h), fun _ => Or.inl ⟨rfl, fun m _ hm => absurd hm (Nat.not_lt_zero m)⟩⟩

theorem stepped_lift {pre : List Ev} (l' : List Ev) (hc : Closed pre) {ev : Ev} {op : Op}
    {x : Option Val}
    (h : ∃ j : Nat, pre[j]? = some ev ∧ ∀ k, op = .get k → MapValAt pre k j x) :
    ∃ j : Nat, (pre ++ l')[j]? = some ev ∧ ∀ k, op = .get k → MapValAt (pre ++ l') k j x := by
  obtain ⟨j, h1, h2⟩ := h
  have hj : j < pre.length := by
    rcases Nat.lt_or_ge j pre.length with h | h
    · exact h
    · simp [List.getElem?_eq_none h] at h1
  exact ⟨j, by rw [List.getElem?_append_left hj]; exact h1,
    fun k hk => MapValAt_append l' hc (Nat.le_of_lt hj) (h2 k hk)⟩

def Ev.oid? : Ev → Option Oid
  | .invoke _ o _ => some o
  | .mapStep o => some o
  | .respond o _ => some o
  | .daemon _ => none

/-- The clauses of `Inv` about the one operation `o`, whose record is `r?`. An event changes only
the record of its own operation: preservation splits into a frame lemma (`RecInv.snoc`) and the
clauses about the event's own operation (`Inv.rec_invoke`, `Inv.rec_mapStep`, `Inv.rec_respond`).
`Inv` keeps its own fields (they are used by name everywhere after `Inv_step`), so the five clauses
stand twice: a change to one is made in both. -/
structure RecInv (pre : List Ev) (o : Oid) (r? : Option OpRec) : Prop where
  ops_eq : opOf pre o = r?.map (fun r => (r.tid, r.op))
  step_rec : Ev.mapStep o ∈ pre → ∃ r, r? = some r ∧ r.phase ≠ .invoked
  stepped : ∀ r, r? = some r → r.phase ≠ .invoked →
    ∃ j : Nat, pre[j]? = some (Ev.mapStep o) ∧ ∀ k, r.op = .get k → MapValAt pre k j r.ret
  resp_rec : ∀ x, Ev.respond o x ∈ pre →
    ∃ r, r? = some r ∧ r.phase = .done ∧ (x = r.ret ∨ x = none)
  done_resp : ∀ r, r? = some r → r.phase = .done → ∃ x, Ev.respond o x ∈ pre

theorem Inv.toRec {pre : List Ev} {s : State} (h : Inv pre s) (o : Oid) :
    RecInv pre o (AL.get? s.ops o) :=
  ⟨h.ops_eq o, h.step_rec o, h.stepped o, h.resp_rec o, h.done_resp o⟩

theorem Inv.ofRec {pre : List Ev} {s : State} (h : ∀ o, RecInv pre o (AL.get? s.ops o))
    (hm : ∀ k, MapValAt pre k pre.length (lookup s.map k)) : Inv pre s :=
  ⟨fun o => (h o).ops_eq, fun o => (h o).step_rec, fun o => (h o).stepped,
    fun o => (h o).resp_rec, fun o => (h o).done_resp, hm⟩

theorem RecInv.snoc {pre : List Ev} {o : Oid} {r? : Option OpRec} (h : RecInv pre o r?)
    (hc : Closed pre) {e : Ev} (he : e.oid? ≠ some o) : RecInv (pre ++ [e]) o r? := by
  have hmem : ∀ e' : Ev, e'.oid? = some o → e' ∈ pre ++ [e] → e' ∈ pre := by
    intro e' he' hm
    rcases List.mem_append.1 hm with hm | hm
    · exact hm
    · rw [List.mem_singleton.1 hm] at he'
      exact absurd he' he
  have hop : opOf [e] o = none := by
    cases e with
    | invoke t o' op => exact if_neg (fun h' => he (congrArg some h'))
    | _ => rfl
  refine ⟨by rw [opOf_append, hop, Option.or_none]; exact h.ops_eq,
    fun hm => h.step_rec (hmem _ rfl hm),
    fun r hr hp => stepped_lift _ hc (h.stepped r hr hp),
    fun x hm => h.resp_rec x (hmem _ rfl hm), fun r hr hp => ?_⟩
  obtain ⟨x, hx⟩ := h.done_resp r hr hp
  exact ⟨x, List.mem_append_left _ hx⟩

theorem step_ops {s s' : State} {e : Ev} (h : step s e = some s') {o : Oid}
    (he : e.oid? ≠ some o) : AL.get? s'.ops o = AL.get? s.ops o := by
  cases e with
  | invoke t o' op =>
    obtain ⟨_, _, rfl⟩ := step_invoke_some h
    exact AL.get?_put_ne _ (fun h' => he (congrArg some h'))
  | mapStep o' =>
    obtain ⟨r, _, _, hops, _⟩ := step_mapStep_some h
    rw [hops]
    exact AL.get?_put_ne _ (fun h' => he (congrArg some h'))
  | respond o' x =>
    obtain ⟨r, _, _, _, rfl⟩ := step_respond_some h
    exact AL.get?_put_ne _ (fun h' => he (congrArg some h'))
  | daemon k => rw [step_daemon_some h]

theorem Inv.rec_invoke {pre : List Ev} {s s' : State} {t : Tid} {o : Oid} {op : Op}
    (hi : Inv pre s) (h : step s (.invoke t o op) = some s') :
    RecInv (pre ++ [.invoke t o op]) o (AL.get? s'.ops o) := by
  obtain ⟨hnone, _, rfl⟩ := step_invoke_some h
  have ho := hi.toRec o
  rw [hnone] at ho
  simp only [AL.get?_put_self]
  refine ⟨?_, fun hm => ?_, fun r hr hp => ?_, fun x hm => ?_, fun r hr hp => ?_⟩
  · rw [opOf_append, ho.ops_eq]
    simp [opOf]
  · obtain ⟨r, hr, _⟩ := ho.step_rec (by simpa using hm)
    cases hr
  · cases hr
    exact absurd rfl hp
  · obtain ⟨r, hr, _⟩ := ho.resp_rec x (by simpa using hm)
    cases hr
  · cases hr
    cases hp

theorem effect_mapStep_snoc {pre : List Ev} {s : State} (hi : Inv pre s) {o : Oid} {r : OpRec}
    (hr : AL.get? s.ops o = some r) :
    effect (pre ++ [.mapStep o]) (.mapStep o) =
      match r.op with
      | .ins k v => some (k, some v)
      | .del k => some (k, none)
      | .get _ => none := by
  have h1 : opOf pre o = some (r.tid, r.op) := by rw [hi.ops_eq, hr]; rfl
  simp only [effect, opOf_append_of_some _ h1]
  cases r.op <;> rfl

theorem Inv.rec_mapStep {pre : List Ev} {s s' : State} {o : Oid}
    (hi : Inv pre s) (h : step s (.mapStep o) = some s') :
    RecInv (pre ++ [.mapStep o]) o (AL.get? s'.ops o) := by
  obtain ⟨r, hr, hph, hops, _⟩ := step_mapStep_some h
  have ho := hi.toRec o
  rw [hr] at ho
  rw [hops, AL.get?_put_self]
  refine ⟨?_, fun _ => ⟨_, rfl, by simp⟩, fun r' hr' _ => ?_, fun x hm => ?_, fun r' hr' hp => ?_⟩
  · rw [opOf_append, ho.ops_eq]
    rfl
  · -- the value read is the value of the key just before this position
    cases hr'
    refine ⟨pre.length, by simp, fun k hk => ?_⟩
    simp only at hk
    simp only [hk]
    exact MapValAt_append _ hi.closed (Nat.le_refl _) (hi.mapv k)
  · obtain ⟨r0, hr0, hp0, _⟩ := ho.resp_rec x (by simpa using hm)
    cases hr0
    rw [hph] at hp0
    cases hp0
  · cases hr'
    cases hp

theorem Inv.rec_respond {pre : List Ev} {s s' : State} {o : Oid} {x : Option Val}
    (hi : Inv pre s) (h : step s (.respond o x) = some s') :
    RecInv (pre ++ [.respond o x]) o (AL.get? s'.ops o) := by
  obtain ⟨r, hr, hph, hret, rfl⟩ := step_respond_some h
  have ho := hi.toRec o
  rw [hr] at ho
  simp only [AL.get?_put_self]
  refine ⟨?_, fun _ => ⟨_, rfl, by simp⟩, fun r' hr' _ => ?_, fun x' hm => ?_,
    fun _ _ _ => ⟨x, by simp⟩⟩
  · rw [opOf_append, ho.ops_eq]
    rfl
  · cases hr'
    exact stepped_lift _ hi.closed (ho.stepped r rfl (by simp [hph]))
  · rcases List.mem_append.1 hm with hm | hm
    · obtain ⟨r0, hr0, hp0, _⟩ := ho.resp_rec x' hm
      cases hr0
      rw [hph] at hp0
      cases hp0
    · cases List.mem_singleton.1 hm
      exact ⟨_, rfl, rfl, hret⟩

theorem lookup_step {pre : List Ev} {s s' : State} {e : Ev} (hi : Inv pre s)
    (h : step s e = some s') (k : Key) :
    lookup s'.map k =
      match effect (pre ++ [e]) e with
      | some (k', x) => if k' = k then x else lookup s.map k
      | none => lookup s.map k := by
  cases e with
  | invoke t o op => obtain ⟨_, _, rfl⟩ := step_invoke_some h; rfl
  | respond o x => obtain ⟨_, _, _, _, rfl⟩ := step_respond_some h; rfl
  | daemon k' => rw [step_daemon_some h]; exact lookup_remove _ _ _
  | mapStep o =>
    obtain ⟨r, hr, _, _, hmap⟩ := step_mapStep_some h
    rw [effect_mapStep_snoc hi hr, hmap]
    cases r.op with
    | ins k' v => exact lookup_store _ _ _ _
    | del k' => exact lookup_remove _ _ _
    | get k' => rfl

theorem Inv_step {pre : List Ev} {s s' : State} {e : Ev}
    (hi : Inv pre s) (h : step s e = some s') : Inv (pre ++ [e]) s' := by
  have hc := hi.closed
  refine Inv.ofRec (fun o => ?_) (fun k => ?_)
  · by_cases he : e.oid? = some o
    · cases e with
      | invoke t o' op => cases he; exact hi.rec_invoke h
      | mapStep o' => cases he; exact hi.rec_mapStep h
      | respond o' x => cases he; exact hi.rec_respond h
      | daemon k => cases he
    · rw [step_ops h he]
      exact (hi.toRec o).snoc hc he
  · have hl := lookup_step hi h k
    simp only [List.length_append, List.length_singleton]
    cases heff : effect (pre ++ [e]) e with
    | none =>
      simp only [heff] at hl
      rw [hl]
      exact MapValAt_snoc_skip hc (writesKey_of_effect_none heff) (hi.mapv k)
    | some kx =>
      obtain ⟨k', x⟩ := kx
      simp only [heff] at hl
      rw [hl]
      by_cases hk : k' = k
      · subst hk
        rw [if_pos rfl]
        exact MapValAt_snoc_write heff
      · rw [if_neg hk]
        exact MapValAt_snoc_skip hc (by rw [writesKey_of_effect heff]; simpa using hk) (hi.mapv k)

theorem list_snoc_induction {α : Type} {P : List α → Prop} (nil : P [])
    (snoc : ∀ l a, P l → P (l ++ [a])) : ∀ l, P l := by
  intro l
  have h : ∀ r : List α, P r.reverse := by
    intro r
    induction r with
    | nil => exact nil
    | cons a r ih => simpa using snoc _ a ih
  simpa using h l.reverse

theorem Inv_run : ∀ {evs : List Ev} {s : State}, run evs = some s → Inv evs s := by
  intro evs
  induction evs using list_snoc_induction with
  | nil =>
    intro s h
    simp only [run, runFrom, Option.some.injEq] at h
    subst h; exact Inv_init
  | snoc pre e ih =>
    intro s h
    obtain ⟨s0, h0, h1⟩ := (run_snoc pre e s).1 h
    exact Inv_step (ih h0) h1

/-! ## Order lemmas on well-formed executions -/

theorem getElem?_take_some {evs : List Ev} {p i : Nat} {e : Ev} :
    (evs.take p)[i]? = some e ↔ i < p ∧ evs[i]? = some e := by
  rw [List.getElem?_take]
  split
  · simp_all
  · simp; omega

theorem mem_take_pos {evs : List Ev} {p : Nat} {e : Ev} (h : e ∈ evs.take p) :
    ∃ i, i < p ∧ evs[i]? = some e := by
  obtain ⟨i, hi⟩ := List.mem_iff_getElem?.1 h
  exact ⟨i, getElem?_take_some.1 hi⟩

theorem mem_take_of_pos {evs : List Ev} {p i : Nat} {e : Ev} (h1 : i < p)
    (h2 : evs[i]? = some e) : e ∈ evs.take p :=
  List.mem_iff_getElem?.2 ⟨i, getElem?_take_some.2 ⟨h1, h2⟩⟩

theorem mapStep_invoked_before {evs : List Ev} {s : State} (h : run evs = some s)
    {p : Nat} {o : Oid} (hp : evs[p]? = some (.mapStep o)) :
    ∃ q t op, q < p ∧ evs[q]? = some (.invoke t o op) ∧ opOf evs o = some (t, op) := by
  obtain ⟨sp, sp', h1, h2, _⟩ := run_prefix_step h p _ hp
  obtain ⟨r, hr, _⟩ := step_mapStep_some h2
  have h3 : opOf (evs.take p) o = some (r.tid, r.op) := by
    rw [(Inv_run h1).ops_eq, hr]; rfl
  obtain ⟨q, hq⟩ := opOf_some_pos h3
  obtain ⟨hq1, hq2⟩ := getElem?_take_some.1 hq
  exact ⟨q, r.tid, r.op, hq1, hq2, opOf_take h3⟩

theorem respond_after_mapStep {evs : List Ev} {s : State} (h : run evs = some s)
    {a : Nat} {o : Oid} {x : Option Val} (ha : evs[a]? = some (.respond o x)) :
    ∃ p, p < a ∧ evs[p]? = some (.mapStep o) := by
  obtain ⟨sp, sp', h1, h2, _⟩ := run_prefix_step h a _ ha
  obtain ⟨r, hr, hph, _⟩ := step_respond_some h2
  obtain ⟨j, hj, _⟩ := (Inv_run h1).stepped o r hr (by simp [hph])
  exact ⟨j, getElem?_take_some.1 hj⟩

theorem pos_unique {P : Nat → Prop} (h : ∀ a b, a < b → P a → P b → False) {i j : Nat}
    (hi : P i) (hj : P j) : i = j := by
  rcases Nat.lt_trichotomy i j with h1 | h1 | h1
  · exact (h i j h1 hi hj).elim
  · exact h1
  · exact (h j i h1 hj hi).elim

theorem mapStep_unique {evs : List Ev} {s : State} (h : run evs = some s)
    {j j' : Nat} {o : Oid} (hj : evs[j]? = some (.mapStep o))
    (hj' : evs[j']? = some (.mapStep o)) : j = j' := by
  refine pos_unique (P := fun a => evs[a]? = some (.mapStep o)) (fun a b hab ha hb => ?_) hj hj'
  obtain ⟨sp, sp', h1, h2, _⟩ := run_prefix_step h b _ hb
  obtain ⟨r, hr, hph, _⟩ := step_mapStep_some h2
  obtain ⟨r', hr', hph'⟩ := (Inv_run h1).step_rec o (mem_take_of_pos hab ha)
  rw [hr] at hr'
  cases hr'
  exact hph' hph

theorem invoke_unique {evs : List Ev} {s : State} (h : run evs = some s)
    {q q' : Nat} {t t' : Tid} {o : Oid} {op op' : Op}
    (hq : evs[q]? = some (.invoke t o op)) (hq' : evs[q']? = some (.invoke t' o op')) :
    q = q' := by
  refine pos_unique (P := fun a => ∃ t op, evs[a]? = some (.invoke t o op))
    (fun a b hab ⟨t, op, ha⟩ ⟨_, _, hb⟩ => ?_) ⟨t, op, hq⟩ ⟨t', op', hq'⟩
  obtain ⟨sp, sp', h1, h2, _⟩ := run_prefix_step h b _ hb
  obtain ⟨hnone, _, _⟩ := step_invoke_some h2
  have h3 : opOf (evs.take b) o = none := by rw [(Inv_run h1).ops_eq, hnone]; rfl
  exact opOf_none_not_mem h3 t op (mem_take_of_pos hab ha)

theorem respond_unique {evs : List Ev} {s : State} (h : run evs = some s)
    {a a' : Nat} {o : Oid} {x x' : Option Val} (ha : evs[a]? = some (.respond o x))
    (ha' : evs[a']? = some (.respond o x')) : a = a' := by
  refine pos_unique (P := fun a => ∃ x, evs[a]? = some (.respond o x))
    (fun a b hab ⟨x, ha⟩ ⟨_, hb⟩ => ?_) ⟨x, ha⟩ ⟨x', ha'⟩
  obtain ⟨sp, sp', h1, h2, _⟩ := run_prefix_step h b _ hb
  obtain ⟨r, hr, hph, _⟩ := step_respond_some h2
  obtain ⟨r', hr', hph', _⟩ := (Inv_run h1).resp_rec o x (mem_take_of_pos hab ha)
  rw [hr] at hr'
  cases hr'
  rw [hph] at hph'
  cases hph'

theorem invoke_opOf {evs : List Ev} {s : State} (h : run evs = some s)
    {q : Nat} {t : Tid} {o : Oid} {op : Op} (hq : evs[q]? = some (.invoke t o op)) :
    opOf evs o = some (t, op) := by
  obtain ⟨sp, sp', h1, h2, h3⟩ := run_prefix_step h q _ hq
  obtain ⟨_, _, rfl⟩ := step_invoke_some h2
  apply opOf_take (p := q + 1)
  rw [(Inv_run h3).ops_eq]
  simp [AL.get?_put]

theorem get_reads {evs : List Ev} {s : State} (h : run evs = some s)
    {j : Nat} {g : Oid} {t : Tid} {k : Key} {x : Option Val}
    (hj : evs[j]? = some (.mapStep g)) (hop : opOf evs g = some (t, .get k))
    (hres : Ev.respond g x ∈ evs) : MapValAt evs k j x ∨ x = none := by
  have hi := Inv_run h
  obtain ⟨r, hr, hph, hx⟩ := hi.resp_rec g x hres
  obtain ⟨j0, hj0, hv⟩ := hi.stepped g r hr (by simp [hph])
  have : j0 = j := mapStep_unique h hj0 hj
  subst this
  have h2 := hi.ops_eq g
  rw [hr, hop] at h2
  simp only [Option.map_some, Option.some.injEq, Prod.mk.injEq] at h2
  rcases hx with hx | hx
  · left; rw [hx]; exact hv k h2.2.symm
  · exact Or.inr hx

theorem threadIdle_spec {s : State} {t : Tid} (h : threadIdle s t = true) {o : Oid} {r : OpRec}
    (hr : AL.get? s.ops o = some r) (ht : r.tid = t) : r.phase = .done := by
  have hm := AL.mem_of_get? hr
  simp only [threadIdle, List.all_eq_true] at h
  have := h _ hm
  simp only [decide_eq_true_eq] at this
  rcases this with h1 | h1
  · exact absurd ht h1
  · exact h1

theorem thread_sequential {evs : List Ev} {s : State} (h : run evs = some s)
    {q1 q2 : Nat} {t : Tid} {o1 o2 : Oid} {op1 op2 : Op}
    (h1 : evs[q1]? = some (.invoke t o1 op1)) (h2 : evs[q2]? = some (.invoke t o2 op2))
    (hlt : q1 < q2) :
    ∃ a x, q1 < a ∧ a < q2 ∧ evs[a]? = some (.respond o1 x) := by
  -- state before the second invocation
  obtain ⟨sp2, sp2', hr2, hs2, _⟩ := run_prefix_step h q2 _ h2
  obtain ⟨_, hidle, _⟩ := step_invoke_some hs2
  have hi2 := Inv_run hr2
  -- `o1` is known in that state, owned by `t`
  have hq1 : (evs.take q2)[q1]? = some (.invoke t o1 op1) := getElem?_take_some.2 ⟨hlt, h1⟩
  have hop := invoke_opOf hr2 hq1
  rw [hi2.ops_eq] at hop
  cases hr : AL.get? sp2.ops o1 with
  | none => simp [hr] at hop
  | some r =>
    simp only [hr, Option.map_some, Option.some.injEq, Prod.mk.injEq] at hop
    have hdone := threadIdle_spec hidle hr hop.1
    obtain ⟨y, hy⟩ := hi2.done_resp o1 r hr hdone
    obtain ⟨a, ha1, ha2⟩ := mem_take_pos hy
    refine ⟨a, y, ?_, ha1, ha2⟩
    -- the response cannot precede the invocation
    obtain ⟨sp1, sp1', hr1, hs1, _⟩ := run_prefix_step h q1 _ h1
    obtain ⟨hnone, _, _⟩ := step_invoke_some hs1
    rcases Nat.lt_trichotomy a q1 with hlt' | heq | hgt
    · obtain ⟨r', hr', _⟩ := (Inv_run hr1).resp_rec o1 y (mem_take_of_pos hlt' ha2)
      simp [hnone] at hr'
    · subst heq; simp [h1] at ha2
    · exact hgt

/-! ## Coherence lemmas (assembled into the C02 / C07 theorems) -/

theorem read_from {evs : List Ev} {s : State} (h : run evs = some s)
    {j : Nat} {g : Oid} {t : Tid} {k : Key} {v : Val}
    (hj : evs[j]? = some (.mapStep g)) (hop : opOf evs g = some (t, .get k))
    (hres : Ev.respond g (some v) ∈ evs) :
    ∃ i w tw, i < j ∧ evs[i]? = some (.mapStep w) ∧ opOf evs w = some (tw, .ins k v) ∧
      NoWriteIn evs k (i + 1) j := by
  rcases get_reads h hj hop hres with h1 | h1
  · exact MapValAt_some h1
  · cases h1

theorem mapStep_lt_of_resp_before_inv {evs : List Ev} {s : State} (h : run evs = some s)
    {u g : Oid} {a b pu j : Nat} {x : Option Val} {tg : Tid} {opg : Op}
    (ha : evs[a]? = some (.respond u x)) (hb : evs[b]? = some (.invoke tg g opg)) (hab : a < b)
    (hpu : evs[pu]? = some (.mapStep u)) (hj : evs[j]? = some (.mapStep g)) : pu < j := by
  obtain ⟨p, hp1, hp2⟩ := respond_after_mapStep h ha
  have := mapStep_unique h hp2 hpu
  subst this
  obtain ⟨q, t', op', hq1, hq2, _⟩ := mapStep_invoked_before h hj
  have := invoke_unique h hq2 hb
  subst this
  omega

theorem not_superseded {evs : List Ev} {s : State} (h : run evs = some s)
    {j : Nat} {g : Oid} {t : Tid} {k : Key} {v : Val}
    (hj : evs[j]? = some (.mapStep g)) (hop : opOf evs g = some (t, .get k))
    (hres : Ev.respond g (some v) ∈ evs)
    {u : Oid} {tu : Tid} {opu : Op} {a b pu : Nat} {x : Option Val} {tg : Tid} {opg : Op}
    (hu : opOf evs u = some (tu, opu)) (hk : (∃ v', opu = .ins k v') ∨ opu = .del k)
    (ha : evs[a]? = some (.respond u x)) (hb : evs[b]? = some (.invoke tg g opg)) (hab : a < b)
    (hpu : evs[pu]? = some (.mapStep u)) :
    ∃ i w tw, i < j ∧ evs[i]? = some (.mapStep w) ∧ opOf evs w = some (tw, .ins k v) ∧
      NoWriteIn evs k (i + 1) j ∧ pu ≤ i := by
  obtain ⟨i, w, tw, h1, h2, h3, h4⟩ := read_from h hj hop hres
  refine ⟨i, w, tw, h1, h2, h3, h4, ?_⟩
  have hlt := mapStep_lt_of_resp_before_inv h ha hb hab hpu hj
  rcases Nat.lt_or_ge i pu with hc | hc
  · have := h4 pu (by omega) hlt _ hpu
    rw [writesKey_mapStep_of_op hu hk] at this
    simp at this
  · exact hc

theorem reader_after_del {evs : List Ev} {s : State} (h : run evs = some s)
    {d g : Oid} {td tg : Tid} {k : Key} {a b pd j : Nat} {x y : Option Val}
    (hd : opOf evs d = some (td, .del k))
    (ha : evs[a]? = some (.respond d y)) (hb : evs[b]? = some (.invoke tg g (.get k)))
    (hab : a < b)
    (hpd : evs[pd]? = some (.mapStep d)) (hj : evs[j]? = some (.mapStep g))
    (hno : ∀ m w tw v, pd < m → m < j → evs[m]? = some (.mapStep w) →
      opOf evs w ≠ some (tw, .ins k v))
    (hres : Ev.respond g x ∈ evs) : x = none := by
  cases x with
  | none => rfl
  | some v =>
    have hop := invoke_opOf h hb
    obtain ⟨i, w, tw, h1, h2, h3, h4, h5⟩ :=
      not_superseded h hj hop hres hd (Or.inr rfl) ha hb hab hpd
    rcases Nat.lt_or_ge pd i with hc | hc
    · exact absurd h3 (hno i w tw v hc h1 h2)
    · have : pd = i := by omega
      subst this
      rw [hpd] at h2
      simp only [Option.some.injEq, Ev.mapStep.injEq] at h2
      subst h2
      rw [hd] at h3; simp at h3

theorem monotone {evs : List Ev} {s : State} (h : run evs = some s) {k : Key} {writer : Tid}
    (hsingle : ∀ o t v, opOf evs o = some (t, .ins k v) → t = writer)
    (hdistinct : ∀ o o' t t' v, opOf evs o = some (t, .ins k v) →
      opOf evs o' = some (t', .ins k v) → o = o')
    {g1 g2 : Oid} {t1 t2 : Tid} {j1 j2 : Nat} {v1 v2 : Val}
    (hj1 : evs[j1]? = some (.mapStep g1)) (hop1 : opOf evs g1 = some (t1, .get k))
    (hres1 : Ev.respond g1 (some v1) ∈ evs)
    (hj2 : evs[j2]? = some (.mapStep g2)) (hop2 : opOf evs g2 = some (t2, .get k))
    (hres2 : Ev.respond g2 (some v2) ∈ evs)
    (hlt : j1 < j2)
    {w1 w2 : Oid} {tw1 tw2 : Tid} {q1 q2 : Nat}
    (hw1 : evs[q1]? = some (.invoke tw1 w1 (.ins k v1)))
    (hw2 : evs[q2]? = some (.invoke tw2 w2 (.ins k v2))) :
    q1 ≤ q2 := by
  have ho1 := invoke_opOf h hw1
  have ho2 := invoke_opOf h hw2
  obtain ⟨i1, w1', tw1', a1, a2, a3, a4⟩ := read_from h hj1 hop1 hres1
  obtain ⟨i2, w2', tw2', b1, b2, b3, b4⟩ := read_from h hj2 hop2 hres2
  have e1 : w1' = w1 := hdistinct _ _ _ _ _ a3 ho1
  have e2 : w2' = w2 := hdistinct _ _ _ _ _ b3 ho2
  subst e1 e2
  -- the map steps of the two writes are ordered like the reads
  have hle : i1 ≤ i2 := by
    rcases Nat.lt_or_ge i2 i1 with hc | hc
    · have := b4 i1 (by omega) (by omega) _ a2
      rw [writesKey_mapStep_of_op a3 (Or.inl ⟨v1, rfl⟩)] at this
      simp at this
    · exact hc
  rcases Nat.lt_or_ge q2 q1 with hc | hc
  · -- `w2` invoked first by the same thread, so it responded before `w1` was invoked
    have t1w : tw1 = writer := hsingle _ _ _ ho1
    have t2w : tw2 = writer := hsingle _ _ _ ho2
    subst t1w t2w
    obtain ⟨a, x, c1, c2, c3⟩ := thread_sequential h hw2 hw1 hc
    have := mapStep_lt_of_resp_before_inv h c3 hw1 c2 b2 a2
    omega
  · exact hc

def oids : List Ev → List Oid
  | [] => []
  | .invoke _ o _ :: es => o :: oids es
  | _ :: es => oids es

theorem opOf_some_mem_oids {evs : List Ev} {o : Oid} {x : Tid × Op} (h : opOf evs o = some x) :
    o ∈ oids evs := by
  induction evs with
  | nil => simp [opOf] at h
  | cons e es ih =>
    cases e with
    | invoke t o' op =>
      simp only [opOf] at h
      simp only [oids, List.mem_cons]
      split at h
      · left; simp_all
      · right; exact ih h
    | _ => simp only [opOf] at h; simpa [oids] using ih h

/-- Decidable form of "all `ins k _` are issued by `writer`" (like `distinctValsB`, there to
discharge a hypothesis of `monotone` on a concrete trace by `decide`). -/
def singleWriterB (evs : List Ev) (k : Key) (writer : Tid) : Bool :=
  (oids evs).all fun o =>
    match opOf evs o with
    | some (t, .ins k' _) => k' != k || t == writer
    | _ => true

/-- Decidable form of "the `ins k _` operations carry pairwise distinct values". -/
def distinctValsB (evs : List Ev) (k : Key) : Bool :=
  (oids evs).all fun o => (oids evs).all fun o' =>
    match opOf evs o, opOf evs o' with
    | some (_, .ins k1 v1), some (_, .ins k2 v2) => !(k1 == k && k2 == k && v1 == v2) || o == o'
    | _, _ => true

theorem singleWriterB_spec {evs : List Ev} {k : Key} {writer : Tid}
    (h : singleWriterB evs k writer = true) :
    ∀ o t v, opOf evs o = some (t, .ins k v) → t = writer := by
  intro o t v ho
  simp only [singleWriterB, List.all_eq_true] at h
  have := h o (opOf_some_mem_oids ho)
  simpa [ho] using this

theorem distinctValsB_spec {evs : List Ev} {k : Key} (h : distinctValsB evs k = true) :
    ∀ o o' t t' v, opOf evs o = some (t, .ins k v) → opOf evs o' = some (t', .ins k v) →
      o = o' := by
  intro o o' t t' v ho ho'
  simp only [distinctValsB, List.all_eq_true] at h
  have := h o (opOf_some_mem_oids ho) o' (opOf_some_mem_oids ho')
  simpa [ho, ho'] using this

theorem final_state_some {evs : List Ev} {s : State} (h : run evs = some s) {k : Key} {v : Val}
    (hv : lookup s.map k = some v) :
    ∃ i w tw, evs[i]? = some (.mapStep w) ∧ opOf evs w = some (tw, .ins k v) ∧
      NoWriteIn evs k (i + 1) evs.length := by
  obtain ⟨i, w, tw, _, h2, h3, h4⟩ := MapValAt_some (hv ▸ (Inv_run h).mapv k)
  exact ⟨i, w, tw, h2, h3, h4⟩

theorem final_state_none {evs : List Ev} {s : State} (h : run evs = some s) {k : Key}
    {m : Nat} {e : Ev} (hm : evs[m]? = some e) (he : effect evs e = some (k, none))
    (hlast : ∀ m' w tw v, m < m' → evs[m']? = some (.mapStep w) →
      opOf evs w ≠ some (tw, .ins k v)) :
    lookup s.map k = none := by
  cases hv : lookup s.map k with
  | none => rfl
  | some v =>
    obtain ⟨i, w, tw, h1, h2, h3⟩ := final_state_some h hv
    have hmlt : m < evs.length := by
      rcases Nat.lt_or_ge m evs.length with h' | h'
      · exact h'
      · simp [List.getElem?_eq_none h'] at hm
    rcases Nat.lt_trichotomy m i with hc | hc | hc
    · exact absurd h2 (hlast i w tw v hc h1)
    · subst hc
      rw [hm] at h1
      simp only [Option.some.injEq] at h1
      subst h1
      simp [effect, h2] at he
    · have := h3 m (by omega) hmlt e hm
      simp [writesKey, he] at this

/-! ## Soundness of the acceptor -/

/-- "`a` may be linearized before `b`": `a` was invoked before `b` responded (the test of
`orderOk` and of `enabled`). -/
abbrev RT (a b : HOp) : Prop := a.invStamp < b.resStamp

theorem orderOk_iff (L : List HOp) : orderOk L = true ↔ L.Pairwise RT := by
  induction L with
  | nil => simp [orderOk]
  | cons a l ih => simp [orderOk, ih, List.pairwise_cons]

def IsGet (a : HOp) : Prop := ∃ k, a.op = .get k

theorem isGet_not_write {a : HOp} (h : IsGet a) : a.op.isWrite = false := by
  obtain ⟨k, h1⟩ := h
  rw [h1]; rfl

theorem applyOp_cases {cur c : Option Val} {a : HOp} (h : applyOp cur a = some c) :
    (∃ k v, a.op = .ins k v ∧ c = some v) ∨ (c = none ∧ ¬ IsGet a) ∨ (IsGet a ∧ c = cur) := by
  unfold applyOp at h
  split at h
  · rename_i k v hop
    simp only [Option.some.injEq] at h
    exact Or.inl ⟨k, v, hop, h.symm⟩
  · rename_i k hop
    simp only [Option.some.injEq] at h
    refine Or.inr (Or.inl ⟨h.symm, ?_⟩)
    rintro ⟨k', h1⟩; rw [hop] at h1; simp at h1
  · rename_i k hop hres
    simp only [Option.some.injEq] at h
    exact Or.inr (Or.inr ⟨⟨k, hop⟩, h.symm⟩)
  · rename_i k v hop hres
    split at h
    · simp only [Option.some.injEq] at h
      exact Or.inr (Or.inr ⟨⟨k, hop⟩, h.symm⟩)
    · simp at h

theorem applyOp_hit {cur c : Option Val} {g : HOp} {k : Key} {v : Val}
    (hop : g.op = .get k) (hres : g.result = some v) (h : applyOp cur g = some c) :
    cur = some v := by
  unfold applyOp at h
  rw [hop, hres] at h
  simp only at h
  split at h
  · assumption
  · simp at h

theorem replay_hit {L : List HOp} {cur : Option Val} (hrep : replay cur L = true)
    {g : HOp} {k : Key} {v : Val} (hg : g ∈ L) (hop : g.op = .get k)
    (hres : g.result = some v) :
    (cur = some v ∧ ∃ l1 l2, L = l1 ++ g :: l2 ∧ ∀ a ∈ l1, IsGet a) ∨
    (∃ l1 w l2 l3 k', L = l1 ++ w :: l2 ++ g :: l3 ∧ w.op = .ins k' v ∧ ∀ a ∈ l2, IsGet a) := by
  induction L generalizing cur with
  | nil => simp at hg
  | cons a l ih =>
    simp only [replay] at hrep
    cases hap : applyOp cur a with
    | none => simp [hap] at hrep
    | some c =>
      simp only [hap] at hrep
      by_cases hga : g = a
      · subst hga
        exact Or.inl ⟨applyOp_hit hop hres hap, [], l, rfl, by simp⟩
      · have hgl : g ∈ l := by
          rcases List.mem_cons.1 hg with h | h
          · exact absurd h hga
          · exact h
        rcases ih hrep hgl with ⟨hc, l1, l2, hl, hhits⟩ | ⟨l1, w, l2, l3, k', hl, hw, hhits⟩
        · rcases applyOp_cases hap with ⟨k', v', hins, hcv⟩ | ⟨hcn, _⟩ | ⟨hhit, hcc⟩
          · right
            have : v' = v := by rw [hcv] at hc; simpa using hc
            subst this
            exact ⟨[], a, l1, l2, k', by simp [hl], hins, hhits⟩
          · rw [hcn] at hc; simp at hc
          · left
            refine ⟨by rw [← hcc]; exact hc, a :: l1, l2, by simp [hl], ?_⟩
            intro b hb
            rcases List.mem_cons.1 hb with h | h
            · rw [h]; exact hhit
            · exact hhits b h
        · right
          exact ⟨a :: l1, w, l2, l3, k', by simp [hl], hw, hhits⟩

theorem checkLin_sound {ops L : List HOp} (hchk : checkLin ops L = true) {k : Key}
    (hkey : ∀ a ∈ ops, a.op.key = k) (hwf : ∀ a ∈ ops, a.invStamp < a.resStamp)
    {g : HOp} {v : Val} (hg : g ∈ ops) (hop : g.op = .get k) (hres : g.result = some v) :
    ∃ w ∈ ops, w.op = .ins k v ∧ w.invStamp < g.resStamp ∧
      ∀ u ∈ ops, u.op.isWrite = true →
        ¬ (w.resStamp < u.invStamp ∧ u.resStamp < g.invStamp) := by
  simp only [checkLin, Bool.and_eq_true] at hchk
  obtain ⟨⟨hperm, hord⟩, hrep⟩ := hchk
  have hperm := List.isPerm_iff.1 hperm
  have hord := (orderOk_iff L).1 hord
  have hgL : g ∈ L := hperm.mem_iff.2 hg
  rcases replay_hit hrep hgL hop hres with ⟨hc, _⟩ | ⟨l1, w, l2, l3, k', hl, hw, hhits⟩
  · simp at hc
  · subst hl
    have hwops : w ∈ ops := hperm.mem_iff.1 (by simp)
    have hk' : k' = k := by
      have := hkey w hwops
      rw [hw] at this; exact this
    subst hk'
    simp only [List.append_assoc, List.cons_append, List.pairwise_append, List.pairwise_cons,
      List.mem_append, List.mem_cons] at hord
    obtain ⟨hp1, ⟨hwall, hp2, ⟨hgall, hp3⟩, hcross2⟩, hcross1⟩ := hord
    refine ⟨w, hwops, hw, hwall g (Or.inr (Or.inl rfl)), ?_⟩
    intro u hu huw ⟨hc1, hc2⟩
    have huL : u ∈ l1 ++ w :: l2 ++ g :: l3 := hperm.mem_iff.2 hu
    simp only [List.append_assoc, List.cons_append, List.mem_append, List.mem_cons] at huL
    rcases huL with h1 | h1 | h1 | h1 | h1
    · have := hcross1 u h1 w (Or.inl rfl)
      omega
    · subst h1
      have := hwf u hwops
      omega
    · rw [isGet_not_write (hhits u h1)] at huw; simp at huw
    · subst h1
      rw [hop] at huw; simp [Op.isWrite] at huw
    · have := hgall u h1
      omega

theorem mem_dedupKeys {l : List Key} {k : Key} : k ∈ dedupKeys l ↔ k ∈ l := by
  induction l with
  | nil => simp [dedupKeys]
  | cons a r ih =>
    simp only [dedupKeys]
    split
    · rename_i hc
      have : a ∈ r := by simpa using hc
      rw [ih]; simp only [List.mem_cons]
      constructor
      · exact Or.inr
      · rintro (h | h)
        · rw [h]; exact this
        · exact h
    · simp [ih]

theorem acceptKey_checkLin {ops : List HOp} (h : acceptKey ops = true) :
    ∃ L, checkLin ops L = true := by
  unfold acceptKey at h
  split at h
  · rename_i L _; exact ⟨L, h⟩
  · simp at h

theorem acceptR_sound_aux {h : List HOp} (hacc : acceptR h = true)
    {g : HOp} {k : Key} {v : Val} (hg : g ∈ h) (hop : g.op = .get k) (hres : g.result = some v) :
    ∃ w ∈ h, w.op = .ins k v ∧ w.invStamp < g.resStamp ∧
      ∀ u ∈ h, u.op.key = k → u.op.isWrite = true →
        ¬ (w.resStamp < u.invStamp ∧ u.resStamp < g.invStamp) := by
  simp only [acceptR, wfHistory, Bool.and_eq_true, List.all_eq_true, decide_eq_true_eq] at hacc
  obtain ⟨⟨hwf, _⟩, hkeys⟩ := hacc
  have hgk : g.op.key = k := by rw [hop]; rfl
  have hk : k ∈ keysOf h := by
    simp only [keysOf, mem_dedupKeys, List.mem_map]
    exact ⟨g, hg, hgk⟩
  obtain ⟨L, hL⟩ := acceptKey_checkLin (hkeys k hk)
  have hfk : ∀ a ∈ h.filter (fun a => a.op.key == k), a.op.key = k := by
    intro a ha
    simpa using (List.mem_filter.1 ha).2
  have hfwf : ∀ a ∈ h.filter (fun a => a.op.key == k), a.invStamp < a.resStamp :=
    fun a ha => hwf a (List.mem_filter.1 ha).1
  have hgf : g ∈ h.filter (fun a => a.op.key == k) :=
    List.mem_filter.2 ⟨hg, by simpa using hgk⟩
  obtain ⟨w, hw, h1, h2, h3⟩ := checkLin_sound hL hfk hfwf hgf hop hres
  refine ⟨w, (List.mem_filter.1 hw).1, h1, h2, ?_⟩
  intro u hu huk huw
  exact h3 u (List.mem_filter.2 ⟨hu, by simpa using huk⟩) huw

/-! ## Completeness of the search: every certificate is found

`acceptKey ops = true` iff some `L` passes `checkLin ops L`. -/

theorem picks_perm {α : Type} {l : List α} {a : α} {r : List α} (h : (a, r) ∈ picks l) :
    l.Perm (a :: r) := by
  induction l generalizing a r with
  | nil => simp [picks] at h
  | cons b t ih =>
    simp only [picks, List.mem_cons, List.mem_map] at h
    rcases h with h | ⟨p, hp, hpe⟩
    · simp only [Prod.mk.injEq] at h
      obtain ⟨rfl, rfl⟩ := h
      exact List.Perm.refl _
    · simp only [Prod.mk.injEq] at hpe
      obtain ⟨rfl, rfl⟩ := hpe
      have := ih (a := p.1) (r := p.2) hp
      exact (List.Perm.cons b this).trans (List.Perm.swap _ _ _)

theorem mem_picks {α : Type} {l : List α} {a : α} (h : a ∈ l) : ∃ r, (a, r) ∈ picks l := by
  induction l with
  | nil => simp at h
  | cons b t ih =>
    rcases List.mem_cons.1 h with rfl | h
    · exact ⟨t, by simp [picks]⟩
    · obtain ⟨r, hr⟩ := ih h
      refine ⟨b :: r, ?_⟩
      simp only [picks, List.mem_cons, List.mem_map]
      exact Or.inr ⟨(a, r), hr, rfl⟩

theorem enabled_iff {a : HOp} {rest : List HOp} :
    enabled a rest = true ↔ ∀ b ∈ rest, RT a b := by
  simp [enabled, RT]

theorem mem_expand {nd x : Node} :
    x ∈ expand nd ↔ ∃ a r c, (a, r) ∈ picks nd.rem ∧ enabled a r = true ∧
      applyOp nd.cur a = some c ∧ x = ⟨r, c, a :: nd.path⟩ := by
  simp only [expand, List.mem_filterMap]
  constructor
  · rintro ⟨p, hp, hx⟩
    split at hx
    · rename_i hen
      cases hap : applyOp nd.cur p.1 with
      | none => simp [hap] at hx
      | some c =>
        simp only [hap, Option.map_some, Option.some.injEq] at hx
        exact ⟨p.1, p.2, c, hp, hen, hap, hx.symm⟩
    · simp at hx
  · rintro ⟨a, r, c, hp, hen, hap, rfl⟩
    exact ⟨(a, r), hp, by simp [hen, hap]⟩

theorem insertNode_sub {acc : List Node} {x y : Node} (h : y ∈ insertNode acc x) :
    y ∈ acc ∨ y = x := by
  unfold insertNode at h
  split at h
  · exact Or.inl h
  · rcases List.mem_cons.1 h with h | h
    · exact Or.inr h
    · exact Or.inl h

theorem foldl_insertNode_sub {l acc : List Node} {y : Node}
    (h : y ∈ l.foldl insertNode acc) : y ∈ acc ∨ y ∈ l := by
  induction l generalizing acc with
  | nil => exact Or.inl h
  | cons x t ih =>
    simp only [List.foldl_cons] at h
    rcases ih h with h | h
    · rcases insertNode_sub h with h | h
      · exact Or.inl h
      · exact Or.inr (by simp [h])
    · exact Or.inr (by simp [h])

theorem dedupNodes_sub {l : List Node} {y : Node} (h : y ∈ dedupNodes l) : y ∈ l := by
  rcases foldl_insertNode_sub h with h | h
  · simp at h
  · exact h

theorem sameState_iff {x y : Node} : sameState x y = true ↔ x.cur = y.cur ∧ x.rem = y.rem := by
  simp [sameState]

theorem foldl_insertNode_cover {l acc : List Node} {x : Node}
    (h : (∃ y ∈ acc, y.cur = x.cur ∧ y.rem = x.rem) ∨ x ∈ l) :
    ∃ y ∈ l.foldl insertNode acc, y.cur = x.cur ∧ y.rem = x.rem := by
  induction l generalizing acc with
  | nil =>
    rcases h with h | h
    · exact h
    · simp at h
  | cons z t ih =>
    simp only [List.foldl_cons]
    apply ih
    rcases h with ⟨y, hy, hyx⟩ | h
    · left
      refine ⟨y, ?_, hyx⟩
      unfold insertNode; split
      · exact hy
      · exact List.mem_cons_of_mem _ hy
    · rcases List.mem_cons.1 h with rfl | h
      · left
        unfold insertNode; split
        · rename_i hany
          obtain ⟨y, hy, hs⟩ := List.any_eq_true.1 hany
          have := sameState_iff.1 hs
          exact ⟨y, hy, this.1.symm, this.2.symm⟩
        · exact ⟨x, by simp, rfl, rfl⟩
      · exact Or.inr h

theorem dedupNodes_cover {l : List Node} {x : Node} (h : x ∈ l) :
    ∃ y ∈ dedupNodes l, y.cur = x.cur ∧ y.rem = x.rem :=
  foldl_insertNode_cover (Or.inr h)

theorem levels_complete (S : List HOp) : ∀ (nodes : List Node) (nd : Node), nd ∈ nodes →
    nd.rem.Perm S → S.Pairwise RT → replay nd.cur S = true →
    levels S.length nodes ≠ [] := by
  induction S with
  | nil =>
    intro nodes nd hnd _ _ _
    simp only [List.length_nil, levels]
    exact List.ne_nil_of_mem hnd
  | cons a S' ih =>
    intro nodes nd hnd hperm hpw hrep
    simp only [List.length_cons, levels]
    simp only [replay] at hrep
    cases hap : applyOp nd.cur a with
    | none => simp [hap] at hrep
    | some c =>
      simp only [hap] at hrep
      have ha : a ∈ nd.rem := hperm.mem_iff.2 (by simp)
      obtain ⟨r, hr⟩ := mem_picks ha
      have hr' : r.Perm S' := ((picks_perm hr).symm.trans hperm).cons_inv
      have hpw' := List.pairwise_cons.1 hpw
      have hen : enabled a r = true :=
        enabled_iff.2 fun b hb => hpw'.1 b (hr'.mem_iff.1 hb)
      have hx : (⟨r, c, a :: nd.path⟩ : Node) ∈ nodes.flatMap expand :=
        List.mem_flatMap.2 ⟨nd, hnd, mem_expand.2 ⟨a, r, c, hr, hen, hap, rfl⟩⟩
      obtain ⟨y, hy, hyc, hyr⟩ := dedupNodes_cover hx
      exact ih _ y hy (by rw [hyr]; exact hr') hpw'.2 (by rw [hyc]; exact hrep)

/-- Cell after replaying `L` (`none` = replay fails): the model's `replay` keeps only whether it
succeeds (`replay_eq_runCell`); the search invariant needs the cell (`runCell_snoc`). -/
def runCell (cur : Option Val) : List HOp → Option (Option Val)
  | [] => some cur
  | a :: l =>
    match applyOp cur a with
    | some c => runCell c l
    | none => none

theorem replay_eq_runCell (cur : Option Val) (L : List HOp) :
    replay cur L = (runCell cur L).isSome := by
  induction L generalizing cur with
  | nil => rfl
  | cons a l ih =>
    simp only [replay, runCell]
    cases applyOp cur a with
    | none => rfl
    | some c => exact ih c

theorem runCell_snoc (cur : Option Val) (L : List HOp) (a : HOp) :
    runCell cur (L ++ [a]) = (runCell cur L).bind (fun c => applyOp c a) := by
  induction L generalizing cur with
  | nil =>
    simp only [List.nil_append, runCell, Option.bind_some]
    cases applyOp cur a <;> rfl
  | cons b l ih =>
    simp only [List.cons_append, runCell]
    cases applyOp cur b with
    | none => rfl
    | some c => exact ih c

/-- The invariant of the search. -/
structure NodeOk (ops : List HOp) (nd : Node) : Prop where
  perm : (nd.path.reverse ++ nd.rem).Perm ops
  order : nd.path.reverse.Pairwise RT
  cross : ∀ a ∈ nd.path, ∀ b ∈ nd.rem, RT a b
  cell : runCell none nd.path.reverse = some nd.cur

theorem NodeOk_expand {ops : List HOp} {nd x : Node} (h : NodeOk ops nd) (hx : x ∈ expand nd) :
    NodeOk ops x ∧ x.rem.length + 1 = nd.rem.length := by
  obtain ⟨a, r, c, hp, hen, hap, rfl⟩ := mem_expand.1 hx
  have hperm := picks_perm hp
  have ha : a ∈ nd.rem := hperm.mem_iff.2 (by simp)
  have hen' := enabled_iff.1 hen
  refine ⟨⟨?_, ?_, ?_, ?_⟩, ?_⟩
  · simp only [List.reverse_cons, List.append_assoc, List.singleton_append]
    exact (List.Perm.append_left _ hperm.symm).trans h.perm
  · simp only [List.reverse_cons, List.pairwise_append, List.pairwise_cons, List.mem_reverse,
      List.mem_singleton]
    refine ⟨h.order, ⟨by simp, List.Pairwise.nil⟩, ?_⟩
    intro z hz y hy; rw [hy]; exact h.cross z hz a ha
  · intro x hx b hb
    have hb' : b ∈ nd.rem := hperm.mem_iff.2 (List.mem_cons_of_mem _ hb)
    rcases List.mem_cons.1 hx with rfl | hx
    · exact hen' b hb
    · exact h.cross x hx b hb'
  · simp only [List.reverse_cons, runCell_snoc, h.cell, Option.bind_some, hap]
  · simpa using hperm.length_eq.symm

theorem levels_valid {ops : List HOp} : ∀ (d : Nat) (nodes : List Node),
    (∀ nd ∈ nodes, NodeOk ops nd ∧ nd.rem.length = d) →
    ∀ x ∈ levels d nodes, NodeOk ops x ∧ x.rem.length = 0 := by
  intro d
  induction d with
  | zero => intro nodes h x hx; exact h x hx
  | succ d ih =>
    intro nodes h x hx
    simp only [levels] at hx
    refine ih _ ?_ x hx
    intro y hy
    obtain ⟨nd, hnd, hy'⟩ := List.mem_flatMap.1 (dedupNodes_sub hy)
    obtain ⟨h1, h2⟩ := NodeOk_expand (h nd hnd).1 hy'
    exact ⟨h1, by have := (h nd hnd).2; omega⟩

theorem NodeOk_root (ops : List HOp) : NodeOk ops ⟨ops, none, []⟩ :=
  ⟨by simp, by simp, by simp, rfl⟩

theorem checkLin_of_NodeOk {ops : List HOp} {x : Node} (h : NodeOk ops x)
    (hlen : x.rem.length = 0) : checkLin ops x.path.reverse = true := by
  have hrem : x.rem = [] := List.eq_nil_of_length_eq_zero hlen
  have hperm := h.perm
  rw [hrem, List.append_nil] at hperm
  simp only [checkLin, Bool.and_eq_true]
  refine ⟨⟨List.isPerm_iff.2 hperm, (orderOk_iff _).2 h.order⟩, ?_⟩
  rw [replay_eq_runCell, h.cell]; rfl

theorem acceptKey_iff (ops : List HOp) :
    acceptKey ops = true ↔ ∃ L, checkLin ops L = true := by
  constructor
  · exact acceptKey_checkLin
  · rintro ⟨L, hL⟩
    simp only [checkLin, Bool.and_eq_true] at hL
    obtain ⟨⟨hperm, hord⟩, hrep⟩ := hL
    have hperm := List.isPerm_iff.1 hperm
    have hne := levels_complete L [⟨ops, none, []⟩] ⟨ops, none, []⟩ (by simp) hperm.symm
      ((orderOk_iff L).1 hord) hrep
    rw [hperm.length_eq] at hne
    have hvalid := levels_valid (ops := ops) ops.length [⟨ops, none, []⟩]
      (by intro nd hnd; simp only [List.mem_singleton] at hnd; subst hnd
          exact ⟨NodeOk_root ops, rfl⟩)
    unfold acceptKey searchKey
    cases hlv : levels ops.length [⟨ops, none, []⟩] with
    | nil => exact absurd hlv hne
    | cons x t =>
      have := hvalid x (by rw [hlv]; simp)
      simp only
      exact checkLin_of_NodeOk this.1 this.2

/-! ## Completeness w.r.t. model R: the recorded history of an execution is accepted -/

theorem firstPos_some {β : Type} {p : Ev → Option β} {l : List Ev} {i : Nat} {b : β}
    (h : firstPos p l = some (i, b)) : ∃ e, l[i]? = some e ∧ p e = some b := by
  induction l generalizing i with
  | nil => simp [firstPos] at h
  | cons e es ih =>
    simp only [firstPos] at h
    split at h
    · rename_i b' hb'
      simp only [Option.some.injEq, Prod.mk.injEq] at h
      obtain ⟨rfl, rfl⟩ := h
      exact ⟨e, by simp, hb'⟩
    · cases hf : firstPos p es with
      | none => simp [hf] at h
      | some x =>
        simp only [hf, Option.map_some, Option.some.injEq, Prod.mk.injEq] at h
        obtain ⟨rfl, rfl⟩ := h
        obtain ⟨e', h1, h2⟩ := ih (i := x.1) (by rw [hf])
        exact ⟨e', by simpa using h1, h2⟩

theorem firstPos_of_mem {β : Type} {p : Ev → Option β} {l : List Ev} {e : Ev} {b : β}
    (he : e ∈ l) (hp : p e = some b) : ∃ x, firstPos p l = some x := by
  induction l with
  | nil => simp at he
  | cons e' es ih =>
    simp only [firstPos]
    split
    · exact ⟨_, rfl⟩
    · rename_i hn
      rcases List.mem_cons.1 he with rfl | he
      · rw [hp] at hn; simp at hn
      · obtain ⟨x, hx⟩ := ih he
        exact ⟨_, by rw [hx]; rfl⟩

theorem hopOf_spec {evs : List Ev} {o : Oid} {h : HOp} (hh : hopOf evs o = some h) :
    evs[h.invStamp]? = some (.invoke h.thread o h.op) ∧
    evs[h.resStamp]? = some (.respond o h.result) := by
  unfold hopOf at hh
  split at hh
  · rename_i q t op a r hi hr
    simp only [Option.some.injEq] at hh
    subst hh
    obtain ⟨e1, h1, h2⟩ := firstPos_some hi
    obtain ⟨e2, h3, h4⟩ := firstPos_some hr
    constructor
    · cases e1 <;> simp at h2
      obtain ⟨rfl, rfl, rfl⟩ := h2
      exact h1
    · cases e2 <;> simp at h4
      obtain ⟨rfl, rfl⟩ := h4
      exact h3
  · simp at hh

theorem hopOf_exists {evs : List Ev} {o : Oid} {t : Tid} {op : Op} {r : Option Val}
    (hi : Ev.invoke t o op ∈ evs) (hr : Ev.respond o r ∈ evs) : ∃ h, hopOf evs o = some h := by
  have h1 : ∃ x, invOf evs o = some x := by
    unfold invOf
    exact firstPos_of_mem (b := (t, op)) hi (by simp)
  have h2 : ∃ y, resOf evs o = some y := by
    unfold resOf
    exact firstPos_of_mem (b := r) hr (by simp)
  obtain ⟨⟨q, t', op'⟩, hx⟩ := h1
  obtain ⟨⟨a, r'⟩, hy⟩ := h2
  exact ⟨⟨t', q, a, op', r'⟩, by simp only [hopOf, hx, hy]⟩

def Ev.step? : Ev → Option Oid
  | .mapStep o => some o
  | _ => none

def Ev.resp? : Ev → Option Oid
  | .respond o _ => some o
  | _ => none

theorem stepOids_eq (evs : List Ev) : stepOids evs = evs.filterMap Ev.step? := by
  induction evs with
  | nil => rfl
  | cons e es ih => cases e <;> simp [stepOids, List.filterMap_cons, Ev.step?, ih]

theorem respOids_eq (evs : List Ev) : respOids evs = evs.filterMap Ev.resp? := by
  induction evs with
  | nil => rfl
  | cons e es ih => cases e <;> simp [respOids, List.filterMap_cons, Ev.resp?, ih]

theorem Ev.step?_eq_some {e : Ev} {o : Oid} : e.step? = some o ↔ e = .mapStep o := by
  cases e <;> simp [Ev.step?]

theorem Ev.resp?_eq_some {e : Ev} {o : Oid} : e.resp? = some o ↔ ∃ x, e = .respond o x := by
  cases e <;> simp [Ev.resp?]

theorem pairwise_filterMap_iff_pos {α β : Type} (f : α → Option β) {R : β → β → Prop}
    {l : List α} :
    (l.filterMap f).Pairwise R ↔
      ∀ (i j : Nat) a1 a2 b1 b2, i < j → l[i]? = some a1 → l[j]? = some a2 →
        f a1 = some b1 → f a2 = some b2 → R b1 b2 := by
  rw [List.pairwise_filterMap, List.pairwise_iff_getElem]
  constructor
  · intro h i j a1 a2 b1 b2 hij h1 h2 hb1 hb2
    obtain ⟨hi, rfl⟩ := List.getElem?_eq_some_iff.1 h1
    obtain ⟨hj, rfl⟩ := List.getElem?_eq_some_iff.1 h2
    exact h i j hi hj hij b1 hb1 b2 hb2
  · intro h i j hi hj hij b1 hb1 b2 hb2
    exact h i j _ _ b1 b2 hij (List.getElem?_eq_getElem hi) (List.getElem?_eq_getElem hj) hb1 hb2

theorem mem_stepOids {evs : List Ev} {o : Oid} : o ∈ stepOids evs ↔ Ev.mapStep o ∈ evs := by
  simp [stepOids_eq, List.mem_filterMap, Ev.step?_eq_some]

theorem mem_respOids {evs : List Ev} {o : Oid} :
    o ∈ respOids evs ↔ ∃ r, Ev.respond o r ∈ evs := by
  simp only [respOids_eq, List.mem_filterMap, Ev.resp?_eq_some]
  exact ⟨fun ⟨_, h, x, hx⟩ => ⟨x, hx ▸ h⟩, fun ⟨x, h⟩ => ⟨_, h, x, rfl⟩⟩

theorem stepOids_append (l1 l2 : List Ev) : stepOids (l1 ++ l2) = stepOids l1 ++ stepOids l2 := by
  simp only [stepOids_eq, List.filterMap_append]

theorem respOids_append (l1 l2 : List Ev) : respOids (l1 ++ l2) = respOids l1 ++ respOids l2 := by
  simp only [respOids_eq, List.filterMap_append]

theorem complete_spec {evs : List Ev} (hc : complete evs = true) {t : Tid} {o : Oid} {op : Op}
    (h : Ev.invoke t o op ∈ evs) : ∃ r, Ev.respond o r ∈ evs := by
  simp only [complete, List.all_eq_true] at hc
  have := hc _ h
  simp only [List.any_eq_true] at this
  obtain ⟨e', he', hm⟩ := this
  cases e' <;> simp at hm
  subst hm
  exact ⟨_, he'⟩

theorem mapStep_between_stamps {evs : List Ev} {s : State} (h : run evs = some s) {o : Oid} {a : HOp}
    (ha : hopOf evs o = some a) :
    ∃ p, a.invStamp < p ∧ p < a.resStamp ∧ evs[p]? = some (.mapStep o) := by
  obtain ⟨h1, h2⟩ := hopOf_spec ha
  obtain ⟨p, hp1, hp2⟩ := respond_after_mapStep h h2
  obtain ⟨q, t, op, hq1, hq2, _⟩ := mapStep_invoked_before h hp2
  have := invoke_unique h hq2 h1
  subst this
  exact ⟨p, hq1, hp1, hp2⟩

theorem stepOids_pairwise_iff {R : Oid → Oid → Prop} {evs : List Ev} :
    (stepOids evs).Pairwise R ↔
      ∀ (i j : Nat) o1 o2, i < j → evs[i]? = some (.mapStep o1) →
        evs[j]? = some (.mapStep o2) → R o1 o2 := by
  rw [stepOids_eq, pairwise_filterMap_iff_pos]
  exact ⟨fun h i j o1 o2 hij h1 h2 => h i j _ _ o1 o2 hij h1 h2 rfl rfl,
    fun h i j a1 a2 o1 o2 hij h1 h2 hb1 hb2 =>
      h i j o1 o2 hij (Ev.step?_eq_some.1 hb1 ▸ h1) (Ev.step?_eq_some.1 hb2 ▸ h2)⟩

theorem respOids_pairwise {R : Oid → Oid → Prop} {evs : List Ev}
    (hR : ∀ (i j : Nat) o1 o2 x1 x2, i < j → evs[i]? = some (.respond o1 x1) →
      evs[j]? = some (.respond o2 x2) → R o1 o2) : (respOids evs).Pairwise R := by
  rw [respOids_eq, pairwise_filterMap_iff_pos]
  intro i j a1 a2 o1 o2 hij h1 h2 hb1 hb2
  obtain ⟨x1, rfl⟩ := Ev.resp?_eq_some.1 hb1
  obtain ⟨x2, rfl⟩ := Ev.resp?_eq_some.1 hb2
  exact hR i j o1 o2 x1 x2 hij h1 h2

theorem stepOids_nodup {evs : List Ev} {s : State} (h : run evs = some s) :
    (stepOids evs).Nodup :=
  stepOids_pairwise_iff.2 fun _ _ _ _ hij h1 h2 heq =>
    Nat.ne_of_lt hij (mapStep_unique h h1 (heq ▸ h2))

theorem respOids_nodup {evs : List Ev} {s : State} (h : run evs = some s) :
    (respOids evs).Nodup :=
  respOids_pairwise fun _ _ _ _ _ _ hij h1 h2 heq =>
    Nat.ne_of_lt hij (respond_unique h h1 (heq ▸ h2))

theorem stepOids_perm_respOids {evs : List Ev} {s : State} (h : run evs = some s)
    (hc : complete evs = true) : (stepOids evs).Perm (respOids evs) := by
  rw [List.perm_ext_iff_of_nodup (stepOids_nodup h) (respOids_nodup h)]
  intro o
  rw [mem_stepOids, mem_respOids]
  constructor
  · intro hm
    obtain ⟨p, hp⟩ := List.mem_iff_getElem?.1 hm
    obtain ⟨q, t, op, _, hq, _⟩ := mapStep_invoked_before h hp
    exact complete_spec hc (List.mem_of_getElem? hq)
  · rintro ⟨r, hr⟩
    obtain ⟨a, ha⟩ := List.mem_iff_getElem?.1 hr
    obtain ⟨p, _, hp⟩ := respond_after_mapStep h ha
    exact List.mem_of_getElem? hp

/-- Linearization witness for key `k`: the completed operations on `k` in map-step order. -/
def linOf (evs : List Ev) (k : Key) : List HOp :=
  ((stepOids evs).filterMap (hopOf evs)).filter (fun a => a.op.key == k)

/-- The witness restricted to the map steps of a prefix (records taken from the full trace). -/
def linPre (evs pre : List Ev) (k : Key) : List HOp :=
  ((stepOids pre).filterMap (hopOf evs)).filter (fun a => a.op.key == k)

theorem linOf_eq_linPre (evs : List Ev) (k : Key) : linOf evs k = linPre evs evs k := rfl

theorem linOf_pairwise {evs : List Ev} {s : State} (h : run evs = some s) (k : Key) :
    (linOf evs k).Pairwise RT := by
  unfold linOf
  apply List.Pairwise.filter
  refine List.Pairwise.filterMap (R := fun o1 o2 => ∀ a, hopOf evs o1 = some a →
    ∀ b, hopOf evs o2 = some b → RT a b) (hopOf evs) (fun o1 o2 hr a ha b hb => hr a ha b hb) ?_
  apply stepOids_pairwise_iff.2
  intro i j o1 o2 hij h1 h2 a ha b hb
  obtain ⟨p1, a1, _, a3⟩ := mapStep_between_stamps h ha
  obtain ⟨p2, _, b2, b3⟩ := mapStep_between_stamps h hb
  have e1 := mapStep_unique h a3 h1
  have e2 := mapStep_unique h b3 h2
  simp only [RT]
  omega

theorem linOf_perm {evs : List Ev} {s : State} (h : run evs = some s)
    (hc : complete evs = true) (k : Key) :
    (linOf evs k).Perm ((historyOf evs).filter (fun a => a.op.key == k)) :=
  ((stepOids_perm_respOids h hc).filterMap (hopOf evs)).filter _

theorem get_result_eq {pre suf : List Ev} {g : Oid} {sf s0 : State}
    (h : run (pre ++ .mapStep g :: suf) = some sf) (h0 : run pre = some s0)
    {t : Tid} {k : Key} {x : Option Val}
    (hop : opOf (pre ++ .mapStep g :: suf) g = some (t, .get k))
    (hres : Ev.respond g x ∈ pre ++ .mapStep g :: suf) : x = lookup s0.map k ∨ x = none := by
  have hi0 := Inv_run h0
  have h1 := MapValAt_append (.mapStep g :: suf) hi0.closed (Nat.le_refl _) (hi0.mapv k)
  rcases get_reads h (j := pre.length) (by simp) hop hres with h2 | h2
  · exact Or.inl (MapValAt_unique h2 h1)
  · exact Or.inr h2

theorem linPre_snoc (evs pre : List Ev) (e : Ev) (k : Key) :
    linPre evs (pre ++ [e]) k = linPre evs pre k ++
      (match e with
       | .mapStep o => ((hopOf evs o).toList).filter (fun a => a.op.key == k)
       | _ => []) := by
  simp only [linPre, stepOids_append, List.filterMap_append, List.filter_append]
  congr 1
  cases e with
  | mapStep o =>
    simp only [stepOids, List.filterMap_cons, List.filterMap_nil]
    cases hopOf evs o <;> rfl
  | _ => rfl

theorem hopOf_of_step {pre suf : List Ev} {o : Oid} {sf s0 : State}
    (h : run (pre ++ .mapStep o :: suf) = some sf)
    (hc : complete (pre ++ .mapStep o :: suf) = true) (h0 : run pre = some s0)
    {r : OpRec} (hr : AL.get? s0.ops o = some r) :
    ∃ a, hopOf (pre ++ .mapStep o :: suf) o = some a ∧ a.op = r.op ∧
      Ev.respond o a.result ∈ pre ++ .mapStep o :: suf ∧
      opOf (pre ++ .mapStep o :: suf) o = some (r.tid, r.op) := by
  have hop0 : opOf pre o = some (r.tid, r.op) := by rw [(Inv_run h0).ops_eq, hr]; rfl
  have hop := opOf_append_of_some (.mapStep o :: suf) hop0
  obtain ⟨q, hq⟩ := opOf_some_pos hop
  obtain ⟨x, hx⟩ := complete_spec hc (List.mem_of_getElem? hq)
  obtain ⟨a, ha⟩ := hopOf_exists (List.mem_of_getElem? hq) hx
  obtain ⟨a1, a2⟩ := hopOf_spec ha
  have := invoke_opOf h a1
  rw [hop] at this
  simp only [Option.some.injEq, Prod.mk.injEq] at this
  exact ⟨a, ha, this.2.symm, List.mem_of_getElem? a2, hop⟩

/-- Replaying the witness along the execution: the cell agrees with the map whenever the
map holds a value (the cell may be stale only while the map holds `none`). -/
theorem replay_linPre {evs : List Ev} {sf : State} (h : run evs = some sf)
    (hc : complete evs = true) (k : Key) :
    ∀ (pre suf : List Ev) (s : State), pre ++ suf = evs → run pre = some s →
      ∃ c, runCell none (linPre evs pre k) = some c ∧
        (lookup s.map k = none ∨ c = lookup s.map k) := by
  intro pre
  induction pre using list_snoc_induction with
  | nil =>
    intro suf s _ hrun
    simp only [run, runFrom, Option.some.injEq] at hrun
    subst hrun
    exact ⟨none, rfl, Or.inl rfl⟩
  | snoc pre e ih =>
    intro suf s heq hrun
    obtain ⟨s0, h0, h1⟩ := (run_snoc pre e s).1 hrun
    have heq' : pre ++ e :: suf = evs := by simpa using heq
    obtain ⟨c, hc1, hc2⟩ := ih (e :: suf) s0 heq' h0
    rw [linPre_snoc]
    cases e with
    | invoke t o op =>
      obtain ⟨_, _, rfl⟩ := step_invoke_some h1
      exact ⟨c, by simpa using hc1, hc2⟩
    | respond o x =>
      obtain ⟨_, _, _, _, rfl⟩ := step_respond_some h1
      exact ⟨c, by simpa using hc1, hc2⟩
    | daemon k' =>
      have := step_daemon_some h1
      subst this
      refine ⟨c, by simpa using hc1, ?_⟩
      simp only [lookup_remove]
      split
      · exact Or.inl rfl
      · exact hc2
    | mapStep o =>
      obtain ⟨r, hr, _, _, hmap⟩ := step_mapStep_some h1
      subst heq'
      obtain ⟨a, ha, haop, hares, hopo⟩ := hopOf_of_step h hc h0 hr
      simp only [ha, Option.toList_some, List.filter_cons, List.filter_nil]
      by_cases hk : a.op.key = k
      · simp only [hk, beq_self_eq_true, if_true, runCell_snoc, hc1, Option.bind_some]
        rw [hmap]
        cases hop : r.op with
        | ins k' v =>
          rw [hop] at haop
          have : k' = k := by rw [haop] at hk; exact hk
          subst this
          exact ⟨some v, by simp [applyOp, haop], Or.inr (by simp [lookup_store])⟩
        | del k' =>
          rw [hop] at haop
          have : k' = k := by rw [haop] at hk; exact hk
          subst this
          exact ⟨none, by simp [applyOp, haop], Or.inl (by simp [lookup_remove])⟩
        | get k' =>
          rw [hop] at haop
          have : k' = k := by rw [haop] at hk; exact hk
          subst this
          rw [hop] at hopo
          have hx := get_result_eq h h0 hopo hares
          simp only
          cases hres : a.result with
          | none => exact ⟨c, by simp [applyOp, haop, hres], hc2⟩
          | some v =>
            have hl : lookup s0.map k' = some v := by
              rw [hres] at hx
              rcases hx with hx | hx
              · exact hx.symm
              · simp at hx
            have hcv : c = some v := by
              rcases hc2 with h' | h'
              · rw [hl] at h'; simp at h'
              · rw [h', hl]
            exact ⟨c, by simp [applyOp, haop, hres, hcv], Or.inr (by rw [hcv, hl])⟩
      · have hkb : (a.op.key == k) = false := by simpa using hk
        simp only [hkb, Bool.false_eq_true, if_false, List.append_nil]
        refine ⟨c, hc1, ?_⟩
        rw [hmap]
        rw [haop] at hk
        cases hop : r.op with
        | ins k' v =>
          rw [hop] at hk
          simp only [lookup_store]
          rw [if_neg (by simpa [Op.key] using hk)]
          exact hc2
        | del k' =>
          rw [hop] at hk
          simp only [lookup_remove]
          rw [if_neg (by simpa [Op.key] using hk)]
          exact hc2
        | get k' => exact hc2

theorem linOf_replay {evs : List Ev} {sf : State} (h : run evs = some sf)
    (hc : complete evs = true) (k : Key) : replay none (linOf evs k) = true := by
  obtain ⟨c, hc1, _⟩ := replay_linPre h hc k evs [] sf (by simp) h
  rw [replay_eq_runCell, linOf_eq_linPre, hc1]; rfl

theorem threadsOk_iff (h : List HOp) :
    threadsOk h = true ↔ h.Pairwise (fun a b => a.thread ≠ b.thread ∨
      a.resStamp < b.invStamp ∨ b.resStamp < a.invStamp) := by
  induction h with
  | nil => simp [threadsOk]
  | cons a l ih => simp [threadsOk, ih, List.pairwise_cons, or_assoc]

theorem historyOf_threadsOk {evs : List Ev} {s : State} (h : run evs = some s) :
    threadsOk (historyOf evs) = true := by
  rw [threadsOk_iff]
  unfold historyOf
  refine List.Pairwise.filterMap (R := fun o1 o2 => ∀ a, hopOf evs o1 = some a →
    ∀ b, hopOf evs o2 = some b → (a.thread ≠ b.thread ∨
      a.resStamp < b.invStamp ∨ b.resStamp < a.invStamp)) (hopOf evs)
    (fun o1 o2 hr a ha b hb => hr a ha b hb) ?_
  apply respOids_pairwise
  intro i j o1 o2 x1 x2 hij h1 h2 a ha b hb
  obtain ⟨a1, a2⟩ := hopOf_spec ha
  obtain ⟨b1, b2⟩ := hopOf_spec hb
  obtain ⟨pa, a3, a4, _⟩ := mapStep_between_stamps h ha
  have ei := respond_unique h a2 h1
  have ej := respond_unique h b2 h2
  by_cases ht : a.thread = b.thread
  · right
    rw [ht] at a1
    rcases Nat.lt_trichotomy a.invStamp b.invStamp with hlt | heq | hgt
    · obtain ⟨a', x, c1, c2, c3⟩ := thread_sequential h a1 b1 hlt
      have := respond_unique h c3 a2
      left; omega
    · rw [heq, b1] at a1
      simp only [Option.some.injEq, Ev.invoke.injEq] at a1
      obtain ⟨_, ho, _⟩ := a1
      subst ho
      have := respond_unique h h1 h2
      omega
    · obtain ⟨a', x, c1, c2, c3⟩ := thread_sequential h b1 a1 hgt
      have := respond_unique h c3 b2
      omega
  · exact Or.inl ht

theorem historyOf_stamps {evs : List Ev} {s : State} (h : run evs = some s) :
    ∀ a ∈ historyOf evs, a.invStamp < a.resStamp := by
  intro a ha
  obtain ⟨o, _, ho⟩ := List.mem_filterMap.1 ha
  obtain ⟨p, h1, h2, _⟩ := mapStep_between_stamps h ho
  omega

theorem acceptR_complete_aux {evs : List Ev} (hwf : WF evs) (hc : complete evs = true) :
    acceptR (historyOf evs) = true := by
  obtain ⟨s, h⟩ := WF_iff.1 hwf
  simp only [acceptR, wfHistory, Bool.and_eq_true, List.all_eq_true, decide_eq_true_eq]
  refine ⟨⟨historyOf_stamps h, historyOf_threadsOk h⟩, ?_⟩
  intro k _
  rw [acceptKey_iff]
  refine ⟨linOf evs k, ?_⟩
  simp only [checkLin, Bool.and_eq_true]
  exact ⟨⟨List.isPerm_iff.2 (linOf_perm h hc k), (orderOk_iff _).2 (linOf_pairwise h k)⟩,
    linOf_replay h hc k⟩

end ConcR

end MiniMoka
