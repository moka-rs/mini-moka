/-
  Trace oracles that run a reference state beside the trace and judge every observation against
  it until one stops the walk (`Spec.lookupOracle`, `Spec.exactC03`): such an oracle accepts every
  trace of a step function from states coupled with the reference, if every step either stops the
  walk or passes the check and re-establishes the coupling (`RefWalk.run`).  The coupling may
  depend on the rest of the history.  The recency oracle `Spec.recencyWalk` is such a walk too: its
  reference is the bookkeeping `RecSt`, `recChk` is what it asks of a quiescent snapshot, `recStep`
  how a snapshot or a use moves the bookkeeping.  No cache model is mentioned.
-/
import MiniMoka.Spec.Oracles
import MiniMoka.Lemmas.IsRun
import MiniMoka.Lemmas.Ghost

namespace MiniMoka
namespace Spec

/-- `O` walks a trace with a reference `γ`: it checks `chk`, steps the reference by `gstep` and
stops at an observation that `stops`. -/
structure RefWalk {γ : Type} (O : γ → Trace → Bool) (chk : γ → Op → Obs → Bool)
    (gstep : γ → Op → Obs → γ) : Prop where
  nil : ∀ g, O g [] = true
  cons : ∀ g op obs rest, O g ((op, obs) :: rest) =
    if stops obs then true else (chk g op obs && O (gstep g op obs) rest)

theorem RefWalk.run {γ σ : Type} {O : γ → Trace → Bool} {chk : γ → Op → Obs → Bool}
    {gstep : γ → Op → Obs → γ} (hO : RefWalk O chk gstep) {step : σ → Op → σ × Obs}
    {run : σ → List Op → Trace} (hr : IsRun step run) {C : List Op → σ → γ → Prop}
    (hstep : ∀ s g op rest, C (op :: rest) s g → stops (step s op).2 = true ∨
      (chk g op (step s op).2 = true ∧ C rest (step s op).1 (gstep g op (step s op).2))) :
    ∀ (h : List Op) (s : σ) (g : γ), C h s g → O g (run s h) = true := by
  intro h
  induction h with
  | nil => intro s g _; rw [hr.nil]; exact hO.nil g
  | cons op rest ih =>
    intro s g hc
    rw [hr.cons, hO.cons]
    split
    · rfl
    · rename_i hns
      rcases hstep s g op rest hc with h | ⟨h1, h2⟩
      · exact absurd h hns
      · rw [Bool.and_eq_true]
        exact ⟨h1, ih _ _ h2⟩

theorem lookupOracle_refWalk (kind : Kind) (check : Ghost → Nat × Option Nat → Bool) :
    RefWalk (lookupOracle kind check) (fun g op obs => (yields op obs).all (check g))
      (ghostStep kind) :=
  ⟨fun _ => rfl, fun _ _ _ _ => rfl⟩

theorem exactC03_refWalk (kind : Kind) (ttl tti : Option Nat) :
    RefWalk (exactC03 kind ttl tti) (Spec.checkExact ttl tti) (refStep kind) :=
  ⟨fun _ => rfl, Spec.exactC03_cons kind ttl tti⟩

def recUse (multi : Bool) (st : RecSt) (k : Nat) : RecSt :=
  { st with moved := st.moved.filter (· != k) ++ [k],
            valid := st.valid && (multi || st.moved.isEmpty) }

def recChk (st : RecSt) : Op → Obs → Bool
  | .snap, .snap sn =>
    if quiescent sn then
      match st.prev with
      | some b => !st.valid || lruOrder sn == expectedOrder b sn st.moved
      | none => true
    else true
  | _, _ => true

def recStep (multi : Bool) (st : RecSt) : Op → Obs → RecSt
  | .snap, .snap sn => if quiescent sn then { prev := some sn } else st
  | .get k, .val (some _) => recUse multi st k
  | .ins k _, _ => recUse multi st k
  | _, _ => st

theorem recencyWalk_refWalk (multi : Bool) :
    RefWalk (recencyWalk multi) recChk (recStep multi) := by
  refine ⟨fun _ => rfl, fun st op obs rest => ?_⟩
  cases obs with
  | panic f => rfl
  | badOp => rfl
  | snap sn =>
    cases op <;> try rfl
    by_cases hq : quiescent sn = true
    · simp only [recencyWalk, recChk, recStep, stops, hq, if_true, Bool.false_eq_true, if_false]
      rfl
    · simp only [recencyWalk, recChk, recStep, stops, hq, Bool.false_eq_true, if_false,
        Bool.true_and]
  | val o =>
    cases op <;> try rfl
    cases o <;> rfl
  | ok => cases op <;> rfl
  | bool b => cases op <;> rfl
  | iter l => cases op <;> rfl
  | freq f => cases op <;> rfl

end Spec
end MiniMoka
