/-
  What the oracles read off a `Snap`, for any snapshot whose `entries` and `freqs` are the sorted
  image of an association list (`Spec.Shows`): membership, lookup by key, length, sums,
  `weightOfKey`, `freqOfKey`, `keysOf`, `freqsKept`.  The lemmas mention no model; the file imports
  the two model files (no lemma file of either) for the two instances at its end, which hold by
  `rfl` (`Unsync.shows`, `Sync.shows`).
-/
import MiniMoka.Spec.Oracles
import MiniMoka.Lemmas.Sort
import MiniMoka.Unsync
import MiniMoka.Sync

namespace MiniMoka

namespace Spec

/-- `sn` shows the association list `m`: its entries are the views of the bindings and its
estimates those of the keys, both sorted by key. -/
structure Shows {β : Type} (sn : Snap) (m : List (Nat × β)) (view : Nat × β → EntryView)
    (fr : Nat → Nat) : Prop where
  entries : sn.entries = sortBy (·.key) (m.map view)
  key : ∀ kv, (view kv).key = kv.1
  freqs : sn.freqs = sortBy (·.1) (m.map fun kv => (kv.1, fr kv.1))

namespace Shows

variable {β : Type} {sn : Snap} {m : List (Nat × β)} {view : Nat × β → EntryView} {fr : Nat → Nat}
  (H : Shows sn m view fr)
include H

theorem mem_entries {x : EntryView} : x ∈ sn.entries ↔ ∃ kv ∈ m, x = view kv := by
  rw [H.entries, mem_sortBy, List.mem_map]
  exact ⟨fun ⟨kv, h1, h2⟩ => ⟨kv, h1, h2.symm⟩, fun ⟨kv, h1, h2⟩ => ⟨kv, h1, h2.symm⟩⟩

theorem entries_all (f : EntryView → Bool) :
    sn.entries.all f = true ↔ ∀ kv ∈ m, f (view kv) = true := by
  rw [List.all_eq_true]
  constructor
  · intro h kv hm; exact h _ (H.mem_entries.mpr ⟨kv, hm, rfl⟩)
  · intro h x hx
    obtain ⟨kv, hm, rfl⟩ := H.mem_entries.mp hx
    exact h kv hm

theorem length_entries : sn.entries.length = m.length := by
  rw [H.entries, length_sortBy, List.length_map]

theorem sum_entries (f : EntryView → Nat) :
    (sn.entries.map f).sum = (m.map fun kv => f (view kv)).sum := by
  rw [H.entries, sum_map_sortBy, List.map_map]; rfl

theorem snapWeight_eq : snapWeight sn = (m.map fun kv => (view kv).weight).sum :=
  H.sum_entries _

theorem find?_entry (hn : (AL.keys m).Nodup) (k : Nat) :
    sn.entries.find? (fun e => e.key == k) = (AL.get? m k).map (fun e => view (k, e)) := by
  rw [H.entries]
  exact find?_sortBy_map (·.key) view H.key m hn k

theorem any_entry (hn : (AL.keys m).Nodup) (k : Nat) :
    sn.entries.any (fun e => e.key == k) = (AL.get? m k).isSome := by
  have hgen : ∀ (l : List EntryView) (q : EntryView → Bool), l.any q = (l.find? q).isSome := by
    intro l q
    induction l with
    | nil => rfl
    | cons a l ih => rw [List.any_cons, List.find?_cons]; cases q a <;> simp [ih]
  rw [hgen, H.find?_entry hn k]
  cases AL.get? m k <;> rfl

theorem any_of_get? {k : Nat} {e : β} (h : AL.get? m k = some e) {q : EntryView → Bool}
    (hq : q (view (k, e)) = true) : sn.entries.any q = true :=
  List.any_eq_true.mpr ⟨view (k, e), H.mem_entries.mpr ⟨_, AL.mem_of_get? h, rfl⟩, hq⟩

theorem any_key {k : Nat} {e : β} (h : AL.get? m k = some e) :
    sn.entries.any (fun x => x.key == k) = true :=
  H.any_of_get? h (by simp only [H.key, beq_self_eq_true])

theorem any_key_val {k : Nat} {e : β} (h : AL.get? m k = some e) :
    sn.entries.any (fun x => x.key == k && x.val == (view (k, e)).val) = true :=
  H.any_of_get? h (by simp only [H.key, beq_self_eq_true, Bool.and_self])

theorem weightOfKey_eq (hn : (AL.keys m).Nodup) (k : Nat) :
    weightOfKey sn k = ((AL.get? m k).map fun e => (view (k, e)).weight).getD 0 := by
  unfold weightOfKey
  rw [H.find?_entry hn k]
  cases AL.get? m k <;> rfl

theorem freqOfKey_eq (hn : (AL.keys m).Nodup) (k : Nat) :
    freqOfKey sn k = ((AL.get? m k).map fun _ => fr k).getD 0 := by
  unfold freqOfKey
  rw [H.freqs, find?_sortBy_map (α := Nat × Nat) (·.1) (fun kv => (kv.1, fr kv.1))
    (fun _ => rfl) m hn k]
  cases AL.get? m k <;> rfl

theorem mem_keysOf (k : Nat) : k ∈ keysOf sn ↔ k ∈ AL.keys m := by
  unfold keysOf
  rw [List.mem_map, AL.keys_eq_map, List.mem_map]
  constructor
  · rintro ⟨x, hx, rfl⟩
    obtain ⟨kv, hm, rfl⟩ := H.mem_entries.mp hx
    exact ⟨kv, hm, (H.key kv).symm⟩
  · rintro ⟨kv, hm, rfl⟩
    exact ⟨view kv, H.mem_entries.mpr ⟨kv, hm, rfl⟩, H.key kv⟩

theorem mem_keysOf_get? (k : Nat) : k ∈ keysOf sn ↔ ∃ e, AL.get? m k = some e := by
  rw [H.mem_keysOf, ← AL.get?_isSome_iff, Option.isSome_iff_exists]

theorem freqsKept {β' : Type} {a : Snap} {m' : List (Nat × β')} {view' : Nat × β' → EntryView}
    {fr' : Nat → Nat} (Ha : Shows a m' view' fr') (h : ∀ k, fr' k = fr k) :
    Spec.freqsKept sn a = true := by
  unfold Spec.freqsKept
  rw [List.all_eq_true]
  intro kf hkf
  rw [H.freqs, mem_sortBy, List.mem_map] at hkf
  obtain ⟨kv, _, rfl⟩ := hkf
  cases hfind : a.freqs.find? (fun kf' => kf'.1 == kv.1) with
  | none => rfl
  | some kf' =>
    have hmem := List.mem_of_find?_eq_some hfind
    have hk := List.find?_some hfind
    rw [Ha.freqs, mem_sortBy, List.mem_map] at hmem
    obtain ⟨kv', _, rfl⟩ := hmem
    have hk' : kv'.1 = kv.1 := by simpa using hk
    simp [hk', h]

end Shows

end Spec

open Spec

theorem Unsync.shows (p : Params) (s : Unsync.UState) :
    Shows (Unsync.snapshot p s) s.map (Unsync.entryView s) (fun k => s.sk.frequency (p.hash k)) :=
  ⟨rfl, fun _ => rfl, rfl⟩

theorem Sync.shows (p : Params) (s : Sync.SState) :
    Shows (Sync.snapshot p s) s.map (Sync.entryView s) (fun k => s.sk.frequency (p.hash k)) :=
  ⟨rfl, fun _ => rfl, rfl⟩

end MiniMoka
