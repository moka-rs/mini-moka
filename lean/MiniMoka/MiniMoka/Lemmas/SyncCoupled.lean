/-
  The coupling `CoupledS` between a state of the one-thread model (the many-thread models share its
  state) and the reference bookkeeping of the lookup oracles (C01, C05, C06, C07, C16), and what
  keeps it whoever performs the steps: frames of the cache state, changes of the read queue, killing
  and touching reference entries, the clock and `invalidate_all`.
-/
import MiniMoka.Lemmas.SyncFrame
import MiniMoka.Spec.Oracles
import MiniMoka.Lemmas.Ghost

namespace MiniMoka
namespace Sync

open Spec

/-- The cache state `s` against the reference `g`.  `ents`: a map entry has a reference entry with
its value and insert time and an access time not before the info's, alive unless the
`invalidate_all` watermark hides the entry.  `hits`: the reference entry of the key of a queued hit
was accessed at the hit's timestamp or later.  No clause mentions `p`; it names the configuration
whose checks (`allChecks p`) the coupling serves. -/
structure CoupledS (p : Params) (s : SState) (g : Ghost) : Prop where
  kn : (AL.keys s.map).Nodup
  now : g.now = s.now
  vaLe : ∀ v, s.va = some v → v ≤ s.now
  tLe : ∀ k ge, AL.get? g.ents k = some ge → ge.tAcc ≤ g.now ∧ ge.tIns ≤ g.now
  refsMap : ∀ k ve, AL.get? s.map k = some ve → ve.info < s.nextId
  refsHits : ∀ hash ve ts, ROp.hit hash ve ts ∈ s.readQ → ve.info < s.nextId
  ents : ∀ k ve, AL.get? s.map k = some ve → ∃ ge, AL.get? g.ents k = some ge ∧
    ge.val = ve.val ∧ (getInfo s ve.info).key = k ∧ (getInfo s ve.info).lm = ge.tIns ∧
    (getInfo s ve.info).la ≤ ge.tAcc ∧
    (ge.alive = true ∨ ∃ v, s.va = some v ∧ (getInfo s ve.info).lm < v)
  hits : ∀ hash ve ts, ROp.hit hash ve ts ∈ s.readQ →
    ∃ ge, AL.get? g.ents (getInfo s ve.info).key = some ge ∧ ts ≤ ge.tAcc

theorem coupledS_frame {p : Params} {s s' : SState} {g : Ghost} (hc : CoupledS p s g)
    (hf : Frame s s') : CoupledS p s' g := by
  refine ⟨hf.kn hc.kn, hc.now.trans hf.now.symm, ?_, hc.tLe, ?_, ?_, ?_, ?_⟩
  · intro v hv; rw [hf.va] at hv; rw [hf.now]; exact hc.vaLe v hv
  · intro k ve h
    exact Nat.lt_of_lt_of_le (hc.refsMap k ve (hf.mapSub hc.kn k ve h)) hf.nextId
  · intro hash ve ts h
    exact Nat.lt_of_lt_of_le (hc.refsHits hash ve ts (hf.readQ _ h)) hf.nextId
  · intro k ve h
    obtain ⟨ge, h1, h2, h3, h4, h5, h6⟩ := hc.ents k ve (hf.mapSub hc.kn k ve h)
    refine ⟨ge, h1, h2, (hf.key _).trans h3, (hf.lm _).trans h4, ?_, ?_⟩
    · rcases hf.la ve.info with e | ⟨hash, ve', hin, hve'⟩
      · rw [e]; exact h5
      · obtain ⟨ge', g1, g2⟩ := hc.hits hash ve' _ hin
        rw [hve', h3, h1] at g1
        cases g1
        exact g2
    · rcases h6 with h6 | ⟨v, hv, hlt⟩
      · exact Or.inl h6
      · exact Or.inr ⟨v, by rw [hf.va]; exact hv, by rw [hf.lm]; exact hlt⟩
  · intro hash ve ts h
    obtain ⟨ge, g1, g2⟩ := hc.hits hash ve ts (hf.readQ _ h)
    exact ⟨ge, by rw [hf.key]; exact g1, g2⟩

theorem coupledS_setReadQ {p : Params} {s : SState} {g : Ghost} (hc : CoupledS p s g)
    (q : List ROp)
    (hq : ∀ hash ve ts, ROp.hit hash ve ts ∈ q → ROp.hit hash ve ts ∈ s.readQ ∨
      (ve.info < s.nextId ∧
        ∃ ge, AL.get? g.ents (getInfo s ve.info).key = some ge ∧ ts ≤ ge.tAcc)) :
    CoupledS p { s with readQ := q } g := by
  refine ⟨hc.kn, hc.now, hc.vaLe, hc.tLe, hc.refsMap, ?_, hc.ents, ?_⟩
  · intro hash ve ts hin
    rcases hq hash ve ts hin with h | h
    · exact hc.refsHits hash ve ts h
    · exact h.1
  · intro hash ve ts hin
    rcases hq hash ve ts hin with h | h
    · exact hc.hits hash ve ts h
    · exact h.2

theorem coupledS_readQ_sub {p : Params} {s : SState} {g : Ghost} (hc : CoupledS p s g)
    (q : List ROp) (hq : ∀ op, op ∈ q → op ∈ s.readQ) : CoupledS p { s with readQ := q } g :=
  coupledS_setReadQ hc q (fun _ _ _ hin => Or.inl (hq _ hin))

/-- The checks of C01, C05 and C06 together.  C07's check follows from C01's
(`checkC07_of_checkC01`); C16 applies the three to what `iter` yields. -/
def allChecks (p : Params) (g : Ghost) (kv : Nat × Option Nat) : Bool :=
  checkC01 g kv && checkC05 p.ttl g kv && checkC06 p.tti g kv

theorem allChecks_iff {p : Params} {g : Ghost} {kv : Nat × Option Nat} :
    allChecks p g kv = true ↔
      checkC01 g kv = true ∧ checkC05 p.ttl g kv = true ∧ checkC06 p.tti g kv = true := by
  simp only [allChecks, Bool.and_eq_true, and_assoc]

theorem checkC01_of_allChecks (p : Params) (g : Ghost) (kv : Nat × Option Nat)
    (h : allChecks p g kv = true) : checkC01 g kv = true := (allChecks_iff.mp h).1

theorem checkC05_of_allChecks (p : Params) (g : Ghost) (kv : Nat × Option Nat)
    (h : allChecks p g kv = true) : checkC05 p.ttl g kv = true := (allChecks_iff.mp h).2.1

theorem checkC06_of_allChecks (p : Params) (g : Ghost) (kv : Nat × Option Nat)
    (h : allChecks p g kv = true) : checkC06 p.tti g kv = true := (allChecks_iff.mp h).2.2

theorem _root_.MiniMoka.Spec.checkC07_of_checkC01 {g : Ghost} {kv : Nat × Option Nat}
    (h : checkC01 g kv = true) : checkC07 g kv = true := by
  unfold checkC01 at h
  unfold checkC07
  cases hg : AL.get? g.ents kv.1 with
  | none => simp only [hg] at h; cases h
  | some ge => simp only [hg, Bool.and_eq_true] at h; exact h.1

theorem checkC07_of_allChecks (p : Params) (g : Ghost) (kv : Nat × Option Nat)
    (h : allChecks p g kv = true) : checkC07 g kv = true :=
  checkC07_of_checkC01 (checkC01_of_allChecks p g kv h)

theorem allChecks_of_entry {p : Params} {s : SState} {g : Ghost} (hc : CoupledS p s g) {k : Nat}
    {ve : VE} (hk : AL.get? s.map k = some ve)
    (hexp : isExpiredInfo p s (getInfo s ve.info) s.now = false) (ov : Option Nat)
    (hov : ov = none ∨ ov = some ve.val) : allChecks p g (k, ov) = true := by
  obtain ⟨ge, h1, h2, h3, h4, h5, h6⟩ := hc.ents k ve hk
  rw [isExpiredInfo, Bool.or_eq_false_iff, expiredTs_eq_false_iff, expiredTs_eq_false_iff] at hexp
  obtain ⟨⟨e1, e2⟩, ⟨_, e4⟩⟩ := hexp
  have halive : ge.alive = true := by
    rcases h6 with h6 | ⟨v, hv, hlt⟩
    · exact h6
    · have := e1 v hv; omega
  refine checks_of_entry h1 halive (by rw [h2]; exact hov) (fun d hd => ?_) (fun d hd => ?_)
  · have := e2 d hd
    rw [hc.now, ← h4]; omega
  · have := e4 d hd
    rw [hc.now]; omega

theorem coupledS_kill {p : Params} {s : SState} {g : Ghost} (hc : CoupledS p s g)
    (f : Nat → GEntry → Bool)
    (hf : ∀ k ve ge, AL.get? s.map k = some ve → AL.get? g.ents k = some ge → f k ge = true →
      ∃ v, s.va = some v ∧ (getInfo s ve.info).lm < v) :
    CoupledS p s { g with ents := killIf f g.ents } := by
  refine ⟨hc.kn, hc.now, hc.vaLe, ?_, hc.refsMap, hc.refsHits, ?_, ?_⟩
  · intro k ge h
    simp only [get?_killIf] at h
    cases h0 : AL.get? g.ents k with
    | none => simp [h0] at h
    | some ge0 =>
      simp [h0] at h
      have := hc.tLe k ge0 h0
      split at h <;> (subst h; exact this)
  · intro k ve h
    obtain ⟨ge, h1, h2, h3, h4, h5, h6⟩ := hc.ents k ve h
    by_cases hk : f k ge = true
    · refine ⟨{ ge with alive := false }, by simp [get?_killIf, h1, hk], h2, h3, h4, h5,
        Or.inr (hf k ve ge h h1 hk)⟩
    · refine ⟨ge, by simp [get?_killIf, h1, hk], h2, h3, h4, h5, h6⟩
  · intro hash ve ts h
    obtain ⟨ge, g1, g2⟩ := hc.hits hash ve ts h
    by_cases hk : f (getInfo s ve.info).key ge = true
    · exact ⟨{ ge with alive := false }, by simp [get?_killIf, g1, hk], g2⟩
    · exact ⟨ge, by simp [get?_killIf, g1, hk], g2⟩

theorem coupledS_touch {p : Params} {s : SState} {g : Ghost} (hc : CoupledS p s g) {k : Nat}
    {ge : GEntry} (hk : AL.get? g.ents k = some ge) :
    CoupledS p s { g with ents := AL.put g.ents k { ge with tAcc := g.now } } := by
  have hge := hc.tLe k ge hk
  refine ⟨hc.kn, hc.now, hc.vaLe, ?_, hc.refsMap, hc.refsHits, ?_, ?_⟩
  · intro k' ge' h
    simp only at h
    rw [AL.get?_put] at h
    by_cases e : k = k'
    · simp [e] at h; subst h; exact ⟨Nat.le_refl _, hge.2⟩
    · simp [e] at h; exact hc.tLe k' ge' h
  · intro k' ve h
    obtain ⟨ge', h1, h2, h3, h4, h5, h6⟩ := hc.ents k' ve h
    by_cases e : k = k'
    · subst e
      rw [hk] at h1; cases h1
      exact ⟨{ ge with tAcc := g.now }, by simp [AL.get?_put_self], h2, h3, h4,
        Nat.le_trans h5 hge.1, h6⟩
    · exact ⟨ge', by simp only; rw [AL.get?_put_ne _ e]; exact h1, h2, h3, h4, h5, h6⟩
  · intro hash ve ts h
    obtain ⟨ge', g1, g2⟩ := hc.hits hash ve ts h
    by_cases e : k = (getInfo s ve.info).key
    · rw [← e, hk] at g1; cases g1
      exact ⟨{ ge with tAcc := g.now }, by simp only; rw [← e, AL.get?_put_self],
        Nat.le_trans g2 hge.1⟩
    · exact ⟨ge', by simp only; rw [AL.get?_put_ne _ e]; exact g1, g2⟩

theorem invalidateAll_coupled {p : Params} {s : SState} {g : Ghost} (hc : CoupledS p s g) :
    CoupledS p (invalidateAll s) (ghostStep .sync g .invAll .ok) := by
  have hg : ghostStep .sync g .invAll .ok =
      { g with ents := killIf (fun _ ge => ge.tIns < g.now) g.ents } := rfl
  rw [hg]
  have hbase : CoupledS p (invalidateAll s) g := by
    refine ⟨hc.kn, hc.now, ?_, hc.tLe, hc.refsMap, hc.refsHits, ?_, hc.hits⟩
    · intro v hv
      simp only [invalidateAll, Option.some.injEq] at hv
      subst hv; exact Nat.le_refl _
    · intro k ve h
      obtain ⟨ge, h1, h2, h3, h4, h5, h6⟩ := hc.ents k ve h
      refine ⟨ge, h1, h2, h3, h4, h5, ?_⟩
      rcases h6 with h6 | ⟨v, hv, hlt⟩
      · exact Or.inl h6
      · exact Or.inr ⟨s.now, rfl, Nat.lt_of_lt_of_le hlt (hc.vaLe v hv)⟩
  refine coupledS_kill hbase _ ?_
  intro k ve ge h hge hf
  obtain ⟨ge', h1, _, _, h4, _, _⟩ := hc.ents k ve h
  rw [hge] at h1; cases h1
  refine ⟨s.now, rfl, ?_⟩
  have : ge.tIns < g.now := by simpa using hf
  show (getInfo s ve.info).lm < s.now
  rw [h4, ← hc.now]; exact this

theorem adv_coupled {p : Params} {s : SState} {g : Ghost} (hc : CoupledS p s g) (d : Nat) :
    CoupledS p { s with now := s.now + d } (ghostStep .sync g (.adv d) .ok) := by
  refine ⟨hc.kn, by simp [ghostStep, hc.now], ?_, ?_, hc.refsMap, hc.refsHits, hc.ents, hc.hits⟩
  · intro v hv; exact Nat.le_trans (hc.vaLe v hv) (Nat.le_add_right _ _)
  · intro k ge h
    have := hc.tLe k ge h
    simp only [ghostStep]
    exact ⟨Nat.le_trans this.1 (Nat.le_add_right _ _), Nat.le_trans this.2 (Nat.le_add_right _ _)⟩

theorem init_coupled (p : Params) : CoupledS p {} {} := by
  refine ⟨by simp, rfl, ?_, ?_, ?_, ?_, ?_, ?_⟩ <;> simp

end Sync
end MiniMoka
