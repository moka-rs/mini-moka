/-
  The interface the cache models need from the sketch (`SketchLaws`, stated in
  `Lemmas/SketchLawsDef.lean` below both models), discharged with the invariants proved in
  `Lemmas/Sketch.lean`.
-/
import MiniMoka.Lemmas.Sketch
import MiniMoka.Lemmas.SketchLawsDef

namespace MiniMoka
namespace Sketch

/-- A sketch in good standing: well-formed, and either still empty or satisfying the counter
invariant with a table below 2^28 words. -/
def Good (s : Sketch) : Prop :=
  WF s ∧ (s.table.size = 0 ∨ (CInv s ∧ s.table.size < 2 ^ 28))

theorem good_default : Good {} := ⟨wf_default, Or.inl rfl⟩

theorem good_init {cap : Nat} (hcap : cap ≤ 2 ^ 27) : Good (init cap) :=
  ⟨wf_init cap, Or.inr ⟨cinv_init cap, init_small hcap⟩⟩

theorem good_increment {s : Sketch} (hg : Good s) (h : UInt64) :
    ∃ s', s.increment false h = .ok s' ∧ Good s' := by
  obtain ⟨hwf, hrest⟩ := hg
  rcases hrest with h0 | ⟨hc, hsmall⟩
  · exact ⟨s, increment_of_incrStep (incrStep_empty h h0), hwf, Or.inl h0⟩
  · obtain ⟨s', r, hstep⟩ := step_ok hc hsmall h
    refine ⟨s', increment_of_incrStep hstep, wf_step hwf hstep, Or.inr ⟨cinv_step hc hstep, ?_⟩⟩
    rw [(step_frame hstep).2.2]; exact hsmall

theorem increment_default (h : UInt64) : ({} : Sketch).increment false h = .ok {} :=
  increment_of_incrStep (incrStep_empty h rfl)

end Sketch

theorem sketchLaws : SketchLaws Sketch.Good where
  init := Sketch.good_default
  ensure := fun _ hcap => Sketch.good_init hcap
  incr := fun _ h hg => Sketch.good_increment hg h
  incrDefault := Sketch.increment_default

end MiniMoka
