/-
  Iterators beside the threads of `ConcS` (`MiniMoka/ConcSI.lean`), for `Props/ConcSI.lean`.
  The cache component of an execution is an execution of `ConcS` (`reach_concS`), so
  `ConcS.CSInv` holds of it; the facts about iterators (no key twice, every yielded pair was the
  map's live binding at its visit, an entry that stays resident is yielded) need of it only that
  the keys of the map are distinct.
-/
import MiniMoka.ConcSI
import MiniMoka.Lemmas.ConcS

namespace MiniMoka
namespace ConcSI

open Sync Sync.Nodes Sync.Counters ConcS

/-! ### lists -/

theorem filter_disj_perm {α : Type} (a b : α → Bool) (hd : ∀ x, ¬ (a x = true ∧ b x = true)) :
    ∀ l : List α, (l.filter a ++ l.filter b).Perm (l.filter fun x => a x || b x) := by
  intro l
  induction l with
  | nil => exact List.Perm.refl _
  | cons x l ih =>
    cases ha : a x <;> cases hb : b x
    · simp only [List.filter_cons, ha, hb, Bool.or_self, Bool.false_eq_true, if_false]
      exact ih
    · simp only [List.filter_cons, ha, hb, Bool.false_or, Bool.false_eq_true, if_false, if_true]
      exact List.perm_middle.trans (List.Perm.cons x ih)
    · simp only [List.filter_cons, ha, hb, Bool.or_false, Bool.false_eq_true, if_false, if_true,
        List.cons_append]
      exact List.Perm.cons x ih
    · exact absurd ⟨ha, hb⟩ (hd x)

theorem shards_perm {α : Type} (f : α → Nat) (q : α → Bool) (l : List α) : ∀ n : Nat,
    ((List.range n).flatMap fun i => l.filter fun x => f x == i && q x).Perm
      (l.filter fun x => decide (f x < n) && q x) := by
  intro n
  induction n with
  | zero => simp
  | succ n ih =>
    rw [List.range_succ, List.flatMap_append]
    simp only [List.flatMap_cons, List.flatMap_nil, List.append_nil]
    refine (List.Perm.append_right _ ih).trans ?_
    refine (filter_disj_perm _ _ ?_ l).trans ?_
    · intro x ⟨h1, h2⟩
      simp only [Bool.and_eq_true, decide_eq_true_eq, beq_iff_eq] at h1 h2
      omega
    · have : (fun x => (decide (f x < n) && q x) || (f x == n && q x))
          = fun x => decide (f x < n + 1) && q x := by
        funext x
        cases hq' : q x
        · simp
        · simp only [Bool.and_true]
          by_cases h1 : f x < n
          · have : f x < n + 1 := by omega
            simp [h1, this]
          · by_cases h2 : f x = n
            · simp [h2]
            · have : ¬ f x < n + 1 := by omega
              simp [h1, h2, this]
      rw [this]

/-! ### the table of iterators -/

theorem iterOf_eq_get? (l : List (Tid × ItSt)) (t : Tid) : iterOf l t = AL.get? l t := by
  induction l with
  | nil => rfl
  | cons x l ih => obtain ⟨k, v⟩ := x; simp only [iterOf, AL.get?_cons, ih]

theorem setIter_eq_put (l : List (Tid × ItSt)) (t : Tid) (it : ItSt) :
    setIter l t it = AL.put l t it := by
  induction l with
  | nil => rfl
  | cons x l ih =>
    obtain ⟨k, v⟩ := x
    simp only [setIter, AL.put_cons, ih]
    split
    · rename_i e; rw [show k = t from e]
    · rfl

theorem dropIter_eq_filter (l : List (Tid × ItSt)) (t : Tid) :
    dropIter l t = l.filter fun x => x.1 != t := by
  induction l with
  | nil => rfl
  | cons x l ih => simp only [dropIter, List.filter_cons, ih, bne_iff_ne, ne_eq, ite_not]

theorem iterOf_setIter (l : List (Tid × ItSt)) (t t' : Tid) (it : ItSt) :
    iterOf (setIter l t it) t' = if t = t' then some it else iterOf l t' := by
  rw [iterOf_eq_get?, iterOf_eq_get?, setIter_eq_put, AL.get?_put]

theorem iterOf_dropIter (l : List (Tid × ItSt)) (t t' : Tid) :
    iterOf (dropIter l t) t' = if t = t' then none else iterOf l t' := by
  rw [iterOf_eq_get?, iterOf_eq_get?, dropIter_eq_filter, AL.get?_filter_ne]

/-! ### the enabled steps -/

/-- `step p cfg c e = some c'`, one constructor per kind of event. -/
inductive Step (p : Params) (cfg : Cfg) (c : IState) : Ev → IState → Prop where
  | cs (e0 : ConcS.Ev) (c1 : CState) : ConcS.step p c.c e0 = some c1 → busy c.iters e0 = false →
    Step p cfg c (.cs e0) { c with c := c1 }
  | itBegin (t : Tid) : iterOf c.iters t = none → pendOf c.c.pending t = none →
    Step p cfg c (.itBegin t) { c with iters := setIter c.iters t {} }
  | itShard (t : Tid) (it : ItSt) : iterOf c.iters t = some it → it.next < cfg.nshards →
    Step p cfg c (.itShard t)
      { c with
        iters := setIter c.iters t ⟨it.next + 1, it.yielded ++ shardEntries cfg p c.c.s it.next⟩ }
  | itEnd (t : Tid) (it : ItSt) : iterOf c.iters t = some it → it.next = cfg.nshards →
    Step p cfg c (.itEnd t)
      { c with iters := dropIter c.iters t, done := c.done ++ [(t, it.yielded)] }

theorem Step.of_eq {p : Params} {cfg : Cfg} {c c' : IState} {e : Ev}
    (hs : step p cfg c e = some c') : Step p cfg c e c' := by
  cases e with
  | cs e0 =>
    simp only [step] at hs
    split at hs
    · cases hs
    · cases h0 : ConcS.step p c.c e0 with
      | none => rw [h0] at hs; cases hs
      | some c1 => rw [h0] at hs; cases hs; exact .cs e0 c1 h0 (Bool.eq_false_iff.mpr ‹_›)
  | itBegin t =>
    simp only [step] at hs
    split at hs
    · cases hs; exact .itBegin t ‹_› ‹_›
    · cases hs
  | itShard t =>
    simp only [step] at hs
    split at hs
    · cases hs
    · split at hs
      · cases hs; exact .itShard t _ ‹_› ‹_›
      · cases hs
  | itEnd t =>
    simp only [step] at hs
    split at hs
    · cases hs
    · split at hs
      · cases hs; exact .itEnd t _ ‹_› ‹_›
      · cases hs

theorem step_iter {p : Params} {cfg : Cfg} {c c' : IState} {e : Ev}
    (hs : step p cfg c e = some c') (t : Tid) :
    (iterOf c'.iters t = iterOf c.iters t ∧ e ≠ .itShard t ∧ e ≠ .itEnd t ∧ e ≠ .itBegin t) ∨
    (e = .itBegin t ∧ iterOf c.iters t = none ∧ iterOf c'.iters t = some {}) ∨
    (e = .itShard t ∧ ∃ it, iterOf c.iters t = some it ∧ it.next < cfg.nshards ∧
      iterOf c'.iters t = some ⟨it.next + 1, it.yielded ++ shardEntries cfg p c.c.s it.next⟩) ∨
    (e = .itEnd t ∧ iterOf c'.iters t = none) := by
  cases Step.of_eq hs with
  | cs e0 c1 =>
    exact Or.inl ⟨rfl, (by intro h; cases h), (by intro h; cases h), (by intro h; cases h)⟩
  | itBegin t0 hi =>
    by_cases e : t0 = t
    · subst e
      exact Or.inr (Or.inl ⟨rfl, hi, by simp only [iterOf_setIter, if_true]⟩)
    · refine Or.inl ⟨by simp only [iterOf_setIter, if_neg e], (by intro h; cases h),
        (by intro h; cases h), ?_⟩
      intro h; injection h with h; exact e h
  | itShard t0 it hi hl =>
    by_cases e : t0 = t
    · subst e
      exact Or.inr (Or.inr (Or.inl ⟨rfl, it, hi, hl, by simp only [iterOf_setIter, if_true]⟩))
    · refine Or.inl ⟨by simp only [iterOf_setIter, if_neg e], ?_, (by intro h; cases h),
        (by intro h; cases h)⟩
      intro h; injection h with h; exact e h
  | itEnd t0 it hi =>
    by_cases e : t0 = t
    · subst e
      exact Or.inr (Or.inr (Or.inr ⟨rfl, by simp only [iterOf_dropIter, if_true]⟩))
    · refine Or.inl ⟨by simp only [iterOf_dropIter, if_neg e], (by intro h; cases h), ?_,
        (by intro h; cases h)⟩
      intro h; injection h with h; exact e h

/-! ### the cache component is a `ConcS` execution; paths -/

theorem step_concS {p : Params} {cfg : Cfg} {c c' : IState} {e : Ev}
    (hs : step p cfg c e = some c') : c'.c = c.c ∨ ∃ e0, ConcS.step p c.c e0 = some c'.c := by
  cases Step.of_eq hs with
  | cs e0 c1 h0 => exact Or.inr ⟨e0, h0⟩
  | _ => exact Or.inl rfl

theorem reach_concS {p : Params} {cfg : Cfg} {c : IState} (h : Reach p cfg c) :
    ConcS.Reach p c.c := by
  induction h with
  | init => exact ConcS.Reach.init
  | step e _ hs ih =>
    rcases step_concS hs with h1 | ⟨e0, h1⟩
    · rw [h1]; exact ih
    · exact ConcS.Reach.step e0 ih h1

theorem isPath (p : Params) (cfg : Cfg) : IsPath (step p cfg) (runEvs p cfg) :=
  ⟨fun _ => rfl, fun c e rest => by simp only [runEvs]; cases step p cfg c e <;> rfl⟩

theorem reach_of_runEvs {p : Params} {cfg : Cfg} : ∀ (evs : List Ev) (c c' : IState),
    Reach p cfg c → runEvs p cfg c evs = some c' → Reach p cfg c' :=
  (isPath p cfg).inv fun _ _ e h hs => Reach.step e h hs

theorem runEvs_append (p : Params) (cfg : Cfg) (c : IState) (l1 l2 : List Ev) :
    runEvs p cfg c (l1 ++ l2) = match runEvs p cfg c l1 with
      | some c' => runEvs p cfg c' l2
      | none => none := by
  rw [(isPath p cfg).append]
  cases runEvs p cfg c l1 <;> rfl

/-! ### what a shard visit yields -/

theorem mem_shardEntries {cfg : Cfg} {p : Params} {s : SState} {i k v : Nat}
    (hkn : (AL.keys s.map).Nodup) :
    (k, v) ∈ shardEntries cfg p s i ↔ ∃ ve, AL.get? s.map k = some ve ∧ ve.val = v ∧
      cfg.shardOf k = i ∧ isExpiredInfo p s (getInfo s ve.info) s.now = false := by
  unfold shardEntries
  simp only [List.mem_map, List.mem_filter, Bool.and_eq_true, beq_iff_eq, Bool.not_eq_true']
  constructor
  · rintro ⟨kv, ⟨hm, h1, h2⟩, e⟩
    obtain ⟨k', ve⟩ := kv
    injection e with e1 e2
    subst e1
    exact ⟨ve, AL.get?_of_mem hkn hm, e2, h1, h2⟩
  · rintro ⟨ve, hg, e, h1, h2⟩
    exact ⟨(k, ve), ⟨AL.mem_of_get? hg, h1, h2⟩, by rw [← e]⟩

theorem shardEntries_keys_nodup (cfg : Cfg) (p : Params) (s : SState) (i : Nat)
    (hkn : (AL.keys s.map).Nodup) : ((shardEntries cfg p s i).map (·.1)).Nodup := by
  unfold shardEntries
  rw [List.map_map]
  have : ((fun x : Nat × Nat => x.1) ∘ fun kv : Nat × VE => (kv.1, kv.2.val))
      = fun kv : Nat × VE => kv.1 := rfl
  rw [this]
  rw [AL.keys_eq_map] at hkn
  exact List.Nodup.sublist (List.Sublist.map _ List.filter_sublist) hkn

theorem shardEntries_shard {cfg : Cfg} {p : Params} {s : SState} {i : Nat} {kv : Nat × Nat}
    (h : kv ∈ shardEntries cfg p s i) : cfg.shardOf kv.1 = i := by
  unfold shardEntries at h
  simp only [List.mem_map, List.mem_filter, Bool.and_eq_true, beq_iff_eq] at h
  obtain ⟨x, ⟨_, h1, _⟩, e⟩ := h
  rw [← e]; exact h1

/-! ### no duplicates -/

/-- Per iterator: the keys yielded so far are distinct and lie in shards already visited. -/
def ItOK (cfg : Cfg) (it : ItSt) : Prop :=
  (it.yielded.map (·.1)).Nodup ∧ ∀ kv, kv ∈ it.yielded → cfg.shardOf kv.1 < it.next

theorem reach_itOK {p : Params} {cfg : Cfg} (hq : NoQuirks p) (hsm : SmallSketch p) {c : IState}
    (h : Reach p cfg c) : ∀ t it, iterOf c.iters t = some it → ItOK cfg it := by
  induction h with
  | init => intro t it hi; cases hi
  | step e hr hs ih =>
    rename_i c c'
    intro t it hi
    rcases step_iter hs t with ⟨h1, _⟩ | ⟨_, _, h1⟩ | ⟨_, it0, h0, _, h1⟩ | ⟨_, h1⟩
    · rw [h1] at hi; exact ih t it hi
    · rw [h1] at hi
      rw [← Option.some.inj hi]
      exact ⟨List.nodup_nil, fun kv hkv => by cases hkv⟩
    · rw [h1] at hi
      rw [← Option.some.inj hi]
      obtain ⟨a1, a2⟩ := ih t it0 h0
      have hkn := (reach_csinv hq hsm (reach_concS hr)).top.map.kn
      refine ⟨?_, ?_⟩
      · show ((it0.yielded ++ shardEntries cfg p c.c.s it0.next).map (·.1)).Nodup
        rw [List.map_append, List.nodup_append]
        refine ⟨a1, shardEntries_keys_nodup cfg p c.c.s it0.next hkn, ?_⟩
        intro a ha b hb e
        obtain ⟨x, hx, ex⟩ := List.mem_map.mp ha
        obtain ⟨y, hy, ey⟩ := List.mem_map.mp hb
        have h2 := a2 x hx
        have h3 := shardEntries_shard hy
        rw [ex, e, ← ey, h3] at h2
        exact Nat.lt_irrefl _ h2
      · intro kv hkv
        show cfg.shardOf kv.1 < it0.next + 1
        rcases List.mem_append.mp hkv with h2 | h2
        · exact Nat.lt_succ_of_lt (a2 kv h2)
        · rw [shardEntries_shard h2]; exact Nat.lt_succ_self _
    · rw [h1] at hi; cases hi

/-! ### where yielded pairs come from -/

/-- What thread `t`'s iterator has yielded so far (nothing if it has none). -/
def yOf (c : IState) (t : Tid) : List (Nat × Nat) :=
  match iterOf c.iters t with
  | some it => it.yielded
  | none => []

theorem yOf_some {c : IState} {t : Tid} {it : ItSt} (h : iterOf c.iters t = some it) :
    yOf c t = it.yielded := by unfold yOf; rw [h]

theorem yOf_none {c : IState} {t : Tid} (h : iterOf c.iters t = none) : yOf c t = [] := by
  unfold yOf; rw [h]

theorem yielded_origin {p : Params} {cfg : Cfg} (hq : NoQuirks p) (hsm : SmallSketch p)
    (t : Tid) : ∀ (evs : List Ev) (c0 c1 : IState), Reach p cfg c0 →
      runEvs p cfg c0 evs = some c1 → ∀ k v, (k, v) ∈ yOf c1 t →
      (k, v) ∈ yOf c0 t ∨
      ∃ pre post cpre it ve, evs = pre ++ Ev.itShard t :: post ∧
        runEvs p cfg c0 pre = some cpre ∧ iterOf cpre.iters t = some it ∧
        cfg.shardOf k = it.next ∧ AL.get? cpre.c.s.map k = some ve ∧ ve.val = v ∧
        isExpiredInfo p cpre.c.s (getInfo cpre.c.s ve.info) cpre.c.s.now = false := by
  intro evs
  induction evs with
  | nil =>
    intro c0 c1 _ hrun k v hm
    cases hrun
    exact Or.inl hm
  | cons e rest ih =>
    intro c0 c1 hr hrun k v hm
    obtain ⟨c', hs, hrun⟩ := (isPath p cfg).cons_some hrun
    rcases ih c' c1 (Reach.step e hr hs) hrun k v hm with h1 | ⟨pre, post, cpre, it, ve, a1, a2, a3⟩
    · rcases step_iter hs t with ⟨g1, _⟩ | ⟨_, _, g1⟩ | ⟨ge, it0, g0, _, g1⟩ | ⟨_, g1⟩
      · left; unfold yOf at h1 ⊢; rw [g1] at h1; exact h1
      · rw [yOf_some g1] at h1; cases h1
      · rw [yOf_some g1] at h1
        rcases List.mem_append.mp h1 with h2 | h2
        · left; rw [yOf_some g0]; exact h2
        · right
          have hkn := (reach_csinv hq hsm (reach_concS hr)).top.map.kn
          obtain ⟨ve, b1, b2, b3, b4⟩ := (mem_shardEntries hkn).mp h2
          exact ⟨[], rest, c0, it0, ve, by rw [ge]; rfl, rfl, g0, b3, b1, b2, b4⟩
      · rw [yOf_none g1] at h1; cases h1
    · right
      refine ⟨e :: pre, post, cpre, it, ve, by rw [a1]; rfl, ?_, a3⟩
      simp only [runEvs, hs]
      exact a2

/-- Along a path on which `k` stays bound to `ve`, unexpired and not hidden, as long as `t`'s
iterator has not visited its shard: "`(k, ve.val)` is yielded already or the shard of `k` is
still to come" is kept. -/
theorem resident_inv {p : Params} {cfg : Cfg} (hq : NoQuirks p) (hsm : SmallSketch p)
    (t : Tid) (k : Nat) (ve : VE) : ∀ (evs : List Ev) (c0 c1 : IState), Reach p cfg c0 →
      runEvs p cfg c0 evs = some c1 → Ev.itEnd t ∉ evs →
      ∀ it0, iterOf c0.iters t = some it0 →
      ((k, ve.val) ∈ it0.yielded ∨ it0.next ≤ cfg.shardOf k) →
      (∀ pre post cpre it, evs = pre ++ post → runEvs p cfg c0 pre = some cpre →
        iterOf cpre.iters t = some it → it.next ≤ cfg.shardOf k →
        AL.get? cpre.c.s.map k = some ve ∧
          isExpiredInfo p cpre.c.s (getInfo cpre.c.s ve.info) cpre.c.s.now = false) →
      ∃ it1, iterOf c1.iters t = some it1 ∧
        ((k, ve.val) ∈ it1.yielded ∨ it1.next ≤ cfg.shardOf k) := by
  intro evs
  induction evs with
  | nil =>
    intro c0 c1 _ hrun _ it0 h0 hj _
    cases hrun
    exact ⟨it0, h0, hj⟩
  | cons e rest ih =>
    intro c0 c1 hr hrun hne it0 h0 hj hres
    obtain ⟨c', hs, hrun⟩ := (isPath p cfg).cons_some hrun
    have hne' : Ev.itEnd t ∉ rest := fun hx => hne (List.mem_cons_of_mem _ hx)
    have hres' : ∀ pre post cpre it, rest = pre ++ post → runEvs p cfg c' pre = some cpre →
        iterOf cpre.iters t = some it → it.next ≤ cfg.shardOf k →
        AL.get? cpre.c.s.map k = some ve ∧
          isExpiredInfo p cpre.c.s (getInfo cpre.c.s ve.info) cpre.c.s.now = false := by
      intro pre post cpre it e1 e2 e3 e4
      exact hres (e :: pre) post cpre it (by rw [e1]; rfl) (by simp only [runEvs, hs]; exact e2)
        e3 e4
    rcases step_iter hs t with ⟨g1, _⟩ | ⟨_, g0, _⟩ | ⟨_, it0', g0, _, g1⟩ | ⟨ge, _⟩
    · exact ih c' c1 (Reach.step e hr hs) hrun hne' it0 (by rw [g1]; exact h0) hj hres'
    · rw [g0] at h0; cases h0
    · rw [g0] at h0
      have e0 : it0' = it0 := Option.some.inj h0
      subst e0
      refine ih c' c1 (Reach.step e hr hs) hrun hne' _ g1 ?_ hres'
      rcases hj with hj | hj
      · exact Or.inl (List.mem_append_left _ hj)
      · by_cases heq : it0'.next = cfg.shardOf k
        · left
          obtain ⟨b1, b2⟩ := hres [] (e :: rest) c0 it0' rfl rfl g0 hj
          have hkn := (reach_csinv hq hsm (reach_concS hr)).top.map.kn
          exact List.mem_append_right _
            ((mem_shardEntries hkn).mpr ⟨ve, b1, rfl, heq.symm, b2⟩)
        · right
          show it0'.next + 1 ≤ cfg.shardOf k
          omega
    · exact absurd (by rw [ge]; exact List.mem_cons_self) hne

/-! ### an iteration with no other thread stepping -/

theorem run_visits {p : Params} {cfg : Cfg} (t : Tid) : ∀ (m : Nat) (c : IState) (j : Nat)
    (Y : List (Nat × Nat)), iterOf c.iters t = some ⟨j, Y⟩ → j + m ≤ cfg.nshards →
    ∃ c', runEvs p cfg c (List.replicate m (Ev.itShard t)) = some c' ∧ c'.c = c.c ∧
      c'.done = c.done ∧
      iterOf c'.iters t =
        some ⟨j + m, Y ++ (List.range' j m).flatMap (shardEntries cfg p c.c.s)⟩ := by
  intro m
  induction m with
  | zero =>
    intro c j Y h _
    exact ⟨c, rfl, rfl, rfl, by simpa using h⟩
  | succ m ih =>
    intro c j Y h hle
    have hs : step p cfg c (.itShard t) =
        some ⟨c.c, setIter c.iters t ⟨j + 1, Y ++ shardEntries cfg p c.c.s j⟩, c.done⟩ := by
      simp only [step, h]
      rw [if_pos (by show j < cfg.nshards; omega)]
    obtain ⟨c', r1, r2, r3, r4⟩ :=
      ih ⟨c.c, setIter c.iters t ⟨j + 1, Y ++ shardEntries cfg p c.c.s j⟩, c.done⟩ (j + 1)
        (Y ++ shardEntries cfg p c.c.s j) (by simp only [iterOf_setIter, if_true]) (by omega)
    refine ⟨c', ?_, r2, r3, ?_⟩
    · simp only [List.replicate_succ, runEvs, hs]
      exact r1
    · rw [r4]
      simp only [List.range'_succ, List.flatMap_cons, List.append_assoc]
      congr 2
      omega

end ConcSI
end MiniMoka
