/-
  The lookup coupling (`CoupledS`, Lemmas/SyncCoupled.lean) for the many-thread system
  `MiniMoka/ConcS.lean`: every step of every thread preserves it, when the operations of an
  execution are ordered by their MAP STEPS (`lin`).

  A read operation that a thread holds between its `getMap` and its `enq` is treated exactly as
  a queued one (`virt c`: the read queue followed by the held reads): the clauses of `CoupledS`
  about queued hits mention the queue through membership only, and what they demand of a hit
  `(ve, ts)` — the reference entry of the key of `ve`'s info was accessed at `ts` or later — is
  monotone under every reference step.  So it does not matter how late, and in which order relative
  to other threads, a held read reaches the queue.

  What a yielded value must pass is `Sync.allChecks`: the checks of C01, C05 and C06 (C07 follows
  from them, `checkC07_of_allChecks`).  The one-thread proof in `Lemmas/SyncLookup.lean`, which imports this
  file, is built on the same three lemmas about the map steps.  The induction over an execution is
  made once, for any system with a linearised trace (`lookupOracle_lin_gen` over `IsLin`).
-/
import MiniMoka.Lemmas.ConcS
import MiniMoka.Lemmas.SyncCoupled
import MiniMoka.Lemmas.RefWalk

namespace MiniMoka
namespace ConcS

open Sync Spec

/-! ### the linearised trace -/

/-- What an event contributes to the linearised trace: the API call whose map step
(linearisation point) it is, with the result decided at that step.  `maint` (a maintenance run
inside some call) and `enq` (the queued half of a call) contribute nothing; the explicit
`sync()` call contributes `(.sync, .ok)`, which the lookup oracles treat as neutral. -/
def evObs (p : Params) (c : CState) : Ev → Option (Op × Obs)
  | .insMap _ k v => some (.ins k v, .ok)
  | .invMap _ k => some (.inv k, .ok)
  | .getMap _ k => some (.get k, .val (lookup p c.s k).2)
  | .tick d => some (.adv d, .ok)
  | .invAll _ => some (.invAll, .ok)
  | .sync _ => some (.sync, .ok)
  | .maint _ => none
  | .enq _ => none

/-- The linearised trace of the execution `evs` from `c` (it ends at the first step that is not
enabled, if there is one). -/
def lin (p : Params) : CState → List Ev → Trace
  | _, [] => []
  | c, e :: rest =>
    match step p c e with
    | some c' => (evObs p c e).toList ++ lin p c' rest
    | none => []

/-! ### held reads -/

def heldReads : List (Tid × Pend) → List ROp
  | [] => []
  | (_, .read op) :: rest => op :: heldReads rest
  | (_, .write _) :: rest => heldReads rest

theorem mem_heldReads {l : List (Tid × Pend)} {op : ROp} :
    op ∈ heldReads l ↔ ∃ t, (t, Pend.read op) ∈ l := by
  induction l with
  | nil => simp [heldReads]
  | cons x l ih =>
    obtain ⟨t', pd⟩ := x
    cases pd <;> simp [heldReads, ih, exists_or]

theorem heldReads_append (l1 l2 : List (Tid × Pend)) :
    heldReads (l1 ++ l2) = heldReads l1 ++ heldReads l2 := by
  induction l1 with
  | nil => rfl
  | cons x l ih =>
    obtain ⟨t', pd⟩ := x
    cases pd <;> simp only [List.cons_append, heldReads, ih]

theorem mem_heldReads_dropPend {l : List (Tid × Pend)} {t : Tid} {op : ROp}
    (h : op ∈ heldReads (dropPend l t)) : op ∈ heldReads l := by
  obtain ⟨t', ht'⟩ := mem_heldReads.mp h
  exact mem_heldReads.mpr ⟨t', (mem_dropPend.mp ht').1⟩

/-- The state in which the held reads count as queued. -/
def virt (c : CState) : SState := { c.s with readQ := c.s.readQ ++ heldReads c.pending }

def CoupledC (p : Params) (c : CState) (g : Ghost) : Prop := CoupledS p (virt c) g

theorem CoupledC.base {p : Params} {c : CState} {g : Ghost} (h : CoupledC p c g) :
    CoupledS p c.s g :=
  ⟨h.kn, h.now, h.vaLe, h.tLe, h.refsMap,
   fun hash ve ts hin => h.refsHits hash ve ts (List.mem_append_left _ hin), h.ents,
   fun hash ve ts hin => h.hits hash ve ts (List.mem_append_left _ hin)⟩

theorem CoupledC.held {p : Params} {c : CState} {g : Ghost} (h : CoupledC p c g) {t : Tid}
    {hash : UInt64} {ve : VE} {ts : Nat} (hin : (t, Pend.read (.hit hash ve ts)) ∈ c.pending) :
    ve.info < c.s.nextId ∧
    ∃ ge, AL.get? g.ents (getInfo c.s ve.info).key = some ge ∧ ts ≤ ge.tAcc :=
  have hm : ROp.hit hash ve ts ∈ (virt c).readQ :=
    List.mem_append_right _ (mem_heldReads.mpr ⟨t, hin⟩)
  ⟨h.refsHits hash ve ts hm, h.hits hash ve ts hm⟩

theorem coupledC_init (p : Params) : CoupledC p {} {} := init_coupled p

theorem coupledC_frame {p : Params} {c c' : CState} {g : Ghost} (hc : CoupledC p c g)
    (hf : Frame c.s c'.s) (hp : c'.pending = c.pending) : CoupledC p c' g := by
  have h := coupledS_frame hc (frame_append_readQ hf (heldReads c.pending))
  unfold CoupledC virt
  rw [hp]
  exact h

/-! ### the map part of `insert` -/

theorem insertMap_setReadQ (p : Params) (s : SState) (q : List ROp) (k v : Nat) :
    (insertMap p { s with readQ := q } k v).1 = { (insertMap p s k v).1 with readQ := q } := by
  unfold insertMap
  dsimp only
  cases AL.get? s.map k <;> rfl

def insertedG (g : Ghost) (k v : Nat) : Ghost :=
  { g with ents := AL.put g.ents k { val := v, tIns := g.now, tAcc := g.now, alive := true } }

theorem insertMap_coupled {p : Params} {s : SState} {g : Ghost}
    (hc : CoupledS p s g) (k v : Nat) :
    CoupledS p (insertMap p s k v).1 (ghostStep .sync g (.ins k v) .ok) := by
  have hg : ghostStep .sync g (.ins k v) .ok = insertedG g k v := rfl
  rw [hg]
  have htLe : ∀ k' ge, AL.get? (insertedG g k v).ents k' = some ge →
      ge.tAcc ≤ (insertedG g k v).now ∧ ge.tIns ≤ (insertedG g k v).now := by
    intro k' ge h
    simp only [insertedG] at h ⊢
    rw [AL.get?_put] at h
    by_cases e : k = k'
    · simp [e] at h; subst h; exact ⟨Nat.le_refl _, Nat.le_refl _⟩
    · simp [e] at h; exact hc.tLe k' ge h
  have hhits : ∀ (key : Nat) (ts : Nat), (∃ ge, AL.get? g.ents key = some ge ∧ ts ≤ ge.tAcc) →
      ∃ ge, AL.get? (insertedG g k v).ents key = some ge ∧ ts ≤ ge.tAcc := by
    intro key ts ⟨ge, g1, g2⟩
    simp only [insertedG]
    by_cases e : k = key
    · subst e
      exact ⟨_, AL.get?_put_self _ _ _, Nat.le_trans g2 (hc.tLe _ ge g1).1⟩
    · exact ⟨ge, by rw [AL.get?_put_ne _ e]; exact g1, g2⟩
  obtain ⟨ve, inf, _, _, hmap, hval, hinfo, hlm, hla, hcase⟩ := insertMap_infos p s k v
  obtain ⟨_, hrq, _, hva, hnow⟩ := insertMap_fields p s k v
  generalize (insertMap p s k v).1 = s' at hmap hinfo hcase hrq hva hnow ⊢
  -- the info that changes carries the key `k`, belongs to no entry of another key, and no
  -- info in use changes its key
  have ha : inf.key = k ∧ ve.info < s'.nextId ∧ s.nextId ≤ s'.nextId ∧
      (∀ k' ve', k ≠ k' → AL.get? s.map k' = some ve' → ve.info ≠ ve'.info) ∧
      (∀ j, j < s.nextId → (getInfo s' j).key = (getInfo s j).key) := by
    rcases hcase with ⟨old, hold, hi, _, _, hk, hn⟩ | ⟨hnone, hi, _, _, hk, hn⟩
    · obtain ⟨_, _, _, o3, _⟩ := hc.ents k old hold
      refine ⟨hk.trans o3, by rw [hi, hn]; exact Nat.lt_succ_of_lt (hc.refsMap k old hold),
        by rw [hn]; exact Nat.le_succ _, ?_, ?_⟩
      · intro k' ve' hne h' e
        obtain ⟨_, _, _, h3, _⟩ := hc.ents k' ve' h'
        rw [← e, hi, o3] at h3
        exact hne h3
      · intro j _
        rw [hinfo j]
        by_cases e : ve.info = j
        · rw [if_pos e, hk, ← hi, e]
        · rw [if_neg e]
    · refine ⟨hk, by rw [hi, hn]; omega, by rw [hn]; omega, ?_, ?_⟩
      · intro k' ve' _ h' e
        have := hc.refsMap k' ve' h'
        omega
      · intro j hj
        rw [hinfo j, if_neg (by rw [hi]; exact Nat.ne_of_gt hj)]
  obtain ⟨a1, a2, a3, a4, a5⟩ := ha
  refine ⟨by rw [hmap]; exact AL.nodup_put k _ hc.kn, hc.now.trans hnow.symm,
    by rw [hva, hnow]; exact hc.vaLe, htLe, ?_, ?_, ?_, ?_⟩
  · intro k' ve' h
    rw [hmap, AL.get?_put] at h
    by_cases e : k = k'
    · rw [if_pos e] at h; cases h; exact a2
    · rw [if_neg e] at h; exact Nat.lt_of_lt_of_le (hc.refsMap k' ve' h) a3
  · intro hash ve' ts h
    rw [hrq] at h
    exact Nat.lt_of_lt_of_le (hc.refsHits hash ve' ts h) a3
  · intro k' ve' h
    rw [hmap, AL.get?_put] at h
    by_cases e : k = k'
    · rw [if_pos e] at h
      cases h
      subst e
      refine ⟨{ val := v, tIns := g.now, tAcc := g.now, alive := true },
        AL.get?_put_self _ _ _, hval.symm, ?_, ?_, ?_, Or.inl rfl⟩
      · rw [hinfo, if_pos rfl]; exact a1
      · rw [hinfo, if_pos rfl, hlm]; exact hc.now.symm
      · rw [hinfo, if_pos rfl, hla, hc.now]; exact Nat.le_refl _
    · rw [if_neg e] at h
      obtain ⟨ge, h1, h2, h3, h4, h5, h6⟩ := hc.ents k' ve' h
      have hi := hinfo ve'.info
      rw [if_neg (a4 k' ve' e h)] at hi
      refine ⟨ge, by simp only [insertedG]; rw [AL.get?_put_ne _ e]; exact h1, h2, ?_, ?_, ?_, ?_⟩
      · rw [hi]; exact h3
      · rw [hi]; exact h4
      · rw [hi]; exact h5
      · rw [hi, hva]; exact h6
  · intro hash ve' ts h
    rw [hrq] at h
    rw [a5 _ (hc.refsHits hash ve' ts h)]
    exact hhits _ _ (hc.hits hash ve' ts h)

/-! ### the map part of `invalidate` -/

theorem invalidateMap_setReadQ (s : SState) (q : List ROp) (k : Nat) :
    (invalidateMap { s with readQ := q } k).1 = { (invalidateMap s k).1 with readQ := q } := by
  unfold invalidateMap
  cases AL.get? s.map k <;> rfl

theorem invalidateMap_coupled {p : Params} {s : SState} {g : Ghost}
    (hc : CoupledS p s g) (k : Nat) :
    CoupledS p (invalidateMap s k).1 (ghostStep .sync g (.inv k) .ok) := by
  have hg : ghostStep .sync g (.inv k) .ok =
      { g with ents := killIf (fun k' _ => k' == k) g.ents } := rfl
  rw [hg]
  unfold invalidateMap
  cases hk : AL.get? s.map k with
  | none =>
    dsimp only
    refine coupledS_kill hc _ ?_
    intro k' ve ge h _ hf
    have : k' = k := by simpa using hf
    rw [this, hk] at h; cases h
  | some ve =>
    dsimp only
    have hc1 := coupledS_frame hc (frame0_erase s k).toFrame
    refine coupledS_kill hc1 _ ?_
    intro k' ve' ge h _ hf
    have hkk : k' = k := by simpa using hf
    simp only at h
    rw [hkk, AL.get?_erase_self k hc.kn] at h
    cases h

/-! ### the lookup of `get` -/

theorem lookup_coupled {p : Params} {s : SState} {g : Ghost} (hc : CoupledS p s g) (k : Nat) :
    (yields (.get k) (.val (lookup p s k).2)).all (allChecks p g) = true ∧
    CoupledS p { s with readQ := s.readQ ++ [(lookup p s k).1] }
      (ghostStep .sync g (.get k) (.val (lookup p s k).2)) := by
  rcases lookup_cases p s k with ⟨e, _⟩ | ⟨ve, hk, hx, e⟩
  · rw [e]
    refine ⟨by simp [yields], ?_⟩
    have hmiss : CoupledS p { s with readQ := s.readQ ++ [.miss (p.hash k)] } g := by
      refine coupledS_setReadQ hc _ ?_
      intro hash ve ts hin
      rcases List.mem_append.mp hin with hin | hin
      · exact Or.inl hin
      · simp at hin
    simpa [ghostStep] using hmiss
  · rw [e]
    refine ⟨?_, ?_⟩
    · simp only [yields, List.all_cons, List.all_nil, Bool.and_true]
      exact allChecks_of_entry hc hk hx _ (Or.inr rfl)
    · obtain ⟨ge, e1, e2, e3, e4, e5, e6⟩ := hc.ents k ve hk
      have hg : ghostStep .sync g (.get k) (.val (some ve.val)) =
          { g with ents := AL.put g.ents k { ge with tAcc := g.now } } := by
        simp [ghostStep, e1]
      rw [hg]
      refine coupledS_setReadQ (coupledS_touch hc e1) _ ?_
      intro hash ve' ts hin
      rcases List.mem_append.mp hin with hin | hin
      · exact Or.inl hin
      · simp only [List.mem_singleton] at hin
        cases hin
        refine Or.inr ⟨hc.refsMap k ve hk, { ge with tAcc := g.now }, ?_, ?_⟩
        · show AL.get? (AL.put g.ents k { ge with tAcc := g.now }) (getInfo s ve.info).key = _
          rw [e3, AL.get?_put_self]
        · simp [hc.now]

/-! ### one step of one thread -/

def gstep (g : Ghost) : Option (Op × Obs) → Ghost
  | none => g
  | some (op, obs) => ghostStep .sync g op obs

theorem evObs_ok {p : Params} {c : CState} {e : Ev} {g : Ghost} {op : Op}
    (h : evObs p c e = some (op, .ok)) (hy : yields op .ok = []) :
    ∀ op' obs, evObs p c e = some (op', obs) →
      stops obs = false ∧ (yields op' obs).all (allChecks p g) = true := by
  intro op' obs h'
  rw [h] at h'
  cases h'
  exact ⟨rfl, by rw [hy]; rfl⟩

theorem step_coupledC {p : Params} (hq : NoQuirks p) {c c' : CState} {g : Ghost}
    (hc : CoupledC p c g) (e : Ev) (hs : step p c e = some c') :
    (∀ op obs, evObs p c e = some (op, obs) →
      stops obs = false ∧ (yields op obs).all (allChecks p g) = true) ∧
    CoupledC p c' (gstep g (evObs p c e)) := by
  have hnone : ∀ e, evObs p c e = none → ∀ op obs, evObs p c e = some (op, obs) →
      stops obs = false ∧ (yields op obs).all (allChecks p g) = true :=
    fun e h op obs h' => by rw [h] at h'; cases h'
  cases Step.of_eq hs with
  | insMap t k v =>
    refine ⟨evObs_ok rfl rfl, ?_⟩
    have h := insertMap_coupled (p := p) hc k v
    unfold virt at h
    rw [insertMap_setReadQ] at h
    show CoupledS p _ (ghostStep .sync g (.ins k v) .ok)
    unfold virt
    simp only [heldReads_append, heldReads, List.append_nil, (insertMap_fields p c.s k v).2.1]
    exact h
  | invMap t k op =>
    refine ⟨evObs_ok rfl rfl, ?_⟩
    have h := invalidateMap_coupled (p := p) hc k
    unfold virt at h
    rw [invalidateMap_setReadQ] at h
    show CoupledS p _ (ghostStep .sync g (.inv k) .ok)
    unfold virt
    simp only [heldReads_append, heldReads, List.append_nil, (invalidateMap_fields c.s k).2.1]
    exact h
  | invNone t k _ ho =>
    refine ⟨evObs_ok rfl rfl, ?_⟩
    have h := invalidateMap_coupled (p := p) hc k
    unfold virt at h
    rw [invalidateMap_setReadQ, invalidateMap_fst_of_none ho] at h
    exact h
  | getMap t k =>
    refine ⟨?_, ?_⟩
    · intro op obs ho
      cases ho
      exact ⟨rfl, (lookup_coupled (p := p) hc.base k).1⟩
    · show CoupledS p _ (ghostStep .sync g (.get k) (.val (lookup p c.s k).2))
      have h2 := (lookup_coupled (p := p) hc k).2
      have hl : lookup p (virt c) k = lookup p c.s k := rfl
      rw [hl] at h2
      unfold virt at h2 ⊢
      simp only [heldReads_append, heldReads, ← List.append_assoc]
      exact h2
  | maint t => exact ⟨hnone _ rfl, coupledC_frame hc (trySync_frame hq c.s) rfl⟩
  | sync t => exact ⟨evObs_ok rfl rfl, coupledC_frame hc (syncRun_frame hq c.s) rfl⟩
  | enqWrite t op =>
    -- the write queue is not mentioned by the coupling
    refine ⟨hnone _ rfl, ?_⟩
    have h1 := coupledS_frame hc (frame0_set_writeQ (virt c) (c.s.writeQ ++ [op])).toFrame
    refine coupledS_readQ_sub h1 _ ?_
    intro rop hop
    rcases List.mem_append.mp hop with h | h
    · exact List.mem_append_left _ h
    · exact List.mem_append_right _ (mem_heldReads_dropPend h)
  | enqRead t op hpd =>
    -- the read moves from the held reads to the queue
    refine ⟨hnone _ rfl, coupledS_readQ_sub hc _ ?_⟩
    have hmem : op ∈ heldReads c.pending :=
      mem_heldReads.mpr ⟨t, AL.mem_of_get? (by rw [← pendOf_eq_get?]; exact hpd)⟩
    intro rop hop
    rcases List.mem_append.mp hop with h | h
    · rcases List.mem_append.mp h with h | h
      · exact List.mem_append_left _ h
      · rw [List.mem_singleton.mp h]; exact List.mem_append_right _ hmem
    · exact List.mem_append_right _ (mem_heldReads_dropPend h)
  | enqDrop t op =>
    refine ⟨hnone _ rfl, coupledS_readQ_sub hc _ ?_⟩
    intro rop hop
    rcases List.mem_append.mp hop with h | h
    · exact List.mem_append_left _ h
    · exact List.mem_append_right _ (mem_heldReads_dropPend h)
  | tick d => exact ⟨evObs_ok rfl rfl, adv_coupled (p := p) (s := virt c) hc d⟩
  | invAll t => exact ⟨evObs_ok rfl rfl, invalidateAll_coupled (p := p) (s := virt c) hc⟩

/-! ### whole executions -/

theorem lookupOracle_lin_gen {σ ε : Type} {step : σ → ε → Option σ}
    {obs : σ → ε → Option (Op × Obs)} {lin : σ → List ε → Trace} (hl : IsLin step obs lin)
    {p : Params} {I : σ → Ghost → Prop}
    (hstep : ∀ c c' g e, I c g → step c e = some c' →
      (∀ op o, obs c e = some (op, o) →
        stops o = false ∧ (yields op o).all (allChecks p g) = true) ∧
      I c' (gstep g (obs c e)))
    (check : Ghost → Nat × Option Nat → Bool)
    (himp : ∀ g kv, allChecks p g kv = true → check g kv = true) :
    ∀ (evs : List ε) (c : σ) (g : Ghost), I c g → lookupOracle .sync check g (lin c evs) = true := by
  intro evs
  induction evs with
  | nil =>
    intro c g _
    rw [hl.nil]
    rfl
  | cons e rest ih =>
    intro c g hc
    rw [hl.cons]
    cases hs : step c e with
    | none => rfl
    | some c' =>
      obtain ⟨h1, h2⟩ := hstep c c' g e hc hs
      have h3 := ih c' _ h2
      show lookupOracle .sync check g ((obs c e).toList ++ lin c' rest) = true
      cases ho : obs c e with
      | none =>
        rw [ho] at h3
        exact h3
      | some oo =>
        obtain ⟨op, o⟩ := oo
        rw [ho] at h3
        obtain ⟨hst, hch⟩ := h1 op o ho
        show lookupOracle .sync check g ((op, o) :: lin c' rest) = true
        rw [(lookupOracle_refWalk .sync check).cons, hst, if_neg Bool.false_ne_true,
          Bool.and_eq_true]
        refine ⟨?_, h3⟩
        rw [List.all_eq_true] at hch ⊢
        exact fun kv hkv => himp g kv (hch kv hkv)

theorem isLin (p : Params) : IsLin (step p) (evObs p) (lin p) :=
  ⟨fun _ => rfl, fun c e rest => by simp only [lin]; cases step p c e <;> rfl⟩

theorem lookupOracle_lin {p : Params} (hq : NoQuirks p)
    (check : Ghost → Nat × Option Nat → Bool)
    (himp : ∀ g kv, allChecks p g kv = true → check g kv = true) :
    ∀ (evs : List Ev) (c : CState) (g : Ghost), CoupledC p c g →
      lookupOracle .sync check g (lin p c evs) = true :=
  lookupOracle_lin_gen (isLin p) (fun _ _ _ e h hs => step_coupledC hq h e hs) check himp

end ConcS
end MiniMoka
