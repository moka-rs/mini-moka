/-
  `sortBy` (used only to canonicalise outputs) is a permutation; lookup by key in the sorted
  image of an association list.
-/
import MiniMoka.Lemmas.AL
import MiniMoka.Lemmas.ById

namespace MiniMoka

theorem insertSorted_perm {α : Type} (key : α → Nat) (a : α) (l : List α) :
    (insertSorted key a l).Perm (a :: l) := by
  induction l with
  | nil => simp [insertSorted]
  | cons b l ih =>
    simp only [insertSorted]
    split
    · exact List.Perm.refl _
    · exact (List.Perm.cons b ih).trans (List.Perm.swap a b l)

theorem sortBy_perm {α : Type} (key : α → Nat) (l : List α) : (sortBy key l).Perm l := by
  induction l with
  | nil => simp [sortBy]
  | cons a l ih =>
    simp only [sortBy, List.foldr_cons]
    exact (insertSorted_perm key a _).trans (List.Perm.cons a ih)

theorem length_sortBy {α : Type} (key : α → Nat) (l : List α) : (sortBy key l).length = l.length :=
  (sortBy_perm key l).length_eq

theorem mem_sortBy {α : Type} (key : α → Nat) (l : List α) (a : α) : a ∈ sortBy key l ↔ a ∈ l :=
  (sortBy_perm key l).mem_iff

theorem sum_map_sortBy {α : Type} (key : α → Nat) (f : α → Nat) (l : List α) :
    ((sortBy key l).map f).sum = (l.map f).sum :=
  ((sortBy_perm key l).map f).sum_nat

theorem find?_sortBy_map {α β : Type} (key : α → Nat) (g : Nat × β → α)
    (hg : ∀ kv, key (g kv) = kv.1) (m : List (Nat × β)) (hn : (AL.keys m).Nodup) (k : Nat) :
    (sortBy key (m.map g)).find? (fun x => key x == k) =
      (AL.get? m k).map (fun e => g (k, e)) := by
  have hkeys : ((sortBy key (m.map g)).map key).Nodup := by
    refine (((sortBy_perm key (m.map g)).map key).nodup_iff).mpr ?_
    have : (m.map g).map key = AL.keys m := by
      rw [AL.keys_eq_map, List.map_map]
      exact List.map_congr_left (fun kv _ => hg kv)
    rw [this]; exact hn
  cases hget : AL.get? m k with
  | none =>
    rw [Option.map_none, List.find?_eq_none]
    intro x hx
    rw [mem_sortBy, List.mem_map] at hx
    obtain ⟨kv, hkv, rfl⟩ := hx
    rw [hg]
    intro hk
    have : k ∈ AL.keys m := by
      rw [AL.keys_eq_map]; exact List.mem_map.mpr ⟨kv, hkv, by simpa using hk⟩
    rw [← AL.get?_isSome_iff, hget] at this
    cases this
  | some e =>
    have hmem : g (k, e) ∈ sortBy key (m.map g) := by
      rw [mem_sortBy]; exact List.mem_map.mpr ⟨(k, e), AL.mem_of_get? hget, rfl⟩
    have := find?_of_mem_nodup key hkeys hmem
    rw [hg] at this
    exact this

end MiniMoka
