/-
  What maintenance can and cannot change in the one-thread model.  `Frame0 s s'`: the map only
  shrinks; key, last_modified and last_accessed of every info, the read queue, `valid_after` and the
  clock are unchanged, `nextId` does not fall; every `Prim` satisfies it, hence everything in
  maintenance except `apply_reads`.  The removal paths also leave weights alone and admit nothing
  (`Rem`), and maintenance that adds no weight does not raise `cws` (`Maint.cws_le`).  `Frame s s'`
  also lets `last_accessed` move forward to the timestamp of a queued hit and the read queue
  shrink; every `Act` keeps `Frame s0 ·` under the current code (`NoQuirks`, declared here), and
  `step_keeps` is `CallInv.step` for a property that `Frame` carries (distinct keys, `KN`, is one).
  Whether an entry has expired reads only fields the frames fix: it is the same across `Frame0`,
  `Frame` keeps not-expired, and the oracle's `entryLiveAt` on an entry view is its negation.
-/
import MiniMoka.Lemmas.SyncActs
import MiniMoka.Lemmas.SyncCalls
import MiniMoka.Lemmas.AL

namespace MiniMoka
namespace Sync

/-! The list plumbing below `AL.erase` (unlinking, moving to the back, failing) leaves the map as it
is.  Not a consequence of `Maint`, which `Prim.erase` is part of. -/

theorem fail_map (s : SState) (f : Fault) : (s.fail f).map = s.map := by
  unfold SState.fail; split <;> rfl

theorem fail_cws (s : SState) (f : Fault) : (s.fail f).cws = s.cws := by
  unfold SState.fail; split <;> rfl

theorem getInfo_fail (s : SState) (f : Fault) (j : Nat) : getInfo (s.fail f) j = getInfo s j := by
  unfold SState.fail; split <;> rfl

theorem unlinkAo_map (s : SState) (i : Nat) : (unlinkAo s i).map = s.map := by
  unfold unlinkAo
  split
  · rfl
  · dsimp only
    split
    · rfl
    · exact fail_map _ _

theorem unlinkWo_map (s : SState) (i : Nat) : (unlinkWo s i).map = s.map := by
  unfold unlinkWo
  split
  · rfl
  · dsimp only
    split
    · rfl
    · exact fail_map _ _

theorem subCounters_map (s : SState) (n w : Nat) : (subCounters s n w).map = s.map := by
  unfold subCounters
  dsimp only
  split
  · exact fail_map _ _
  · rfl

theorem handleRemove_map (s : SState) (ve : VE) : (handleRemove s ve).map = s.map := by
  unfold handleRemove
  dsimp only
  split
  · rw [unlinkWo_map, unlinkAo_map, subCounters_map]; rfl
  · rfl

theorem moveNodeToBackAo_map (s : SState) (id : Nat) : (moveNodeToBackAo s id).map = s.map := by
  unfold moveNodeToBackAo; split
  · rfl
  · exact fail_map _ _

theorem moveToBackAoE_map (s : SState) (i : Nat) : (moveToBackAoE s i).map = s.map := by
  unfold moveToBackAoE; split
  · rfl
  · exact moveNodeToBackAo_map _ _

theorem moveNodeToBackWo_map (s : SState) (id : Nat) : (moveNodeToBackWo s id).map = s.map := by
  unfold moveNodeToBackWo; split
  · rfl
  · exact fail_map _ _

theorem moveToBackWoE_map (s : SState) (i : Nat) : (moveToBackWoE s i).map = s.map := by
  unfold moveToBackWoE; split
  · rfl
  · exact moveNodeToBackWo_map _ _

theorem moveSkipped_map : ∀ (ns : List AoNode) (s : SState), (moveSkipped ns s).map = s.map := by
  intro ns
  induction ns with
  | nil => intro s; rfl
  | cons n rest ih => intro s; rw [moveSkipped, ih, moveNodeToBackAo_map]

/-- `kn` and `mapSub` have the premise that the keys of `s.map` are distinct: `AL.erase` removes
the first binding of a key, and a second one would show through with another value. -/
structure Frame0 (s s' : SState) : Prop where
  kn : (AL.keys s.map).Nodup → (AL.keys s'.map).Nodup
  mapSub : (AL.keys s.map).Nodup → ∀ k ve, AL.get? s'.map k = some ve → AL.get? s.map k = some ve
  key : ∀ i, (getInfo s' i).key = (getInfo s i).key
  lm : ∀ i, (getInfo s' i).lm = (getInfo s i).lm
  la : ∀ i, (getInfo s' i).la = (getInfo s i).la
  readQ : s'.readQ = s.readQ
  va : s'.va = s.va
  now : s'.now = s.now
  nextId : s.nextId ≤ s'.nextId

theorem Frame0.refl (s : SState) : Frame0 s s :=
  ⟨fun h => h, fun _ _ _ h => h, fun _ => rfl, fun _ => rfl, fun _ => rfl, rfl, rfl, rfl,
   Nat.le_refl _⟩

theorem Frame0.trans {a b c : SState} (h1 : Frame0 a b) (h2 : Frame0 b c) : Frame0 a c :=
  ⟨fun h => h2.kn (h1.kn h),
   fun hn k ve h => h1.mapSub hn k ve (h2.mapSub (h1.kn hn) k ve h),
   fun i => (h2.key i).trans (h1.key i), fun i => (h2.lm i).trans (h1.lm i),
   fun i => (h2.la i).trans (h1.la i), h2.readQ.trans h1.readQ, h2.va.trans h1.va,
   h2.now.trans h1.now, Nat.le_trans h1.nextId h2.nextId⟩

theorem frame0_of_eq {s s' : SState} (hm : s'.map = s.map) (hi : s'.infos = s.infos)
    (hr : s'.readQ = s.readQ) (hv : s'.va = s.va) (hn : s'.now = s.now)
    (hx : s.nextId ≤ s'.nextId := by first | exact Nat.le_refl _ | exact Nat.le_succ _) :
    Frame0 s s' := by
  refine ⟨fun h => by rw [hm]; exact h, fun _ k ve h => by rw [hm] at h; exact h, ?_, ?_, ?_,
    hr, hv, hn, hx⟩ <;> intro i <;> simp [getInfo, hi]

theorem frame0_fail (s : SState) (f : Fault) : Frame0 s (s.fail f) := by
  unfold SState.fail; split
  · exact Frame0.refl s
  · exact frame0_of_eq rfl rfl rfl rfl rfl

theorem frame0_withInfo (s : SState) (i : Nat) (f : Info → Info)
    (hf : ∀ x, (f x).key = x.key ∧ (f x).lm = x.lm ∧ (f x).la = x.la) :
    Frame0 s (withInfo s i f) := by
  refine ⟨fun h => h, fun _ k ve h => h, ?_, ?_, ?_, rfl, rfl, rfl, Nat.le_refl _⟩ <;> intro j <;>
    rw [getInfo_withInfo] <;> by_cases h : i = j <;> simp [h, hf]

theorem frame0_erase (s : SState) (k : Nat) :
    Frame0 s { s with map := AL.erase s.map k } := by
  refine ⟨fun hn => AL.nodup_erase k hn, ?_, fun _ => rfl, fun _ => rfl, fun _ => rfl, rfl, rfl, rfl,
    Nat.le_refl _⟩
  intro hn k' ve h
  simp only at h
  rw [AL.get?_erase k k' hn] at h
  by_cases hk : k = k'
  · simp [hk] at h
  · simpa [hk] using h

theorem frame0_set_cec_cws (s : SState) (x y : Nat) : Frame0 s { s with cec := x, cws := y } :=
  frame0_of_eq rfl rfl rfl rfl rfl
theorem frame0_set_ec_ws (s : SState) (x y : Nat) : Frame0 s { s with ec := x, ws := y } :=
  frame0_of_eq rfl rfl rfl rfl rfl
theorem frame0_set_writeQ (s : SState) (x : List WOp) : Frame0 s { s with writeQ := x } :=
  frame0_of_eq rfl rfl rfl rfl rfl
theorem frame0_set_running (s : SState) (b : Bool) : Frame0 s { s with running := b } :=
  frame0_of_eq rfl rfl rfl rfl rfl
theorem frame0_set_running_after (s : SState) (b : Bool) (x : Nat) :
    Frame0 s { s with running := b, syncAfter := x } :=
  frame0_of_eq rfl rfl rfl rfl rfl

theorem Prim.frame0 {w : Bool} {s s' : SState} (h : Prim w s s') : Frame0 s s' := by
  cases h with
  | fail f _ => exact frame0_fail s f
  | info i u _ => exact frame0_withInfo s i _ (fun _ => by cases u <;> exact ⟨rfl, rfl, rfl⟩)
  | erase k => exact frame0_erase s k
  | _ => exact frame0_of_eq rfl rfl rfl rfl rfl

theorem Maint.frame0 {w : Bool} {s s' : SState} (h : Maint w s s') : Frame0 s s' :=
  h.induct Frame0.refl Frame0.trans Prim.frame0

/-- What the removal paths (expiry, eviction, `handle_remove`) leave. -/
structure Rem (s s' : SState) : Prop where
  frame0 : Frame0 s s'
  weight : ∀ i, (getInfo s' i).weight = (getInfo s i).weight
  adm : ∀ i, (getInfo s' i).admitted = true → (getInfo s i).admitted = true

theorem Rem.refl (s : SState) : Rem s s := ⟨Frame0.refl s, fun _ => rfl, fun _ h => h⟩

theorem Rem.trans {a b c : SState} (h1 : Rem a b) (h2 : Rem b c) : Rem a c :=
  ⟨h1.frame0.trans h2.frame0, fun i => (h2.weight i).trans (h1.weight i),
    fun i h => h1.adm i (h2.adm i h)⟩

theorem Rem.notAdm {s s' : SState} (h : Rem s s') {j : Nat}
    (hj : (getInfo s j).admitted = false) : (getInfo s' j).admitted = false :=
  eq_false_of_ne_true fun e => by rw [h.adm j e] at hj; cases hj

theorem InfoUpd.removal_keeps {u : InfoUpd} (h : u.removal = true) (x : Info) :
    (u.apply x).weight = x.weight ∧ ((u.apply x).admitted = true → x.admitted = true) := by
  cases u with
  | dropAo | dropWo | dropNodes => exact ⟨rfl, id⟩
  | unadmit => exact ⟨rfl, fun hx => by cases hx⟩
  | _ => cases h

theorem Prim.rem {s s' : SState} (h : Prim false s s') : Rem s s' := by
  suffices hj : ∀ j, (getInfo s' j).weight = (getInfo s j).weight ∧
      ((getInfo s' j).admitted = true → (getInfo s j).admitted = true) from
    ⟨(Maint.prim h).frame0, fun j => (hj j).1, fun j => (hj j).2⟩
  intro j
  cases h with
  | fail f _ => rw [getInfo_fail]; exact ⟨rfl, id⟩
  | info i u hu =>
    rw [getInfo_withInfo]
    by_cases e : i = j
    · rw [if_pos e, ← e]
      exact InfoUpd.removal_keeps (hu.resolve_right Bool.false_ne_true) _
    · rw [if_neg e]; exact ⟨rfl, id⟩
  | add _ _ hw | aoPush _ _ hw | woPush _ _ hw => cases hw
  | _ => exact ⟨rfl, id⟩

theorem Maint.rem {s s' : SState} (h : Maint false s s') : Rem s s' :=
  h.induct Rem.refl Rem.trans Prim.rem

theorem Maint.cws_le {s s' : SState} (h : Maint false s s') :
    s'.cws ≤ s.cws := by
  refine h.induct (R := fun a b => b.cws ≤ a.cws) (fun _ => Nat.le_refl _)
    (fun h1 h2 => Nat.le_trans h2 h1) (fun hp => ?_)
  cases hp with
  | fail f _ => rw [fail_cws]; exact Nat.le_refl _
  | sub n wt => exact Nat.sub_le _ _
  | add _ _ hw => cases hw
  | aoPush _ _ hw => cases hw
  | woPush _ _ hw => cases hw
  | _ => exact Nat.le_refl _

theorem applyWrites_frame0 (p : Params) (n : Nat) (s : SState) : Frame0 s (applyWrites p n s) :=
  applyWrites_ind (C := Frame0 s)
    (fun t _ _ _ h => (h.trans (frame0_set_writeQ t _)).trans (applyWrite_maint _ _ _).frame0)
    n s (Frame0.refl s)

theorem enableSketch_frame0 (p : Params) (s : SState) : Frame0 s (enableSketch p s) := by
  unfold enableSketch
  split
  · exact frame0_of_eq rfl rfl rfl rfl rfl
  · exact Frame0.refl s

/-- The current code: every defect switch (`Basic.lean`, `Quirks`) is off.  `Unsync.NoQuirks` is
the same condition under the name of the single-threaded cache's lemmas. -/
def NoQuirks (p : Params) : Prop := p.q = {}

/-- `la` says where a new `last_accessed` comes from (a hit that was queued in `s`), `laLe` that it
only moves forward, which `la` alone does not give. -/
structure Frame (s s' : SState) : Prop where
  kn : (AL.keys s.map).Nodup → (AL.keys s'.map).Nodup
  mapSub : (AL.keys s.map).Nodup → ∀ k ve, AL.get? s'.map k = some ve → AL.get? s.map k = some ve
  key : ∀ i, (getInfo s' i).key = (getInfo s i).key
  lm : ∀ i, (getInfo s' i).lm = (getInfo s i).lm
  laLe : ∀ i, (getInfo s i).la ≤ (getInfo s' i).la
  la : ∀ i, (getInfo s' i).la = (getInfo s i).la ∨
    ∃ hash ve, ROp.hit hash ve (getInfo s' i).la ∈ s.readQ ∧ ve.info = i
  readQ : ∀ op, op ∈ s'.readQ → op ∈ s.readQ
  va : s'.va = s.va
  now : s'.now = s.now
  nextId : s.nextId ≤ s'.nextId

theorem Frame0.toFrame {s s' : SState} (h : Frame0 s s') : Frame s s' :=
  ⟨h.kn, h.mapSub, h.key, h.lm, fun i => by rw [h.la i]; exact Nat.le_refl _,
   fun i => Or.inl (h.la i), fun op hop => by rw [h.readQ] at hop; exact hop, h.va, h.now,
   h.nextId⟩

theorem Frame.refl (s : SState) : Frame s s := (Frame0.refl s).toFrame

theorem Frame.la_eq {s s' : SState} (h : Frame s s') (hr : s.readQ = []) (j : Nat) :
    (getInfo s' j).la = (getInfo s j).la := by
  rcases h.la j with e | ⟨_, _, hin, _⟩
  · exact e
  · rw [hr] at hin
    cases hin

theorem Frame.trans {a b c : SState} (h1 : Frame a b) (h2 : Frame b c) : Frame a c := by
  refine ⟨fun h => h2.kn (h1.kn h), fun hn k ve h => h1.mapSub hn k ve (h2.mapSub (h1.kn hn) k ve h),
    fun i => (h2.key i).trans (h1.key i), fun i => (h2.lm i).trans (h1.lm i),
    fun i => Nat.le_trans (h1.laLe i) (h2.laLe i), ?_, fun op hop => h1.readQ op (h2.readQ op hop),
    h2.va.trans h1.va, h2.now.trans h1.now, Nat.le_trans h1.nextId h2.nextId⟩
  intro i
  rcases h2.la i with e2 | ⟨hash, ve, hin, hve⟩
  · rcases h1.la i with e1 | ⟨hash, ve, hin, hve⟩
    · exact Or.inl (e2.trans e1)
    · exact Or.inr ⟨hash, ve, by rw [e2]; exact hin, hve⟩
  · exact Or.inr ⟨hash, ve, h1.readQ _ hin, hve⟩

theorem Act.frame {p : Params} {w : Bool} {rq : List ROp} (hq : NoQuirks p) {s0 : SState}
    (hrq : ∀ op, op ∈ rq → op ∈ s0.readQ) {a b : SState} (h : Act p w rq a b)
    (hf : Frame s0 a) : Frame s0 b := by
  cases h with
  | prim h => exact hf.trans (Maint.prim h).frame0.toFrame
  | hang => exact hf.trans (frame0_fail _ _).toFrame
  | popR op rest h =>
    exact hf.trans ⟨fun h => h, fun _ _ _ h => h, fun _ => rfl, fun _ => rfl, fun _ => Nat.le_refl _,
      fun _ => Or.inl rfl, fun o ho => by rw [h]; exact List.mem_cons_of_mem _ ho, rfl, rfl,
      Nat.le_refl _⟩
  | touch hash ve ts hin hlt =>
    have hlt : (getInfo a ve.info).la < ts :=
      hlt.resolve_left (by rw [hq]; exact Bool.false_ne_true)
    have hg := getInfo_withInfo a ve.info (fun i => { i with la := ts })
    refine ⟨hf.kn, hf.mapSub, fun i => ?_, fun i => ?_, fun i => ?_, fun i => ?_, hf.readQ, hf.va,
      hf.now, hf.nextId⟩
    · rw [hg]
      split
      · rename_i e; rw [← e]; exact hf.key _
      · exact hf.key i
    · rw [hg]
      split
      · rename_i e; rw [← e]; exact hf.lm _
      · exact hf.lm i
    · rw [hg]
      split
      · rename_i e; rw [← e]; exact Nat.le_trans (hf.laLe _) (Nat.le_of_lt hlt)
      · exact hf.laLe i
    · rw [hg]
      split
      · rename_i e; exact Or.inr ⟨hash, ve, hrq _ hin, e⟩
      · exact hf.la i
  | _ =>
    refine hf.trans (Frame0.toFrame ?_)
    exact frame0_of_eq rfl rfl rfl rfl rfl

theorem Acts.frame {p : Params} {w : Bool} (hq : NoQuirks p) {s s' : SState}
    (h : Acts p w s.readQ s s') : Frame s s' :=
  h.keeps (Act.frame hq fun _ h => h) (Frame.refl s)

theorem applyRead_frame {p : Params} (hq : NoQuirks p) (s : SState) (op : ROp) (rest : List ROp)
    (hs : s.readQ = op :: rest) : Frame s (applyRead p { s with readQ := rest } op) :=
  Acts.frame hq ((Acts.act (.popR s op rest hs)).trans
    (applyRead_acts _ op (hs ▸ List.mem_cons_self)))

theorem applyReads_frame {p : Params} (hq : NoQuirks p) (n : Nat) (s : SState) :
    Frame s (applyReads p n s) := Acts.frame hq (applyReads_acts n s fun _ h => h)

theorem syncPass_frame {p : Params} (hq : NoQuirks p) (s : SState) : Frame s (syncPass p s) :=
  Acts.frame hq (syncPass_acts s fun _ h => h)

theorem syncRun_frame {p : Params} (hq : NoQuirks p) (s : SState) : Frame s (syncRun p s) :=
  Acts.frame hq (syncRun_acts s fun _ h => h)

theorem trySync_frame {p : Params} (hq : NoQuirks p) (s : SState) : Frame s (trySync p s) :=
  Acts.frame hq (housekeep_acts s fun _ h => h).1

theorem housekeepR_frame {p : Params} (hq : NoQuirks p) (s : SState) :
    Frame s (housekeepR p s) := Acts.frame hq (housekeep_acts s fun _ h => h).2.2

theorem scheduleWriteOp_frame {p : Params} (hq : NoQuirks p) (n : Nat) (s : SState) (op : WOp) :
    Frame s (scheduleWriteOp p n s op) := Acts.frame hq (scheduleWriteOp_acts n s op fun _ h => h)

theorem frame_append_readQ {s s' : SState} (hf : Frame s s') (q : List ROp) :
    Frame { s with readQ := s.readQ ++ q } { s' with readQ := s'.readQ ++ q } := by
  refine ⟨hf.kn, hf.mapSub, hf.key, hf.lm, hf.laLe, ?_, ?_, hf.va, hf.now, hf.nextId⟩
  · intro i
    rcases hf.la i with e | ⟨hash, ve, hin, hve⟩
    · exact Or.inl e
    · exact Or.inr ⟨hash, ve, List.mem_append_left _ hin, hve⟩
  · intro op hop
    rcases List.mem_append.mp hop with h | h
    · exact List.mem_append_left _ (hf.readQ op h)
    · exact List.mem_append_right _ h

theorem isExpiredInfo_congr (p : Params) {s s' : SState} {i i' : Info} {now now' : Nat}
    (hv : s'.va = s.va) (hn : now' = now) (hlm : i'.lm = i.lm) (hla : i'.la = i.la) :
    isExpiredInfo p s' i' now' = isExpiredInfo p s i now := by
  simp only [isExpiredInfo, hv, hn, hlm, hla]

theorem isExpiredInfo_frame0 (p : Params) {s s' : SState} (h : Frame0 s s') (j : Nat) :
    isExpiredInfo p s' (getInfo s' j) s'.now = isExpiredInfo p s (getInfo s j) s.now :=
  isExpiredInfo_congr p h.va h.now (h.lm j) (h.la j)

theorem expiredTs_eq_false_iff {d va : Option Nat} {ts now : Nat} :
    expiredTs d va ts now = false ↔
      (∀ v, va = some v → v ≤ ts) ∧ ∀ x, d = some x → now < ts + x := by
  unfold expiredTs
  rw [Bool.or_eq_false_iff]
  refine and_congr ?_ ?_
  · cases va with
    | none => exact ⟨fun _ _ => nofun, fun _ => rfl⟩
    | some v =>
      simp only [decide_eq_false_iff_not, Nat.not_lt]
      exact ⟨fun h _ e => by cases e; exact h, fun h => h v rfl⟩
  · cases d with
    | none => exact ⟨fun _ _ => nofun, fun _ => rfl⟩
    | some x =>
      simp only [decide_eq_false_iff_not, Nat.not_le]
      exact ⟨fun h _ e => by cases e; exact h, fun h => h x rfl⟩

theorem expiredTs_mono {d va : Option Nat} {t t' now : Nat} (hle : t ≤ t')
    (h : expiredTs d va t now = false) : expiredTs d va t' now = false := by
  rw [expiredTs_eq_false_iff] at h ⊢
  exact ⟨fun v hv => Nat.le_trans (h.1 v hv) hle,
    fun x hx => Nat.lt_of_lt_of_le (h.2 x hx) (Nat.add_le_add_right hle x)⟩

theorem expiredTs_now {d va : Option Nat} {now : Nat} (hva : ∀ v, va = some v → v ≤ now)
    (hd : d ≠ some 0) : expiredTs d va now now = false := by
  refine expiredTs_eq_false_iff.mpr ⟨hva, fun x hx => ?_⟩
  have : x ≠ 0 := fun e => hd (by rw [hx, e])
  omega

theorem expiredTs_now_of_le {d va : Option Nat} {now ts : Nat}
    (hva : ∀ v, va = some v → v ≤ now) (hts : ts ≤ now) (h : expiredTs d va ts now = false) :
    expiredTs d va now now = false := by
  refine expiredTs_now hva fun e => ?_
  have := (expiredTs_eq_false_iff.mp h).2 0 e
  omega

theorem notExpired_frame (p : Params) {s s' : SState} (h : Frame s s') (j : Nat)
    (hx : isExpiredInfo p s (getInfo s j) s.now = false) :
    isExpiredInfo p s' (getInfo s' j) s'.now = false := by
  simp only [isExpiredInfo, Bool.or_eq_false_iff] at hx ⊢
  rw [h.now, h.va, h.lm]
  exact ⟨hx.1, expiredTs_mono (h.laLe j) hx.2⟩

theorem entryLiveAt_entryView (p : Params) (s : SState) (kv : Nat × VE) :
    Spec.entryLiveAt p.ttl p.tti s.now s.va (entryView s kv) =
      !isExpiredInfo p s (getInfo s kv.2.info) s.now := by
  have hx : ∀ d ts, expiredTs d s.va ts s.now =
      ((match s.va with
        | some v => decide (ts < v)
        | none => false) || expiredAt d (some ts) s.now) := by
    intro d ts
    cases d <;> rfl
  simp only [Spec.entryLiveAt, entryView, isExpiredInfo, hx]
  generalize expiredAt p.ttl (some (getInfo s kv.2.info).lm) s.now = a
  generalize expiredAt p.tti (some (getInfo s kv.2.info).la) s.now = b
  cases s.va with
  | none => cases a <;> cases b <;> rfl
  | some v =>
    dsimp only
    generalize decide ((getInfo s kv.2.info).lm < v) = x
    generalize decide ((getInfo s kv.2.info).la < v) = y
    cases a <;> cases b <;> cases x <;> cases y <;> rfl

theorem step_keeps {I : SState → Prop} {p : Params} (hq : NoQuirks p)
    (frame : ∀ {s s'}, Frame s s' → I s → I s')
    (insMap : ∀ s k v, I s → I (ConcS.insertMap p s k v).1)
    (invMap : ∀ s k, I s → I (ConcS.invalidateMap s k).1)
    (readQ : ∀ s q, I s → I { s with readQ := q })
    (invAll : ∀ s, I s → I (invalidateAll s))
    (adv : ∀ s d, I s → I { s with now := s.now + d })
    {s : SState} (hqi : QInv s) (h : I s) (op : Op) : I (step p s op).1 :=
  CallInv.step (I := fun _ s => I s)
    { flags := fun _ _ h => frame (frame0_set_running_after _ _ _).toFrame h
      run := fun h => frame (syncRun_frame hq _) h
      enqW := fun h => frame (frame0_set_writeQ _ _).toFrame h
      enqR := fun _ h => readQ _ _ h
      insMap := fun k v _ h => insMap _ k v h
      invMap := fun k _ _ h _ => invMap _ k h
      invAll := fun h => invAll _ h
      adv := fun d h => adv _ d h } hqi h op

/-! Distinct keys (`KN`) as a `step_keeps` instance; `NoQuirks` is needed only because the proof
goes through `Frame`.  `TopInv` (`MapOK.kn`) and the lookup coupling (`CoupledS.kn`) carry the same
fact with stronger hypotheses; `KN` is the form the refinement to R and C16 use. -/

def KN (s : SState) : Prop := (AL.keys s.map).Nodup

theorem kn_step {p : Params} (hq : NoQuirks p) {s : SState} (hqi : QInv s) (h : KN s) (op : Op) :
    KN (step p s op).1 := by
  refine step_keeps hq (fun hf h => hf.kn h) (fun s k v h => ?_) (fun s k h => ?_)
    (fun _ _ h => h) (fun _ h => h) (fun _ _ h => h) hqi h op
  · obtain ⟨ve, _, _, _, e, _⟩ := ConcS.insertMap_eq p s k v
    rw [e]
    exact AL.nodup_put k ve h
  · unfold ConcS.invalidateMap
    split
    · exact h
    · exact AL.nodup_erase k h

theorem kn_run {p : Params} (hq : NoQuirks p) (h : List Op) {s : SState} (hqi : QInv s)
    (hs : KN s) : KN (runState p s h) := by
  rw [runState_eq_stateAfter]
  exact (stateAfter_induct (I := fun s => KN s ∧ QInv s)
    (fun _ op hi => ⟨kn_step hq hi.2 hi.1 op, (step_qinv p hi.2 op).1⟩) h ⟨hs, hqi⟩).1

end Sync
end MiniMoka
