/-
  What touches the popularity sketch of the one-thread model (property C14, clause "only lookups
  are recorded"): `applyRead` is exactly one `incr1`, `applyReads` a `feed`, and what a maintenance
  run, an enqueue and every step do to the sketch and to the read queue is one relation between
  the state before and the state after, `Drain`.  Over histories `RecQ`: the hashes of all lookups
  so far are those `Recorded` in the sketch followed by those still queued (`stateAfter_recQ`).
-/
import MiniMoka.Lemmas.SketchFeed
import MiniMoka.Lemmas.SyncNodes
import MiniMoka.Lemmas.SyncQueues

namespace MiniMoka

namespace Sync

/- `syncRun p s` is a state like any other here (see the note in `SyncQueues`). -/
attribute [local irreducible] syncRun

def ROp.hash : ROp → UInt64
  | .hit h _ _ => h
  | .miss h => h

def readOf (p : Params) (s : SState) (k : Nat) : ROp :=
  match AL.get? s.map k with
  | none => .miss (p.hash k)
  | some ve =>
    if isExpiredInfo p s (getInfo s ve.info) s.now then .miss (p.hash k)
    else .hit (p.hash k) ve s.now

theorem readOf_eq_lookup (p : Params) (s : SState) (k : Nat) :
    readOf p s k = (ConcS.lookup p s k).1 := by
  unfold readOf ConcS.lookup
  dsimp only
  cases AL.get? s.map k with
  | none => rfl
  | some ve =>
    dsimp only
    split <;> rfl

theorem readOf_hash (p : Params) (s : SState) (k : Nat) : (readOf p s k).hash = p.hash k := by
  unfold readOf
  split
  · rfl
  · split <;> rfl

namespace SkF
open Nodes

theorem sketchIncrement_sk (p : Params) (s : SState) (h : UInt64) :
    (sketchIncrement p s h).sk = Sketch.incr1 p.q.d5 s.sk h ∧
    (sketchIncrement p s h).skOn = s.skOn := by
  unfold sketchIncrement Sketch.incr1
  cases s.sk.increment p.q.d5 h with
  | ok sk' => exact ⟨rfl, rfl⟩
  | error f => exact ⟨(skSame_fail s f).1, (skSame_fail s f).2⟩

theorem applyRead_sk (p : Params) (s : SState) (op : ROp) :
    (applyRead p s op).sk = Sketch.incr1 p.q.d5 s.sk op.hash ∧
    (applyRead p s op).skOn = s.skOn := by
  cases op with
  | miss hash => exact sketchIncrement_sk p s hash
  | hit hash ve ts =>
    have h1 := sketchIncrement_sk p s hash
    show (applyRead p s (.hit hash ve ts)).sk = Sketch.incr1 p.q.d5 s.sk hash ∧ _
    rw [← h1.1, ← h1.2]
    unfold applyRead
    dsimp only
    generalize sketchIncrement p s hash = s1
    have h2 : SkSame s1 (if p.q.d6 = true then withInfo s1 ve.info (fun i => { i with la := ts })
        else if (getInfo s1 ve.info).la < ts then withInfo s1 ve.info (fun i => { i with la := ts })
        else s1) := by
      split
      · exact skSame_withInfo _ _ _
      · split
        · exact skSame_withInfo _ _ _
        · exact SkSame.refl _
    generalize (if p.q.d6 = true then withInfo s1 ve.info (fun i => { i with la := ts })
        else if (getInfo s1 ve.info).la < ts then withInfo s1 ve.info (fun i => { i with la := ts })
        else s1) = s2 at h2 ⊢
    split
    · exact h2.trans (moveToBackAoE_maint _ _).skSame
    · exact h2

theorem applyReads_sk (p : Params) (n : Nat) : ∀ (s : SState),
    (applyReads p n s).sk = Sketch.feed p.q.d5 s.sk ((s.readQ.take n).map ROp.hash) ∧
    (applyReads p n s).skOn = s.skOn := by
  induction n with
  | zero => intro s; exact ⟨rfl, rfl⟩
  | succ n ih =>
    intro s
    unfold applyReads
    split
    · rename_i hq
      rw [hq]; exact ⟨rfl, rfl⟩
    · rename_i op rest hq
      obtain ⟨a, b⟩ := ih (applyRead p { s with readQ := rest } op)
      obtain ⟨c, d⟩ := applyRead_sk p { s with readQ := rest } op
      have hr : (applyRead p { s with readQ := rest } op).readQ = rest :=
        (applyRead_qframe p { s with readQ := rest } op).readQ
      rw [a, b, c, d, hr, hq]
      exact ⟨rfl, rfl⟩

theorem shouldEnableSketch_off {p : Params} {s : SState} (hen : shouldEnableSketch p s = true) :
    s.skOn = false := by
  unfold shouldEnableSketch at hen
  cases hs : s.skOn with
  | false => rfl
  | true => rw [hs] at hen; simp at hen

theorem enableSketch_en (p : Params) (s : SState) (hen : shouldEnableSketch p s = true) :
    Enabled s.sk s.skOn (enableSketch p s).sk (enableSketch p s).skOn := by
  unfold enableSketch
  split
  · dsimp only
    exact Enabled.on _ (shouldEnableSketch_off hen) _
  · exact Enabled.same _ _

theorem _root_.MiniMoka.Enabled.sameR {sk : Sketch} {on : Bool} {s s' : SState}
    (h : Enabled sk on s.sk s.skOn) (hs : SkSame s s') : Enabled sk on s'.sk s'.skOn := by
  rw [hs.1, hs.2]; exact h

theorem syncPass_sk (p : Params) (s : SState) :
    Enabled (Sketch.feed p.q.d5 s.sk (s.readQ.map ROp.hash)) s.skOn
      (syncPass p s).sk (syncPass p s).skOn := by
  rw [syncPass_eq]
  dsimp only
  have h1 := applyReads_sk p s.readQ.length s
  rw [List.take_length] at h1
  generalize applyReads p s.readQ.length s = s1 at h1 ⊢
  have h2 := applyWrites_sk p s1.writeQ.length s1
  generalize applyWrites p s1.writeQ.length s1 = s2 at h2 ⊢
  rw [← h1.1, ← h1.2, ← h2.1, ← h2.2]
  split
  · rename_i hen
    exact enableSketch_en p s2 hen
  · exact Enabled.same _ _

theorem syncRun_sk (p : Params) (s : SState) :
    Enabled (Sketch.feed p.q.d5 s.sk (s.readQ.map ROp.hash)) s.skOn
      (syncRun p s).sk (syncRun p s).skOn :=
  syncRun_stages (P := fun t => t.sk = s.sk ∧ t.skOn = s.skOn ∧ t.readQ = s.readQ)
    (Q := fun t => Enabled (Sketch.feed p.q.d5 s.sk (s.readQ.map ROp.hash)) s.skOn t.sk t.skOn)
    (R := fun t => Enabled (Sketch.feed p.q.d5 s.sk (s.readQ.map ROp.hash)) s.skOn t.sk t.skOn)
    ⟨rfl, rfl, rfl⟩ (fun t ⟨a, b, c⟩ => by rw [← a, ← b, ← c]; exact syncPass_sk p t)
    (fun _ h => h.sameR (evictExpired_maint _ _).skSame)
    (fun _ h _ => h.sameR (evictLruLoop_maint _ _ _ _ _).skSame)
    (fun _ h => h)

/-- From `s` to `s'`: a prefix `drained` of the read queue (nothing, or the whole queue) was
recorded in the sketch in queue order and removed, `tail` was appended to the queue, and then the
sketch may have been switched on.  `legacy` (the switch `d5`: which of the two `increment`s
records) is a parameter since the steps below hold for either.  `Drain` relates a state to the
state one call earlier; it is not a predicate of one state, so the walk over the calls below is
its own and no `CallInv`. -/
def Drain (legacy : Bool) (s s' : SState) (tail : List ROp) : Prop :=
  ∃ drained rest, s.readQ = drained ++ rest ∧ (drained = [] ∨ rest = []) ∧
    s'.readQ = rest ++ tail ∧
    Enabled (Sketch.feed legacy s.sk (drained.map ROp.hash)) s.skOn s'.sk s'.skOn

theorem Drain.none {l : Bool} {s s' : SState} (tail : List ROp) (hq : s'.readQ = s.readQ ++ tail)
    (hs : SkSame s s') : Drain l s s' tail :=
  ⟨[], s.readQ, rfl, Or.inl rfl, hq, Or.inl hs⟩

theorem Drain.refl (l : Bool) (s : SState) : Drain l s s [] :=
  Drain.none [] (List.append_nil _).symm (SkSame.refl s)

theorem Drain.all {l : Bool} {s s' : SState} (hq : s'.readQ = [])
    (he : Enabled (Sketch.feed l s.sk (s.readQ.map ROp.hash)) s.skOn s'.sk s'.skOn) :
    Drain l s s' [] :=
  ⟨s.readQ, [], (List.append_nil _).symm, Or.inr rfl, hq, he⟩

theorem Drain.congr_left {l : Bool} {s0 s s' : SState} {tail : List ROp} (h : Drain l s0 s' tail)
    (hsk : s0.sk = s.sk) (hon : s0.skOn = s.skOn) (hq : s0.readQ = s.readQ) :
    Drain l s s' tail := by
  unfold Drain at h ⊢
  rw [hsk, hon, hq] at h
  exact h

theorem Drain.push {l : Bool} {s s1 s' : SState} (h : Drain l s s1 []) (tail : List ROp)
    (hsk : s'.sk = s1.sk) (hon : s'.skOn = s1.skOn) (hq : s'.readQ = s1.readQ ++ tail) :
    Drain l s s' tail := by
  obtain ⟨d, r, h1, h2, h3, h4⟩ := h
  refine ⟨d, r, h1, h2, ?_, ?_⟩
  · rw [hq, h3, List.append_nil]
  · rw [hsk, hon]; exact h4

theorem syncRun_drain (p : Params) (s : SState) : Drain p.q.d5 s (syncRun p s) [] :=
  Drain.all (syncRun_readQ p s) (syncRun_sk p s)

theorem housekeep_drain (p : Params) (s : SState) :
    Drain p.q.d5 s (trySync p s) [] ∧ Drain p.q.d5 s (housekeepW p s) [] ∧
    Drain p.q.d5 s (housekeepR p s) [] :=
  housekeep_ind (C := fun t => Drain p.q.d5 s t []) (Drain.refl _ s) fun a =>
    ((syncRun_drain p { s with running := true, syncAfter := a }).congr_left rfl rfl rfl).push []
      rfl rfl (List.append_nil _).symm

/-- In the form in which `insert` / `invalidate` call it: on a state `s0` that is `s` after its
map step (the five fields that matter here are those of `s`). -/
theorem scheduleWriteOp_drain (p : Params) (fuel : Nat) {s s0 : SState} (h : QInv s) (op : WOp)
    (hsk : s0.sk = s.sk) (hon : s0.skOn = s.skOn) (hq : s0.readQ = s.readQ)
    (hr : s0.running = s.running) (hw : s0.writeQ = s.writeQ) :
    Drain p.q.d5 s (scheduleWriteOp p (fuel + 1) s0 op) [] := by
  rw [scheduleWriteOp_enqueues p fuel (qinv_of_eq h hr hw hq)]
  exact ((housekeep_drain p s0).2.1.push [] rfl rfl (List.append_nil _).symm).congr_left hsk hon hq

theorem recordReadOp_drain (p : Params) {s : SState} (h : QInv s) (op : ROp) :
    Drain p.q.d5 s (recordReadOp p s op) [op] := by
  rw [recordReadOp_enqueues p h]
  exact (housekeep_drain p s).2.2.push [op] rfl rfl rfl

theorem insert_drain (p : Params) {s : SState} (h : QInv s) (k v : Nat) :
    Drain p.q.d5 s (insert p s k v) [] := by
  obtain ⟨_, _, _, _, e, _⟩ := ConcS.insertMap_eq p s k v
  rw [ConcS.insert_eq, e]
  exact scheduleWriteOp_drain p 2 h _ rfl rfl rfl rfl rfl

theorem invalidate_drain (p : Params) {s : SState} (h : QInv s) (k : Nat) :
    Drain p.q.d5 s (invalidate p s k) [] := by
  unfold invalidate
  split
  · exact Drain.refl _ s
  · dsimp only
    exact scheduleWriteOp_drain p 2 h _ rfl rfl rfl rfl rfl

theorem get_drain (p : Params) {s : SState} (h : QInv s) (k : Nat) :
    Drain p.q.d5 s (get p s k).1 [readOf p s k] := by
  rw [ConcS.get_fst_eq, ← readOf_eq_lookup]
  exact recordReadOp_drain p h _

def newReads (p : Params) (s : SState) (op : Op) : List ROp :=
  if s.fault.isSome then []
  else match op with
    | .get k => [readOf p s k]
    | _ => []

theorem step_drain (p : Params) {s : SState} (h : QInv s) (op : Op) :
    Drain p.q.d5 s (step p s op).1 (newReads p s op) := by
  rw [step_fst_ite]
  unfold newReads
  split
  · exact Drain.refl _ s
  · cases op with
    | ins k v => exact insert_drain p h k v
    | get k => exact get_drain p h k
    | has k => exact Drain.refl _ s
    | iter => exact Drain.refl _ s
    | inv k => exact invalidate_drain p h k
    | invAll => exact Drain.none [] (List.append_nil _).symm ⟨rfl, rfl⟩
    | invIf pr => exact Drain.refl _ s
    | sync => exact syncRun_drain p s
    | adv d => exact Drain.none [] (List.append_nil _).symm ⟨rfl, rfl⟩
    | snap => exact Drain.refl _ s
    | freq k => exact Drain.refl _ s

theorem newReads_of_not_get (p : Params) (s : SState) (op : Op) (hop : ∀ k, op ≠ .get k) :
    newReads p s op = [] := by
  unfold newReads
  split
  · rfl
  · cases op <;> first | rfl | exact absurd rfl (hop _)

theorem newReads_get (p : Params) (s : SState) (k : Nat) (hf : s.fault = none) :
    newReads p s (.get k) = [readOf p s k] := by
  unfold newReads
  rw [hf]
  rfl

theorem step_sk_readQ_same (p : Params) (s : SState) (op : Op)
    (hop : ∀ k, op ≠ .get k) (hins : ∀ k v, op ≠ .ins k v) (hinv : ∀ k, op ≠ .inv k)
    (hsync : op ≠ .sync) :
    (step p s op).1.sk = s.sk ∧ (step p s op).1.skOn = s.skOn ∧
    (step p s op).1.readQ = s.readQ := by
  rw [step_fst_ite]
  split
  · exact ⟨rfl, rfl, rfl⟩
  · cases op with
    | ins k v => exact absurd rfl (hins k v)
    | get k => exact absurd rfl (hop k)
    | inv k => exact absurd rfl (hinv k)
    | sync => exact absurd rfl hsync
    | _ => exact ⟨rfl, rfl, rfl⟩

theorem newReads_hash (p : Params) (s : SState) (op : Op) (hf : s.fault = none) :
    (newReads p s op).map ROp.hash = getHashes p [op] := by
  by_cases hop : ∀ k, op ≠ .get k
  · rw [newReads_of_not_get p s op hop, getHashes_cons_of_not_get p op [] hop]; rfl
  · have : ∃ k, op = .get k := by
      cases op <;> first | exact ⟨_, rfl⟩ | exact absurd (fun k hk => by cases hk) hop
    obtain ⟨k, rfl⟩ := this
    rw [newReads_get p s k hf]
    show [(readOf p s k).hash] = [p.hash k]
    rw [readOf_hash]

/-- Reachable states of the current code between two calls of the one thread: `TInv` of
`Lemmas/SyncCounters.lean` without its counters (which the sketch does not need, and which sit
above this file). -/
structure Reach (P : Sketch → Prop) (s : SState) : Prop where
  top : TopInv P s
  q : QInv s

theorem reach_init {P : Sketch → Prop} (L : SketchLaws P) : Reach P {} :=
  ⟨init_inv L, qinv_init⟩

theorem step_reach {P : Sketch → Prop} (L : SketchLaws P) {p : Params} (hq : NoQuirks p)
    (hsm : SmallSketch p) {s : SState} (h : Reach P s) (op : Op) : Reach P (step p s op).1 :=
  ⟨Nodes.step_inv L hq hsm h.top h.q op, (step_qinv p h.q op).1⟩

theorem reachable_ok {P : Sketch → Prop} (L : SketchLaws P) {p : Params} (hq : NoQuirks p)
    (hsm : SmallSketch p) (h : List Op) :
    (stateAfter p {} h).fault = none ∧ Nodes.SkOK P (stateAfter p {} h) ∧
    QInv (stateAfter p {} h) :=
  have hr := stateAfter_induct (I := Reach P) (fun _ op hs => step_reach L hq hsm hs op) h
    (reach_init L)
  ⟨hr.top.nofault, hr.top.sk, hr.q⟩

def RecQ (P : Sketch → Prop) (s : SState) (hs : List UInt64) : Prop :=
  ∃ applied, hs = applied ++ s.readQ.map ROp.hash ∧ Recorded P s.sk s.skOn applied

theorem step_recQ {P : Sketch → Prop} (L : SketchLaws P) {p : Params} (hq : NoQuirks p)
    (hsm : SmallSketch p) {s : SState} (h : Reach P s) (op : Op) {hs : List UInt64}
    (hr : RecQ P s hs) : RecQ P (step p s op).1 (hs ++ getHashes p [op]) := by
  have h' := step_reach L hq hsm h op
  have hd5 : p.q.d5 = false := by rw [hq]
  obtain ⟨applied, e1, r1⟩ := hr
  obtain ⟨d, r, e2, _, e3, e4⟩ := step_drain p h.q op
  rw [hd5] at e4
  refine ⟨applied ++ d.map ROp.hash, ?_, (r1.feed _).enabled e4 h'.top.sk.sk⟩
  rw [e1, e2, e3, ← newReads_hash p s op h.top.nofault]
  simp only [List.map_append, List.append_assoc]

theorem stateAfter_recQ {P : Sketch → Prop} (L : SketchLaws P) {p : Params} (hq : NoQuirks p)
    (hsm : SmallSketch p) (h : List Op) : ∀ {s : SState} {hs : List UInt64}, Reach P s →
      RecQ P s hs → RecQ P (stateAfter p s h) (hs ++ getHashes p h) := by
  induction h with
  | nil => intro s hs _ hr; rw [show getHashes p [] = [] from rfl, List.append_nil]; exact hr
  | cons op rest ih =>
    intro s hs hi hr
    have h1 := ih (step_reach L hq hsm hi op) (step_recQ L hq hsm hi op hr)
    have e : getHashes p (op :: rest) = getHashes p [op] ++ getHashes p rest := by
      show List.filterMap _ ([op] ++ rest) = _
      rw [List.filterMap_append]; rfl
    rw [e, ← List.append_assoc]
    exact h1

end SkF
end Sync
end MiniMoka
