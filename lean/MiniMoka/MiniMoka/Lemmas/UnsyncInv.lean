/-
  The counter invariant of the unsync model (`Counted`, over the weight sum `totalW`; `InvU` =
  `Struct` + `Counted`; `NoQuirks`, the parameters of the repaired code, is declared here) and the
  model's functions in the forms the proofs use: which fields a plumbing function may change
  (`X_only`), `get` and `insert` as a function of the maintained state described case by case,
  what every removal path leaves alone (`Unlinks`, `SameAux`), the start-of-operation maintenance
  as three settled loops (`maintain_rel`), the eviction loops (`LoopSpec`, with the reason a loop
  ended).
-/
import MiniMoka.Lemmas.UnsyncStruct

namespace MiniMoka
namespace Unsync

/-- The sum of the weights of a map's entries: what `weighted_size` counts. -/
def totalW : List (Nat × UEntry) → Nat
  | [] => 0
  | (_, e) :: rest => e.weight + totalW rest

theorem totalW_erase {m : List (Nat × UEntry)} {k : Nat} {e : UEntry}
    (h : AL.get? m k = some e) : totalW (AL.erase m k) + e.weight = totalW m := by
  induction m with
  | nil => simp at h
  | cons a m ih =>
    obtain ⟨k', e'⟩ := a
    rw [AL.get?_cons] at h
    rw [AL.erase_cons]
    by_cases hk : k' = k
    · simp [hk] at h; subst h; simp [hk, totalW]; omega
    · simp [hk] at h; simp [hk, totalW]; have := ih h; omega

theorem totalW_put_none {m : List (Nat × UEntry)} {k : Nat} (e : UEntry)
    (h : AL.get? m k = none) : totalW (AL.put m k e) = totalW m + e.weight := by
  induction m with
  | nil => simp [AL.put, totalW]
  | cons a m ih =>
    obtain ⟨k', e'⟩ := a
    rw [AL.get?_cons] at h
    rw [AL.put_cons]
    by_cases hk : k' = k
    · simp [hk] at h
    · simp [hk] at h; simp [hk, totalW, ih h]; omega

theorem totalW_put_some {m : List (Nat × UEntry)} {k : Nat} {old : UEntry} (e : UEntry)
    (h : AL.get? m k = some old) : totalW (AL.put m k e) + old.weight = totalW m + e.weight := by
  induction m with
  | nil => simp at h
  | cons a m ih =>
    obtain ⟨k', e'⟩ := a
    rw [AL.get?_cons] at h
    rw [AL.put_cons]
    by_cases hk : k' = k
    · simp [hk] at h; subst h; simp [hk, totalW]; omega
    · simp [hk] at h; simp [hk, totalW]; have := ih h; omega

theorem weight_le_totalW {m : List (Nat × UEntry)} {k : Nat} {e : UEntry}
    (h : AL.get? m k = some e) : e.weight ≤ totalW m := by
  have := totalW_erase h; omega

theorem totalW_le_of_sub : ∀ (m' m : List (Nat × UEntry)), (AL.keys m').Nodup →
    (∀ k e, AL.get? m' k = some e → AL.get? m k = some e) → totalW m' ≤ totalW m := by
  intro m'
  induction m' with
  | nil => intro m _ _; simp [totalW]
  | cons a rest ih =>
    obtain ⟨k0, e0⟩ := a
    intro m hn hsub
    simp only [AL.keys_cons, List.nodup_cons] at hn
    have h0 := hsub k0 e0 (by simp [AL.get?_cons])
    have := ih (AL.erase m k0) hn.2 (by
      intro k' e' h'
      have hne : k0 ≠ k' := fun e => hn.1 (e ▸ AL.mem_keys_of_get? h')
      rw [AL.get?_erase_ne hne]
      exact hsub k' e' (by rw [AL.get?_cons]; simp [hne, h']))
    have h3 := totalW_erase h0
    simp only [totalW]; omega

theorem length_le_of_sub : ∀ (m' m : List (Nat × UEntry)), (AL.keys m').Nodup →
    (∀ k e, AL.get? m' k = some e → AL.get? m k = some e) → m'.length ≤ m.length := by
  intro m'
  induction m' with
  | nil => intro m _ _; simp
  | cons a rest ih =>
    obtain ⟨k0, e0⟩ := a
    intro m hn hsub
    simp only [AL.keys_cons, List.nodup_cons] at hn
    have h0 := hsub k0 e0 (by simp [AL.get?_cons])
    have := ih (AL.erase m k0) hn.2 (by
      intro k' e' h'
      have hne : k0 ≠ k' := fun e => hn.1 (e ▸ AL.mem_keys_of_get? h')
      rw [AL.get?_erase_ne hne]
      exact hsub k' e' (by rw [AL.get?_cons]; simp [hne, h']))
    have h3 := AL.length_erase_of_get? h0
    simp only [List.length_cons]; omega

/-! ### what the list plumbing may change

One equation per function: the result is the argument with only the named fields replaced, so
that "field `f` is untouched" is `by rw [..._only]`. -/

theorem fail_only (s : UState) (f : Fault) : s.fail f = { s with fault := (s.fail f).fault } := by
  unfold UState.fail; split <;> rfl

theorem subEc_only (s : UState) (n : Nat) :
    subEc s n = { s with ec := (subEc s n).ec, fault := (subEc s n).fault } := by
  unfold subEc UState.fail; split
  · split <;> rfl
  · rfl

theorem sketchIncrement_only (p : Params) (s : UState) (h : UInt64) :
    sketchIncrement p s h =
      { s with sk := (sketchIncrement p s h).sk, fault := (sketchIncrement p s h).fault } := by
  unfold sketchIncrement UState.fail; split
  · rfl
  · split <;> rfl

theorem unlinkAo_only (s : UState) (e : UEntry) :
    unlinkAo s e = { s with prob := (unlinkAo s e).prob, fault := (unlinkAo s e).fault } := by
  unfold unlinkAo UState.fail
  split
  · rfl
  · split
    · rfl
    · split <;> rfl

theorem unlinkWo_only (s : UState) (e : UEntry) :
    unlinkWo s e = { s with wo := (unlinkWo s e).wo, fault := (unlinkWo s e).fault } := by
  unfold unlinkWo UState.fail
  split
  · rfl
  · split
    · rfl
    · split <;> rfl

theorem takeOut_only (s : UState) (k : Nat) (e : UEntry) :
    takeOut s k e = { s with map := AL.erase s.map k, prob := (takeOut s k e).prob,
                             wo := (takeOut s k e).wo, fault := (takeOut s k e).fault } := by
  unfold takeOut
  rw [unlinkWo_only, unlinkAo_only]

theorem moveToBackAoE_only (s : UState) (e : UEntry) :
    moveToBackAoE s e =
      { s with prob := (moveToBackAoE s e).prob, fault := (moveToBackAoE s e).fault } := by
  unfold moveToBackAoE UState.fail
  split
  · rfl
  · split
    · rfl
    · split <;> rfl

theorem recordHit_only (s : UState) (e : UEntry) (ts : Option Nat) :
    recordHit s e ts =
      { s with prob := (recordHit s e ts).prob, fault := (recordHit s e ts).fault } := by
  unfold recordHit
  rw [moveToBackAoE_only]
  split <;> rfl

theorem pushCandidate_only (p : Params) (s : UState) (k : Nat) (hash : UInt64) (ts : Option Nat) :
    pushCandidate p s k hash ts =
      { s with map := (pushCandidate p s k hash ts).map, prob := (pushCandidate p s k hash ts).prob,
               wo := (pushCandidate p s k hash ts).wo,
               nextId := (pushCandidate p s k hash ts).nextId,
               fault := (pushCandidate p s k hash ts).fault } := by
  unfold pushCandidate UState.fail
  split
  · split <;> rfl
  · dsimp only
    split <;> rfl

theorem maybeEnableSketch_only (p : Params) (s : UState) :
    maybeEnableSketch p s =
      { s with sk := (maybeEnableSketch p s).sk, skOn := (maybeEnableSketch p s).skOn } := by
  unfold maybeEnableSketch enableSketch
  split
  · split
    · dsimp only
    · rfl
  · rfl

/-! ### the operations case by case

`get` and `insert` are their maintenance followed by a function of the maintained state (`get_eq`,
`insert_eq`); that function and `handle_insert` are described for any state, every branch with
its test and the whole result. -/

/- From here on `maintain p s` is a state like any other: the unifier must not unfold it into the
eviction loops (very slow to check; `get_eq` below is where it shows first).  Likewise `subEc`,
of which `subEc_only` says all that is used: comparing a field of `subEc s n` with the same field
of a record update of it, the unifier tried the two states first and unfolded the overflow test. -/
attribute [local irreducible] maintain subEc

def getCore (p : Params) (m : UState) (k : Nat) : UState × Option Nat :=
  let s := sketchIncrement p m (p.hash k)
  match AL.get? s.map k with
  | none => (s, none)
  | some e =>
    match opTs p m with
    | none => (recordHit s e none, some e.val)
    | some t =>
      if isExpiredEntry p s e t then (s, none)
      else (recordHit s e (opTs p m), some e.val)

theorem get_eq (p : Params) (s : UState) (k : Nat) : get p s k = getCore p (maintain p s) k := rfl

theorem isExpiredEntry_sketchIncrement (p : Params) (m : UState) (h : UInt64) (e : UEntry)
    (t : Nat) : isExpiredEntry p (sketchIncrement p m h) e t = isExpiredEntry p m e t := by
  rw [sketchIncrement_only]
  rfl

theorem getCore_cases (p : Params) (m : UState) (k : Nat) :
    (AL.get? m.map k = none ∧ getCore p m k = (sketchIncrement p m (p.hash k), none)) ∨
    (∃ e, AL.get? m.map k = some e ∧ p.hasExpiry = true ∧ isExpiredEntry p m e m.now = true ∧
      getCore p m k = (sketchIncrement p m (p.hash k), none)) ∨
    (∃ e, AL.get? m.map k = some e ∧ (p.hasExpiry = true → isExpiredEntry p m e m.now = false) ∧
      getCore p m k = (recordHit (sketchIncrement p m (p.hash k)) e (opTs p m), some e.val)) := by
  have hmap : (sketchIncrement p m (p.hash k)).map = m.map := by rw [sketchIncrement_only]
  unfold getCore
  dsimp only
  rw [hmap]
  cases hg : AL.get? m.map k with
  | none => exact Or.inl ⟨rfl, rfl⟩
  | some e =>
    dsimp only
    cases hx : p.hasExpiry with
    | false =>
      have hts : opTs p m = none := if_neg (by rw [hx]; exact Bool.false_ne_true)
      rw [hts]
      exact Or.inr (Or.inr ⟨e, rfl, (fun h => nomatch h), rfl⟩)
    | true =>
      have hts : opTs p m = some m.now := if_pos hx
      rw [hts]
      dsimp only
      rw [isExpiredEntry_sketchIncrement]
      cases hexp : isExpiredEntry p m e m.now with
      | true => exact Or.inr (Or.inl ⟨e, rfl, rfl, hexp, if_pos rfl⟩)
      | false => exact Or.inr (Or.inr ⟨e, rfl, (fun _ => hexp), if_neg Bool.false_ne_true⟩)

theorem handleInsert_cases (p : Params) (s : UState) (k : Nat) (hash : UInt64) (w : Nat)
    (ts : Option Nat) :
    let a := admitLoop p s w (s.sk.frequency hash) s.prob {}
    (hasEnoughCapacity p w s.ws = true ∧
      handleInsert p s k hash w ts = maybeEnableSketch p
        (let s4 := pushCandidate p s k hash ts
         { s4 with ec := s4.ec + 1, ws := s4.ws + w })) ∨
    (hasEnoughCapacity p w s.ws = false ∧
      ((tooBig p w = true ∧ handleInsert p s k hash w ts = { s with map := AL.erase s.map k }) ∨
       (tooBig p w = false ∧
        ((a.fault = true ∧ handleInsert p s k hash w ts = s.fail .expect) ∨
         (a.fault = false ∧ (a.vw ≥ w ∧ s.sk.frequency hash > a.vf) ∧
          handleInsert p s k hash w ts = maybeEnableSketch p
            (let s4 := pushCandidate p (removeVictims a.victims s) k hash ts
             { s4 with ec := s4.ec + 1, ws := s4.ws - a.vw + w })) ∨
         (a.fault = false ∧ ¬(a.vw ≥ w ∧ s.sk.frequency hash > a.vf) ∧
          handleInsert p s k hash w ts = { s with map := AL.erase s.map k }))))) := by
  dsimp only
  unfold handleInsert
  by_cases hcap : hasEnoughCapacity p w s.ws = true
  · exact Or.inl ⟨hcap, if_pos hcap⟩
  · refine Or.inr ⟨Bool.eq_false_iff.mpr hcap, ?_⟩
    rw [if_neg hcap]
    by_cases htb : tooBig p w = true
    · exact Or.inl ⟨htb, if_pos htb⟩
    · refine Or.inr ⟨Bool.eq_false_iff.mpr htb, ?_⟩
      rw [if_neg htb]
      unfold admitOrReject
      dsimp only
      by_cases hf : (admitLoop p s w (s.sk.frequency hash) s.prob {}).fault = true
      · exact Or.inl ⟨hf, if_pos hf⟩
      · refine Or.inr ?_
        rw [if_neg hf]
        by_cases hadm : (admitLoop p s w (s.sk.frequency hash) s.prob {}).vw ≥ w ∧
            s.sk.frequency hash > (admitLoop p s w (s.sk.frequency hash) s.prob {}).vf
        · exact Or.inl ⟨Bool.eq_false_iff.mpr hf, hadm, if_pos hadm⟩
        · exact Or.inr ⟨Bool.eq_false_iff.mpr hf, hadm, if_neg hadm⟩

def insertCore (p : Params) (m : UState) (k v : Nat) : UState :=
  let entry : UEntry := { val := v, weight := p.weigh k v }
  match AL.get? m.map k with
  | some old => handleUpdate p { m with map := AL.put m.map k entry } k (opTs p m) (p.weigh k v) old
  | none => handleInsert p { m with map := AL.put m.map k entry } k (p.hash k) (p.weigh k v) (opTs p m)

theorem insert_eq (p : Params) (s : UState) (k v : Nat) :
    insert p s k v = insertCore p (maintain p s) k v := rfl

theorem insertCore_cases (p : Params) (m : UState) (k v : Nat) :
    (∃ old, AL.get? m.map k = some old ∧
      insertCore p m k v =
        handleUpdate p { m with map := AL.put m.map k { val := v, weight := p.weigh k v } }
          k (opTs p m) (p.weigh k v) old) ∨
    (AL.get? m.map k = none ∧
      insertCore p m k v =
        handleInsert p { m with map := AL.put m.map k { val := v, weight := p.weigh k v } }
          k (p.hash k) (p.weigh k v) (opTs p m)) := by
  unfold insertCore
  cases hg : AL.get? m.map k with
  | some old => exact Or.inl ⟨old, rfl, rfl⟩
  | none => exact Or.inr ⟨rfl, rfl⟩

/-! ### removals only unlink nodes

Every removal path of the model (expiry, size eviction, invalidation, victims of an admission)
leaves both lists as sublists of what they were and touches, besides them, only the map, the
counters and the fault flag.  Whatever is inherited by sublists (membership, relative order,
sortedness of the timestamps) survives them all, and so does the popularity sketch. -/

theorem eraseAo_sublist (l : List AoNode) (id : Nat) : (eraseAo l id).Sublist l :=
  eraseAo_eq_eraseP l id ▸ List.eraseP_sublist

theorem eraseWo_sublist (l : List WoNode) (id : Nat) : (eraseWo l id).Sublist l :=
  eraseWo_eq_eraseP l id ▸ List.eraseP_sublist

/-- The fields no removal path touches (`SameEnv` without the two counters). -/
structure SameAux (s s' : UState) : Prop where
  sk : s'.sk = s.sk
  skOn : s'.skOn = s.skOn
  now : s'.now = s.now
  nextId : s'.nextId = s.nextId

theorem SameAux.refl (s : UState) : SameAux s s := ⟨rfl, rfl, rfl, rfl⟩

theorem SameAux.trans {a b c : UState} (h1 : SameAux a b) (h2 : SameAux b c) : SameAux a c :=
  ⟨h2.sk.trans h1.sk, h2.skOn.trans h1.skOn, h2.now.trans h1.now, h2.nextId.trans h1.nextId⟩

/-- Holds of every removal path with no hypothesis on the state.  `SkF.SkSame` (the sketch half of
`aux`) and `GrowExp.Sub3` (the two sublists with the clock) are parts of it. -/
structure Unlinks (s s' : UState) : Prop where
  prob : s'.prob.Sublist s.prob
  wo : s'.wo.Sublist s.wo
  aux : SameAux s s'

theorem Unlinks.refl (s : UState) : Unlinks s s :=
  ⟨List.Sublist.refl _, List.Sublist.refl _, SameAux.refl s⟩

theorem Unlinks.trans {a b c : UState} (h1 : Unlinks a b) (h2 : Unlinks b c) : Unlinks a c :=
  ⟨h2.prob.trans h1.prob, h2.wo.trans h1.wo, h1.aux.trans h2.aux⟩

theorem Unlinks.of_eq {s s' : UState} (hp : s'.prob = s.prob) (hw : s'.wo = s.wo)
    (ha : SameAux s s') : Unlinks s s' :=
  ⟨hp ▸ List.Sublist.refl _, hw ▸ List.Sublist.refl _, ha⟩

theorem unlinks_fail (s : UState) (f : Fault) : Unlinks s (s.fail f) := by
  rw [fail_only]; exact Unlinks.of_eq rfl rfl ⟨rfl, rfl, rfl, rfl⟩

theorem unlinks_subEc (s : UState) (n : Nat) : Unlinks s (subEc s n) := by
  rw [subEc_only]; exact Unlinks.of_eq rfl rfl ⟨rfl, rfl, rfl, rfl⟩

theorem unlinks_takeOut (s : UState) (k : Nat) (e : UEntry) : Unlinks s (takeOut s k e) := by
  have ha : ∀ t : UState, Unlinks t (unlinkAo t e) := by
    intro t
    unfold unlinkAo
    split
    · exact Unlinks.refl _
    · split
      · exact ⟨eraseAo_sublist _ _, List.Sublist.refl _, rfl, rfl, rfl, rfl⟩
      · exact unlinks_fail _ _
  have hw : ∀ t : UState, Unlinks t (unlinkWo t e) := by
    intro t
    unfold unlinkWo
    split
    · exact Unlinks.refl _
    · split
      · exact ⟨List.Sublist.refl _, eraseWo_sublist _ _, rfl, rfl, rfl, rfl⟩
      · exact unlinks_fail _ _
  have h0 : Unlinks s { s with map := AL.erase s.map k } := Unlinks.of_eq rfl rfl ⟨rfl, rfl, rfl, rfl⟩
  exact (h0.trans (ha _)).trans (hw _)

theorem unlinks_popAo {s : UState} {n : AoNode} {rest : List AoNode} (hp : s.prob = n :: rest) :
    Unlinks s { s with prob := rest } :=
  ⟨hp ▸ List.sublist_cons_self n rest, List.Sublist.refl _, rfl, rfl, rfl, rfl⟩

theorem unlinks_popWo {s : UState} {n : WoNode} {rest : List WoNode} (hp : s.wo = n :: rest) :
    Unlinks s { s with wo := rest } :=
  ⟨List.Sublist.refl _, hp ▸ List.sublist_cons_self n rest, rfl, rfl, rfl, rfl⟩

theorem unlinks_removeExpiredWo (p : Params) (fuel : Nat) :
    ∀ (s : UState) (c w : Nat), Unlinks s (removeExpiredWo p fuel s c w).1 := by
  induction fuel with
  | zero => intro s c w; exact Unlinks.refl s
  | succ fuel ih =>
    intro s c w
    unfold removeExpiredWo
    split
    · exact Unlinks.refl s
    · rename_i n rest hp
      split
      · split
        · exact (unlinks_takeOut _ _ _).trans (ih _ _ _)
        · exact (unlinks_popWo hp).trans (ih _ _ _)
      · exact Unlinks.refl s

theorem unlinks_removeExpiredAo (p : Params) (fuel : Nat) :
    ∀ (s : UState) (c w : Nat), Unlinks s (removeExpiredAo p fuel s c w).1 := by
  induction fuel with
  | zero => intro s c w; exact Unlinks.refl s
  | succ fuel ih =>
    intro s c w
    unfold removeExpiredAo
    split
    · exact Unlinks.refl s
    · rename_i n rest hp
      split
      · split
        · exact (unlinks_takeOut _ _ _).trans (ih _ _ _)
        · exact (unlinks_popAo hp).trans (ih _ _ _)
      · exact Unlinks.refl s

theorem unlinks_evictLruLoop (fuel : Nat) :
    ∀ (s : UState) (wte c w : Nat), Unlinks s (evictLruLoop fuel s wte c w).1 := by
  induction fuel with
  | zero => intro s wte c w; exact Unlinks.refl s
  | succ fuel ih =>
    intro s wte c w
    unfold evictLruLoop
    split
    · exact Unlinks.refl s
    · split
      · exact Unlinks.refl s
      · rename_i n rest hp
        split
        · exact (unlinks_takeOut _ _ _).trans (ih _ _ _ _)
        · exact (unlinks_popAo hp).trans (ih _ _ _ _)

theorem unlinks_invalidateKeys (p : Params) (keys : List Nat) :
    ∀ (s : UState) (c w : Nat), Unlinks s (invalidateKeys p keys s c w).1 := by
  induction keys with
  | nil => intro s c w; exact Unlinks.refl s
  | cons k rest ih =>
    intro s c w
    unfold invalidateKeys
    split
    · exact ih _ _ _
    · exact (unlinks_takeOut _ _ _).trans (ih _ _ _)

theorem unlinks_removeVictims : ∀ (l : List AoNode) (s : UState), Unlinks s (removeVictims l s) := by
  intro l
  induction l with
  | nil => intro s; exact Unlinks.refl s
  | cons v rest ih =>
    intro s
    unfold removeVictims
    split
    · exact (unlinks_fail s _).trans (ih _)
    · exact ((unlinks_takeOut _ _ _).trans (unlinks_subEc _ _)).trans (ih _)

/-- Settling the counters after an eviction loop that returned `(state, count, weight)`:
`entry_count -= count; weighted_size -= weight`. -/
def settleR (r : UState × Nat × Nat) : UState :=
  match r with
  | (s1, c, w) =>
    let s2 := subEc s1 c
    { s2 with ws := s2.ws - w }

theorem unlinks_settleR {s : UState} (r : UState × Nat × Nat) (h : Unlinks s r.1) :
    Unlinks s (settleR r) :=
  (h.trans (unlinks_subEc r.1 r.2.1)).trans (Unlinks.of_eq rfl rfl ⟨rfl, rfl, rfl, rfl⟩)

/-- The write-order pass of `evict_expired`. -/
def purgeWo (p : Params) (s : UState) : UState :=
  if p.ttl.isSome then settleR (removeExpiredWo p EVICTION_BATCH_SIZE s 0 0) else s

/-- The access-order pass of `evict_expired`. -/
def purgeAo (p : Params) (s : UState) : UState :=
  if p.tti.isSome then settleR (removeExpiredAo p EVICTION_BATCH_SIZE s 0 0) else s

theorem evictExpired_eq (p : Params) (s : UState) :
    evictExpired p s = purgeAo p (purgeWo p s) := by
  unfold evictExpired purgeAo purgeWo
  generalize EVICTION_BATCH_SIZE = b
  rfl

theorem evictLru_eq (p : Params) (s : UState) :
    evictLru p s = settleR (evictLruLoop EVICTION_BATCH_SIZE s (weightsToEvict p s) 0 0) := by
  unfold evictLru
  generalize EVICTION_BATCH_SIZE = b
  rfl

/-- The maintenance is a composition of the two expiry passes (with expiry configured) and
`evict_lru_entries`: a transitive relation that holds across each holds across it. -/
theorem maintain_rel {p : Params} {R : UState → UState → Prop}
    (trans : ∀ {a b c}, R a b → R b c → R a c) (hwo : ∀ s, R s (purgeWo p s))
    (hao : ∀ s, R s (purgeAo p s)) (hlru : ∀ s, R s (evictLru p s)) (s : UState) :
    R s (maintain p s) := by
  unfold maintain evictExpiredIfNeeded
  split
  · rw [evictExpired_eq]; exact trans (trans (hwo s) (hao _)) (hlru _)
  · exact hlru s

theorem settleR_map (r : UState × Nat × Nat) : (settleR r).map = r.1.map := by
  obtain ⟨s1, c, w⟩ := r
  simp only [settleR]
  rw [subEc_only]

theorem unlinks_purgeWo (p : Params) (s : UState) : Unlinks s (purgeWo p s) := by
  unfold purgeWo
  split
  · exact unlinks_settleR _ (unlinks_removeExpiredWo p _ s 0 0)
  · exact Unlinks.refl s

theorem unlinks_purgeAo (p : Params) (s : UState) : Unlinks s (purgeAo p s) := by
  unfold purgeAo
  split
  · exact unlinks_settleR _ (unlinks_removeExpiredAo p _ s 0 0)
  · exact Unlinks.refl s

theorem unlinks_evictLru (p : Params) (s : UState) : Unlinks s (evictLru p s) := by
  rw [evictLru_eq]; exact unlinks_settleR _ (unlinks_evictLruLoop _ _ _ _ _)

theorem unlinks_maintain (p : Params) (s : UState) : Unlinks s (maintain p s) :=
  maintain_rel (R := Unlinks) Unlinks.trans (unlinks_purgeWo p) (unlinks_purgeAo p) (unlinks_evictLru p) s

theorem unlinks_invalidate (p : Params) (s : UState) (k : Nat) : Unlinks s (invalidate p s k) := by
  unfold invalidate
  dsimp only
  split
  · exact unlinks_maintain p s
  · rename_i e _
    refine (unlinks_maintain p s).trans ((unlinks_takeOut _ k e).trans ?_)
    split
    · exact Unlinks.of_eq rfl rfl ⟨rfl, rfl, rfl, rfl⟩
    · exact (unlinks_subEc _ 1).trans (Unlinks.of_eq rfl rfl ⟨rfl, rfl, rfl, rfl⟩)

theorem unlinks_invalidateEntriesIf (p : Params) (s : UState) (pr : Pred) :
    Unlinks s (invalidateEntriesIf p s pr) := by
  unfold invalidateEntriesIf
  dsimp only
  have := unlinks_invalidateKeys p
    ((s.map.filter (fun kv => pr.eval kv.1 kv.2.val)).map (·.1)) s 0 0
  generalize invalidateKeys p _ s 0 0 = r at this ⊢
  obtain ⟨s1, c, w⟩ := r
  refine this.trans ?_
  split
  · exact Unlinks.of_eq rfl rfl ⟨rfl, rfl, rfl, rfl⟩
  · exact (unlinks_subEc _ c).trans (Unlinks.of_eq rfl rfl ⟨rfl, rfl, rfl, rfl⟩)

/-- The model without any of the defect switches: the current (repaired) code.  (`Sync.NoQuirks`
is the same predicate, declared with the lemmas of the concurrent cache.) -/
def NoQuirks (p : Params) : Prop := p.q = {}

structure Counted (p : Params) (s : UState) : Prop where
  ec : s.ec = s.map.length
  ws : s.ws = totalW s.map
  weights : ∀ k e, AL.get? s.map k = some e → e.weight = p.weigh k e.val

theorem weights_put {p : Params} {m : List (Nat × UEntry)} {k : Nat} {e : UEntry}
    (hm : ∀ k' e', AL.get? m k' = some e' → e'.weight = p.weigh k' e'.val)
    (he : e.weight = p.weigh k e.val) :
    ∀ k' e', AL.get? (AL.put m k e) k' = some e' → e'.weight = p.weigh k' e'.val := by
  intro k' e' h
  rw [AL.get?_put] at h
  by_cases hkk : k = k'
  · rw [if_pos hkk] at h
    cases h
    rw [he, hkk]
  · rw [if_neg hkk] at h
    exact hm k' e' h

/-- The invariant of the single-threaded cache without the sketch (`Inv` adds it). -/
structure InvU (p : Params) (s : UState) : Prop where
  struct : Struct p s
  counted : Counted p s

theorem InvU.of_empty {p : Params} {s : UState} (hm : s.map = []) (hp : s.prob = [])
    (hw : s.wo = []) (hws : s.ws = 0) (hec : s.ec = 0) (hf : s.fault = none) : InvU p s := by
  refine ⟨⟨?_, ?_, ?_, ?_, ?_, ?_, ?_, ?_, ?_, ?_, hf⟩, ⟨?_, ?_, ?_⟩⟩ <;>
    simp [hm, hp, hw, hws, hec, totalW]

/-- Result of a loop of removals started in `s` with accumulators `(c, w)`: the eviction loops,
`invalidateKeys`, and the one `takeOut` of `invalidate`.  (For what happens to the lists reach for
`Unlinks`, which needs no hypothesis; `probSub`, `woSub` say less.) -/
structure LoopSpec (p : Params) (s : UState) (c w : Nat) (r : UState × Nat × Nat) : Prop where
  struct : Struct p r.1
  env : SameEnv s r.1
  shrinks : Shrinks s r.1
  count : r.1.map.length + r.2.1 = s.map.length + c
  weight : totalW r.1.map + r.2.2 = totalW s.map + w
  probSub : ∀ n, n ∈ r.1.prob → n ∈ s.prob
  woSub : ∀ n, n ∈ r.1.wo → n ∈ s.wo

theorem LoopSpec.refl {p : Params} {s : UState} (hs : Struct p s) (c w : Nat) :
    LoopSpec p s c w (s, c, w) :=
  ⟨hs, SameEnv.refl s, Shrinks.refl s, rfl, rfl, fun _ h => h, fun _ h => h⟩

theorem LoopSpec.step {p : Params} {s : UState} {k : Nat} {e : UEntry} {c w : Nat}
    {r : UState × Nat × Nat} (hs : Struct p s) (hk : AL.get? s.map k = some e)
    (hr : Struct p (takeOut s k e) → LoopSpec p (takeOut s k e) (c + 1) (w + e.weight) r) :
    LoopSpec p s c w r := by
  obtain ⟨hs', hto, _⟩ := takeOut_spec hs hk (by simp)
  have hr := hr hs'
  refine ⟨hr.struct, hto.env.trans hr.env, hto.shrinks.trans hr.shrinks, ?_, ?_,
    fun n h => hto.probSub n (hr.probSub n h), fun n h => hto.woSub n (hr.woSub n h)⟩
  · have h1 := hr.count
    rw [hto.map] at h1
    have := AL.length_erase_of_get? hk
    omega
  · have h1 := hr.weight
    rw [hto.map] at h1
    have := totalW_erase hk
    omega

/- Each loop has its `LoopSpec` and the reason it ended: a full batch taken, or the loop's own
test.  What is left over after a loop follows from the two without another induction. -/

theorem evictLruLoop_spec {p : Params} (fuel : Nat) :
    ∀ (s : UState) (wte c w : Nat), Struct p s →
      LoopSpec p s c w (evictLruLoop fuel s wte c w) ∧
      ((evictLruLoop fuel s wte c w).2.1 = c + fuel ∨ (evictLruLoop fuel s wte c w).2.2 ≥ wte ∨
        (evictLruLoop fuel s wte c w).1.prob = []) := by
  induction fuel with
  | zero => intro s wte c w hs; exact ⟨LoopSpec.refl hs c w, Or.inl rfl⟩
  | succ fuel ih =>
    intro s wte c w hs
    unfold evictLruLoop
    by_cases hw : w ≥ wte
    · rw [if_pos hw]; exact ⟨LoopSpec.refl hs c w, Or.inr (Or.inl hw)⟩
    · rw [if_neg hw]
      cases hp : s.prob with
      | nil => exact ⟨LoopSpec.refl hs c w, Or.inr (Or.inr hp)⟩
      | cons n rest =>
        simp only
        obtain ⟨e, he, _⟩ := hs.aoBack n (by rw [hp]; exact List.mem_cons_self)
        simp only [he]
        have ih := ih _ wte (c + 1) (w + e.weight) (takeOut_spec hs he (by simp)).1
        exact ⟨LoopSpec.step hs he fun _ => ih.1, ih.2.imp_left fun h => h.trans (by omega)⟩

theorem removeExpiredAo_spec {p : Params} (fuel : Nat) :
    ∀ (s : UState) (c w : Nat), Struct p s →
      LoopSpec p s c w (removeExpiredAo p fuel s c w) ∧
      ((removeExpiredAo p fuel s c w).2.1 = c + fuel ∨
        ∀ n ∈ (removeExpiredAo p fuel s c w).1.prob.head?,
          expiredAt p.tti n.ts (removeExpiredAo p fuel s c w).1.now = false) := by
  induction fuel with
  | zero => intro s c w hs; exact ⟨LoopSpec.refl hs c w, Or.inl rfl⟩
  | succ fuel ih =>
    intro s c w hs
    unfold removeExpiredAo
    cases hp : s.prob with
    | nil => exact ⟨LoopSpec.refl hs c w, Or.inr fun n hn => by rw [hp] at hn; cases hn⟩
    | cons n rest =>
      simp only
      by_cases hx : expiredAt p.tti n.ts s.now = true
      · rw [if_pos hx]
        obtain ⟨e, he, _⟩ := hs.aoBack n (by rw [hp]; exact List.mem_cons_self)
        simp only [he]
        have ih := ih _ (c + 1) (w + e.weight) (takeOut_spec hs he (by simp)).1
        exact ⟨LoopSpec.step hs he fun _ => ih.1, ih.2.imp_left fun h => h.trans (by omega)⟩
      · rw [if_neg hx]
        refine ⟨LoopSpec.refl hs c w, Or.inr fun m hm => ?_⟩
        rw [hp, List.head?_cons, Option.mem_def, Option.some.injEq] at hm
        rw [← hm]
        exact Bool.eq_false_iff.mpr hx

theorem removeExpiredWo_spec {p : Params} (hq : NoQuirks p) (fuel : Nat) :
    ∀ (s : UState) (c w : Nat), Struct p s →
      LoopSpec p s c w (removeExpiredWo p fuel s c w) ∧
      ((removeExpiredWo p fuel s c w).2.1 = c + fuel ∨
        ∀ n ∈ (removeExpiredWo p fuel s c w).1.wo.head?,
          expiredAt p.ttl n.ts (removeExpiredWo p fuel s c w).1.now = false) := by
  have hd4 : p.q.d4 = false := by rw [hq]
  induction fuel with
  | zero => intro s c w hs; exact ⟨LoopSpec.refl hs c w, Or.inl rfl⟩
  | succ fuel ih =>
    intro s c w hs
    unfold removeExpiredWo
    cases hp : s.wo with
    | nil => exact ⟨LoopSpec.refl hs c w, Or.inr fun n hn => by rw [hp] at hn; cases hn⟩
    | cons n rest =>
      simp only
      by_cases hx : expiredAt p.ttl n.ts s.now = true
      · rw [if_pos hx]
        obtain ⟨e, he, _⟩ := hs.woBack n (by rw [hp]; exact List.mem_cons_self)
        simp only [he, hd4]
        have ih := ih _ (c + 1) (w + e.weight) (takeOut_spec hs he (by simp)).1
        exact ⟨LoopSpec.step hs he fun _ => ih.1, ih.2.imp_left fun h => h.trans (by omega)⟩
      · rw [if_neg hx]
        refine ⟨LoopSpec.refl hs c w, Or.inr fun m hm => ?_⟩
        rw [hp, List.head?_cons, Option.mem_def, Option.some.injEq] at hm
        rw [← hm]
        exact Bool.eq_false_iff.mpr hx

theorem LoopSpec.emptied {p : Params} {s : UState} {c w fuel : Nat} {r : UState × Nat × Nat}
    (hl : LoopSpec p s c w r) (hlen : s.map.length ≤ fuel) (hc : r.2.1 = c + fuel) :
    r.1.map = [] := by
  have := hl.count
  exact List.length_eq_zero_iff.mp (by omega)

end Unsync
end MiniMoka
