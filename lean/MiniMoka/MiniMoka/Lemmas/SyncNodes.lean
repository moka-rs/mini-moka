/-
  Memory safety of the one-thread model: the ownership invariant between entry infos and list nodes
  (`NodesCore`) is kept by every function of the model, so that the faults `useAfterFree`
  (dereference of a freed node) and `overflow` (`entry_count -= 1` of the maintenance run's local
  counters) are unreachable for the current code (`NoQuirks p`).  Inside a maintenance run the
  invariant is `RunInv P` (`Safe`: ownership, local entry counter, no fault; `MapOK`; `SkOK P`);
  between API calls it is `TopInv P`, the same with the published counter.
-/
import MiniMoka.Sync
import MiniMoka.Lemmas.AL
import MiniMoka.Lemmas.ById
import MiniMoka.Lemmas.SyncFrame
import MiniMoka.Lemmas.SyncCalls
import MiniMoka.Lemmas.SketchLawsDef

namespace MiniMoka

namespace Sync
namespace Nodes

theorem findAo_eq_find? (l : List AoNode) (id : Nat) : findAo l id = l.find? (·.id == id) := by
  induction l with
  | nil => rfl
  | cons a l ih => by_cases ha : a.id = id <;> simp [findAo, ha, ih]

theorem eraseAo_eq_eraseP (l : List AoNode) (id : Nat) : eraseAo l id = l.eraseP (·.id == id) := by
  induction l with
  | nil => rfl
  | cons a l ih => by_cases ha : a.id = id <;> simp [eraseAo, ha, ih]

theorem findAo_some {l : List AoNode} {id : Nat} {n : AoNode} (h : findAo l id = some n) :
    n ∈ l ∧ n.id = id := by
  rw [findAo_eq_find?] at h
  have hb : (n.id == id) = true := List.find?_some (p := fun x : AoNode => x.id == id) h
  exact ⟨List.mem_of_find?_eq_some h, eq_of_beq hb⟩

theorem findAo_of_mem {l : List AoNode} {n : AoNode} (hn : (l.map (·.id)).Nodup) (h : n ∈ l) :
    findAo l n.id = some n :=
  findAo_eq_find? l n.id ▸ find?_of_mem_nodup _ hn h

theorem perm_cons_eraseAo {l : List AoNode} {id : Nat} {n : AoNode} (h : findAo l id = some n) :
    l.Perm (n :: eraseAo l id) :=
  eraseAo_eq_eraseP l id ▸ perm_cons_eraseP_of_find? (findAo_eq_find? l id ▸ h)

theorem perm_moveToBackAo {l : List AoNode} {id : Nat} {n : AoNode} (h : findAo l id = some n) :
    (eraseAo l id ++ [n]).Perm l :=
  (List.perm_append_comm).trans (perm_cons_eraseAo h).symm

theorem nodup_eraseAo {l : List AoNode} (id : Nat) (hn : (l.map (·.id)).Nodup) :
    ((eraseAo l id).map (·.id)).Nodup :=
  eraseAo_eq_eraseP l id ▸ (List.eraseP_sublist.map _).nodup hn

theorem mem_eraseAo_iff {l : List AoNode} {id : Nat} (hn : (l.map (·.id)).Nodup) (m : AoNode) :
    m ∈ eraseAo l id ↔ m ∈ l ∧ m.id ≠ id := by
  rw [eraseAo_eq_eraseP]
  refine ⟨fun hm => ⟨List.mem_of_mem_eraseP hm, ne_of_mem_eraseP_nodup _ hn hm⟩, fun ⟨hm, hne⟩ => ?_⟩
  have hneg : ¬ (m.id == id) = true := fun e => hne (eq_of_beq e)
  exact (List.mem_eraseP_of_neg (p := fun x => x.id == id) hneg).mpr hm

theorem length_eraseAo {l : List AoNode} {id : Nat} {n : AoNode} (h : findAo l id = some n) :
    (eraseAo l id).length + 1 = l.length := by
  have := (perm_cons_eraseAo h).length_eq
  rw [List.length_cons] at this
  exact this.symm

theorem findWo_eq_find? (l : List WoNode) (id : Nat) : findWo l id = l.find? (·.id == id) := by
  induction l with
  | nil => rfl
  | cons a l ih => by_cases ha : a.id = id <;> simp [findWo, ha, ih]

theorem eraseWo_eq_eraseP (l : List WoNode) (id : Nat) : eraseWo l id = l.eraseP (·.id == id) := by
  induction l with
  | nil => rfl
  | cons a l ih => by_cases ha : a.id = id <;> simp [eraseWo, ha, ih]

theorem findWo_some {l : List WoNode} {id : Nat} {n : WoNode} (h : findWo l id = some n) :
    n ∈ l ∧ n.id = id := by
  rw [findWo_eq_find?] at h
  have hb : (n.id == id) = true := List.find?_some (p := fun x : WoNode => x.id == id) h
  exact ⟨List.mem_of_find?_eq_some h, eq_of_beq hb⟩

theorem findWo_of_mem {l : List WoNode} {n : WoNode} (hn : (l.map (·.id)).Nodup) (h : n ∈ l) :
    findWo l n.id = some n :=
  findWo_eq_find? l n.id ▸ find?_of_mem_nodup _ hn h

theorem perm_cons_eraseWo {l : List WoNode} {id : Nat} {n : WoNode} (h : findWo l id = some n) :
    l.Perm (n :: eraseWo l id) :=
  eraseWo_eq_eraseP l id ▸ perm_cons_eraseP_of_find? (findWo_eq_find? l id ▸ h)

theorem perm_moveToBackWo {l : List WoNode} {id : Nat} {n : WoNode} (h : findWo l id = some n) :
    (eraseWo l id ++ [n]).Perm l :=
  (List.perm_append_comm).trans (perm_cons_eraseWo h).symm

theorem nodup_eraseWo {l : List WoNode} (id : Nat) (hn : (l.map (·.id)).Nodup) :
    ((eraseWo l id).map (·.id)).Nodup :=
  eraseWo_eq_eraseP l id ▸ (List.eraseP_sublist.map _).nodup hn

theorem mem_eraseWo_iff {l : List WoNode} {id : Nat} (hn : (l.map (·.id)).Nodup) (m : WoNode) :
    m ∈ eraseWo l id ↔ m ∈ l ∧ m.id ≠ id := by
  rw [eraseWo_eq_eraseP]
  refine ⟨fun hm => ⟨List.mem_of_mem_eraseP hm, ne_of_mem_eraseP_nodup _ hn hm⟩, fun ⟨hm, hne⟩ => ?_⟩
  have hneg : ¬ (m.id == id) = true := fun e => hne (eq_of_beq e)
  exact (List.mem_eraseP_of_neg (p := fun x => x.id == id) hneg).mpr hm

/-- Ownership between entry infos and list nodes.  A node of `prob` (`wo`) is owned by exactly one
info, which points back at it; an info that points at a node points at a live node (one that is in
the list); an info is admitted iff it owns an access-order node, and owns a write-order node only if
admitted; ids at or above `nextId` are unused. -/
structure NodesCore (s : SState) : Prop where
  probIds : (s.prob.map (·.id)).Nodup
  woIds : (s.wo.map (·.id)).Nodup
  freshP : ∀ n ∈ s.prob, n.id < s.nextId
  freshW : ∀ n ∈ s.wo, n.id < s.nextId
  probOwn : ∀ n ∈ s.prob, (getInfo s n.info).ao = some n.id
  aoNode : ∀ i id, (getInfo s i).ao = some id → ∃ n ∈ s.prob, n.id = id ∧ n.info = i
  admIff : ∀ i, (getInfo s i).admitted = true ↔ (getInfo s i).ao.isSome = true
  woOwn : ∀ n ∈ s.wo, (getInfo s n.info).wo = some n.id
  woNode : ∀ i id, (getInfo s i).wo = some id → ∃ n ∈ s.wo, n.id = id ∧ n.info = i
  woAdm : ∀ i, (getInfo s i).wo.isSome = true → (getInfo s i).admitted = true
  infoFresh : ∀ i, s.nextId ≤ i → (getInfo s i).admitted = false

structure NodesInv (s : SState) : Prop extends NodesCore s where
  count : s.cec = s.prob.length

structure NodesInvTop (s : SState) : Prop extends NodesCore s where
  count : s.ec = s.prob.length

namespace NodesCore

variable {s s' : SState}

theorem notAdm_ao (h : NodesCore s) {i : Nat} (hna : (getInfo s i).admitted = false) :
    (getInfo s i).ao = none := by
  have := h.admIff i
  cases hx : (getInfo s i).ao with
  | none => rfl
  | some id => rw [hx, hna] at this; simp at this

theorem notAdm_wo (h : NodesCore s) {i : Nat} (hna : (getInfo s i).admitted = false) :
    (getInfo s i).wo = none := by
  have := h.woAdm i
  cases hx : (getInfo s i).wo with
  | none => rfl
  | some id => rw [hx, hna] at this; simp at this

theorem adm_ao (h : NodesCore s) {i : Nat} (ha : (getInfo s i).admitted = true) :
    ∃ id, (getInfo s i).ao = some id := by
  have := (h.admIff i).mp ha
  cases hx : (getInfo s i).ao with
  | none => rw [hx] at this; simp at this
  | some id => exact ⟨id, rfl⟩

theorem adm_node (h : NodesCore s) (i : Nat) (ha : (getInfo s i).admitted = true) :
    ∃ n ∈ s.prob, n.info = i := by
  obtain ⟨id, hao⟩ := h.adm_ao ha
  obtain ⟨n, hn, _, hni⟩ := h.aoNode _ _ hao
  exact ⟨n, hn, hni⟩

theorem probAdm (h : NodesCore s) {n : AoNode} (hn : n ∈ s.prob) :
    (getInfo s n.info).admitted = true := by
  rw [h.admIff, h.probOwn n hn]; rfl

theorem info_inj (h : NodesCore s) {n m : AoNode} (hn : n ∈ s.prob) (hm : m ∈ s.prob)
    (e : n.info = m.info) : n.id = m.id := by
  have h1 := h.probOwn n hn
  have h2 := h.probOwn m hm
  rw [e, h2] at h1
  exact (Option.some.inj h1).symm

theorem congr (h : NodesCore s)
    (hao : ∀ j, (getInfo s' j).ao = (getInfo s j).ao)
    (hwo : ∀ j, (getInfo s' j).wo = (getInfo s j).wo)
    (had : ∀ j, (getInfo s' j).admitted = (getInfo s j).admitted)
    (hp : s'.prob.Perm s.prob) (hw : s'.wo.Perm s.wo) (hn : s.nextId ≤ s'.nextId) :
    NodesCore s' where
  probIds := (hp.map _).nodup_iff.mpr h.probIds
  woIds := (hw.map _).nodup_iff.mpr h.woIds
  freshP := fun n hm => Nat.lt_of_lt_of_le (h.freshP n (hp.mem_iff.mp hm)) hn
  freshW := fun n hm => Nat.lt_of_lt_of_le (h.freshW n (hw.mem_iff.mp hm)) hn
  probOwn := fun n hm => by rw [hao]; exact h.probOwn n (hp.mem_iff.mp hm)
  aoNode := fun i id hx => by
    rw [hao] at hx
    obtain ⟨n, hm, e1, e2⟩ := h.aoNode i id hx
    exact ⟨n, hp.mem_iff.mpr hm, e1, e2⟩
  admIff := fun i => by rw [had, hao]; exact h.admIff i
  woOwn := fun n hm => by rw [hwo]; exact h.woOwn n (hw.mem_iff.mp hm)
  woNode := fun i id hx => by
    rw [hwo] at hx
    obtain ⟨n, hm, e1, e2⟩ := h.woNode i id hx
    exact ⟨n, hw.mem_iff.mpr hm, e1, e2⟩
  woAdm := fun i => by rw [had, hwo]; exact h.woAdm i
  infoFresh := fun i hi => by rw [had]; exact h.infoFresh i (Nat.le_trans hn hi)

theorem of_eq (h : NodesCore s) (hi : s'.infos = s.infos) (hp : s'.prob = s.prob)
    (hw : s'.wo = s.wo) (hn : s.nextId ≤ s'.nextId) : NodesCore s' := by
  have hg := getInfo_congr hi
  exact h.congr (fun j => by rw [hg]) (fun j => by rw [hg]) (fun j => by rw [hg]) (by rw [hp])
    (by rw [hw]) hn

/-- `findAo` succeeds, so `move_to_back_ao` / `unlink_ao` do not dereference a freed node. -/
theorem aoFind (h : NodesCore s) {i id : Nat} (hx : (getInfo s i).ao = some id) :
    ∃ n, findAo s.prob id = some n ∧ n.info = i := by
  obtain ⟨n, hn, e1, e2⟩ := h.aoNode i id hx
  exact ⟨n, by rw [← e1]; exact findAo_of_mem h.probIds hn, e2⟩

theorem woFind (h : NodesCore s) {i id : Nat} (hx : (getInfo s i).wo = some id) :
    ∃ n, findWo s.wo id = some n ∧ n.info = i := by
  obtain ⟨n, hn, e1, e2⟩ := h.woNode i id hx
  exact ⟨n, by rw [← e1]; exact findWo_of_mem h.woIds hn, e2⟩

theorem node_info_lt (hn : NodesCore s) {n : AoNode} (h : n ∈ s.prob) : n.info < s.nextId := by
  have := hn.probAdm h
  apply Nat.lt_of_not_le
  intro hle
  rw [hn.infoFresh _ hle] at this
  cases this

theorem wo_info_lt (hn : NodesCore s) {n : WoNode} (h : n ∈ s.wo) : n.info < s.nextId := by
  have := hn.woAdm n.info (by rw [hn.woOwn n h]; rfl)
  apply Nat.lt_of_not_le
  intro hle
  rw [hn.infoFresh _ hle] at this
  cases this

/-- What `handle_admit` does, seen from `NodesCore` (`handleAdmit_safe`). -/
theorem attach (h : NodesCore s) (i : Nat) (hlt : i < s.nextId)
    (hna : (getInfo s i).admitted = false)
    (hao : ∀ j, j ≠ i → (getInfo s' j).ao = (getInfo s j).ao)
    (hwo : ∀ j, j ≠ i → (getInfo s' j).wo = (getInfo s j).wo)
    (had : ∀ j, j ≠ i → (getInfo s' j).admitted = (getInfo s j).admitted)
    (node : AoNode) (hnid : node.id = s.nextId) (hninfo : node.info = i)
    (hp : s'.prob = s.prob ++ [node])
    (hiao : (getInfo s' i).ao = some s.nextId) (hiad : (getInfo s' i).admitted = true)
    (hw : (s'.wo = s.wo ∧ (getInfo s' i).wo = none ∧ s'.nextId = s.nextId + 1) ∨
      (∃ wn : WoNode, wn.id = s.nextId + 1 ∧ wn.info = i ∧ s'.wo = s.wo ++ [wn] ∧
        (getInfo s' i).wo = some (s.nextId + 1) ∧ s'.nextId = s.nextId + 2)) :
    NodesCore s' := by
  have hnoP : ∀ m ∈ s.prob, m.info ≠ i := fun m hm e => by
    have := h.probAdm hm; rw [e, hna] at this; cases this
  have hnoW : ∀ m ∈ s.wo, m.info ≠ i := fun m hm e => by
    have := h.woAdm m.info (by rw [h.woOwn m hm]; rfl); rw [e, hna] at this; cases this
  have hn : s.nextId + 1 ≤ s'.nextId := by
    rcases hw with ⟨_, _, e⟩ | ⟨_, _, _, _, _, e⟩ <;> omega
  have hpm : ∀ m, m ∈ s'.prob ↔ m ∈ s.prob ∨ m = node := by
    intro m; rw [hp]; simp
  have hwm : ∀ m ∈ s'.wo, m ∈ s.wo ∨ (m.id = s.nextId + 1 ∧ m.info = i ∧
      (getInfo s' i).wo = some (s.nextId + 1) ∧ s'.nextId = s.nextId + 2) := by
    intro m hm
    rcases hw with ⟨e, _, _⟩ | ⟨wn, e1, e2, e3, e4, e5⟩
    · rw [e] at hm; exact Or.inl hm
    · rw [e3] at hm
      rcases List.mem_append.mp hm with hm | hm
      · exact Or.inl hm
      · simp at hm; subst hm; exact Or.inr ⟨e1, e2, e4, e5⟩
  refine ⟨?_, ?_, ?_, ?_, ?_, ?_, ?_, ?_, ?_, ?_, ?_⟩
  · rw [hp, List.map_append]
    refine List.nodup_append.mpr ⟨h.probIds, by simp, ?_⟩
    intro a ha b hb
    simp at hb; subst hb
    obtain ⟨m, hm, rfl⟩ := List.mem_map.mp ha
    rw [hnid]; exact Nat.ne_of_lt (h.freshP m hm)
  · rcases hw with ⟨e, _, _⟩ | ⟨wn, e1, e2, e3, e4, e5⟩
    · rw [e]; exact h.woIds
    · rw [e3, List.map_append]
      refine List.nodup_append.mpr ⟨h.woIds, by simp, ?_⟩
      intro a ha b hb
      simp at hb; subst hb
      obtain ⟨m, hm, rfl⟩ := List.mem_map.mp ha
      rw [e1]; exact Nat.ne_of_lt (Nat.lt_succ_of_lt (h.freshW m hm))
  · intro m hm
    rcases (hpm m).mp hm with hm | rfl
    · exact Nat.lt_of_lt_of_le (h.freshP m hm) (by omega)
    · omega
  · intro m hm
    rcases hwm m hm with hm | ⟨e1, _, _, e5⟩
    · exact Nat.lt_of_lt_of_le (h.freshW m hm) (by omega)
    · omega
  · intro m hm
    rcases (hpm m).mp hm with hm | rfl
    · rw [hao _ (hnoP m hm)]; exact h.probOwn m hm
    · rw [hninfo, hiao, hnid]
  · intro j id hx
    by_cases e : j = i
    · subst e
      rw [hiao] at hx
      exact ⟨node, (hpm node).mpr (Or.inr rfl), by rw [hnid]; exact Option.some.inj hx, hninfo⟩
    · rw [hao j e] at hx
      obtain ⟨n, hm, e1, e2⟩ := h.aoNode j id hx
      exact ⟨n, (hpm n).mpr (Or.inl hm), e1, e2⟩
  · intro j
    by_cases e : j = i
    · subst e; rw [hiao, hiad]; simp
    · rw [had j e, hao j e]; exact h.admIff j
  · intro m hm
    rcases hwm m hm with hm | ⟨e1, e2, e4, _⟩
    · rw [hwo _ (hnoW m hm)]; exact h.woOwn m hm
    · rw [e2, e4, e1]
  · intro j id hx
    by_cases e : j = i
    · subst e
      rcases hw with ⟨_, e4, _⟩ | ⟨wn, e1, e2, e3, e4, e5⟩
      · rw [e4] at hx; cases hx
      · rw [e4] at hx
        refine ⟨wn, by rw [e3]; simp, by rw [e1]; exact Option.some.inj hx, e2⟩
    · rw [hwo j e] at hx
      obtain ⟨n, hm, e1, e2⟩ := h.woNode j id hx
      refine ⟨n, ?_, e1, e2⟩
      rcases hw with ⟨e3, _, _⟩ | ⟨wn, _, _, e3, _, _⟩
      · rw [e3]; exact hm
      · rw [e3]; exact List.mem_append_left _ hm
  · intro j
    by_cases e : j = i
    · subst e; intro _; exact hiad
    · rw [had j e, hwo j e]; exact h.woAdm j
  · intro j hj
    have e : j ≠ i := by omega
    rw [had j e]; exact h.infoFresh j (by omega)

end NodesCore

/-- `R` is `s` after info `i` gave up its nodes, which were freed, and its share of the local
counters: what `handle_remove` does to a state that satisfies the invariant
(`handleRemove_removed`). -/
structure Removed (s : SState) (i : Nat) (R : SState) : Prop where
  map : R.map = s.map
  nextId : R.nextId = s.nextId
  fault : R.fault = s.fault
  info : ∀ j, getInfo R j =
    if i = j then { getInfo s i with admitted := false, ao := none, wo := none } else getInfo s j
  prob : R.prob = match (getInfo s i).ao with
    | some id => eraseAo s.prob id
    | none => s.prob
  wo : R.wo = match (getInfo s i).wo with
    | some id => eraseWo s.wo id
    | none => s.wo
  cec : R.cec = if (getInfo s i).admitted then s.cec - 1 else s.cec
  cws : R.cws = if (getInfo s i).admitted then s.cws - (getInfo s i).weight else s.cws

namespace Removed

variable {s R : SState} {i : Nat}

theorem info_ne (hr : Removed s i R) {j : Nat} (hj : j ≠ i) : getInfo R j = getInfo s j := by
  rw [hr.info, if_neg (Ne.symm hj)]

theorem info_self (hr : Removed s i R) :
    getInfo R i = { getInfo s i with admitted := false, ao := none, wo := none } := by
  rw [hr.info, if_pos rfl]

theorem other (hr : Removed s i R) {α : Type} (π : Info → α)
    (hπ : ∀ x : Info, π { x with admitted := false, ao := none, wo := none } = π x) (j : Nat) :
    π (getInfo R j) = π (getInfo s j) := by
  rw [hr.info]
  split
  · rename_i e; rw [hπ, e]
  · rfl

theorem mem_prob (hr : Removed s i R) (hc : NodesCore s) (m : AoNode) :
    m ∈ R.prob ↔ m ∈ s.prob ∧ m.info ≠ i := by
  rw [hr.prob]
  cases hao : (getInfo s i).ao with
  | none =>
    refine ⟨fun hm => ⟨hm, fun e => ?_⟩, And.left⟩
    have := hc.probOwn m hm
    rw [e, hao] at this; cases this
  | some id =>
    obtain ⟨n, hfind, hni⟩ := hc.aoFind hao
    refine (mem_eraseAo_iff hc.probIds m).trans (and_congr_right fun hm => not_congr ⟨?_, ?_⟩)
    · intro e
      have := findAo_of_mem hc.probIds hm
      rw [e, hfind] at this
      rw [← Option.some.inj this]; exact hni
    · intro e
      have := hc.probOwn m hm
      rw [e, hao] at this
      exact (Option.some.inj this).symm

theorem mem_wo (hr : Removed s i R) (hc : NodesCore s) (m : WoNode) :
    m ∈ R.wo ↔ m ∈ s.wo ∧ m.info ≠ i := by
  rw [hr.wo]
  cases hwo : (getInfo s i).wo with
  | none =>
    refine ⟨fun hm => ⟨hm, fun e => ?_⟩, And.left⟩
    have := hc.woOwn m hm
    rw [e, hwo] at this; cases this
  | some id =>
    obtain ⟨n, hfind, hni⟩ := hc.woFind hwo
    refine (mem_eraseWo_iff hc.woIds m).trans (and_congr_right fun hm => not_congr ⟨?_, ?_⟩)
    · intro e
      have := findWo_of_mem hc.woIds hm
      rw [e, hfind] at this
      rw [← Option.some.inj this]; exact hni
    · intro e
      have := hc.woOwn m hm
      rw [e, hwo] at this
      exact (Option.some.inj this).symm

theorem nodup_prob (hr : Removed s i R) (hc : NodesCore s) : (R.prob.map (·.id)).Nodup := by
  rw [hr.prob]
  cases hao : (getInfo s i).ao with
  | none => exact hc.probIds
  | some id =>
    obtain ⟨n, hfind, _⟩ := hc.aoFind hao
    exact nodup_eraseAo id hc.probIds

theorem nodup_wo (hr : Removed s i R) (hc : NodesCore s) : (R.wo.map (·.id)).Nodup := by
  rw [hr.wo]
  cases hwo : (getInfo s i).wo with
  | none => exact hc.woIds
  | some id =>
    obtain ⟨n, hfind, _⟩ := hc.woFind hwo
    exact nodup_eraseWo id hc.woIds

theorem count (hr : Removed s i R) (h : NodesInv s) : R.cec = R.prob.length := by
  rw [hr.cec, hr.prob]
  cases hadm : (getInfo s i).admitted with
  | false => rw [h.notAdm_ao hadm, if_neg Bool.false_ne_true]; exact h.count
  | true =>
    obtain ⟨id, hao⟩ := h.adm_ao hadm
    obtain ⟨n, hfind, _⟩ := h.toNodesCore.aoFind hao
    have := length_eraseAo hfind
    rw [hao, if_pos rfl, h.count]
    show s.prob.length - 1 = (eraseAo s.prob id).length
    omega

theorem nodesCore (hr : Removed s i R) (h : NodesCore s) : NodesCore R where
  probIds := hr.nodup_prob h
  woIds := hr.nodup_wo h
  freshP := fun n hm => by rw [hr.nextId]; exact h.freshP n ((hr.mem_prob h n).mp hm).1
  freshW := fun n hm => by rw [hr.nextId]; exact h.freshW n ((hr.mem_wo h n).mp hm).1
  probOwn := fun n hm => by
    obtain ⟨h1, h2⟩ := (hr.mem_prob h n).mp hm
    rw [hr.info_ne h2]; exact h.probOwn n h1
  aoNode := fun j id hx => by
    by_cases e : j = i
    · subst e; rw [hr.info_self] at hx; cases hx
    · rw [hr.info_ne e] at hx
      obtain ⟨n, hm, e1, e2⟩ := h.aoNode j id hx
      exact ⟨n, (hr.mem_prob h n).mpr ⟨hm, by rw [e2]; exact e⟩, e1, e2⟩
  admIff := fun j => by
    by_cases e : j = i
    · subst e; rw [hr.info_self]; simp
    · rw [hr.info_ne e]; exact h.admIff j
  woOwn := fun n hm => by
    obtain ⟨h1, h2⟩ := (hr.mem_wo h n).mp hm
    rw [hr.info_ne h2]; exact h.woOwn n h1
  woNode := fun j id hx => by
    by_cases e : j = i
    · subst e; rw [hr.info_self] at hx; cases hx
    · rw [hr.info_ne e] at hx
      obtain ⟨n, hm, e1, e2⟩ := h.woNode j id hx
      exact ⟨n, (hr.mem_wo h n).mpr ⟨hm, by rw [e2]; exact e⟩, e1, e2⟩
  woAdm := fun j => by
    by_cases e : j = i
    · subst e; rw [hr.info_self]; simp
    · rw [hr.info_ne e]; exact h.woAdm j
  infoFresh := fun j hj => by
    by_cases e : j = i
    · subst e; rw [hr.info_self]
    · rw [hr.info_ne e]; exact h.infoFresh j (by rw [← hr.nextId]; exact hj)

end Removed

structure Safe (s : SState) : Prop extends NodesInv s where
  nofault : s.fault = none

theorem Safe.congr {s s' : SState} (h : Safe s)
    (hao : ∀ j, (getInfo s' j).ao = (getInfo s j).ao)
    (hwo : ∀ j, (getInfo s' j).wo = (getInfo s j).wo)
    (had : ∀ j, (getInfo s' j).admitted = (getInfo s j).admitted)
    (hp : s'.prob.Perm s.prob) (hw : s'.wo.Perm s.wo) (hn : s.nextId ≤ s'.nextId)
    (hc : s'.cec = s.cec) (hf : s'.fault = s.fault) : Safe s' :=
  ⟨⟨h.toNodesCore.congr hao hwo had hp hw hn, by rw [hc, hp.length_eq]; exact h.count⟩,
   by rw [hf]; exact h.nofault⟩

theorem NodesCore.withInfo {s : SState} (h : NodesCore s) (i : Nat) (f : Info → Info)
    (hao : (f (getInfo s i)).ao = (getInfo s i).ao) (hwo : (f (getInfo s i)).wo = (getInfo s i).wo)
    (had : (f (getInfo s i)).admitted = (getInfo s i).admitted) : NodesCore (withInfo s i f) := by
  refine h.congr ?_ ?_ ?_ (List.Perm.refl _) (List.Perm.refl _) (Nat.le_refl _) <;>
    intro j <;> rw [getInfo_withInfo] <;> by_cases e : i = j
  · subst e; simp [hao]
  · simp [e]
  · subst e; simp [hwo]
  · simp [e]
  · subst e; simp [had]
  · simp [e]

theorem Safe.of_eq {s s' : SState} (h : Safe s) (hi : s'.infos = s.infos) (hp : s'.prob = s.prob)
    (hw : s'.wo = s.wo) (hn : s.nextId ≤ s'.nextId) (hc : s'.cec = s.cec)
    (hf : s'.fault = s.fault) : Safe s' :=
  ⟨⟨h.toNodesCore.of_eq hi hp hw hn, by rw [hc, hp]; exact h.count⟩, by rw [hf]; exact h.nofault⟩

theorem Safe.withInfo {s : SState} (h : Safe s) (i : Nat) (f : Info → Info)
    (hao : (f (getInfo s i)).ao = (getInfo s i).ao) (hwo : (f (getInfo s i)).wo = (getInfo s i).wo)
    (had : (f (getInfo s i)).admitted = (getInfo s i).admitted) : Safe (withInfo s i f) :=
  ⟨⟨h.toNodesCore.withInfo i f hao hwo had, h.count⟩, h.nofault⟩

def Keeps (s s' : SState) : Prop := ∀ m, m ∈ s.prob → m ∈ s'.prob

theorem Keeps.refl (s : SState) : Keeps s s := fun _ h => h

theorem moveNodeToBackAo_eq {s : SState} {id : Nat} {n : AoNode} (h : findAo s.prob id = some n) :
    moveNodeToBackAo s id = { s with prob := eraseAo s.prob id ++ [n] } := by
  simp only [moveNodeToBackAo, h]

theorem moveNodeToBackWo_eq {s : SState} {id : Nat} {n : WoNode} (h : findWo s.wo id = some n) :
    moveNodeToBackWo s id = { s with wo := eraseWo s.wo id ++ [n] } := by
  simp only [moveNodeToBackWo, h]

theorem moveNodeToBackAo_safe {s : SState} (h : Safe s) {n : AoNode} (hn : n ∈ s.prob) :
    Safe (moveNodeToBackAo s n.id) ∧ Keeps s (moveNodeToBackAo s n.id) := by
  have hf := findAo_of_mem h.probIds hn
  rw [moveNodeToBackAo_eq hf]
  have hp := perm_moveToBackAo hf
  exact ⟨h.congr (fun _ => rfl) (fun _ => rfl) (fun _ => rfl) hp (List.Perm.refl _)
    (Nat.le_refl _) rfl rfl, fun m hm => hp.mem_iff.mpr hm⟩

theorem moveNodeToBackWo_safe {s : SState} (h : Safe s) {n : WoNode} (hn : n ∈ s.wo) :
    Safe (moveNodeToBackWo s n.id) := by
  have hf := findWo_of_mem h.woIds hn
  rw [moveNodeToBackWo_eq hf]
  have hp := perm_moveToBackWo hf
  exact h.congr (fun _ => rfl) (fun _ => rfl) (fun _ => rfl) (List.Perm.refl _) hp
    (Nat.le_refl _) rfl rfl

theorem moveToBackAoE_safe {s : SState} (h : Safe s) (i : Nat) :
    Safe (moveToBackAoE s i) := by
  unfold moveToBackAoE
  split
  · exact h
  · rename_i id hx
    obtain ⟨n, hn, e1, _⟩ := h.aoNode i id hx
    rw [← e1]; exact (moveNodeToBackAo_safe h hn).1

theorem moveToBackWoE_safe {s : SState} (h : Safe s) (i : Nat) :
    Safe (moveToBackWoE s i) := by
  unfold moveToBackWoE
  split
  · exact h
  · rename_i id hx
    obtain ⟨n, hn, e1, _⟩ := h.woNode i id hx
    rw [← e1]; exact moveNodeToBackWo_safe h hn

theorem unlinkAo_eq {s : SState} {i id : Nat} {n : AoNode} (h1 : (getInfo s i).ao = some id)
    (h2 : findAo s.prob id = some n) :
    unlinkAo s i =
      { withInfo s i (fun x => { x with ao := none }) with prob := eraseAo s.prob id } := by
  simp only [unlinkAo, h1]
  have : findAo (withInfo s i (fun x => { x with ao := none })).prob id = some n := h2
  simp only [this]
  rfl

theorem unlinkWo_eq {s : SState} {i id : Nat} {n : WoNode} (h1 : (getInfo s i).wo = some id)
    (h2 : findWo s.wo id = some n) :
    unlinkWo s i =
      { withInfo s i (fun x => { x with wo := none }) with wo := eraseWo s.wo id } := by
  simp only [unlinkWo, h1]
  have : findWo (withInfo s i (fun x => { x with wo := none })).wo id = some n := h2
  simp only [this]
  rfl

theorem unlinkWo_none {s : SState} {i : Nat} (h1 : (getInfo s i).wo = none) : unlinkWo s i = s := by
  simp only [unlinkWo, h1]

theorem subCounters_eq {s : SState} {n w : Nat} (h : n ≤ s.cec) :
    subCounters s n w = { s with cec := s.cec - n, cws := s.cws - w } := by
  have : ¬ s.cec < n := by omega
  simp only [subCounters, this, if_false]

/-- `getInfo_of_infos_put` in the shape from which `f` is found by unifying with `withInfo s i f`. -/
theorem getInfo_of_infos {S s : SState} {i : Nat} {f : Info → Info}
    (h : S.infos = (withInfo s i f).infos) (j : Nat) :
    getInfo S j = if i = j then f (getInfo s i) else getInfo s j :=
  getInfo_of_infos_put h j

theorem handleRemove_removed {s : SState} (h : Safe s) (ve : VE) :
    Removed s ve.info (handleRemove s ve) := by
  unfold handleRemove
  dsimp only
  cases hadm : (getInfo s ve.info).admitted with
  | false =>
    rw [if_neg Bool.false_ne_true]
    refine ⟨rfl, rfl, rfl, fun j => ?_, by rw [h.notAdm_ao hadm]; rfl, by rw [h.notAdm_wo hadm]; rfl,
      by rw [hadm]; rfl, by rw [hadm]; rfl⟩
    rw [getInfo_withInfo, ← hadm]
  | true =>
    rw [if_pos rfl]
    -- the invariant makes the three fallible steps succeed; `s2`, `s3` are the states between them
    obtain ⟨id, hao⟩ := h.adm_ao hadm
    obtain ⟨n, hfind, _⟩ := h.toNodesCore.aoFind hao
    have hpos : 1 ≤ s.cec := by rw [h.count]; exact List.length_pos_of_mem (findAo_some hfind).1
    rw [subCounters_eq (s := withInfo s ve.info _) hpos]
    generalize hs2 : ({ withInfo s ve.info _ with cec := _, cws := _ } : SState) = s2
    have hg2 := getInfo_of_infos (S := s2) (s := s) (i := ve.info) (by rw [← hs2])
    rw [unlinkAo_eq (s := s2) (n := n) (by rw [hg2, if_pos rfl]; exact hao)
      (by rw [← hs2]; exact hfind)]
    generalize hs3 : ({ withInfo s2 ve.info _ with prob := _ } : SState) = s3
    have hg3 := getInfo_of_infos (S := s3) (s := s2) (i := ve.info) (by rw [← hs3])
    have hwo3 : (getInfo s3 ve.info).wo = (getInfo s ve.info).wo := by
      rw [hg3, hg2, if_pos rfl, if_pos rfl]
    -- whatever `unlink_wo` returns, it differs from `s3` in the write-order fields only
    have hR : ∀ R : SState, R.map = s3.map → R.nextId = s3.nextId → R.fault = s3.fault →
        R.prob = s3.prob → R.cec = s3.cec → R.cws = s3.cws →
        (∀ j, getInfo R j =
          if ve.info = j then { getInfo s3 ve.info with wo := none } else getInfo s3 j) →
        (R.wo = match (getInfo s ve.info).wo with
          | some id => eraseWo s.wo id
          | none => s.wo) → Removed s ve.info R := by
      intro R r1 r2 r3 r4 r5 r6 r7 r8
      refine ⟨by rw [r1, ← hs3, ← hs2]; rfl, by rw [r2, ← hs3, ← hs2]; rfl,
        by rw [r3, ← hs3, ← hs2]; rfl, fun j => ?_, by rw [r4, hao, ← hs3, ← hs2]; rfl, r8,
        by rw [r5, hadm, ← hs3, ← hs2]; rfl, by rw [r6, hadm, ← hs3, ← hs2]; rfl⟩
      rw [r7, hg3, hg3, hg2, hg2]
      by_cases e : ve.info = j
      · simp only [if_pos e, if_true]
      · simp only [if_neg e]
    cases hwo : (getInfo s ve.info).wo with
    | none =>
      rw [unlinkWo_none (hwo3.trans hwo)]
      refine hR s3 rfl rfl rfl rfl rfl rfl (fun j => ?_) (by rw [hwo, ← hs3, ← hs2]; rfl)
      by_cases e : ve.info = j
      · rw [if_pos e, ← e, ← hwo3.trans hwo]
      · rw [if_neg e]
    | some wid =>
      obtain ⟨wn, hfindW, _⟩ := h.toNodesCore.woFind hwo
      rw [unlinkWo_eq (hwo3.trans hwo) (n := wn) (by rw [← hs3, ← hs2]; exact hfindW)]
      exact hR _ rfl rfl rfl rfl rfl rfl
        (getInfo_of_infos (s := s3) (f := fun x => { x with wo := none }) rfl)
        (by rw [hwo, ← hs3, ← hs2]; rfl)

theorem Removed.safe {s R : SState} {i : Nat} (hr : Removed s i R) (h : Safe s) : Safe R :=
  ⟨⟨hr.nodesCore h.toNodesCore, hr.count h.toNodesInv⟩, by rw [hr.fault]; exact h.nofault⟩

theorem handleRemove_safe {s : SState} (h : Safe s) (ve : VE) :
    Safe (handleRemove s ve) ∧
      (∀ m, m ∈ s.prob → m.info ≠ ve.info → m ∈ (handleRemove s ve).prob) ∧
      (∀ j, (getInfo s j).admitted = false → (getInfo (handleRemove s ve) j).admitted = false) := by
  have hr := handleRemove_removed h ve
  exact ⟨hr.safe h, fun m hm hne => (hr.mem_prob h.toNodesCore m).mpr ⟨hm, hne⟩,
    fun _ hj => (handleRemove_maint s ve).rem.notAdm hj⟩

/-- `R` is `s` after `handle_admit` (`handleAdmit_admitted`). -/
structure Admitted (p : Params) (s : SState) (key : Nat) (hash : UInt64) (ve : VE) (w : Nat)
    (R : SState) : Prop where
  map : R.map = s.map
  fault : R.fault = s.fault
  cec : R.cec = s.cec + 1
  cws : R.cws = s.cws + w
  nextId : R.nextId = if p.ttl.isSome then s.nextId + 2 else s.nextId + 1
  prob : R.prob = s.prob ++
    [{ id := s.nextId, key := key, hash := hash, info := ve.info, kobj := ve.slot }]
  wo : R.wo = if p.ttl.isSome then
      s.wo ++ [{ id := s.nextId + 1, key := key, info := ve.info, kobj := ve.slot }]
    else s.wo
  info : ∀ j, getInfo R j =
    if ve.info = j then
      { getInfo s ve.info with
        admitted := true
        weight := if p.q.d8 then (getInfo s ve.info).weight else w
        ao := some s.nextId
        wo := if p.ttl.isSome then some (s.nextId + 1) else (getInfo s ve.info).wo }
    else getInfo s j

theorem handleAdmit_admitted (p : Params) (s : SState) (key : Nat) (hash : UInt64) (ve : VE)
    (w : Nat) : Admitted p s key hash ve w (handleAdmit p s key hash ve w) := by
  unfold handleAdmit
  dsimp only
  -- for each value of the two flags the result is an explicit record, read field by field; it is
  -- flattened first (`dsimp only`): for `rfl` on the nested updates the unifier compares them with
  -- `s` as a whole before it projects, at every field
  by_cases ht : p.ttl.isSome = true <;> by_cases hd : p.q.d8 = true <;>
    simp only [ht, hd, if_true, if_false, Bool.false_eq_true] <;>
    dsimp only [withInfo, addCounters] <;>
    refine ⟨rfl, rfl, rfl, rfl, by simp only [ht, if_true, if_false, Bool.false_eq_true] <;> rfl,
      rfl, by simp only [ht, if_true, if_false, Bool.false_eq_true] <;> rfl, fun j => ?_⟩ <;>
    simp only [getInfo, AL.get?_put, ht, hd, if_true, if_false, Bool.false_eq_true] <;>
    by_cases e : ve.info = j <;> simp only [e, if_true, if_false, Option.getD_some]

theorem Admitted.info_ne {p : Params} {s R : SState} {key : Nat} {hash : UInt64} {ve : VE}
    {w : Nat} (ha : Admitted p s key hash ve w R) {j : Nat} (hj : j ≠ ve.info) :
    getInfo R j = getInfo s j := by
  rw [ha.info, if_neg (Ne.symm hj)]

theorem handleAdmit_safe {p : Params} {s : SState} (h : Safe s) (key : Nat) (hash : UInt64)
    (ve : VE) (weight : Nat) (hna : (getInfo s ve.info).admitted = false)
    (hlt : ve.info < s.nextId) :
    Safe (handleAdmit p s key hash ve weight) ∧ Keeps s (handleAdmit p s key hash ve weight) := by
  have ha := handleAdmit_admitted p s key hash ve weight
  have hI := ha.info ve.info
  rw [if_pos rfl] at hI
  refine ⟨⟨⟨h.toNodesCore.attach ve.info hlt hna (fun j hj => by rw [ha.info_ne hj])
      (fun j hj => by rw [ha.info_ne hj]) (fun j hj => by rw [ha.info_ne hj]) _ rfl rfl ha.prob
      (by rw [hI]) (by rw [hI]) ?_, ?_⟩, by rw [ha.fault]; exact h.nofault⟩,
    fun m hm => by rw [ha.prob]; exact List.mem_append_left _ hm⟩
  · by_cases ht : p.ttl.isSome = true
    · exact Or.inr ⟨_, rfl, rfl, by rw [ha.wo, if_pos ht], by rw [hI]; simp only [ht, if_true],
        by rw [ha.nextId, if_pos ht]⟩
    · exact Or.inl ⟨by rw [ha.wo, if_neg ht],
        by rw [hI]; simp only [ht]; exact h.notAdm_wo hna, by rw [ha.nextId, if_neg ht]⟩
  · rw [ha.cec, ha.prob, List.length_append, h.count]; rfl

/-- What the admission scan picks from the list `l`: the victims and the skipped nodes together. -/
def Picked (x l : List AoNode) : Prop := (∀ m, m ∈ x → m ∈ l) ∧ (x.map (·.id)).Nodup

theorem Picked.perm {x y l : List AoNode} (h : Picked x l) (hp : y.Perm x) : Picked y l :=
  ⟨fun m hm => h.1 m (hp.mem_iff.mp hm), ((hp.map (·.id)).nodup_iff).mpr h.2⟩

theorem Picked.cons {x l : List AoNode} {n : AoNode} (h : Picked x l)
    (hn : n.id ∉ l.map (·.id)) : Picked (n :: x) (n :: l) := by
  refine ⟨fun m hm => ?_, List.nodup_cons.mpr ⟨fun hin => ?_, h.2⟩⟩
  · rcases List.mem_cons.mp hm with e | hm
    · rw [e]
      exact List.mem_cons_self
    · exact List.mem_cons_of_mem _ (h.1 m hm)
  · obtain ⟨m, hm, e⟩ := List.mem_map.mp hin
    exact hn (List.mem_map.mpr ⟨m, h.1 m hm, e⟩)

theorem admitLoop_split (p : Params) (s : SState) (cw cf : Nat) :
    ∀ (l : List AoNode) (a : Admission), (l.map (·.id)).Nodup →
      ∃ vs ss, (admitLoop p s cw cf l a).victims = a.victims ++ vs ∧
        (admitLoop p s cw cf l a).skipped = a.skipped ++ ss ∧ Picked (vs ++ ss) l := by
  have hnil : ∀ l : List AoNode, Picked ([] ++ []) l := fun _ =>
    ⟨fun _ hm => (nomatch hm), List.nodup_nil⟩
  intro l
  induction l with
  | nil =>
    intro a _
    exact ⟨[], [], (List.append_nil _).symm, (List.append_nil _).symm, hnil _⟩
  | cons n rest ih =>
    intro a hnd
    obtain ⟨hn, hr⟩ := List.nodup_cons.mp hnd
    rw [admitLoop]
    split
    · split
      · obtain ⟨vs, ss, h1, h2, h3⟩ := ih
          { a with vw := a.vw + (getInfo s _).weight, vf := a.vf + s.sk.frequency n.hash,
                   victims := a.victims ++ [n], retries := 0 } hr
        exact ⟨n :: vs, ss, by rw [h1, List.append_assoc]; rfl, h2, h3.cons hn⟩
      · dsimp only
        split
        · exact ⟨[], [n], (List.append_nil _).symm, rfl, (hnil rest).cons hn⟩
        · obtain ⟨vs, ss, h1, h2, h3⟩ := ih
            { a with skipped := a.skipped ++ [n], retries := a.retries + 1 } hr
          exact ⟨vs, n :: ss, h1, by rw [h2, List.append_assoc]; rfl,
            (h3.cons hn).perm List.perm_middle⟩
    · exact ⟨[], [], (List.append_nil _).symm, (List.append_nil _).symm, hnil _⟩

theorem admitLoop_picked (p : Params) (s : SState) (cw cf : Nat) {l : List AoNode}
    (hl : (l.map (·.id)).Nodup) :
    Picked ((admitLoop p s cw cf l {}).victims ++ (admitLoop p s cw cf l {}).skipped) l := by
  obtain ⟨vs, ss, h1, h2, h3⟩ := admitLoop_split p s cw cf l {} hl
  rw [h1, h2]
  exact h3

theorem entryOfNode_info {p : Params} (hd7 : p.q.d7 = false) {s : SState} {key info : Nat}
    {ve : VE} (h : entryOfNode p s key info = some ve) : ve.info = info := by
  unfold entryOfNode at h
  split at h
  · rename_i cur _
    rw [hd7, Bool.false_or] at h
    by_cases e : (cur.info == info) = true
    · rw [if_pos e] at h
      cases h
      exact eq_of_beq e
    · rw [if_neg e] at h; cases h
  · cases h

theorem safe_eraseMap {s : SState} (h : Safe s) (k : Nat) :
    Safe { s with map := AL.erase s.map k } :=
  h.of_eq rfl rfl rfl (Nat.le_refl _) rfl rfl

/-- `Picked`: victims and skipped nodes are distinct nodes of the list, so removing one victim's
node leaves the others where they are. -/
theorem removeVictims_keeps {p : Params} (hd7 : p.q.d7 = false) {I : SState → Prop}
    (hI : ∀ {s : SState}, I s → Safe s)
    (evict : ∀ {s : SState} {v : AoNode} {ve : VE}, I s → v ∈ s.prob →
      entryOfNode p s v.key v.info = some ve →
      I (handleRemove { s with map := AL.erase s.map v.key } ve)) :
    ∀ (vs : List AoNode) (s : SState) (sk : List AoNode), I s → Picked (vs ++ sk) s.prob →
      I (removeVictims p vs s sk).1 ∧
        (∀ m, m ∈ (removeVictims p vs s sk).2 → m ∈ (removeVictims p vs s sk).1.prob) := by
  intro vs
  induction vs with
  | nil => intro s sk h hl; exact ⟨h, hl.1⟩
  | cons v rest ih =>
    intro s sk h hl
    have hv : v ∈ s.prob := hl.1 v List.mem_cons_self
    have hin : ∀ m, m ∈ rest ++ sk → m ∈ s.prob := fun m hm => hl.1 m (List.mem_cons_of_mem _ hm)
    obtain ⟨hnv, hnd⟩ := List.nodup_cons.mp hl.2
    rw [removeVictims, findAo_of_mem (hI h).probIds hv]
    dsimp only
    split
    · rename_i ve hve
      -- only the victim's own node leaves the list: nodes with other ids belong to other infos
      refine ih _ sk (evict h hv hve) ⟨fun m hm => ?_, hnd⟩
      refine (handleRemove_safe (safe_eraseMap (hI h) v.key) ve).2.1 m (hin m hm) fun e => ?_
      refine hnv (List.mem_map.mpr ⟨m, hm, ?_⟩)
      exact (hI h).info_inj (hin m hm) hv (e.trans (entryOfNode_info hd7 hve))
    · refine ih s (sk ++ [v]) h (hl.perm ?_)
      rw [← List.append_assoc]
      exact List.perm_append_singleton _ _

theorem removeVictims_safe {p : Params} (hd7 : p.q.d7 = false) :
    ∀ (vs : List AoNode) (s : SState) (sk : List AoNode), Safe s → Picked (vs ++ sk) s.prob →
      Safe (removeVictims p vs s sk).1 ∧
        (∀ m, m ∈ (removeVictims p vs s sk).2 → m ∈ (removeVictims p vs s sk).1.prob) ∧
        (∀ j, (getInfo s j).admitted = false →
          (getInfo (removeVictims p vs s sk).1 j).admitted = false) := by
  intro vs s sk h hl
  obtain ⟨h1, h3⟩ := removeVictims_keeps hd7 (I := Safe) id
    (fun hs _ _ => (handleRemove_safe (safe_eraseMap hs _) _).1) vs s sk h hl
  exact ⟨h1, h3, fun _ hj => (removeVictims_maint p vs s sk).rem.notAdm hj⟩

theorem moveSkipped_safe : ∀ (ns : List AoNode) (s : SState), Safe s →
    (∀ n, n ∈ ns → n ∈ s.prob) → Safe (moveSkipped ns s) := by
  intro ns
  induction ns with
  | nil => intro s h _; exact h
  | cons n rest ih =>
    intro s h hns
    rw [moveSkipped]
    obtain ⟨h1, k1⟩ := moveNodeToBackAo_safe h (hns n List.mem_cons_self)
    exact ih _ h1 (fun m hm => k1 m (hns m (List.mem_cons_of_mem _ hm)))

theorem removeCandidate_safe {p : Params} {s : SState} (h : Safe s) (key : Nat) (ve : VE) :
    Safe (removeCandidate p s key ve) ∧ Keeps s (removeCandidate p s key ve) := by
  unfold removeCandidate
  split
  · split
    · exact ⟨safe_eraseMap h key, fun _ hm => hm⟩
    · exact ⟨h, Keeps.refl s⟩
  · exact ⟨h, Keeps.refl s⟩

/-- `bound`: `handle_admit` runs on the info of the map's current entry and needs it below `nextId`
(`handleAdmit_safe`). -/
structure MapOK (s : SState) : Prop where
  kn : (AL.keys s.map).Nodup
  bound : ∀ k ve, AL.get? s.map k = some ve → ve.info < s.nextId

theorem MapOK.frame {s s' : SState} (h : MapOK s) (hf : Frame s s') : MapOK s' :=
  ⟨hf.kn h.kn, fun k ve hk => Nat.lt_of_lt_of_le (h.bound k ve (hf.mapSub h.kn k ve hk)) hf.nextId⟩

theorem MapOK.frame0 {s s' : SState} (h : MapOK s) (hf : Frame0 s s') : MapOK s' :=
  h.frame hf.toFrame

theorem applyUpdate_safe {p : Params} {s : SState} (h : Safe s) (ve : VE) (oldW newW : Nat) :
    Safe (applyUpdate p s ve oldW newW) := by
  unfold applyUpdate
  dsimp only
  rw [subCounters_eq (Nat.zero_le _)]
  refine moveToBackWoE_safe (moveToBackAoE_safe ?_ _) _
  have h2 : ∀ w, Safe (addCounters { s with cec := s.cec - 0, cws := w } 0 newW) :=
    fun w => h.of_eq rfl rfl rfl (Nat.le_refl _) rfl rfl
  split
  · exact h2 _
  · exact (h2 _).withInfo _ _ rfl rfl rfl

theorem admitOrReject_safe {p : Params} (hd7 : p.q.d7 = false) {s : SState} (h : Safe s)
    (key : Nat) (hash : UInt64) (ve : VE) (newW : Nat)
    (hna : (getInfo s ve.info).admitted = false) (hlt : ve.info < s.nextId) :
    Safe (admitOrReject p s key hash ve newW) := by
  unfold admitOrReject
  dsimp only
  have hpk := admitLoop_picked p s newW (s.sk.frequency hash) h.probIds
  generalize admitLoop p s newW (s.sk.frequency hash) s.prob {} = a at hpk ⊢
  split
  · have hfr := (removeVictims_maint p a.victims s a.skipped).frame0
    have hrv := removeVictims_safe hd7 a.victims s a.skipped h hpk
    generalize removeVictims p a.victims s a.skipped = r at hfr hrv ⊢
    obtain ⟨s1, sk1⟩ := r
    obtain ⟨r1, r2, r3⟩ := hrv
    dsimp only at r1 r2 r3 hfr ⊢
    obtain ⟨a1, a2⟩ := handleAdmit_safe (p := p) r1 key hash ve newW (r3 _ hna)
      (Nat.lt_of_lt_of_le hlt hfr.nextId)
    exact moveSkipped_safe sk1 _ a1 (fun n hn => a2 n (r2 n hn))
  · obtain ⟨c1, c2⟩ := removeCandidate_safe (p := p) h key ve
    exact moveSkipped_safe a.skipped _ c1
      (fun n hn => c2 n (hpk.1 n (List.mem_append_right _ hn)))

theorem _root_.MiniMoka.Sync.isCurrentEntry_iff {s : SState} {key : Nat} {ve : VE} :
    isCurrentEntry s key ve = true ↔ ∃ c, AL.get? s.map key = some c ∧ c.info = ve.info := by
  unfold isCurrentEntry
  cases AL.get? s.map key <;> simp

theorem _root_.MiniMoka.Sync.currentWeight_of_cur {p : Params} (hd10 : p.q.d10 = false)
    {s : SState} {key : Nat} {ve c : VE} (hc : AL.get? s.map key = some c) (hi : c.info = ve.info)
    (newW : Nat) :
    currentWeight p s key ve newW = p.weigh key c.val := by
  unfold currentWeight
  rw [hd10, hc]
  simp [hi]

/-- After the D7 repair `handle_upsert` goes on exactly when the map's entry of the key shares
the info of the queued entry. -/
theorem not_stale_iff {p : Params} (hd7 : p.q.d7 = false) {s : SState} {key : Nat} {ve : VE} :
    ¬ (!p.q.d7 && !isCurrentEntry s key ve) = true ↔
      ∃ c, AL.get? s.map key = some c ∧ c.info = ve.info := by
  rw [hd7, ← isCurrentEntry_iff]
  cases isCurrentEntry s key ve <;> decide

theorem handleUpsert_cases {p : Params} {s : SState} {key : Nat} {hash : UInt64} {ve : VE}
    {oldW newW : Nat} {C : SState → Prop} {s1 : SState} {nw : Nat}
    (hs1 : s1 = withInfo s ve.info (fun i => { i with dirty := false }))
    (hnw : nw = currentWeight p s key ve newW)
    (update : (getInfo s1 ve.info).admitted = true → C (applyUpdate p s1 ve oldW nw))
    (stale : (getInfo s1 ve.info).admitted = false →
      (!p.q.d7 && !isCurrentEntry s1 key ve) = true → C s1)
    (fits : (getInfo s1 ve.info).admitted = false →
      ¬ (!p.q.d7 && !isCurrentEntry s1 key ve) = true → hasEnoughCapacity p nw s1 = true →
      C (handleAdmit p s1 key hash ve nw))
    (oversize : (getInfo s1 ve.info).admitted = false →
      ¬ (!p.q.d7 && !isCurrentEntry s1 key ve) = true → ¬ hasEnoughCapacity p nw s1 = true →
      tooBig p nw = true → C (removeCandidate p s1 key ve))
    (contest : (getInfo s1 ve.info).admitted = false →
      ¬ (!p.q.d7 && !isCurrentEntry s1 key ve) = true → ¬ hasEnoughCapacity p nw s1 = true →
      ¬ tooBig p nw = true → C (admitOrReject p s1 key hash ve nw)) :
    C (handleUpsert p s key hash ve oldW newW) := by
  subst hs1 hnw
  unfold handleUpsert
  dsimp only
  -- `iteInduction`, not `split`, which would simplify all the branches at each of the four tests
  refine iteInduction update fun h1 => ?_
  have hna := eq_false_of_ne_true h1
  refine iteInduction (stale hna) fun h2 => ?_
  refine iteInduction (fits hna h2) fun h3 => ?_
  exact iteInduction (oversize hna h2 h3) (contest hna h2 h3)

theorem handleUpsert_safe {p : Params} (hq : NoQuirks p) {s : SState} (h : Safe s) (hm : MapOK s)
    (key : Nat) (hash : UInt64) (ve : VE) (oldW newW : Nat) :
    Safe (handleUpsert p s key hash ve oldW newW) := by
  have hd7 : p.q.d7 = false := by rw [hq]
  have h1 : Safe (withInfo s ve.info (fun i => { i with dirty := false })) :=
    h.withInfo _ _ rfl rfl rfl
  -- where `handle_upsert` goes on, the info is that of an entry of the map, hence allocated
  have hlt : ¬ (!p.q.d7 && !isCurrentEntry
      (withInfo s ve.info (fun i => { i with dirty := false })) key ve) = true →
      ve.info < s.nextId := fun c2 => by
    obtain ⟨c, hc, hci⟩ := (not_stale_iff hd7).mp c2
    rw [← hci]; exact hm.bound key c hc
  exact handleUpsert_cases rfl rfl (fun _ => applyUpdate_safe h1 _ _ _) (fun _ _ => h1)
    (fun hna c2 _ => (handleAdmit_safe h1 _ _ _ _ hna (hlt c2)).1)
    (fun _ _ _ _ => (removeCandidate_safe h1 _ _).1)
    (fun hna c2 _ _ => admitOrReject_safe hd7 h1 _ _ _ _ hna (hlt c2))

theorem applyWrite_safe {p : Params} (hq : NoQuirks p) {s : SState} (h : Safe s) (hm : MapOK s)
    (op : WOp) : Safe (applyWrite p s op) := by
  cases op with
  | upsert key hash ve oldW newW => exact handleUpsert_safe hq h hm _ _ _ _ _
  | remove key ve => exact (handleRemove_safe h ve).1

theorem safe_setWriteQ {s : SState} (h : Safe s) (q : List WOp) : Safe { s with writeQ := q } :=
  h.of_eq rfl rfl rfl (Nat.le_refl _) rfl rfl

theorem applyWrites_safe {p : Params} (hq : NoQuirks p) (n : Nat) (s : SState) (h : Safe s)
    (hm : MapOK s) : Safe (applyWrites p n s) := by
  refine (applyWrites_ind (C := fun t => Safe t ∧ MapOK t) ?_ n s ⟨h, hm⟩).1
  intro t op rest _ ⟨h, hm⟩
  have hm0 : MapOK { t with writeQ := rest } := ⟨hm.kn, hm.bound⟩
  exact ⟨applyWrite_safe hq (safe_setWriteQ h rest) hm0 op,
    hm0.frame0 (applyWrite_maint _ _ _).frame0⟩

theorem _root_.MiniMoka.Sync.Evict.safe {p : Params} {x : Bool} {a b : SState}
    (h : Evict p x a b) (hs : Safe a) : Safe b := by
  cases h with
  | expAo _ _ _ => exact (handleRemove_safe (safe_eraseMap hs _) _).1
  | expWo _ _ _ => exact (handleRemove_safe (safe_eraseMap hs _) _).1
  | lru _ _ _ _ => exact (handleRemove_safe (safe_eraseMap hs _) _).1
  | touch _ _ => exact moveToBackWoE_safe (moveToBackAoE_safe hs _) _
  | headAo hp _ => exact (moveNodeToBackAo_safe hs (by rw [hp]; exact List.mem_cons_self)).1
  | headWo hp _ => exact moveNodeToBackWo_safe hs (by rw [hp]; exact List.mem_cons_self)

theorem enableSketch_safe (p : Params) {s : SState} (h : Safe s) : Safe (enableSketch p s) := by
  unfold enableSketch
  split
  · exact h.of_eq rfl rfl rfl (Nat.le_refl _) rfl rfl
  · exact h

def SkSame (s s' : SState) : Prop := s'.sk = s.sk ∧ s'.skOn = s.skOn

theorem SkSame.refl (s : SState) : SkSame s s := ⟨rfl, rfl⟩

theorem SkSame.trans {a b c : SState} (h1 : SkSame a b) (h2 : SkSame b c) : SkSame a c :=
  ⟨h2.1.trans h1.1, h2.2.trans h1.2⟩

theorem skSame_fail (s : SState) (f : Fault) : SkSame s (s.fail f) := by
  unfold SState.fail; split <;> exact ⟨rfl, rfl⟩

theorem skSame_withInfo (s : SState) (i : Nat) (f : Info → Info) : SkSame s (withInfo s i f) :=
  ⟨rfl, rfl⟩

theorem skSame_set_cec_cws (s : SState) (x y : Nat) : SkSame s { s with cec := x, cws := y } :=
  ⟨rfl, rfl⟩
theorem skSame_set_writeQ (s : SState) (x : List WOp) : SkSame s { s with writeQ := x } :=
  ⟨rfl, rfl⟩

theorem _root_.MiniMoka.Sync.Prim.skSame {w : Bool} {s s' : SState} (h : Prim w s s') :
    SkSame s s' := by
  cases h with
  | fail f _ => exact skSame_fail _ f
  | _ => exact ⟨rfl, rfl⟩

theorem _root_.MiniMoka.Sync.Maint.skSame {w : Bool} {s s' : SState} (h : Maint w s s') :
    SkSame s s' :=
  h.induct SkSame.refl SkSame.trans Prim.skSame

theorem applyWrites_sk (p : Params) (n : Nat) (s : SState) : SkSame s (applyWrites p n s) :=
  applyWrites_ind (C := SkSame s)
    (fun t _ rest _ h => (h.trans (skSame_set_writeQ t rest)).trans (applyWrite_maint p _ _).skSame)
    n s (SkSame.refl s)

/-- `skOff`: while the sketch is off it is the default one, to which `SketchLaws.ensure` applies
when it is enabled. -/
structure SkOK (P : Sketch → Prop) (s : SState) : Prop where
  sk : P s.sk
  skOff : s.skOn = false → s.sk = {}

theorem SkOK.same {P : Sketch → Prop} {s s' : SState} (h : SkOK P s) (hs : SkSame s s') :
    SkOK P s' :=
  ⟨by rw [hs.1]; exact h.sk, fun ho => by rw [hs.1]; exact h.skOff (by rw [← hs.2]; exact ho)⟩

theorem sketchIncrement_spec {P : Sketch → Prop} (L : SketchLaws P) {p : Params} (hq : NoQuirks p)
    {s : SState} (hsk : P s.sk) (h : UInt64) :
    ∃ sk', sketchIncrement p s h = { s with sk := sk' } ∧ P sk' ∧ (s.sk = {} → sk' = {}) := by
  have hd5 : p.q.d5 = false := by rw [hq]
  obtain ⟨sk', h1, h2⟩ := L.incr s.sk h hsk
  refine ⟨sk', by simp [sketchIncrement, hd5, h1], h2, ?_⟩
  intro h0
  rw [h0, L.incrDefault h] at h1
  cases h1; rfl

theorem sketchIncrement_inv {P : Sketch → Prop} (L : SketchLaws P) {p : Params} (hq : NoQuirks p)
    {s : SState} (h : Safe s) (hk : SkOK P s) (x : UInt64) :
    Safe (sketchIncrement p s x) ∧ SkOK P (sketchIncrement p s x) := by
  obtain ⟨sk', e, h1, h2⟩ := sketchIncrement_spec L hq hk.sk x
  rw [e]
  exact ⟨h.of_eq rfl rfl rfl (Nat.le_refl _) rfl rfl, h1, fun ho => h2 (hk.skOff ho)⟩

theorem enableSketch_skOK {P : Sketch → Prop} (L : SketchLaws P) {p : Params}
    (hsm : SmallSketch p) {s : SState} (hk : SkOK P s) (hen : shouldEnableSketch p s = true) :
    SkOK P (enableSketch p s) := by
  have hoff : s.skOn = false := by
    unfold shouldEnableSketch at hen
    cases h : s.skOn with
    | false => rfl
    | true => simp [h] at hen
  have hsk0 := hk.skOff hoff
  unfold enableSketch
  cases hc : p.cap with
  | none => exact hk
  | some maxCap =>
    refine ⟨?_, fun h => by simp at h⟩
    simp only
    rw [hsk0]
    apply L.ensure
    split
    · exact hsm.cap maxCap hc
    · exact hsm.capF _ _ _

theorem applyRead_inv {P : Sketch → Prop} (L : SketchLaws P) {p : Params} (hq : NoQuirks p)
    {s : SState} (h : Safe s) (hk : SkOK P s) (op : ROp) :
    Safe (applyRead p s op) ∧ SkOK P (applyRead p s op) := by
  have hd6 : p.q.d6 = false := by rw [hq]
  cases op with
  | miss hash => exact sketchIncrement_inv L hq h hk hash
  | hit hash ve ts =>
    unfold applyRead
    simp only [hd6, Bool.false_eq_true, if_false]
    obtain ⟨h1, k1⟩ := sketchIncrement_inv L hq h hk hash
    generalize sketchIncrement p s hash = s1 at h1 k1 ⊢
    have h2 : Safe (if (getInfo s1 ve.info).la < ts
        then withInfo s1 ve.info (fun i => { i with la := ts }) else s1) ∧
        SkOK P (if (getInfo s1 ve.info).la < ts
        then withInfo s1 ve.info (fun i => { i with la := ts }) else s1) := by
      split
      · exact ⟨h1.withInfo _ _ rfl rfl rfl, k1.same (skSame_withInfo _ _ _)⟩
      · exact ⟨h1, k1⟩
    generalize (if (getInfo s1 ve.info).la < ts
        then withInfo s1 ve.info (fun i => { i with la := ts }) else s1) = s2 at h2 ⊢
    split
    · exact ⟨moveToBackAoE_safe h2.1 _, h2.2.same (moveToBackAoE_maint _ _).skSame⟩
    · exact h2

theorem applyReads_inv {P : Sketch → Prop} (L : SketchLaws P) {p : Params} (hq : NoQuirks p)
    (n : Nat) (s : SState) (h : Safe s) (hk : SkOK P s) :
    Safe (applyReads p n s) ∧ SkOK P (applyReads p n s) := by
  refine applyReads_ind (C := fun t => Safe t ∧ SkOK P t) ?_ n s ⟨h, hk⟩
  intro t op rest _ ⟨h, hk⟩
  have h0 : Safe { t with readQ := rest } := h.of_eq rfl rfl rfl (Nat.le_refl _) rfl rfl
  exact applyRead_inv L hq h0 ⟨hk.sk, hk.skOff⟩ op

structure RunInv (P : Sketch → Prop) (s : SState) : Prop where
  safe : Safe s
  map : MapOK s
  sk : SkOK P s

theorem RunInv.applyReads {P : Sketch → Prop} (L : SketchLaws P) {p : Params} (hq : NoQuirks p)
    {s : SState} (h : RunInv P s) (n : Nat) : RunInv P (Sync.applyReads p n s) :=
  have ⟨a, b⟩ := applyReads_inv L hq n s h.safe h.sk
  ⟨a, h.map.frame (applyReads_frame hq _ _), b⟩

theorem RunInv.applyWrites {P : Sketch → Prop} {p : Params} (hq : NoQuirks p) {s : SState}
    (h : RunInv P s) (n : Nat) : RunInv P (Sync.applyWrites p n s) :=
  ⟨applyWrites_safe hq _ _ h.safe h.map, h.map.frame0 (applyWrites_frame0 _ _ _),
    h.sk.same (applyWrites_sk _ _ _)⟩

theorem RunInv.enableSketch {P : Sketch → Prop} (L : SketchLaws P) {p : Params}
    (hsm : SmallSketch p) {s : SState} (h : RunInv P s) (hen : shouldEnableSketch p s = true) :
    RunInv P (Sync.enableSketch p s) :=
  ⟨enableSketch_safe p h.safe, h.map.frame0 (enableSketch_frame0 _ _),
    enableSketch_skOK L hsm h.sk hen⟩

theorem syncPass_inv {P : Sketch → Prop} (L : SketchLaws P) {p : Params} (hq : NoQuirks p)
    (hsm : SmallSketch p) (s : SState) (h : RunInv P s) : RunInv P (syncPass p s) :=
  syncPass_stages (Q := RunInv P) (h.applyReads L hq _) (fun _ h => h.applyWrites hq _)
    (fun _ h hen => h.enableSketch L hsm hen)

theorem _root_.MiniMoka.Sync.Evict.runInv {P : Sketch → Prop} {p : Params} {x : Bool}
    {a b : SState} (h : Evict p x a b) (hr : RunInv P a) : RunInv P b :=
  ⟨h.safe hr.safe, hr.map.frame0 h.maint.frame0, hr.sk.same h.maint.skSame⟩

structure TopCore (P : Sketch → Prop) (s : SState) : Prop where
  nodes : NodesInvTop s
  map : MapOK s
  sk : SkOK P s

structure TopInv (P : Sketch → Prop) (s : SState) : Prop extends TopCore P s where
  nofault : s.fault = none

theorem TopCore.of_eq {P : Sketch → Prop} {s s' : SState} (h : TopCore P s)
    (hi : s'.infos = s.infos) (hp : s'.prob = s.prob) (hw : s'.wo = s.wo)
    (hn : s'.nextId = s.nextId) (hc : s'.ec = s.ec) (hm : s'.map = s.map)
    (hsk : s'.sk = s.sk) (hon : s'.skOn = s.skOn) : TopCore P s' := by
  refine ⟨⟨h.nodes.toNodesCore.of_eq hi hp hw (Nat.le_of_eq hn.symm), ?_⟩, ⟨?_, ?_⟩,
    h.sk.same ⟨hsk, hon⟩⟩
  · rw [hc, hp]; exact h.nodes.count
  · rw [hm]; exact h.map.kn
  · rw [hm, hn]; exact h.map.bound

theorem TopInv.of_eq {P : Sketch → Prop} {s s' : SState} (h : TopInv P s)
    (hi : s'.infos = s.infos) (hp : s'.prob = s.prob) (hw : s'.wo = s.wo)
    (hn : s'.nextId = s.nextId) (hc : s'.ec = s.ec) (hm : s'.map = s.map)
    (hsk : s'.sk = s.sk) (hon : s'.skOn = s.skOn) (hf : s'.fault = s.fault) : TopInv P s' :=
  ⟨h.toTopCore.of_eq hi hp hw hn hc hm hsk hon, by rw [hf]; exact h.nofault⟩

theorem TopInv.run {P : Sketch → Prop} {s : SState} (h : TopInv P s) :
    RunInv P { s with cec := s.ec, cws := s.ws } :=
  ⟨⟨⟨h.nodes.toNodesCore.of_eq rfl rfl rfl (Nat.le_refl _), h.nodes.count⟩, h.nofault⟩,
    ⟨h.map.kn, h.map.bound⟩, ⟨h.sk.sk, h.sk.skOff⟩⟩

theorem RunInv.top {P : Sketch → Prop} {s : SState} (h : RunInv P s) :
    TopInv P { s with ec := s.cec, ws := s.cws } :=
  ⟨⟨⟨h.safe.toNodesCore.of_eq rfl rfl rfl (Nat.le_refl _), h.safe.count⟩,
    ⟨h.map.kn, h.map.bound⟩, ⟨h.sk.sk, h.sk.skOff⟩⟩, h.safe.nofault⟩

theorem syncRun_inv {P : Sketch → Prop} (L : SketchLaws P) {p : Params} (hq : NoQuirks p)
    (hsm : SmallSketch p) {s : SState} (h : TopInv P s) : TopInv P (syncRun p s) :=
  syncRun_stages (P := RunInv P) (Q := RunInv P) h.run (syncPass_inv L hq hsm)
    (fun t h => (evictExpired_evicts (x := true) t).keeps Evict.runInv h)
    (fun t h _ => (evictLruLoop_evicts _ t _ _).keeps Evict.runInv h) (fun _ h => h.top)

theorem TopInv.withInfo {P : Sketch → Prop} {s : SState} (h : TopInv P s) (i : Nat)
    (f : Info → Info) (hao : (f (getInfo s i)).ao = (getInfo s i).ao)
    (hwo : (f (getInfo s i)).wo = (getInfo s i).wo)
    (had : (f (getInfo s i)).admitted = (getInfo s i).admitted) : TopInv P (withInfo s i f) :=
  ⟨⟨⟨h.nodes.toNodesCore.withInfo i f hao hwo had, h.nodes.count⟩, ⟨h.map.kn, h.map.bound⟩,
    ⟨h.sk.sk, h.sk.skOff⟩⟩, h.nofault⟩

theorem refreshInfo_inv {P : Sketch → Prop} {p : Params} {s : SState} (h : TopInv P s)
    (i ts w : Nat) : TopInv P (refreshInfo p s i ts w) :=
  h.withInfo _ _ rfl rfl rfl

theorem mapOK_put {s : SState} (h : MapOK s) (k : Nat) (ve : VE) (n : Nat)
    (hve : ve.info < n) (hn : s.nextId ≤ n) (m : List (Nat × VE)) (hm : m = AL.put s.map k ve)
    {s' : SState} (hs'm : s'.map = m) (hs'n : s'.nextId = n) : MapOK s' := by
  refine ⟨?_, ?_⟩
  · rw [hs'm, hm]; exact AL.nodup_put k ve h.kn
  · intro k' ve' hk
    rw [hs'm, hm, AL.get?_put] at hk
    rw [hs'n]
    by_cases e : k = k'
    · rw [if_pos e] at hk; cases hk; exact hve
    · rw [if_neg e] at hk; exact Nat.lt_of_lt_of_le (h.bound k' ve' hk) hn

theorem TopInv.put {P : Sketch → Prop} {s : SState} (h : TopInv P s) (k : Nat) (ve : VE) (n : Nat)
    (hve : ve.info < n) (hn : s.nextId ≤ n) :
    TopInv P { s with map := AL.put s.map k ve, nextId := n } :=
  ⟨⟨⟨h.nodes.toNodesCore.of_eq rfl rfl rfl hn, h.nodes.count⟩,
    mapOK_put h.map k ve n hve hn _ rfl rfl rfl, ⟨h.sk.sk, h.sk.skOff⟩⟩, h.nofault⟩

theorem TopInv.eraseMap {P : Sketch → Prop} {s : SState} (h : TopInv P s) (k : Nat) :
    TopInv P { s with map := AL.erase s.map k } :=
  ⟨⟨⟨h.nodes.toNodesCore.of_eq rfl rfl rfl (Nat.le_refl _), h.nodes.count⟩,
    h.map.frame0 (frame0_erase s k), ⟨h.sk.sk, h.sk.skOff⟩⟩, h.nofault⟩

/-- The info `insert` allocates for a new key: `nextId` is unused, so its present (default)
info owns nothing either. -/
theorem TopInv.newInfo {P : Sketch → Prop} {s : SState} (h : TopInv P s) (x : Info)
    (hao : x.ao = none) (hwo : x.wo = none) (had : x.admitted = false) :
    TopInv P (Sync.withInfo s s.nextId fun _ => x) := by
  have hna := h.nodes.infoFresh s.nextId (Nat.le_refl _)
  exact h.withInfo _ _ (hao.trans (h.nodes.toNodesCore.notAdm_ao hna).symm)
    (hwo.trans (h.nodes.toNodesCore.notAdm_wo hna).symm) (had.trans hna.symm)

theorem insertMap_top {P : Sketch → Prop} {p : Params} {s : SState} (h : TopInv P s)
    (k v : Nat) : TopInv P (ConcS.insertMap p s k v).1 := by
  obtain ⟨ve, inf, n, oldW, e, hcase⟩ := ConcS.insertMap_eq p s k v
  rw [e]
  rcases hcase with ⟨old, hg, rfl, rfl, rfl, _⟩ | ⟨_, rfl, rfl, rfl, _⟩
  · exact (refreshInfo_inv h old.info s.now (p.weigh k v)).put k _ _
      (Nat.lt_succ_of_lt (h.map.bound k old hg)) (Nat.le_succ _)
  · exact (h.newInfo _ rfl rfl rfl).put k _ _ (Nat.lt_add_of_pos_right (by decide))
      (Nat.le_add_right _ 2)

theorem invalidateMap_top {P : Sketch → Prop} {s : SState} (h : TopInv P s) (k : Nat) :
    TopInv P (ConcS.invalidateMap s k).1 := by
  unfold ConcS.invalidateMap
  split
  · exact h
  · exact h.eraseMap k

theorem get_fst (p : Params) (s : SState) (k : Nat) :
    ∃ op, (get p s k).1 = recordReadOp p s op :=
  ⟨_, ConcS.get_fst_eq p s k⟩

theorem topInv_callInv {P : Sketch → Prop} (L : SketchLaws P) {p : Params} (hq : NoQuirks p)
    (hsm : SmallSketch p) : CallInv p (fun _ s => TopInv P s) where
  flags _ _ h := h.of_eq rfl rfl rfl rfl rfl rfl rfl rfl rfl
  run h := syncRun_inv L hq hsm h
  enqW h := h.of_eq rfl rfl rfl rfl rfl rfl rfl rfl rfl
  enqR _ h := h.of_eq rfl rfl rfl rfl rfl rfl rfl rfl rfl
  insMap k v _ h := insertMap_top h k v
  invMap k _ _ h _ := invalidateMap_top h k
  invAll h := h.of_eq rfl rfl rfl rfl rfl rfl rfl rfl rfl
  adv _ h := h.of_eq rfl rfl rfl rfl rfl rfl rfl rfl rfl

theorem step_inv {P : Sketch → Prop} (L : SketchLaws P) {p : Params} (hq : NoQuirks p)
    (hsm : SmallSketch p) {s : SState} (h : TopInv P s) (hqi : QInv s) (op : Op) :
    TopInv P (step p s op).1 :=
  (topInv_callInv L hq hsm).step hqi h op

/-- An observation that is not an internal panic, except possibly `hang` (the retry loop of
`schedule_write_op`, treated in `Lemmas/SyncQueues.lean`). -/
def okObs : Obs → Bool
  | .panic .hang => true
  | .panic _ => false
  | _ => true

def noPanicButHang (t : List (Op × Obs)) : Bool := t.all fun x => okObs x.2

theorem init_inv {P : Sketch → Prop} (L : SketchLaws P) : TopInv P {} := by
  have hg : ∀ i, getInfo {} i = {} := fun _ => rfl
  refine ⟨⟨⟨⟨?_, ?_, ?_, ?_, ?_, ?_, ?_, ?_, ?_, ?_, ?_⟩, rfl⟩, ⟨?_, ?_⟩, ⟨L.init, fun _ => rfl⟩⟩, rfl⟩
  · exact List.nodup_nil
  · exact List.nodup_nil
  · intro n hn; cases hn
  · intro n hn; cases hn
  · intro n hn; cases hn
  · intro i id hx; rw [hg] at hx; cases hx
  · intro i; rw [hg]; simp
  · intro n hn; cases hn
  · intro i id hx; rw [hg] at hx; cases hx
  · intro i; rw [hg]; simp
  · intro i _; rw [hg]
  · exact List.nodup_nil
  · intro k ve hk; cases hk

/-- A panic leaves its fault in the state, which the invariant excludes. -/
theorem run_all {P : Sketch → Prop} (L : SketchLaws P) {p : Params} (hq : NoQuirks p)
    (hsm : SmallSketch p) (h : List Op) (s : SState) (hs : TopInv P s) (hqi : QInv s) :
    noPanicButHang (run p s h) = true := by
  refine (isRun p).all (I := fun s => TopInv P s ∧ QInv s)
    (fun s op hi => ⟨step_inv L hq hsm hi.1 hi.2 op, (step_qinv p hi.2 op).1⟩)
    (fun x => okObs x.2) (fun s op hi => ?_) h s ⟨hs, hqi⟩
  show okObs (step p s op).2 = true
  cases ho : (step p s op).2 with
  | panic f =>
    have := step_panic p s op f ho
    rw [(step_inv L hq hsm hi.1 hi.2 op).nofault] at this
    cases this
  | _ => rfl

/-- `stateAfter` (`SyncQueues.lean`) under the name the C08 results are stated with. -/
def finalState (p : Params) : SState → List Op → SState
  | s, [] => s
  | s, op :: rest => finalState p (step p s op).1 rest

theorem finalState_eq_stateAfter (p : Params) :
    ∀ (h : List Op) (s : SState), finalState p s h = stateAfter p s h
  | [], _ => rfl
  | _ :: rest, _ => finalState_eq_stateAfter p rest _

theorem finalState_inv {P : Sketch → Prop} (L : SketchLaws P) {p : Params} (hq : NoQuirks p)
    (hsm : SmallSketch p) (h : List Op) {s : SState} (hs : TopInv P s) (hqi : QInv s) :
    TopInv P (finalState p s h) := by
  rw [finalState_eq_stateAfter]
  exact (stateAfter_induct (I := fun s => TopInv P s ∧ QInv s)
    (fun s op hi => ⟨step_inv L hq hsm hi.1 hi.2 op, (step_qinv p hi.2 op).1⟩) h ⟨hs, hqi⟩).1

theorem unlinkAo_nofault {s : SState} (h : Safe s) (i : Nat) : (unlinkAo s i).fault = none := by
  cases hx : (getInfo s i).ao with
  | none => simp only [unlinkAo, hx]; exact h.nofault
  | some id =>
    obtain ⟨n, hf, _⟩ := h.toNodesCore.aoFind hx
    rw [unlinkAo_eq hx hf]; exact h.nofault

theorem unlinkWo_nofault {s : SState} (h : Safe s) (i : Nat) : (unlinkWo s i).fault = none := by
  cases hx : (getInfo s i).wo with
  | none => rw [unlinkWo_none hx]; exact h.nofault
  | some id =>
    obtain ⟨n, hf, _⟩ := h.toNodesCore.woFind hx
    rw [unlinkWo_eq hx hf]; exact h.nofault

end Nodes
end Sync
end MiniMoka
