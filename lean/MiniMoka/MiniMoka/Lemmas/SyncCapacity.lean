/-
  The capacity after a maintenance run of the one-thread model, from the invariant of
  `SyncCounters.lean`, and the walk of the C04 window oracle along a trace.  With nothing pending
  (`Q = []`) every node of the access-order list belongs to the map's entry of its key and no entry
  is dirty, so every iteration of the LRU eviction loop evicts the head of the list: the loop stops
  when enough weight has been evicted, when the list is empty, or when its batch
  (`SYNC_EVICTION_BATCH_SIZE` iterations) is used up.
-/
import MiniMoka.Lemmas.SyncCounters

namespace MiniMoka
namespace Sync
namespace Counters

open Nodes

theorem frame_map_length {s s' : SState} (hf : Frame s s') (hkn : (AL.keys s.map).Nodup) :
    s'.map.length ≤ s.map.length := by
  have h1 : (AL.keys s'.map).length ≤ (AL.keys s.map).length := by
    refine (hf.kn hkn).length_le_of_subset ?_
    intro k hk
    have := (AL.get?_isSome_iff s'.map k).mpr hk
    cases hx : AL.get? s'.map k with
    | none => rw [hx] at this; cases this
    | some ve => exact AL.mem_keys_of_get? (hf.mapSub hkn k ve hx)
  rw [AL.keys_eq_map, AL.keys_eq_map, List.length_map, List.length_map] at h1
  exact h1

theorem evictLruLoop_step {p : Params} (hq : NoQuirks p) {s : SState} (h : G p s [])
    (fuel wte ev : Nat) (hlt : ¬ ev ≥ wte) {n : AoNode} {rest : List AoNode}
    (hp : s.prob = n :: rest) :
    ∃ ve, AL.get? s.map n.key = some ve ∧ ve.info = n.info ∧
      evictLruLoop p (fuel + 1) s wte ev =
        evictLruLoop p fuel (handleRemove { s with map := AL.erase s.map n.key } ve) wte
          (ev + (getInfo s ve.info).weight) := by
  have hd7 : p.q.d7 = false := by rw [hq]
  have hn : n ∈ s.prob := by rw [hp]; exact List.mem_cons_self
  obtain ⟨ve, hve, hvi⟩ : ∃ ve, AL.get? s.map n.key = some ve ∧ ve.info = n.info := by
    rcases h.inv.nodeCur n hn with ⟨k, ve, h1, h2⟩ | ⟨_, _, hq', _⟩
    · have a1 := h.inv.mapKey k ve h1
      have a2 := h.inv.nodeKey n hn
      rw [h2, a2] at a1
      rw [← a1] at h1
      exact ⟨ve, h1, h2⟩
    · cases hq'
  have hnd : (getInfo s n.info).dirty = false := by
    cases hx : (getInfo s n.info).dirty with
    | false => rfl
    | true =>
      obtain ⟨_, _, _, _, _, hq', _⟩ := h.inv.dirtyQ n.key ve hve (by rw [hvi]; exact hx)
      cases hq'
  have hE : entryOfNode p s n.key n.info = some ve := by
    unfold entryOfNode
    rw [hve]
    dsimp only
    rw [hd7, Bool.false_or, hvi, if_pos (beq_self_eq_true _)]
  refine ⟨ve, hve, hvi, ?_⟩
  rw [evictLruLoop, if_neg hlt]
  simp only [hp]
  rw [hnd]
  simp only [Bool.false_eq_true, if_false]
  rw [hE]
  dsimp only
  rw [hvi, if_pos (beq_self_eq_true _)]
  dsimp only
  rw [hvi]

/-- The measure of the third case (the batch is used up) is the length of the map, of which every
iteration removes one entry. -/
theorem evictLruLoop_progress {p : Params} (hq : NoQuirks p) (wte : Nat) :
    ∀ (fuel : Nat) (s : SState) (ev : Nat), G p s [] →
      G p (evictLruLoop p fuel s wte ev) [] ∧
      (wte ≤ ev + (s.cws - (evictLruLoop p fuel s wte ev).cws) ∨
        (evictLruLoop p fuel s wte ev).prob = [] ∨
        (evictLruLoop p fuel s wte ev).map.length + fuel ≤ s.map.length) ∧
      (evictLruLoop p fuel s wte ev).cws ≤ s.cws := by
  intro fuel
  induction fuel with
  | zero =>
    intro s ev h
    exact ⟨h, Or.inr (Or.inr (Nat.le_refl _)), Nat.le_refl _⟩
  | succ fuel ih =>
    intro s ev h
    by_cases hlt : ev ≥ wte
    · have : evictLruLoop p (fuel + 1) s wte ev = s := by
        rw [evictLruLoop, if_pos hlt]
      rw [this]
      exact ⟨h, Or.inl (by omega), Nat.le_refl _⟩
    · cases hp : s.prob with
      | nil =>
        have : evictLruLoop p (fuel + 1) s wte ev = s := by
          rw [evictLruLoop, if_neg hlt]
          simp only [hp]
        rw [this]
        exact ⟨h, Or.inr (Or.inl hp), Nat.le_refl _⟩
      | cons n rest =>
        obtain ⟨ve, hve, hvi, heq⟩ := evictLruLoop_step hq h fuel wte ev hlt hp
        rw [heq]
        have hn : n ∈ s.prob := by rw [hp]; exact List.mem_cons_self
        have hadm : (getInfo s ve.info).admitted = true := by rw [hvi]; exact h.safe.probAdm hn
        have hs0 := safe_eraseMap h.safe n.key
        have hr := handleRemove_removed hs0 ve
        have hw : (getInfo s ve.info).weight ≤ s.cws := by
          have : wsumOf { s with map := AL.erase s.map n.key } = wsumOf s := rfl
          rw [h.inv.wsum, ← this, handleRemove_wsum hs0 ve hadm]
          exact Nat.le_add_right _ _
        have hc1 : (handleRemove { s with map := AL.erase s.map n.key } ve).cws =
            s.cws - (getInfo s ve.info).weight := by
          exact hr.cws.trans (if_pos hadm)
        have hm1 : (handleRemove { s with map := AL.erase s.map n.key } ve).map.length + 1 =
            s.map.length := by
          rw [hr.map]; exact AL.length_erase_of_get? hve
        obtain ⟨g1, _⟩ := evict_g h hve
        obtain ⟨i1, i2, i3⟩ := ih _ (ev + (getInfo s ve.info).weight) g1
        refine ⟨i1, ?_, by omega⟩
        rcases i2 with i2 | i2 | i2
        · exact Or.inl (by omega)
        · exact Or.inr (Or.inl i2)
        · exact Or.inr (Or.inr (by omega))

/-- No `QInv` is asked, so that the many-thread model `ConcS` can use it too. -/
theorem syncRun_weight_gen {p : Params} (hq : NoQuirks p) (hsm : SmallSketch p) {s : SState}
    (ht : TopInv Sketch.Good s) (hc : CTop p s (s.writeQ ++ [])) {c : Nat}
    (hcap : p.cap = some c) :
    (syncRun p s).ws ≤ c ∨
      (syncRun p s).map.length + Gen.SYNC_EVICTION_BATCH_SIZE ≤ s.map.length := by
  rw [syncRun_eq]
  dsimp only
  have g1 := (syncPass_g sketchLaws hq hsm [] _ ⟨ht.run, hc⟩).g
  have hq1 := (syncPass_queues p { s with cec := s.ec, cws := s.ws }).1
  have hf1 := syncPass_frame hq { s with cec := s.ec, cws := s.ws }
  generalize syncPass p { s with cec := s.ec, cws := s.ws } = s1 at g1 hq1 hf1 ⊢
  rw [hq1, List.nil_append] at g1
  have hl1 : s1.map.length ≤ s.map.length :=
    frame_map_length (s := { s with cec := s.ec, cws := s.ws }) hf1 ht.map.kn
  obtain ⟨g2, r2⟩ := runExpiry_rem g1
  have hl2 := frame_map_length r2.frame0.toFrame g1.map.kn
  generalize runExpiry p s1 = s2 at g2 hl2 ⊢
  have hwte : weightsToEvict p s2 = s2.cws - c := weightsToEvict_some hcap s2
  generalize weightsToEvict p s2 = W at hwte ⊢
  by_cases hpos : W > 0
  · rw [if_pos hpos]
    obtain ⟨g3, i2, i3⟩ := evictLruLoop_progress hq W Gen.SYNC_EVICTION_BATCH_SIZE s2 0 g2
    show (evictLruLoop p Gen.SYNC_EVICTION_BATCH_SIZE s2 W 0).cws ≤ c ∨
      (evictLruLoop p Gen.SYNC_EVICTION_BATCH_SIZE s2 W 0).map.length +
        Gen.SYNC_EVICTION_BATCH_SIZE ≤ s.map.length
    rcases i2 with i2 | i2 | i2
    · left; omega
    · left
      rw [g3.inv.wsum]
      unfold wsumOf
      rw [i2]
      exact Nat.zero_le _
    · right; omega
  · rw [if_neg hpos]
    left
    show s2.cws ≤ c
    rw [hwte] at hpos
    omega

theorem syncRun_weight {p : Params} (hq : NoQuirks p) (hsm : SmallSketch p) {s : SState}
    (h : TInv p s []) {c : Nat} (hcap : p.cap = some c) :
    (syncRun p s).ws ≤ c ∨
      (syncRun p s).map.length + Gen.SYNC_EVICTION_BATCH_SIZE ≤ s.map.length :=
  syncRun_weight_gen hq hsm h.top h.c hcap

theorem step_map_length {p : Params} (hq : NoQuirks p) {s : SState} (hqi : QInv s)
    (hkn : (AL.keys s.map).Nodup) (hnf : s.fault = none) (op : Op) :
    (step p s op).1.map.length ≤ s.map.length + (match op with | .ins _ _ => 1 | _ => 0) := by
  rw [step_fst hnf]
  cases op with
  | ins k v =>
    show (insert p s k v).map.length ≤ s.map.length + 1
    rw [ConcS.insert_eq]
    obtain ⟨ve, _, _, _, e, _⟩ := ConcS.insertMap_eq p s k v
    rw [e]
    refine Nat.le_trans (frame_map_length (scheduleWriteOp_frame hq 3 _ _) (AL.nodup_put k ve hkn)) ?_
    show (AL.put s.map k ve).length ≤ _
    cases hg : AL.get? s.map k with
    | some old => rw [AL.length_put_of_some _ hg]; exact Nat.le_succ _
    | none => rw [AL.length_put_of_none _ hg]; exact Nat.le_refl _
  | get k =>
    show (get p s k).1.map.length ≤ s.map.length
    obtain ⟨rop, e⟩ := get_fst p s k
    rw [e, recordReadOp_enqueues p hqi]
    show (housekeepR p s).map.length ≤ s.map.length
    exact frame_map_length (housekeepR_frame hq s) hkn
  | inv k =>
    show (invalidate p s k).map.length ≤ s.map.length
    unfold invalidate
    split
    · exact Nat.le_refl _
    · rename_i ve hg
      refine Nat.le_trans (frame_map_length (scheduleWriteOp_frame hq 3 _ _) (AL.nodup_erase k hkn)) ?_
      show (AL.erase s.map k).length ≤ _
      rw [← AL.length_erase_of_get? hg]
      exact Nat.le_succ _
  | sync => exact frame_map_length (syncRun_frame hq s) hkn
  | _ => exact Nat.le_refl _

theorem run_snap_uncons {p : Params} {s : SState} {h : List Op} {sn : Snap} {t : List (Op × Obs)}
    (hf : s.fault = none) (e : run p s h = (.snap, .snap sn) :: t) :
    sn = snapshot p s ∧ ∃ h', run p s h' = t := by
  obtain ⟨op, h', rfl, e1, e2⟩ := (isRun p).eq_cons e
  injection e1 with a b
  subst a
  rw [step_fst_ite, hf] at e2
  exact ⟨step_snap p s _ sn b.symm, h', e2⟩

theorem run_sync_uncons {p : Params} {s : SState} {h : List Op} {o : Obs} {t : List (Op × Obs)}
    (hf : s.fault = none) (hf' : (syncRun p s).fault = none) (e : run p s h = (.sync, o) :: t) :
    ∃ h', run p (syncRun p s) h' = t := by
  obtain ⟨op, h', rfl, e1, e2⟩ := (isRun p).eq_cons e
  injection e1 with a _
  subst a
  rw [step_sync_eq hf hf'] at e2
  exact ⟨h', e2⟩

theorem snapshot_count {p : Params} {s : SState} (h : TInv p s []) :
    decide ((snapshot p s).entries.length ≤ (snapshot p s).ec + (snapshot p s).wq + 1) = true := by
  rw [decide_eq_true_eq, (shows p s).length_entries]
  exact Nat.le_succ_of_le (map_length_le h)

/-- The weight clause of `Spec.boundC04SyncGo` at the snapshot that follows `sync`; `N` is the
oracle's counter, a bound on the number of entries before the run. -/
theorem snapshot_weight_after_sync {p : Params} (hq : NoQuirks p) (hsm : SmallSketch p)
    {s : SState} (h : TInv p s []) {c : Nat} (hcap : p.cap = some c) (N : Nat)
    (hN : s.map.length ≤ N) :
    (!((snapshot p (syncRun p s)).rq == 0 && (snapshot p (syncRun p s)).wq == 0) ||
      decide (Spec.snapWeight (snapshot p (syncRun p s)) ≤ c) ||
      decide ((snapshot p (syncRun p s)).entries.length + Gen.SYNC_EVICTION_BATCH_SIZE ≤ N))
      = true := by
  have h' := sync_t hq hsm h
  obtain ⟨_, q2, _, _, _⟩ := quiescent h' (syncRun_writeQ p s)
  have hw : Spec.snapWeight (snapshot p (syncRun p s)) = (syncRun p s).ws := by
    unfold Spec.snapWeight
    rw [(shows p _).sum_entries, q2]
    rfl
  rw [hw, (shows p _).length_entries]
  rcases syncRun_weight hq hsm h hcap with h1 | h1
  · rw [decide_eq_true h1]; simp
  · rw [decide_eq_true (Nat.le_trans h1 hN)]; simp

theorem boundC04SyncGo_run {p : Params} (hq : NoQuirks p) (hsm : SmallSketch p) {c : Nat}
    (hcap : p.cap = some c) : ∀ (n : Nat) (t : Spec.Trace) (s : SState) (h : List Op),
      TInv p s [] → s.map.length ≤ n → run p s h = t → Spec.boundC04SyncGo c n t = true := by
  intro n t
  fun_induction Spec.boundC04SyncGo c n t with
  | case1 n mid after tail ih =>
    intro s h hs hn e
    have hs' := sync_t hq hsm hs
    obtain ⟨rfl, _, e1⟩ := run_snap_uncons hs.top.nofault e
    obtain ⟨_, e2⟩ := run_sync_uncons hs.top.nofault hs'.top.nofault e1
    obtain ⟨rfl, _, _⟩ := run_snap_uncons hs'.top.nofault e2
    have hlen : (syncRun p s).map.length ≤ n :=
      Nat.le_trans (frame_map_length (syncRun_frame hq s) hs.top.map.kn) hn
    rw [Bool.and_eq_true, Bool.and_eq_true]
    refine ⟨⟨snapshot_count hs, ?_⟩, ih _ _ hs' hlen e2⟩
    rw [(shows p s).length_entries]
    exact snapshot_weight_after_sync hq hsm hs hcap _ (Nat.le_refl _)
  | case2 n after tail ih =>
    intro s h hs hn e
    have hs' := sync_t hq hsm hs
    obtain ⟨_, e2⟩ := run_sync_uncons hs.top.nofault hs'.top.nofault e
    obtain ⟨rfl, _, _⟩ := run_snap_uncons hs'.top.nofault e2
    have hlen : (syncRun p s).map.length ≤ n :=
      Nat.le_trans (frame_map_length (syncRun_frame hq s) hs.top.map.kn) hn
    rw [Bool.and_eq_true]
    exact ⟨snapshot_weight_after_sync hq hsm hs hcap n hn, ih _ _ hs' hlen e2⟩
  | case3 n sn rest _ ih =>
    intro s h hs hn e
    obtain ⟨rfl, _, e1⟩ := run_snap_uncons hs.top.nofault e
    rw [Bool.and_eq_true]
    exact ⟨snapshot_count hs, ih _ _ hs hn e1⟩
  | case4 n k v o rest ih =>
    intro s h hs hn e
    obtain ⟨op1, h1, rfl, e1, e1'⟩ := (isRun p).eq_cons e
    injection e1 with a1 _
    subst a1
    refine ih _ _ (step_t hq hsm hs _) ?_ e1'
    exact Nat.le_trans (step_map_length hq hs.q hs.top.map.kn hs.top.nofault (.ins k v)) (Nat.succ_le_succ hn)
  | case5 n head rest _ _ _ hins ih =>
    intro s h hs hn e
    obtain ⟨op1, h1, rfl, e1, e1'⟩ := (isRun p).eq_cons e
    refine ih _ _ (step_t hq hsm hs _) ?_ e1'
    have := step_map_length hq hs.q hs.top.map.kn hs.top.nofault op1
    cases op1 with
    | ins k v => exact absurd e1 (hins k v _)
    | _ => exact Nat.le_trans this hn
  | case6 => intros; rfl

end Counters
end Sync
end MiniMoka
