/-
  Lists of records addressed by a numeric id: lookup is `List.find?`, removal `List.eraseP`.
  What the core library does not say about the two when the ids are pairwise distinct, for an
  arbitrary id function; the node lists of both cache models and the association lists of
  `Basic` (by key: `Lemmas/AL.lean`) are instances.
-/
import MiniMoka.Basic

namespace MiniMoka

section ById

variable {α : Type} (f : α → Nat)

theorem find?_of_mem_nodup {l : List α} {n : α} (hn : (l.map f).Nodup) (h : n ∈ l) :
    l.find? (f · == f n) = some n := by
  induction l with
  | nil => cases h
  | cons a l ih =>
    rw [List.map_cons, List.nodup_cons] at hn
    rcases List.mem_cons.mp h with rfl | h
    · simp
    · have : f a ≠ f n := fun e => hn.1 (e ▸ List.mem_map_of_mem h)
      simp [this, ih hn.2 h]

theorem ne_of_mem_eraseP_nodup {l : List α} {id : Nat} {n : α} (hn : (l.map f).Nodup)
    (h : n ∈ l.eraseP (f · == id)) : f n ≠ id := by
  induction l with
  | nil => cases h
  | cons a l ih =>
    rw [List.map_cons, List.nodup_cons] at hn
    by_cases ha : f a = id
    · simp only [List.eraseP_cons, ha, beq_self_eq_true, cond_true] at h
      exact fun e => hn.1 (ha ▸ e ▸ List.mem_map_of_mem h)
    · simp only [List.eraseP_cons, beq_eq_false_iff_ne.mpr ha, cond_false, List.mem_cons] at h
      rcases h with rfl | h
      · exact ha
      · exact ih hn.2 h

theorem find?_eraseP_of_ne {l : List α} {id id' : Nat} (h : id ≠ id') :
    (l.eraseP (f · == id')).find? (f · == id) = l.find? (f · == id) := by
  induction l with
  | nil => rfl
  | cons a l ih =>
    by_cases ha : f a = id'
    · simp [ha, Ne.symm h]
    · simp [List.find?_cons, ha, ih]

theorem find?_eraseP_self {l : List α} (id : Nat) (hn : (l.map f).Nodup) :
    (l.eraseP (f · == id)).find? (f · == id) = none :=
  List.find?_eq_none.mpr fun _ hm => by simpa using ne_of_mem_eraseP_nodup f hn hm

theorem nodup_eraseP_append {l : List α} {id : Nat} {n : α} (hn : (l.map f).Nodup)
    (h : l.find? (f · == id) = some n) : ((l.eraseP (f · == id) ++ [n]).map f).Nodup := by
  have hid : f n = id := by simpa using List.find?_some h
  rw [List.map_append, List.nodup_append]
  refine ⟨(List.eraseP_sublist.map f).nodup hn, by simp, ?_⟩
  intro a ha b hb
  obtain ⟨m, hm, rfl⟩ := List.mem_map.mp ha
  rw [List.map_singleton, List.mem_singleton] at hb
  rw [hb, hid]
  exact ne_of_mem_eraseP_nodup f hn hm

theorem find?_eraseP_append {l : List α} {id : Nat} {n : α} (id' : Nat) (hn : (l.map f).Nodup)
    (h : l.find? (f · == id) = some n) :
    (l.eraseP (f · == id) ++ [n]).find? (f · == id') = l.find? (f · == id') := by
  have hid : f n = id := by simpa using List.find?_some h
  rw [List.find?_append]
  by_cases e : id' = id
  · subst e
    rw [find?_eraseP_self f id' hn, h]
    simp [hid]
  · rw [find?_eraseP_of_ne f e]
    cases List.find? (f · == id') l with
    | some m => rfl
    | none => simp [hid, Ne.symm e]

end ById

theorem perm_cons_eraseP_of_find? {α : Type} {q : α → Bool} {l : List α} {n : α}
    (h : l.find? q = some n) : l.Perm (n :: l.eraseP q) := by
  induction l with
  | nil => cases h
  | cons a l ih =>
    rw [List.find?_cons] at h
    rw [List.eraseP_cons]
    cases hq : q a with
    | true =>
      rw [hq] at h
      cases h
      exact List.Perm.refl _
    | false =>
      rw [hq] at h
      exact ((ih h).cons a).trans (List.Perm.swap n a _)

end MiniMoka
