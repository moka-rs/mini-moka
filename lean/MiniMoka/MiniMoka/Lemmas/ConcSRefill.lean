/-
  What one thread does after any many-thread phase (`Props/ConcSRefill.lean`): a call of the
  one-thread model leads from a reachable state in which nobody holds an operation to such a
  state, however long the queues are; with both queues empty such a state satisfies `TInv`.  So
  the C03 part-B oracle accepts every one-thread continuation, and the refill works: invalidating
  every key and `sync` empties the cache (`refill_drain`), then `ins k 1; sync` for at most
  `capacity` distinct keys retains every one of them (`refill_fill`).
-/
import MiniMoka.Lemmas.ConcS
import MiniMoka.Lemmas.SyncFits

namespace MiniMoka

namespace ConcS

open Sync Sync.Nodes Sync.Counters Spec

theorem sum_map_const_one {α : Type} (l : List α) (f : α → Nat) (hf : ∀ x, x ∈ l → f x = 1) :
    (l.map f).sum = l.length := by
  induction l with
  | nil => rfl
  | cons a l ih =>
    rw [List.map_cons, List.sum_cons, List.length_cons, hf a (List.mem_cons_self ..),
      ih (fun x hx => hf x (List.mem_cons_of_mem _ hx))]
    omega

theorem al_nil_of_no_get {β : Type} (m : List (Nat × β)) (h : ∀ k v, AL.get? m k = some v → False) :
    m = [] := by
  cases m with
  | nil => rfl
  | cons a m =>
    obtain ⟨k, v⟩ := a
    exact (h k v (by rw [AL.get?_cons, if_pos rfl])).elim

theorem reach_step {p : Params} (hq : NoQuirks p) (hsm : SmallSketch p) {s : SState}
    (hr : Reach p ⟨s, []⟩) (op : Op) : Reach p ⟨(Sync.step p s op).1, []⟩ := by
  obtain ⟨evs, he⟩ := path_of_step p (reach_csinv hq hsm hr).running op 0
  exact reach_of_runEvs evs _ _ hr he

theorem reach_stateAfter {p : Params} (hq : NoQuirks p) (hsm : SmallSketch p) (h : List Op)
    {s : SState} (hs : Reach p ⟨s, []⟩) : Reach p ⟨stateAfter p s h, []⟩ :=
  stateAfter_induct (I := fun s => Reach p ⟨s, []⟩) (fun _ op hs => reach_step hq hsm hs op) h hs

theorem reach_tinv {p : Params} (hq : NoQuirks p) (hsm : SmallSketch p) {s : SState}
    (hr : Reach p ⟨s, []⟩) (hw : s.writeQ = []) (hrq : s.readQ = []) : TInv p s [] := by
  have h := csinv_quiescent_tinv (reach_csinv hq hsm hr) rfl hw
  rw [← hrq] at h
  exact h

theorem step_vaLe {p : Params} (hq : NoQuirks p) {c c' : CState} (h : VaLe c.s) (e : Ev)
    (hs : step p c e = some c') : VaLe c'.s := by
  cases Step.of_eq hs with
  | insMap t k v =>
    obtain ⟨_, _, _, hva, hnow⟩ := insertMap_fields p c.s k v
    exact h.of_eq hva hnow
  | invMap t k =>
    obtain ⟨_, _, _, hva, hnow⟩ := invalidateMap_fields c.s k
    exact h.of_eq hva hnow
  | maint => exact h.frame (trySync_frame hq c.s)
  | sync => exact h.frame (syncRun_frame hq c.s)
  | tick d => exact fun v hv => Nat.le_trans (h v hv) (Nat.le_add_right _ _)
  | invAll =>
    intro v hv
    cases hv
    exact Nat.le_refl _
  | _ => exact h

theorem reach_vaLe {p : Params} (hq : NoQuirks p) {c : CState} (h : Reach p c) : VaLe c.s := by
  induction h with
  | init => intro v hv; cases hv
  | step e _ hs ih => exact step_vaLe hq ih e hs

theorem fitsC03Sync_run_reach {p : Params} (hq : NoQuirks p) (hsm : SmallSketch p) {c : Nat}
    (hcap : p.cap = some c) :
    ∀ (h : List Op) (s : SState), Reach p ⟨s, []⟩ →
      fitsC03Sync c p.ttl p.tti p.weigh (run p s h) = true :=
  fitsC03Sync_run_of hq hsm hcap (I := fun s => Reach p ⟨s, []⟩)
    (fun _ op hr => reach_step hq hsm hr op) (fun _ hr => (reach_csinv hq hsm hr).top.nofault)
    (fun _ hr hw hrq => ⟨reach_tinv hq hsm hr hw hrq, reach_vaLe hq hr⟩)

theorem refill_invs {p : Params} (hq : NoQuirks p) (hsm : SmallSketch p) :
    ∀ (l : List Nat) (s : SState), Reach p ⟨s, []⟩ →
      Reach p ⟨stateAfter p s (l.map Op.inv), []⟩ ∧
      ∀ k ve, AL.get? (stateAfter p s (l.map Op.inv)).map k = some ve →
        AL.get? s.map k = some ve ∧ k ∉ l := by
  intro l
  induction l with
  | nil => intro s hr; exact ⟨hr, fun k ve h => ⟨h, List.not_mem_nil⟩⟩
  | cons k0 l ih =>
    intro s hr
    have hinv := reach_csinv hq hsm hr
    have hr1 := reach_step hq hsm hr (.inv k0)
    have hst : (Sync.step p s (.inv k0)).1 = invalidate p s k0 :=
      step_fst hinv.top.nofault (.inv k0)
    obtain ⟨a1, a2⟩ := ih _ hr1
    refine ⟨a1, ?_⟩
    intro k ve hk
    obtain ⟨b1, b2⟩ := a2 k ve hk
    rw [hst] at b1
    have hkn := hinv.top.map.kn
    have hsub : AL.get? s.map k = some ve ∧ k ≠ k0 := by
      rw [invalidate_eq] at b1
      rcases invalidateMap_cases s k0 with ⟨hg, e⟩ | ⟨ve0, _, e⟩
      · rw [e] at b1
        refine ⟨b1, ?_⟩
        intro e; rw [e, hg] at b1; cases b1
      · rw [e] at b1
        have h1 := (scheduleWriteOp_frame hq _ _ _).mapSub (AL.nodup_erase k0 hkn) k ve b1
        have h2 : AL.get? (AL.erase s.map k0) k = some ve := h1
        rw [AL.get?_erase k0 k hkn] at h2
        by_cases e : k0 = k
        · rw [if_pos e] at h2; cases h2
        · rw [if_neg e] at h2; exact ⟨h2, fun e' => e e'.symm⟩
    refine ⟨hsub.1, ?_⟩
    intro hmem
    rcases List.mem_cons.mp hmem with e | e
    · exact hsub.2 e
    · exact b2 e

/-- The state of a refill in progress. -/
structure Filled (p : Params) (s : SState) (done : List Nat) : Prop where
  r : Reach p ⟨s, []⟩
  wq : s.writeQ = []
  rq : s.readQ = []
  sub : ∀ k ve, AL.get? s.map k = some ve → k ∈ done
  all : ∀ k, k ∈ done → ∃ ve, AL.get? s.map k = some ve ∧ ve.val = 1 ∧
    (getInfo s ve.info).la = s.now ∧ (getInfo s ve.info).lm = s.now

theorem Filled.map_length_le {p : Params} {s : SState} {done : List Nat} (h : Filled p s done)
    (hkn : (AL.keys s.map).Nodup) : s.map.length ≤ done.length := by
  have hlen : (AL.keys s.map).length ≤ done.length := by
    refine hkn.length_le_of_subset ?_
    intro x hx
    have := (AL.get?_isSome_iff s.map x).mpr hx
    cases hg : AL.get? s.map x with
    | none => rw [hg] at this; cases this
    | some ve => exact h.sub x ve hg
  rw [AL.keys_eq_map, List.length_map] at hlen
  exact hlen

theorem refill_drain {p : Params} (hq : NoQuirks p) (hsm : SmallSketch p) {s : SState}
    (hr : Reach p ⟨s, []⟩) :
    Filled p (stateAfter p s (s.map.map (fun kv => Op.inv kv.1) ++ [Op.sync])) [] ∧
    (stateAfter p s (s.map.map (fun kv => Op.inv kv.1) ++ [Op.sync])).map = [] := by
  have hl : s.map.map (fun kv => Op.inv kv.1) = (AL.keys s.map).map Op.inv := by
    rw [AL.keys_eq_map, List.map_map]; rfl
  rw [hl, stateAfter_append]
  obtain ⟨a1, a2⟩ := refill_invs hq hsm (AL.keys s.map) s hr
  generalize stateAfter p s ((AL.keys s.map).map Op.inv) = s1 at a1 a2
  have hinv1 := reach_csinv hq hsm a1
  have hm1 : s1.map = [] := by
    apply al_nil_of_no_get
    intro k ve hk
    obtain ⟨b1, b2⟩ := a2 k ve hk
    exact b2 (AL.mem_keys_of_get? b1)
  have hst : (Sync.step p s1 .sync).1 = syncRun p s1 := step_fst hinv1.top.nofault .sync
  have hr2 := reach_step hq hsm a1 .sync
  show Filled p (Sync.step p s1 .sync).1 [] ∧ (Sync.step p s1 .sync).1.map = []
  rw [hst] at hr2 ⊢
  have hm2 : (syncRun p s1).map = [] := by
    apply al_nil_of_no_get
    intro k ve hk
    have := (syncRun_frame hq s1).mapSub hinv1.top.map.kn k ve hk
    rw [hm1] at this; cases this
  refine ⟨⟨hr2, syncRun_writeQ p s1, syncRun_readQ p s1, ?_, ?_⟩, hm2⟩
  · intro k ve hk
    rw [hm2] at hk; cases hk
  · intro k hk; cases hk

/-- One window of C03 part B (`Lemmas/SyncFits.lean`) that starts in `s`: `seg_init`, `seg_insert`,
`seg_sync_fit`.  Everything fits (`hfit`: without a weigher, `hnw`, the weights are the number of
entries), so the new key is resident and the others are kept (`KeptB`) unless expired, which
entries written at the current instant are not when no deadline is zero (`hlives`). -/
theorem refill_one {p : Params} (hq : NoQuirks p) (hsm : SmallSketch p) {c : Nat}
    (hcap : p.cap = some c) (hnw : p.hasWeigher = false)
    (hlives : p.ttl ≠ some 0 ∧ p.tti ≠ some 0) {s : SState} {done : List Nat} {k : Nat}
    (h : Filled p s done) (hk : k ∉ done) (hroom : done.length + 1 ≤ c) :
    Filled p (stateAfter p s [Op.ins k 1, Op.sync]) (done ++ [k]) := by
  have ht : TInv p s [] := reach_tinv hq hsm h.r h.wq h.rq
  have hv : VaLe s := reach_vaLe hq h.r
  have hkn := ht.top.map.kn
  have hk0 : AL.get? s.map k = none := by
    cases hg : AL.get? s.map k with
    | none => rfl
    | some ve => exact absurd (h.sub k ve hg) hk
  have hw1 : ∀ k' v', p.weigh k' v' = 1 := by
    intro k' v'; unfold Params.weigh; rw [hnw]; rfl
  have hfit : budTotal (blOf p s.map) + p.weigh k 1 ≤ c := by
    rw [budTotal_blOf, hw1, sum_map_const_one _ _ (fun x _ => hw1 x.1 x.2.val)]
    have hlen := h.map_length_le hkn
    omega
  have hst1 : (Sync.step p s (.ins k 1)).1 = insert p s k 1 := step_fst ht.top.nofault (.ins k 1)
  have hr1 := reach_step hq hsm h.r (.ins k 1)
  rw [hst1] at hr1
  have hinv1 := reach_csinv hq hsm hr1
  have hst2 : (Sync.step p (insert p s k 1) .sync).1 = syncRun p (insert p s k 1) :=
    step_fst hinv1.top.nofault .sync
  have hr2 := reach_step hq hsm hr1 .sync
  rw [hst2] at hr2
  show Filled p (Sync.step p (Sync.step p s (.ins k 1)).1 .sync).1 (done ++ [k])
  rw [hst1, hst2]
  have hseg := seg_init (p := p) ht hv h.wq h.rq hk0
  obtain ⟨hseg', hfit'⟩ := seg_insert hq hsm hcap hseg 1
  obtain ⟨⟨ve, hve, hval⟩, hkb⟩ := hfit' hfit hlives
  have hkb1 : KeptB p k s (insert p s k 1) := hkb (fun _ _ _ hh => Or.inl hh)
  obtain ⟨a1, a2, a3, _⟩ := seg_sync_fit hq hsm hcap hseg' hve (by rw [hval]; exact hfit) hlives
  have hkb2 := a2 hkb1
  have hfr := syncRun_frame hq (insert p s k 1)
  have hkn1 := hseg'.t.top.map.kn
  have hla := hfr.la_eq hseg'.rq
  refine ⟨hr2, syncRun_writeQ p _, syncRun_readQ p _, ?_, ?_⟩
  · intro k' ve' hk'
    by_cases e : k' = k
    · rw [e]; exact List.mem_append_right _ (List.mem_singleton.mpr rfl)
    · have h1 := hfr.mapSub hkn1 k' ve' hk'
      exact List.mem_append_left _ (h.sub k' ve' (hseg'.os k' ve' e h1).1)
  · intro k' hk'
    rcases List.mem_append.mp hk' with hd | hd
    · have hne : k' ≠ k := fun e => hk (e ▸ hd)
      obtain ⟨ve', g1, g2, g3, g4⟩ := h.all k' hd
      rcases hkb2 k' ve' hne g1 with hh | hh
      · have h1 := hfr.mapSub hkn1 k' ve' hh
        obtain ⟨_, o2, o3⟩ := hseg'.os k' ve' hne h1
        refine ⟨ve', hh, g2, ?_, ?_⟩
        · rw [hla, o2, g3, a3]
        · rw [hfr.lm, o3, g4, a3]
      · rw [fresh_not_expired hv hlives g3 g4] at hh; cases hh
    · have e : k' = k := List.mem_singleton.mp hd
      subst e
      obtain ⟨_, s2, s3⟩ := hseg'.s1 ve hve
      refine ⟨ve, a1, hval, ?_, ?_⟩
      · rw [hla, s2, hfr.now]
      · rw [hfr.lm, s3, hfr.now]

theorem refill_fill {p : Params} (hq : NoQuirks p) (hsm : SmallSketch p) {c : Nat}
    (hcap : p.cap = some c) (hnw : p.hasWeigher = false)
    (hlives : p.ttl ≠ some 0 ∧ p.tti ≠ some 0) :
    ∀ (fresh : List Nat) (s : SState) (done : List Nat), Filled p s done →
      (done ++ fresh).Nodup → (done ++ fresh).length ≤ c →
      Filled p (stateAfter p s (fresh.flatMap fun k => [Op.ins k 1, Op.sync])) (done ++ fresh) := by
  intro fresh
  induction fresh with
  | nil => intro s done h _ _; rw [List.append_nil]; exact h
  | cons k rest ih =>
    intro s done h hnd hlen
    have e1 : done ++ k :: rest = (done ++ [k]) ++ rest := by
      rw [List.append_assoc]; rfl
    rw [e1] at hnd hlen ⊢
    have hnd1 : (done ++ [k]).Nodup := (List.nodup_append.mp hnd).1
    have hk : k ∉ done := by
      intro hm
      exact (List.nodup_append.mp hnd1).2.2 k hm k (List.mem_singleton.mpr rfl) rfl
    have hroom : done.length + 1 ≤ c := by
      rw [List.length_append, List.length_append] at hlen
      simp only [List.length_cons, List.length_nil] at hlen
      omega
    have h1 := refill_one hq hsm hcap hnw hlives h hk hroom
    have e2 : (List.flatMap (fun k => [Op.ins k 1, Op.sync]) (k :: rest)) =
        [Op.ins k 1, Op.sync] ++ List.flatMap (fun k => [Op.ins k 1, Op.sync]) rest := by
      rw [List.flatMap_cons]
    rw [e2, stateAfter_append]
    exact ih _ _ h1 hnd hlen

theorem Filled.resident {p : Params} (hq : NoQuirks p) (hsm : SmallSketch p)
    (hlives : p.ttl ≠ some 0 ∧ p.tti ≠ some 0) {s : SState} {done : List Nat}
    (h : Filled p s done) {k : Nat} (hk : k ∈ done) :
    (AL.get? s.map k).map (·.val) = some 1 ∧ (Sync.step p s (.has k)).2 = .bool true := by
  obtain ⟨ve, g1, g2, g3, g4⟩ := h.all k hk
  have hnf := (reach_csinv hq hsm h.r).top.nofault
  refine ⟨by rw [g1, Option.map_some, g2], ?_⟩
  rw [step_obs_of_nofault hnf _ (reach_csinv hq hsm (reach_step hq hsm h.r (.has k))).top.nofault]
  show Obs.bool (containsKey p s k) = _
  unfold containsKey
  rw [g1]
  dsimp only
  rw [fresh_not_expired (reach_vaLe hq h.r) hlives g3 g4]
  rfl

theorem Filled.get_sees {p : Params} (hq : NoQuirks p) (hsm : SmallSketch p)
    (hlives : p.ttl ≠ some 0 ∧ p.tti ≠ some 0) {s : SState} {done : List Nat}
    (h : Filled p s done) {k : Nat} (hk : k ∈ done) :
    (Sync.step p s (.get k)).2 = .val (some 1) := by
  obtain ⟨ve, g1, g2, g3, g4⟩ := h.all k hk
  have hnf := (reach_csinv hq hsm h.r).top.nofault
  rw [step_obs_of_nofault hnf _ (reach_csinv hq hsm (reach_step hq hsm h.r (.get k))).top.nofault]
  show Obs.val (Sync.get p s k).2 = _
  rw [get_hit g1 (fresh_not_expired (reach_vaLe hq h.r) hlives g3 g4), g2]

theorem Filled.counters {p : Params} (hq : NoQuirks p) (hsm : SmallSketch p)
    (hnw : p.hasWeigher = false) {s : SState} {done : List Nat} (h : Filled p s done)
    (hnd : done.Nodup) :
    s.map.length = done.length ∧ s.ec = done.length ∧ s.ws = done.length := by
  have ht : TInv p s [] := reach_tinv hq hsm h.r h.wq h.rq
  obtain ⟨q1, q2, q3, _, _⟩ := quiescent ht h.wq
  have hkn := ht.top.map.kn
  have hlen : s.map.length = done.length := by
    have l1 := h.map_length_le hkn
    have l2 : done.length ≤ (AL.keys s.map).length := by
      refine hnd.length_le_of_subset ?_
      intro x hx
      obtain ⟨ve, g, _⟩ := h.all x hx
      exact AL.mem_keys_of_get? g
    rw [AL.keys_eq_map, List.length_map] at l2
    omega
  refine ⟨hlen, q1.trans hlen, ?_⟩
  rw [q2, sum_map_const_one _ _ (fun kv hkv => by
    rw [q3 kv hkv]; unfold Params.weigh; rw [hnw]; rfl), hlen]

end ConcS
end MiniMoka
