/-
  Coupling between the unsync model and the reference bookkeeping of the lookup oracles
  (C01, C05, C06, C07, C16).
-/
import MiniMoka.Lemmas.UnsyncPrecise
import MiniMoka.Lemmas.Ghost
import MiniMoka.Lemmas.RefWalk

namespace MiniMoka
namespace Unsync

/- `maintain p s` is a state like any other here (see the note in `UnsyncOps`). -/
attribute [local irreducible] maintain

open Spec

/-- The reference bookkeeping `g` of the lookup oracles knows the resident entry `e` of `k`: alive,
with the same value and, as far as the configured expiry reads them, the timestamps of its nodes. -/
def CoupledE (p : Params) (s : UState) (g : Ghost) (k : Nat) (e : UEntry) : Prop :=
  ∃ ge, AL.get? g.ents k = some ge ∧ ge.alive = true ∧ ge.val = e.val ∧
    (p.ttl.isSome = true → entryLm s e = some ge.tIns) ∧
    (p.hasExpiry = true → entryLa s e = some ge.tAcc)

structure Coupled (p : Params) (s : UState) (g : Ghost) : Prop where
  now : g.now = s.now
  ents : ∀ k e, AL.get? s.map k = some e → CoupledE p s g k e

theorem coupled_shrinks {p : Params} {s s' : UState} {g : Ghost} (hc : Coupled p s g)
    (hs : Shrinks s s') (hn : s'.now = s.now) : Coupled p s' g := by
  refine ⟨hc.now.trans hn.symm, ?_⟩
  intro k e hk
  obtain ⟨ge, h1, h2, h3, h4, h5⟩ := hc.ents k e (hs.sub k e hk)
  exact ⟨ge, h1, h2, h3, fun ht => (hs.lm k e hk).trans (h4 ht), fun hx => (hs.la k e hk).trans (h5 hx)⟩

theorem entryLa_touchAo {s : UState} (id : Nat) (ts : Option Nat) (e : UEntry)
    (hn : (s.prob.map (·.id)).Nodup) :
    entryLa (touchAo s id ts) e =
      if e.ao = some id then
        (match ts with
         | some t => (findAo s.prob id).map (fun _ => t)
         | none => entryLa s e)
      else entryLa s e := by
  simp only [entryLa]
  cases hao : e.ao with
  | none => simp
  | some id' =>
    simp only [findAo_touchAo id ts id' hn]
    by_cases h : id' = id
    · subst h
      cases ts with
      | none => simp
      | some t =>
        simp only [if_true]
        cases findAo s.prob id' <;> simp
    · have : ¬ (some id' = some id) := fun e => h (Option.some.inj e)
      cases ts with
      | none => simp [this]
      | some t => simp [h, this]

theorem entryLm_touchAo {s : UState} (id : Nat) (ts : Option Nat) (e : UEntry) :
    entryLm (touchAo s id ts) e = entryLm s e := rfl

theorem entryLa_touchWo {s : UState} (id : Nat) (ts : Option Nat) (e : UEntry) :
    entryLa (touchWo s id ts) e = entryLa s e := rfl

theorem entryLm_touchWo {s : UState} (id : Nat) (ts : Option Nat) (e : UEntry)
    (hn : (s.wo.map (·.id)).Nodup) :
    entryLm (touchWo s id ts) e =
      if e.wo = some id then
        (match ts with
         | some t => (findWo s.wo id).map (fun _ => t)
         | none => entryLm s e)
      else entryLm s e := by
  simp only [entryLm]
  cases hwo : e.wo with
  | none => simp
  | some id' =>
    simp only [findWo_touchWo id ts id' hn]
    by_cases h : id' = id
    · subst h
      cases ts with
      | none => simp
      | some t =>
        simp only [if_true]
        cases findWo s.wo id' <;> simp
    · have : ¬ (some id' = some id) := fun e => h (Option.some.inj e)
      cases ts with
      | none => simp [this]
      | some t => simp [h, this]

/-- The per-lookup checks of the C01, C05 and C06 oracles together.  (C07 and C16 are read off the
C01 check: `checkC07_of_checkC01`, `C16_unsync_oracle`.) -/
def allChecks (p : Params) (g : Ghost) (kv : Nat × Option Nat) : Bool :=
  checkC01 g kv && checkC05 p.ttl g kv && checkC06 p.tti g kv

theorem allChecks_of_entry {p : Params} {s : UState} {g : Ghost} (hc : Coupled p s g) {k : Nat}
    {e : UEntry} (hk : AL.get? s.map k = some e)
    (hexp : p.hasExpiry = true → isExpiredEntry p s e s.now = false) (ov : Option Nat)
    (hov : ov = none ∨ ov = some e.val) : allChecks p g (k, ov) = true := by
  obtain ⟨ge, h1, h2, h3, h4, h5⟩ := hc.ents k e hk
  -- a timestamp that has not run out lies less than the duration back
  have fresh : ∀ {d t : Nat}, expiredAt (some d) (some t) s.now = false →
      decide (g.now < t + d) = true := by
    intro d t h
    rw [hc.now]
    simpa [expiredAt] using h
  simp only [allChecks, Bool.and_eq_true]
  refine ⟨⟨?_, ?_⟩, ?_⟩
  · simp only [checkC01, h1, h2, Bool.true_and]
    rcases hov with h | h <;> simp [h, h3]
  · simp only [checkC05]
    cases httl : p.ttl with
    | none => rfl
    | some d =>
      have := (Bool.or_eq_false_iff.mp (hexp (by simp [Params.hasExpiry, httl]))).1
      rw [h4 (by simp [httl]), httl] at this
      simpa only [h1] using fresh this
  · simp only [checkC06]
    cases htti : p.tti with
    | none => rfl
    | some d =>
      have hx : p.hasExpiry = true := by simp [Params.hasExpiry, htti]
      have := (Bool.or_eq_false_iff.mp (hexp hx)).2
      rw [h5 hx, htti] at this
      simpa only [h1] using fresh this

theorem coupled_congr {p : Params} {s s' : UState} {g : Ghost} (hc : Coupled p s g)
    (hm : s'.map = s.map) (hp : s'.prob = s.prob) (hw : s'.wo = s.wo) (hn : s'.now = s.now) :
    Coupled p s' g :=
  coupled_shrinks hc (shrinks_congr (Shrinks.refl s) hm hp hw) hn

theorem hit_coupled {p : Params} {s : UState} {g : Ghost} (hs : Struct p s) (hc : Coupled p s g)
    {k : Nat} {e : UEntry} (hk : AL.get? s.map k = some e) {id : Nat} {n : AoNode}
    (hao : e.ao = some id) (hf : findAo s.prob id = some n) :
    Coupled p (touchAo s id (opTs p s)) (ghostStep .unsync g (.get k) (.val (some e.val))) := by
  obtain ⟨ge, h1, h2, h3, h4, h5⟩ := hc.ents k e hk
  have hg : ghostStep .unsync g (.get k) (.val (some e.val)) =
      { g with ents := AL.put g.ents k { ge with tAcc := g.now } } := by
    simp [ghostStep, h1]
  rw [hg]
  refine ⟨hc.now, ?_⟩
  intro k' e' hk'
  have hk'' : AL.get? s.map k' = some e' := hk'
  by_cases hkk : k = k'
  · subst hkk
    rw [hk] at hk''; cases hk''
    refine ⟨{ ge with tAcc := g.now }, by simp [AL.get?_put_self], h2, h3, ?_, ?_⟩
    · intro ht; rw [entryLm_touchAo]; exact h4 ht
    · intro hx
      rw [entryLa_touchAo id _ _ hs.probIds, if_pos hao]
      rw [opTs_of_expiry hx]; simp [hf, hc.now]
  · obtain ⟨ge', g1, g2, g3, g4, g5⟩ := hc.ents k' e' hk''
    refine ⟨ge', by simp only; rw [AL.get?_put_ne _ hkk]; exact g1, g2, g3, ?_, ?_⟩
    · intro ht; rw [entryLm_touchAo]; exact g4 ht
    · intro hx
      rw [entryLa_touchAo id _ _ hs.probIds, if_neg (ao_ne_of_key_ne hs hk hk'' hkk hao)]
      exact g5 hx

theorem get_coupled {P : Sketch → Prop} (L : SketchLaws P) {p : Params} (hq : NoQuirks p)
    {s : UState} {g : Ghost} (hi : Inv P p s) (hc : Coupled p s g) (k : Nat) :
    (yields (.get k) (.val (get p s k).2)).all (allChecks p g) = true ∧
    Coupled p (get p s k).1 (ghostStep .unsync g (.get k) (.val (get p s k).2)) := by
  obtain ⟨_, h2, h3⟩ := maintain_spec hq hi.inv
  obtain ⟨sk', hI, hget⟩ := getCore_inv_cases L hq (maintain_inv hq hi) k
  have hc2 : Coupled p { maintain p s with sk := sk' } g :=
    coupled_congr (coupled_shrinks hc h2 h3.now) rfl rfl rfl rfl
  obtain h | ⟨e, id, n, hg, hao, hf, hexp, h⟩ := hget <;> rw [get_eq, h]
  · exact ⟨rfl, hc2⟩
  · exact ⟨by simpa [yields] using allChecks_of_entry hc2 hg hexp _ (Or.inr rfl),
      hit_coupled hI.inv.struct hc2 hg hao hf⟩

theorem containsKey_coupled {P : Sketch → Prop} {p : Params} (hq : NoQuirks p)
    {s : UState} {g : Ghost} (hi : Inv P p s) (hc : Coupled p s g) (k : Nat) :
    (yields (.has k) (.bool (containsKey p s k).2)).all (allChecks p g) = true ∧
    Coupled p (containsKey p s k).1 (ghostStep .unsync g (.has k) (.bool (containsKey p s k).2)) := by
  obtain ⟨_, h2, h3⟩ := maintain_spec hq hi.inv
  have hc1 : Coupled p (maintain p s) g := coupled_shrinks hc h2 h3.now
  rw [containsKey_fst]
  refine ⟨?_, hc1⟩
  cases hb : (containsKey p s k).2 with
  | false => rfl
  | true =>
    obtain ⟨e, hg, hexp⟩ := containsKey_true hb
    simpa [yields] using allChecks_of_entry hc1 hg hexp _ (Or.inl rfl)

theorem iter_checks {p : Params} {s : UState} {g : Ghost} (hs : Struct p s) (hc : Coupled p s g) :
    (yields .iter (.iter (sortBy (·.1) (iter p s)))).all (allChecks p g) = true := by
  simp only [yields, List.all_eq_true, List.mem_map]
  rintro ⟨k, ov⟩ ⟨⟨k', v⟩, hmem, heq⟩
  simp only [Prod.mk.injEq] at heq
  obtain ⟨rfl, rfl⟩ := heq
  rw [mem_sortBy] at hmem
  simp only [iter, List.mem_map, List.mem_filter] at hmem
  obtain ⟨⟨k2, e⟩, ⟨hin, hne⟩, heq2⟩ := hmem
  simp only [Prod.mk.injEq] at heq2
  obtain ⟨rfl, rfl⟩ := heq2
  have hk := AL.get?_of_mem hs.keysNodup hin
  exact allChecks_of_entry hc hk (fun _ => by simpa using hne) _ (Or.inr rfl)

theorem coupled_kill {p : Params} {s : UState} {g : Ghost} (hc : Coupled p s g)
    (f : Nat → GEntry → Bool)
    (hf : ∀ k e ge, AL.get? s.map k = some e → AL.get? g.ents k = some ge → ge.val = e.val →
      f k ge = false) :
    Coupled p s { g with ents := killIf f g.ents } := by
  refine ⟨hc.now, ?_⟩
  intro k e hk
  obtain ⟨ge, h1, h2, h3, h4, h5⟩ := hc.ents k e hk
  refine ⟨ge, ?_, h2, h3, h4, h5⟩
  simp only [get?_killIf, h1, Option.map_some, hf k e ge hk h1 h3]
  rfl

theorem invalidate_coupled {P : Sketch → Prop} {p : Params} (hq : NoQuirks p)
    {s : UState} {g : Ghost} (hi : Inv P p s) (hc : Coupled p s g) (k : Nat) :
    Coupled p (invalidate p s k) (ghostStep .unsync g (.inv k) .ok) := by
  obtain ⟨h1, _, _⟩ := maintain_spec hq hi.inv
  obtain ⟨_, hsh, haux, hmap⟩ := invalidate_spec hq hi.inv k
  refine coupled_kill (coupled_shrinks hc hsh haux.now) _ ?_
  intro k' e' ge hk' _ _
  have : k' ≠ k := fun e => by
    rw [hmap, e, AL.get?_erase_self k h1.struct.keysNodup] at hk'; cases hk'
  simp [this]

theorem invalidateAll_coupled {p : Params} {s : UState} {g : Ghost} (hc : Coupled p s g) :
    Coupled p (invalidateAll p s) (ghostStep .unsync g .invAll .ok) := by
  refine ⟨hc.now, ?_⟩
  intro k e hk
  simp [invalidateAll] at hk

theorem invalidateEntriesIf_coupled {P : Sketch → Prop} {p : Params} (hq : NoQuirks p)
    {s : UState} {g : Ghost} (hi : Inv P p s) (hc : Coupled p s g) (pr : Pred) :
    Coupled p (invalidateEntriesIf p s pr) (ghostStep .unsync g (.invIf pr) .ok) := by
  obtain ⟨_, hsh, haux⟩ := invalidateEntriesIf_spec hq pr hi.inv
  refine coupled_kill (coupled_shrinks hc hsh haux.now) (fun k ge => pr.eval k ge.val) ?_
  intro k e ge hk _ hval
  rw [hval]
  exact ((invalidateEntriesIf_exact hq hi pr k e).mp hk).2

theorem adv_coupled {p : Params} {s : UState} {g : Ghost} (hc : Coupled p s g) (d : Nat) :
    Coupled p { s with now := s.now + d } (ghostStep .unsync g (.adv d) .ok) := by
  refine ⟨by simp [ghostStep, hc.now], ?_⟩
  intro k e hk
  exact hc.ents k e hk

def insertedG (g : Ghost) (k v : Nat) : Ghost :=
  { g with ents := AL.put g.ents k { val := v, tIns := g.now, tAcc := g.now, alive := true } }

/-- What an insert of `(k, v)` owes for the coupling to survive. -/
theorem coupled_inserted {p : Params} {s s' : UState} {g : Ghost} {k v : Nat} (hc : Coupled p s g)
    (hnow : s'.now = s.now)
    (hother : ∀ k' e', k' ≠ k → AL.get? s'.map k' = some e' →
      AL.get? s.map k' = some e' ∧ entryLa s' e' = entryLa s e' ∧ entryLm s' e' = entryLm s e')
    (hself : ∀ e, AL.get? s'.map k = some e → e.val = v ∧
      (p.hasExpiry = true → entryLa s' e = some s.now) ∧
      (p.ttl.isSome = true → entryLm s' e = some s.now)) :
    Coupled p s' (insertedG g k v) := by
  refine ⟨hc.now.trans hnow.symm, fun k' e hk' => ?_⟩
  by_cases hkk : k' = k
  · subst hkk
    obtain ⟨hv, t1, t2⟩ := hself e hk'
    exact ⟨{ val := v, tIns := g.now, tAcc := g.now, alive := true }, AL.get?_put_self _ _ _, rfl,
      hv.symm, fun ht => by rw [t2 ht, hc.now], fun hx => by rw [t1 hx, hc.now]⟩
  · obtain ⟨a1, a2, a3⟩ := hother k' e hkk hk'
    obtain ⟨ge, c1, c2, c3, c4, c5⟩ := hc.ents k' e a1
    exact ⟨ge, (AL.get?_put_ne _ (Ne.symm hkk)).trans c1, c2, c3, fun ht => a3.trans (c4 ht),
      fun hx => a2.trans (c5 hx)⟩

theorem update_coupled {p : Params} {s : UState} {g : Ghost} (hi : InvU p s)
    (hc : Coupled p s g) {k v : Nat} {old : UEntry} (hk : AL.get? s.map k = some old) :
    Coupled p (handleUpdate p { s with map := AL.put s.map k { val := v, weight := p.weigh k v } }
      k (opTs p s) (p.weigh k v) old) (insertedG g k v) := by
  obtain ⟨id, n, hao, hf, hnk, heq, hnone, hsome⟩ := handleUpdate_touch
    (entry := { val := v, weight := p.weigh k v }) hi.struct hk (opTs p s) (p.weigh k v)
  rw [heq]
  dsimp only
  generalize he : ({ val := v, weight := p.weigh k v, ao := old.ao, wo := old.wo } : UEntry) = e
  have heao : e.ao = old.ao := by rw [← he]
  have hewo : e.wo = old.wo := by rw [← he]
  have hev : e.val = v := by rw [← he]
  have hs1 : Struct p { s with map := AL.put s.map k e } :=
    struct_put_same_links hi.struct hk heao hewo
  have hs2 := touchAo_struct hs1 id (opTs p s)
  -- the access-order touch re-times the node of `k` and no other
  have hla : ∀ k' e', AL.get? (AL.put s.map k e) k' = some e' →
      (k' = k → p.hasExpiry = true →
        entryLa (touchAo { s with map := AL.put s.map k e } id (opTs p s)) e' = some s.now) ∧
      (k' ≠ k → AL.get? s.map k' = some e' ∧
        entryLa (touchAo { s with map := AL.put s.map k e } id (opTs p s)) e' = entryLa s e') := by
    intro k' e' h
    rw [entryLa_touchAo id _ _ hs1.probIds]
    rw [AL.get?_put] at h
    refine ⟨fun hkk hx => ?_, fun hkk => ?_⟩
    · rw [if_pos hkk.symm] at h; cases h
      rw [if_pos (heao.trans hao), opTs_of_expiry hx]
      show (findAo s.prob id).map _ = _
      rw [hf]; rfl
    · rw [if_neg (Ne.symm hkk)] at h
      exact ⟨h, if_neg (ao_ne_of_key_ne hi.struct hk h (Ne.symm hkk) hao)⟩
  cases hwo : old.wo with
  | none =>
    have httl := hnone hwo
    refine coupled_inserted hc rfl (fun k' e' hkk h => ?_) (fun e' h => ?_)
    · exact ⟨((hla k' e' h).2 hkk).1, ((hla k' e' h).2 hkk).2, rfl⟩
    · have h : AL.get? (AL.put s.map k e) k = some e' := h
      rw [AL.get?_put_self] at h; cases h
      exact ⟨hev, (hla k e (AL.get?_put_self _ _ _)).1 rfl, fun ht => by rw [httl] at ht; cases ht⟩
  | some wid =>
    obtain ⟨httl, wn, hwf⟩ := hsome wid hwo
    have hx : p.hasExpiry = true := by simp [Params.hasExpiry, httl]
    -- the write-order touch likewise
    have hlm : ∀ e' : UEntry, entryLm (touchWo (touchAo { s with map := AL.put s.map k e } id
        (opTs p s)) wid (opTs p s)) e' = if e'.wo = some wid then some s.now else entryLm s e' := by
      intro e'
      rw [entryLm_touchWo wid _ _ hs2.woIds, opTs_of_expiry hx]
      show (if _ then (findWo s.wo wid).map _ else _) = _
      rw [hwf]; rfl
    refine coupled_inserted hc rfl (fun k' e' hkk h => ?_) (fun e' h => ?_)
    · obtain ⟨h', hl⟩ := (hla k' e' h).2 hkk
      exact ⟨h', hl, (hlm e').trans (if_neg (wo_ne_of_key_ne hi.struct hk h' (Ne.symm hkk) hwo))⟩
    · have h : AL.get? (AL.put s.map k e) k = some e' := h
      rw [AL.get?_put_self] at h; cases h
      exact ⟨hev, (hla k e (AL.get?_put_self _ _ _)).1 rfl,
        fun _ => (hlm e).trans (if_pos (hewo.trans hwo))⟩

theorem handleInsert_coupled {P : Sketch → Prop} {p : Params}
    {s : UState} {g : Ghost} (hi : Inv P p s) (hc : Coupled p s g) {k v : Nat}
    (hk : AL.get? s.map k = none) :
    Coupled p (handleInsert p { s with map := AL.put s.map k { val := v, weight := p.weigh k v } }
      k (p.hash k) (p.weigh k v) (opTs p s)) (insertedG g k v) := by
  have hsame : Coupled p s (insertedG g k v) :=
    coupled_inserted hc rfl (fun _ _ _ h => ⟨h, rfl, rfl⟩) (fun e h => by rw [hk] at h; cases h)
  have hadm : ∀ n, Coupled p (maybeEnableSketch p (admitCore p s k v (opTs p s) (s.prob.take n)))
      (insertedG g k v) := by
    intro n
    have ha := admitCore_spec hi.inv v hk (opTs p s) n
    obtain ⟨m1, m2, m3, m4⟩ :=
      maybeEnableSketch_frame p (admitCore p s k v (opTs p s) (s.prob.take n))
    refine coupled_congr (coupled_inserted hc ha.now (fun k' e hkk h => ?_) (fun e h => ?_))
      m1 m2 m3 m4
    · obtain ⟨a2, a3⟩ := ha.times k' e hkk h
      rw [ha.others k' hkk] at h
      split at h
      · cases h
      · exact ⟨h, a2, a3⟩
    · obtain ⟨e', he', hv', _, hla, hlm⟩ := ha.entry
      rw [he'] at h; cases h
      exact ⟨hv', fun hx => hla.trans (opTs_of_expiry hx),
        fun ht => (hlm ht).trans (opTs_of_expiry (by simp [Params.hasExpiry, ht]))⟩
  rcases handleInsert_new hi.inv (opTs p s) hk with
    ⟨_, h⟩ | ⟨_, ⟨_, h⟩ | ⟨_, ⟨n, _, h⟩ | ⟨_, h⟩⟩⟩ <;> rw [h]
  · exact hadm 0
  · exact hsame
  · exact hadm n
  · exact hsame

theorem insert_coupled {P : Sketch → Prop} {p : Params} (hq : NoQuirks p)
    {s : UState} {g : Ghost} (hi : Inv P p s) (hc : Coupled p s g) (k v : Nat) :
    Coupled p (insert p s k v) (ghostStep .unsync g (.ins k v) .ok) := by
  obtain ⟨h1, h2, h3⟩ := maintain_spec hq hi.inv
  have hi1 : Inv P p (maintain p s) := hi.of_aux h1 h3.sk h3.skOn
  have hc1 : Coupled p (maintain p s) g := coupled_shrinks hc h2 h3.now
  have hg : ghostStep .unsync g (.ins k v) .ok = insertedG g k v := rfl
  rw [hg]
  rw [insert_eq]
  rcases insertCore_cases p (maintain p s) k v with ⟨old, hget, h⟩ | ⟨hget, h⟩ <;> rw [h]
  · exact update_coupled h1 hc1 hget
  · exact handleInsert_coupled hi1 hc1 hget

theorem step_coupled {P : Sketch → Prop} (L : SketchLaws P) {p : Params} (hq : NoQuirks p)
    (hsm : SmallSketch p) {s : UState} {g : Ghost} (hi : Inv P p s) (hc : Coupled p s g) (op : Op) :
    (yields op (step p s op).2).all (allChecks p g) = true ∧
    Coupled p (step p s op).1 (ghostStep .unsync g op (step p s op).2) := by
  rw [step_eq L hq hsm hi op]
  cases op with
  | ins k v => exact ⟨rfl, insert_coupled hq hi hc k v⟩
  | get k => exact get_coupled L hq hi hc k
  | has k => exact containsKey_coupled hq hi hc k
  | iter => exact ⟨iter_checks hi.inv.struct hc, hc⟩
  | inv k => exact ⟨rfl, invalidate_coupled hq hi hc k⟩
  | invAll => exact ⟨rfl, invalidateAll_coupled hc⟩
  | invIf pr => exact ⟨rfl, invalidateEntriesIf_coupled hq hi hc pr⟩
  | sync => exact ⟨rfl, hc⟩
  | adv d => exact ⟨rfl, adv_coupled hc d⟩
  | snap => exact ⟨rfl, hc⟩
  | freq k => exact ⟨rfl, hc⟩

theorem lookupOracle_of_coupled {P : Sketch → Prop} (L : SketchLaws P) {p : Params}
    (hq : NoQuirks p) (hsm : SmallSketch p) (check : Ghost → Nat × Option Nat → Bool)
    (himp : ∀ g kv, allChecks p g kv = true → check g kv = true) (h : List Op) (s : UState)
    (g : Ghost) (hi : Inv P p s) (hc : Coupled p s g) :
    lookupOracle .unsync check g (run p s h) = true :=
  (lookupOracle_refWalk .unsync check).run (isRun p)
    (C := fun _ s g => Inv P p s ∧ Coupled p s g)
    (fun s g op _ ⟨hi, hc⟩ => Or.inr
      ⟨List.all_eq_true.mpr fun kv hkv =>
          himp g kv (List.all_eq_true.mp (step_coupled L hq hsm hi hc op).1 kv hkv),
        step_inv L hq hsm hi op, (step_coupled L hq hsm hi hc op).2⟩)
    h s g ⟨hi, hc⟩

theorem init_coupled (p : Params) : Coupled p {} {} :=
  ⟨rfl, fun k e hk => by simp at hk⟩

end Unsync
end MiniMoka
