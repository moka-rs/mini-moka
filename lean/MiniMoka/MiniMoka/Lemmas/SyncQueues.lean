/-
  The queues of the one-thread model (`Sync.lean`; property C09, sequential part), and the shape of
  `Inner::sync`, of the housekeeper, of the API calls and of `step` that the later files argue along:
  the loop of `Inner::sync` runs its body once, so a run is a fixed sequence of stages
  (`syncRun_stages`); an API call is a map step of the many-thread model (`ConcS.lean`) followed by
  housekeeping and a push on a queue; `step` is the pair `stepState`, `stepObs` behind two fault
  checks.  Under `QInv`, `schedule_write_op` enqueues in its first iteration.  The state after a
  history is `stateAfter`, or `runState` where the property files say it; no run ends in a hang
  (`run_no_hang`).
-/
import MiniMoka.Lemmas.SyncMaint
import MiniMoka.ConcS
import MiniMoka.Lemmas.SyncPure
import MiniMoka.Lemmas.Sketch
import MiniMoka.Lemmas.AL
import MiniMoka.Spec.Oracles

namespace MiniMoka

/- The two lemmas below read the statement as a property `C` of the result, so that
`iteInduction` applies at each test; `split at h` simplifies all of `h` every time. -/
theorem Sketch.reset_error {l : Bool} {s : Sketch} {f : Fault}
    (h : Sketch.reset l s = .error f) : f = .overflow := by
  let C (r : Except Fault Sketch) : Prop := r = .error f → f = .overflow
  have ov : C (.error .overflow) := fun h => (Except.error.inj h).symm
  have ok (t : Sketch) : C (.ok t) := fun h => nomatch h
  refine (?_ : C (Sketch.reset l s)) h
  unfold Sketch.reset
  dsimp only
  refine iteInduction (fun _ => ov) fun _ => ?_
  refine iteInduction (fun _ => ?_) fun _ => ?_
  · exact iteInduction (fun _ => ov) fun _ => ok _
  · exact iteInduction (fun _ => ov) fun _ => ok _

theorem Sketch.increment_error {l : Bool} {s : Sketch} {hash : UInt64} {f : Fault}
    (h : Sketch.increment l s hash = .error f) : f = .overflow := by
  let C (r : Except Fault Sketch) : Prop := r = .error f → f = .overflow
  have ok (t : Sketch) : C (.ok t) := fun h => nomatch h
  refine (?_ : C (Sketch.increment l s hash)) h
  rw [Sketch.increment_eq_bump]
  refine iteInduction (fun _ => ok _) fun _ => ?_
  refine iteInduction (fun _ => ?_) fun _ => ok _
  refine iteInduction (fun _ h => (Except.error.inj h).symm) fun _ => ?_
  exact iteInduction (fun _ => Sketch.reset_error) fun _ => ok _

namespace Sync

/- `syncRun p s` is a state like any other here: where `trySync` is unfolded the goal compares
`{ syncRun p t with running := false }` with `syncRun p t` field by field, and the unifier would
unfold it into its loops to do so (slow to check).  Its own lemmas `unfold` it. -/
attribute [local irreducible] syncRun

theorem getInfo_congr {s s' : SState} (h : s'.infos = s.infos) (j : Nat) :
    getInfo s' j = getInfo s j := by simp [getInfo, h]

theorem getInfo_of_infos_put {s s' : SState} {i : Nat} {x : Info}
    (h : s'.infos = AL.put s.infos i x) (j : Nat) :
    getInfo s' j = if i = j then x else getInfo s j := by
  simp only [getInfo, h, AL.get?_put]
  by_cases e : i = j <;> simp [e]

theorem getInfo_withInfo (s : SState) (i : Nat) (f : Info → Info) (j : Nat) :
    getInfo (withInfo s i f) j = if i = j then f (getInfo s i) else getInfo s j :=
  getInfo_of_infos_put rfl j

structure QFrame (s s' : SState) : Prop where
  writeQ : s'.writeQ = s.writeQ
  readQ : s'.readQ = s.readQ
  running : s'.running = s.running
  now : s'.now = s.now
  syncAfter : s'.syncAfter = s.syncAfter
  hang : s'.fault = some Fault.hang → s.fault = some Fault.hang

theorem QFrame.refl (s : SState) : QFrame s s := ⟨rfl, rfl, rfl, rfl, rfl, fun h => h⟩

theorem QFrame.trans {a b c : SState} (h1 : QFrame a b) (h2 : QFrame b c) : QFrame a c :=
  ⟨h2.writeQ.trans h1.writeQ, h2.readQ.trans h1.readQ, h2.running.trans h1.running,
   h2.now.trans h1.now, h2.syncAfter.trans h1.syncAfter, fun h => h1.hang (h2.hang h)⟩

theorem qframe_of_eq {s s' : SState} (hw : s'.writeQ = s.writeQ) (hr : s'.readQ = s.readQ)
    (hg : s'.running = s.running) (hn : s'.now = s.now) (ha : s'.syncAfter = s.syncAfter)
    (hf : s'.fault = s.fault) : QFrame s s' :=
  ⟨hw, hr, hg, hn, ha, fun h => by rw [← hf]; exact h⟩

theorem qframe_fail (s : SState) (f : Fault) (hf : f ≠ Fault.hang) : QFrame s (s.fail f) := by
  unfold SState.fail; split
  · exact QFrame.refl s
  · refine ⟨rfl, rfl, rfl, rfl, rfl, ?_⟩
    intro h
    simp only [Option.some.injEq] at h
    exact absurd h hf

theorem qframe_withInfo (s : SState) (i : Nat) (f : Info → Info) : QFrame s (withInfo s i f) :=
  qframe_of_eq rfl rfl rfl rfl rfl rfl

theorem qframe_set_cec_cws (s : SState) (x y : Nat) : QFrame s { s with cec := x, cws := y } :=
  qframe_of_eq rfl rfl rfl rfl rfl rfl
theorem qframe_set_ec_ws (s : SState) (x y : Nat) : QFrame s { s with ec := x, ws := y } :=
  qframe_of_eq rfl rfl rfl rfl rfl rfl

theorem Prim.qframe {w : Bool} {s s' : SState} (h : Prim w s s') : QFrame s s' := by
  cases h with
  | fail f hf => exact qframe_fail s f hf
  | _ => exact qframe_of_eq rfl rfl rfl rfl rfl rfl

theorem Maint.qframe {w : Bool} {s s' : SState} (h : Maint w s s') : QFrame s s' :=
  h.induct QFrame.refl QFrame.trans Prim.qframe

theorem sketchIncrement_qframe (p : Params) (s : SState) (h : UInt64) :
    QFrame s (sketchIncrement p s h) := by
  unfold sketchIncrement
  split
  · exact qframe_of_eq rfl rfl rfl rfl rfl rfl
  · rename_i f hf
    rw [Sketch.increment_error hf]
    exact qframe_fail _ _ (by decide)

theorem applyRead_qframe (p : Params) (s : SState) (op : ROp) : QFrame s (applyRead p s op) := by
  cases op with
  | miss hash => exact sketchIncrement_qframe _ _ _
  | hit hash ve ts =>
    unfold applyRead
    dsimp only
    have h1 : QFrame s (sketchIncrement p s hash) := sketchIncrement_qframe _ _ _
    generalize sketchIncrement p s hash = s1 at h1 ⊢
    have h2 : QFrame s1 (if p.q.d6 = true then withInfo s1 ve.info (fun i => { i with la := ts })
        else if (getInfo s1 ve.info).la < ts then withInfo s1 ve.info (fun i => { i with la := ts })
        else s1) := by
      split
      · exact qframe_withInfo _ _ _
      · split
        · exact qframe_withInfo _ _ _
        · exact QFrame.refl _
    generalize (if p.q.d6 = true then withInfo s1 ve.info (fun i => { i with la := ts })
        else if (getInfo s1 ve.info).la < ts then withInfo s1 ve.info (fun i => { i with la := ts })
        else s1) = s2 at h2 ⊢
    split
    · exact (h1.trans h2).trans (moveToBackAoE_maint _ _).qframe
    · exact h1.trans h2

theorem enableSketch_qframe (p : Params) (s : SState) : QFrame s (enableSketch p s) := by
  unfold enableSketch
  split
  · exact qframe_of_eq rfl rfl rfl rfl rfl rfl
  · exact QFrame.refl s

structure QKeep (s s' : SState) : Prop where
  running : s'.running = s.running
  now : s'.now = s.now
  syncAfter : s'.syncAfter = s.syncAfter
  hang : s'.fault = some Fault.hang → s.fault = some Fault.hang

theorem QKeep.refl (s : SState) : QKeep s s := ⟨rfl, rfl, rfl, fun h => h⟩

theorem QKeep.trans {a b c : SState} (h1 : QKeep a b) (h2 : QKeep b c) : QKeep a c :=
  ⟨h2.running.trans h1.running, h2.now.trans h1.now, h2.syncAfter.trans h1.syncAfter,
   fun h => h1.hang (h2.hang h)⟩

theorem QFrame.toKeep {s s' : SState} (h : QFrame s s') : QKeep s s' :=
  ⟨h.running, h.now, h.syncAfter, h.hang⟩

theorem applyWrites_queues (p : Params) (n : Nat) : ∀ (s : SState),
    (applyWrites p n s).writeQ = s.writeQ.drop n ∧ (applyWrites p n s).readQ = s.readQ ∧
    QKeep s (applyWrites p n s) := by
  induction n with
  | zero => intro s; exact ⟨rfl, rfl, QKeep.refl s⟩
  | succ n ih =>
    intro s
    unfold applyWrites
    split
    · rename_i hq
      exact ⟨by rw [hq]; rfl, rfl, QKeep.refl s⟩
    · rename_i op rest hq
      have hf := (applyWrite_maint p { s with writeQ := rest } op).qframe
      obtain ⟨h1, h2, h3⟩ := ih (applyWrite p { s with writeQ := rest } op)
      refine ⟨?_, ?_, ?_⟩
      · rw [h1, hf.writeQ, hq]; rfl
      · rw [h2, hf.readQ]
      · exact QKeep.trans ⟨hf.running, hf.now, hf.syncAfter, hf.hang⟩ h3

theorem applyWrites_writeQ (p : Params) (n : Nat) (s : SState) :
    (applyWrites p n s).writeQ = s.writeQ.drop n := (applyWrites_queues p n s).1

theorem applyWrites_writeQ_length (p : Params) (n : Nat) (s : SState) :
    (applyWrites p n s).writeQ.length = s.writeQ.length - n := by
  rw [applyWrites_writeQ, List.length_drop]

theorem applyWrites_running (p : Params) (n : Nat) (s : SState) :
    (applyWrites p n s).running = s.running := (applyWrites_queues p n s).2.2.running

theorem applyReads_queues (p : Params) (n : Nat) : ∀ (s : SState),
    (applyReads p n s).readQ = s.readQ.drop n ∧ (applyReads p n s).writeQ = s.writeQ ∧
    QKeep s (applyReads p n s) := by
  induction n with
  | zero => intro s; exact ⟨rfl, rfl, QKeep.refl s⟩
  | succ n ih =>
    intro s
    unfold applyReads
    split
    · rename_i hq
      exact ⟨by rw [hq]; rfl, rfl, QKeep.refl s⟩
    · rename_i op rest hq
      have hf := applyRead_qframe p { s with readQ := rest } op
      obtain ⟨h1, h2, h3⟩ := ih (applyRead p { s with readQ := rest } op)
      refine ⟨?_, ?_, ?_⟩
      · rw [h1, hf.readQ, hq]; rfl
      · rw [h2, hf.writeQ]
      · exact QKeep.trans ⟨hf.running, hf.now, hf.syncAfter, hf.hang⟩ h3

theorem applyReads_readQ (p : Params) (n : Nat) (s : SState) :
    (applyReads p n s).readQ = s.readQ.drop n := (applyReads_queues p n s).1

theorem applyReads_writeQ (p : Params) (n : Nat) (s : SState) :
    (applyReads p n s).writeQ = s.writeQ := (applyReads_queues p n s).2.1

theorem applyReads_running (p : Params) (n : Nat) (s : SState) :
    (applyReads p n s).running = s.running := (applyReads_queues p n s).2.2.running

theorem applyWrites_ind {p : Params} {C : SState → Prop}
    (h : ∀ (s : SState) (op : WOp) (rest : List WOp), s.writeQ = op :: rest → C s →
      C (applyWrite p { s with writeQ := rest } op)) :
    ∀ (n : Nat) (s : SState), C s → C (applyWrites p n s) := by
  intro n
  induction n with
  | zero => exact fun _ hs => hs
  | succ n ih =>
    intro s hs
    unfold applyWrites
    split
    · exact hs
    · exact ih _ (h s _ _ ‹_› hs)

theorem applyReads_ind {p : Params} {C : SState → Prop}
    (h : ∀ (s : SState) (op : ROp) (rest : List ROp), s.readQ = op :: rest → C s →
      C (applyRead p { s with readQ := rest } op)) :
    ∀ (n : Nat) (s : SState), C s → C (applyReads p n s) := by
  intro n
  induction n with
  | zero => exact fun _ hs => hs
  | succ n ih =>
    intro s hs
    unfold applyReads
    split
    · exact hs
    · exact ih _ (h s _ _ ‹_› hs)

/-- The body of the `while` loop of `Inner::sync`. -/
def syncPass (p : Params) (s : SState) : SState :=
  let s := if s.readQ.length > 0 then applyReads p s.readQ.length s else s
  let s := if s.writeQ.length > 0 then applyWrites p s.writeQ.length s else s
  if shouldEnableSketch p s then enableSketch p s else s

theorem syncPass_eq (p : Params) (s : SState) :
    syncPass p s =
      (let s1 := applyReads p s.readQ.length s
       let s2 := applyWrites p s1.writeQ.length s1
       if shouldEnableSketch p s2 then enableSketch p s2 else s2) := by
  have hr : ∀ t : SState, (if t.readQ.length > 0 then applyReads p t.readQ.length t else t) =
      applyReads p t.readQ.length t := by
    intro t; split
    · rfl
    · rename_i h; rw [Nat.eq_zero_of_not_pos h]; rfl
  have hw : ∀ t : SState, (if t.writeQ.length > 0 then applyWrites p t.writeQ.length t else t) =
      applyWrites p t.writeQ.length t := by
    intro t; split
    · rfl
    · rename_i h; rw [Nat.eq_zero_of_not_pos h]; rfl
  unfold syncPass
  dsimp only
  rw [hr, hw]

theorem syncPass_stages {p : Params} {Q R : SState → Prop} {s : SState}
    (hreads : Q (applyReads p s.readQ.length s))
    (hwrites : ∀ t, Q t → R (applyWrites p t.writeQ.length t))
    (hsk : ∀ t, R t → shouldEnableSketch p t = true → R (enableSketch p t)) :
    R (syncPass p s) := by
  rw [syncPass_eq]
  dsimp only
  split
  · rename_i hen
    exact hsk _ (hwrites _ hreads) hen
  · exact hwrites _ hreads

theorem syncPass_rel {R : SState → SState → Prop} (ht : ∀ {a b c}, R a b → R b c → R a c)
    (p : Params) (s : SState) (h1 : ∀ s n, R s (applyReads p n s))
    (h2 : ∀ s n, R s (applyWrites p n s)) (h3 : ∀ s, R s (enableSketch p s)) :
    R s (syncPass p s) :=
  syncPass_stages (Q := R s) (h1 s _) (fun t h => ht h (h2 t _)) (fun t h _ => ht h (h3 t))

theorem syncLoop_succ (p : Params) (fuel : Nat) (s : SState) :
    syncLoop p (fuel + 1) s =
      if ((syncPass p s).readQ.length ≥ Gen.READ_LOG_FLUSH_POINT ||
          (syncPass p s).writeQ.length ≥ Gen.WRITE_LOG_FLUSH_POINT) = true
      then syncLoop p fuel (syncPass p s) else syncPass p s := rfl

theorem syncPass_queues (p : Params) (s : SState) :
    (syncPass p s).writeQ = [] ∧ (syncPass p s).readQ = [] ∧ QKeep s (syncPass p s) := by
  obtain ⟨a, _, c⟩ := applyReads_queues p s.readQ.length s
  refine syncPass_stages (Q := fun t => t.readQ = [] ∧ QKeep s t)
    (R := fun t => t.writeQ = [] ∧ t.readQ = [] ∧ QKeep s t) ⟨by rw [a, List.drop_length], c⟩ ?_ ?_
  · rintro t ⟨hr, hk⟩
    obtain ⟨a, b, c⟩ := applyWrites_queues p t.writeQ.length t
    exact ⟨by rw [a, List.drop_length], b.trans hr, hk.trans c⟩
  · rintro t ⟨hw, hr, hk⟩ _
    have hf := enableSketch_qframe p t
    exact ⟨hf.writeQ.trans hw, hf.readQ.trans hr, hk.trans hf.toKeep⟩

/-! What the argument uses of the queue sizes generated from the source. -/

theorem wfp_pos : 0 < Gen.WRITE_LOG_FLUSH_POINT := by decide
theorem wfp_lt_size : Gen.WRITE_LOG_FLUSH_POINT < Gen.WRITE_LOG_SIZE := by decide
theorem rfp_pos : 0 < Gen.READ_LOG_FLUSH_POINT := by decide
theorem rfp_lt_size : Gen.READ_LOG_FLUSH_POINT < Gen.READ_LOG_SIZE := by decide

/-- The flush points are positive, so the loop of `Inner::sync` runs its body once: one pass
leaves both queues empty. -/
theorem syncLoop_one (p : Params) (fuel : Nat) (s : SState) :
    syncLoop p (fuel + 1) s = syncPass p s := by
  obtain ⟨a, b, _⟩ := syncPass_queues p s
  rw [syncLoop_succ, if_neg]
  rw [a, b]
  simp only [List.length_nil, ge_iff_le, Bool.or_eq_true, decide_eq_true_eq, not_or, Nat.not_le]
  exact ⟨rfp_pos, wfp_pos⟩

def runExpiry (p : Params) (s : SState) : SState :=
  if p.hasExpiry || s.va.isSome then evictExpired p s else s

theorem runExpiry_cases (p : Params) (s : SState) :
    runExpiry p s = evictExpired p s ∨ runExpiry p s = s := by
  unfold runExpiry
  split
  · exact Or.inl rfl
  · exact Or.inr rfl

theorem hasEnoughCapacity_none {p : Params} (hcap : p.cap = none) (s : SState) (w : Nat) :
    hasEnoughCapacity p w s = true := by
  unfold hasEnoughCapacity; rw [hcap]

theorem hasEnoughCapacity_some {p : Params} {c : Nat} (hcap : p.cap = some c) (s : SState)
    (w : Nat) : hasEnoughCapacity p w s = decide (s.cws + w ≤ c) := by
  unfold hasEnoughCapacity; rw [hcap]

theorem weightsToEvict_none {p : Params} (hcap : p.cap = none) (s : SState) :
    weightsToEvict p s = 0 := by
  unfold weightsToEvict; rw [hcap]

theorem weightsToEvict_some {p : Params} {c : Nat} (hcap : p.cap = some c) (s : SState) :
    weightsToEvict p s = s.cws - c := by
  unfold weightsToEvict; rw [hcap]

theorem syncRun_eq (p : Params) (s : SState) :
    syncRun p s =
      (let s2 := runExpiry p (syncPass p { s with cec := s.ec, cws := s.ws })
       let s3 := if weightsToEvict p s2 > 0
         then evictLruLoop p Gen.SYNC_EVICTION_BATCH_SIZE s2 (weightsToEvict p s2) 0 else s2
       { s3 with ec := s3.cec, ws := s3.cws }) := by
  unfold syncRun
  dsimp only
  rw [syncLoop_one]
  rfl

theorem syncRun_stages {p : Params} {P Q R : SState → Prop} {s : SState}
    (h0 : P { s with cec := s.ec, cws := s.ws })
    (hpass : ∀ t, P t → Q (syncPass p t))
    (hexp : ∀ t, Q t → Q (evictExpired p t))
    (hlru : ∀ t, Q t → weightsToEvict p t > 0 →
      Q (evictLruLoop p Gen.SYNC_EVICTION_BATCH_SIZE t (weightsToEvict p t) 0))
    (hpub : ∀ t, Q t → R { t with ec := t.cec, ws := t.cws }) : R (syncRun p s) := by
  rw [syncRun_eq]
  refine hpub _ ?_
  have h2 : Q (runExpiry p (syncPass p { s with cec := s.ec, cws := s.ws })) := by
    rcases runExpiry_cases p (syncPass p { s with cec := s.ec, cws := s.ws }) with e | e <;> rw [e]
    · exact hexp _ (hpass _ h0)
    · exact hpass _ h0
  generalize runExpiry p (syncPass p { s with cec := s.ec, cws := s.ws }) = s2 at h2 ⊢
  split
  · rename_i hpos
    exact hlru _ h2 hpos
  · exact h2

theorem syncRun_rel {R : SState → SState → Prop} (ht : ∀ {a b c}, R a b → R b c → R a c)
    (p : Params) (s : SState) (h0 : ∀ s : SState, R s { s with cec := s.ec, cws := s.ws })
    (h1 : ∀ s, R s (syncPass p s)) (h2 : ∀ {s s'}, Maint false s s' → R s s')
    (h3 : ∀ s : SState, R s { s with ec := s.cec, ws := s.cws }) : R s (syncRun p s) :=
  syncRun_stages (P := R s) (Q := R s) (h0 s) (fun t h => ht h (h1 t))
    (fun t h => ht h (h2 (evictExpired_maint p t)))
    (fun t h _ => ht h (h2 (evictLruLoop_maint p _ t _ _))) (fun t h => ht h (h3 t))

theorem syncRun_queues (p : Params) (s : SState) :
    (syncRun p s).writeQ = [] ∧ (syncRun p s).readQ = [] ∧ QKeep s (syncRun p s) := by
  refine syncRun_stages (P := QKeep s) (Q := fun t => t.writeQ = [] ∧ t.readQ = [] ∧ QKeep s t)
    (R := fun t => t.writeQ = [] ∧ t.readQ = [] ∧ QKeep s t) (qframe_set_cec_cws s _ _).toKeep ?_ (fun t h => keep h (evictExpired_maint p t))
    (fun t h _ => keep h (evictLruLoop_maint p _ t _ _))
    (fun t h => ⟨h.1, h.2.1, h.2.2.trans (qframe_set_ec_ws t _ _).toKeep⟩)
  · intro t h
    obtain ⟨a, b, c⟩ := syncPass_queues p t
    exact ⟨a, b, h.trans c⟩
where
  keep {t t' : SState} (h : t.writeQ = [] ∧ t.readQ = [] ∧ QKeep s t) (hm : Maint false t t') :
      t'.writeQ = [] ∧ t'.readQ = [] ∧ QKeep s t' :=
    ⟨hm.qframe.writeQ.trans h.1, hm.qframe.readQ.trans h.2.1, h.2.2.trans hm.qframe.toKeep⟩

theorem syncRun_writeQ (p : Params) (s : SState) : (syncRun p s).writeQ = [] :=
  (syncRun_queues p s).1

theorem syncRun_readQ (p : Params) (s : SState) : (syncRun p s).readQ = [] :=
  (syncRun_queues p s).2.1

theorem syncRun_running (p : Params) (s : SState) : (syncRun p s).running = s.running :=
  (syncRun_queues p s).2.2.running

/-- The state in which `Housekeeper::try_sync` starts the maintenance run. -/
def armed (s : SState) : SState :=
  { s with running := true, syncAfter := s.now + Gen.PERIODICAL_SYNC_INTERVAL_MILLIS * 1000000 }

/-- What `Housekeeper::try_sync` does when no maintenance run is in progress. -/
structure Synced (s s' : SState) : Prop where
  writeQ : s'.writeQ = []
  readQ : s'.readQ = []
  running : s'.running = false
  now : s'.now = s.now
  hang : s'.fault = some Fault.hang → s.fault = some Fault.hang

theorem trySync_spec (p : Params) (s : SState) (hr : s.running = false) :
    Synced s (trySync p s) := by
  unfold trySync
  rw [if_neg (by rw [hr]; exact Bool.false_ne_true)]
  dsimp only
  obtain ⟨a, b, c⟩ := syncRun_queues p (armed s)
  exact ⟨a, b, rfl, c.now, c.hang⟩

theorem trySync_running (p : Params) (s : SState) (hr : s.running = true) : trySync p s = s := by
  unfold trySync
  rw [if_pos hr]

/-- Holds between two API calls of the one thread. -/
structure QInv (s : SState) : Prop where
  running : s.running = false
  writeQ : s.writeQ.length ≤ Gen.WRITE_LOG_FLUSH_POINT
  readQ : s.readQ.length ≤ Gen.READ_LOG_FLUSH_POINT

theorem qinv_init : QInv ({} : SState) :=
  ⟨rfl, Nat.zero_le _, Nat.zero_le _⟩

theorem qinv_of_eq {s s' : SState} (h : QInv s) (hg : s'.running = s.running)
    (hw : s'.writeQ = s.writeQ) (hr : s'.readQ = s.readQ) : QInv s' :=
  ⟨by rw [hg]; exact h.running, by rw [hw]; exact h.writeQ, by rw [hr]; exact h.readQ⟩

/-- The maintenance that `schedule_write_op` performs before it tries to send. -/
def housekeepW (p : Params) (s : SState) : SState :=
  if shouldApply s s.writeQ.length Gen.WRITE_LOG_FLUSH_POINT then trySync p s else s

/-- The maintenance that `record_read_op` performs before it tries to send. -/
def housekeepR (p : Params) (s : SState) : SState :=
  if shouldApply s s.readQ.length Gen.READ_LOG_FLUSH_POINT then trySync p s else s

theorem scheduleWriteOp_succ (p : Params) (n : Nat) (s : SState) (op : WOp) :
    scheduleWriteOp p (n + 1) s op =
      if (housekeepW p s).writeQ.length < Gen.WRITE_LOG_SIZE
      then { housekeepW p s with writeQ := (housekeepW p s).writeQ ++ [op] }
      else scheduleWriteOp p n (housekeepW p s) op := rfl

theorem recordReadOp_eq (p : Params) (s : SState) (op : ROp) :
    recordReadOp p s op =
      if (housekeepR p s).readQ.length < Gen.READ_LOG_SIZE
      then { housekeepR p s with readQ := (housekeepR p s).readQ ++ [op] }
      else housekeepR p s := rfl

theorem housekeep_armed {p : Params} {s : SState} {C : SState → Prop} (h0 : C s)
    (h1 : C { syncRun p (armed s) with running := false }) :
    C (trySync p s) ∧ C (housekeepW p s) ∧ C (housekeepR p s) := by
  have ht : C (trySync p s) := by
    unfold trySync
    split
    · exact h0
    · exact h1
  refine ⟨ht, ?_, ?_⟩
  · unfold housekeepW
    split
    · exact ht
    · exact h0
  · unfold housekeepR
    split
    · exact ht
    · exact h0

theorem housekeep_ind {p : Params} {s : SState} {C : SState → Prop} (h0 : C s)
    (h1 : ∀ a, C { syncRun p { s with running := true, syncAfter := a } with running := false }) :
    C (trySync p s) ∧ C (housekeepW p s) ∧ C (housekeepR p s) :=
  housekeep_armed h0 (h1 _)

theorem housekeepW_writeQ_cases (p : Params) (s : SState) :
    (housekeepW p s).writeQ = [] ∨ (housekeepW p s).writeQ = s.writeQ :=
  (housekeep_armed (C := fun t => t.writeQ = [] ∨ t.writeQ = s.writeQ) (Or.inr rfl)
    (Or.inl (syncRun_writeQ p (armed s)))).2.1

/-- If maintenance is due (`shouldApply`: the queue is at its flush point, or `sync_after ≥ now`,
the test of `Housekeeper::should_apply` as the code has it) it runs and empties the queues; if not,
the write queue is below its flush point.  Either way there is room. -/
theorem housekeepW_room (p : Params) {s : SState} (h : QInv s) :
    QInv (housekeepW p s) ∧ (housekeepW p s).writeQ.length < Gen.WRITE_LOG_FLUSH_POINT ∧
    ((housekeepW p s).fault = some Fault.hang → s.fault = some Fault.hang) := by
  unfold housekeepW
  split
  · have hs := trySync_spec p s h.running
    refine ⟨⟨hs.running, ?_, ?_⟩, ?_, hs.hang⟩
    · rw [hs.writeQ]; exact Nat.zero_le _
    · rw [hs.readQ]; exact Nat.zero_le _
    · rw [hs.writeQ]; exact wfp_pos
  · rename_i hsa
    refine ⟨h, ?_, fun x => x⟩
    unfold shouldApply at hsa
    simp only [Bool.or_eq_true, decide_eq_true_eq, not_or, Nat.not_le] at hsa
    exact hsa.1

theorem housekeepR_room (p : Params) {s : SState} (h : QInv s) :
    QInv (housekeepR p s) ∧ (housekeepR p s).readQ.length < Gen.READ_LOG_FLUSH_POINT ∧
    ((housekeepR p s).fault = some Fault.hang → s.fault = some Fault.hang) := by
  unfold housekeepR
  split
  · have hs := trySync_spec p s h.running
    refine ⟨⟨hs.running, ?_, ?_⟩, ?_, hs.hang⟩
    · rw [hs.writeQ]; exact Nat.zero_le _
    · rw [hs.readQ]; exact Nat.zero_le _
    · rw [hs.readQ]; exact rfp_pos
  · rename_i hsa
    refine ⟨h, ?_, fun x => x⟩
    unfold shouldApply at hsa
    simp only [Bool.or_eq_true, decide_eq_true_eq, not_or, Nat.not_le] at hsa
    exact hsa.1

/-- Under the invariant, `schedule_write_op` sends in its first iteration: it never retries,
let alone runs out of fuel (the `Fault.hang` branch).  So the fuel `3` with which the model calls
it could be any positive number. -/
theorem scheduleWriteOp_enqueues (p : Params) (fuel : Nat) {s : SState} (h : QInv s) (op : WOp) :
    scheduleWriteOp p (fuel + 1) s op =
      { housekeepW p s with writeQ := (housekeepW p s).writeQ ++ [op] } := by
  rw [scheduleWriteOp_succ, if_pos (Nat.lt_trans (housekeepW_room p h).2.1 wfp_lt_size)]

theorem scheduleWriteOp_qinv (p : Params) (fuel : Nat) {s : SState} (h : QInv s) (op : WOp) :
    QInv (scheduleWriteOp p (fuel + 1) s op) ∧
    ((scheduleWriteOp p (fuel + 1) s op).fault = some Fault.hang → s.fault = some Fault.hang) := by
  rw [scheduleWriteOp_enqueues p fuel h]
  obtain ⟨hi, hlt, hh⟩ := housekeepW_room p h
  refine ⟨⟨hi.running, ?_, hi.readQ⟩, hh⟩
  show ((housekeepW p s).writeQ ++ [op]).length ≤ _
  rw [List.length_append]
  exact hlt

theorem recordReadOp_enqueues (p : Params) {s : SState} (h : QInv s) (op : ROp) :
    recordReadOp p s op = { housekeepR p s with readQ := (housekeepR p s).readQ ++ [op] } := by
  rw [recordReadOp_eq, if_pos (Nat.lt_trans (housekeepR_room p h).2.1 rfp_lt_size)]

theorem recordReadOp_qinv (p : Params) {s : SState} (h : QInv s) (op : ROp) :
    QInv (recordReadOp p s op) ∧
    ((recordReadOp p s op).fault = some Fault.hang → s.fault = some Fault.hang) := by
  obtain ⟨hi, hlt, hh⟩ := housekeepR_room p h
  rw [recordReadOp_enqueues p h]
  refine ⟨⟨hi.running, hi.writeQ, ?_⟩, hh⟩
  show ((housekeepR p s).readQ ++ [op]).length ≤ _
  rw [List.length_append]
  exact hlt

end Sync

namespace ConcS
open Sync

theorem insert_eq (p : Params) (s : SState) (k v : Nat) :
    Sync.insert p s k v = scheduleWriteOp p 3 (insertMap p s k v).1 (insertMap p s k v).2 := by
  unfold Sync.insert insertMap
  dsimp only
  generalize AL.get? s.map k = o
  cases o <;> rfl

theorem invalidate_eq (p : Params) (s : SState) (k : Nat) :
    Sync.invalidate p s k = match (invalidateMap s k).2 with
      | some op => scheduleWriteOp p 3 (invalidateMap s k).1 op
      | none => s := by
  unfold Sync.invalidate invalidateMap
  generalize AL.get? s.map k = o
  cases o <;> rfl

theorem get_eq (p : Params) (s : SState) (k : Nat) :
    Sync.get p s k = (recordReadOp p s (lookup p s k).1, (lookup p s k).2) := by
  unfold Sync.get lookup
  dsimp only
  generalize AL.get? s.map k = o
  cases o with
  | none => rfl
  | some ve =>
    dsimp only
    split <;> rfl

/-- `get_eq` by components: a goal about `(get p s k).1` rewritten with `get_eq` itself speaks of
`(recordReadOp p s _, _).1`, and to see through that pair against `recordReadOp p s op` the
unifier unfolds `recordReadOp`. -/
theorem get_fst_eq (p : Params) (s : SState) (k : Nat) :
    (Sync.get p s k).1 = recordReadOp p s (lookup p s k).1 := by rw [get_eq]

theorem get_snd_eq (p : Params) (s : SState) (k : Nat) :
    (Sync.get p s k).2 = (lookup p s k).2 := by rw [get_eq]

theorem lookup_cases (p : Params) (s : SState) (k : Nat) :
    (lookup p s k = (.miss (p.hash k), none) ∧
      ∀ ve, AL.get? s.map k = some ve → isExpiredInfo p s (getInfo s ve.info) s.now = true) ∨
    ∃ ve, AL.get? s.map k = some ve ∧ isExpiredInfo p s (getInfo s ve.info) s.now = false ∧
      lookup p s k = (.hit (p.hash k) ve s.now, some ve.val) := by
  unfold lookup
  dsimp only
  cases hk : AL.get? s.map k with
  | none => exact Or.inl ⟨rfl, fun _ h => by cases h⟩
  | some ve =>
    dsimp only
    cases hx : isExpiredInfo p s (getInfo s ve.info) s.now with
    | true => exact Or.inl ⟨rfl, fun _ h => by cases h; exact hx⟩
    | false => exact Or.inr ⟨ve, rfl, hx, rfl⟩

theorem lookup_now {p : Params} {s : SState} {k : Nat} {hash : UInt64} {ve : VE} {ts : Nat}
    (h : (lookup p s k).1 = ROp.hit hash ve ts) : ts = s.now := by
  rcases lookup_cases p s k with ⟨e, _⟩ | ⟨_, _, _, e⟩
  · rw [e] at h; cases h
  · rw [e] at h; cases h; rfl

theorem insertMap_eq (p : Params) (s : SState) (k v : Nat) : ∃ (ve : VE) (inf : Info) (n oldW : Nat),
    insertMap p s k v =
      ({ s with nextId := n, infos := AL.put s.infos ve.info inf, map := AL.put s.map k ve },
        .upsert k (p.hash k) ve oldW (p.weigh k v)) ∧
    ((∃ old, AL.get? s.map k = some old ∧
        ve = { id := s.nextId, val := v, info := old.info, slot := old.slot } ∧
        inf = { getInfo s old.info with
          dirty := true, la := s.now, lm := s.now,
          weight := if p.q.d8 then p.weigh k v else (getInfo s old.info).weight } ∧
        n = s.nextId + 1 ∧ oldW = (getInfo s old.info).weight) ∨
      (AL.get? s.map k = none ∧
        ve = { id := s.nextId + 1, val := v, info := s.nextId, slot := s.nextId + 1 } ∧
        inf = { key := k, admitted := false, dirty := true, la := s.now, lm := s.now
                weight := p.weigh k v } ∧
        n = s.nextId + 2 ∧ oldW = 0)) := by
  unfold insertMap
  dsimp only
  split
  · rename_i old hg
    exact ⟨_, _, _, _, rfl, Or.inl ⟨old, hg, rfl, rfl, rfl, rfl⟩⟩
  · rename_i hg
    exact ⟨_, _, _, _, rfl, Or.inr ⟨hg, rfl, rfl, rfl, rfl⟩⟩

theorem invalidateMap_cases (s : SState) (k : Nat) :
    (AL.get? s.map k = none ∧ invalidateMap s k = (s, none)) ∨
    ∃ ve, AL.get? s.map k = some ve ∧
      invalidateMap s k = ({ s with map := AL.erase s.map k }, some (.remove k ve)) := by
  unfold invalidateMap
  cases AL.get? s.map k with
  | none => exact Or.inl ⟨rfl, rfl⟩
  | some ve => exact Or.inr ⟨ve, rfl, rfl⟩

theorem invalidateMap_some {s : SState} {k : Nat} {op : WOp}
    (h : (invalidateMap s k).2 = some op) :
    ∃ ve, AL.get? s.map k = some ve ∧ op = .remove k ve ∧
      (invalidateMap s k).1 = { s with map := AL.erase s.map k } := by
  rcases invalidateMap_cases s k with ⟨_, e⟩ | ⟨ve, hg, e⟩
  · rw [e] at h; cases h
  · rw [e] at h ⊢; cases h; exact ⟨ve, hg, rfl, rfl⟩

theorem insertMap_fields (p : Params) (s : SState) (k v : Nat) :
    (insertMap p s k v).1.writeQ = s.writeQ ∧ (insertMap p s k v).1.readQ = s.readQ ∧
    (insertMap p s k v).1.running = s.running ∧ (insertMap p s k v).1.va = s.va ∧
    (insertMap p s k v).1.now = s.now := by
  obtain ⟨_, _, _, _, e, _⟩ := insertMap_eq p s k v
  rw [e]
  exact ⟨rfl, rfl, rfl, rfl, rfl⟩

theorem invalidateMap_fields (s : SState) (k : Nat) :
    (invalidateMap s k).1.writeQ = s.writeQ ∧ (invalidateMap s k).1.readQ = s.readQ ∧
    (invalidateMap s k).1.running = s.running ∧ (invalidateMap s k).1.va = s.va ∧
    (invalidateMap s k).1.now = s.now := by
  unfold invalidateMap
  split <;> exact ⟨rfl, rfl, rfl, rfl, rfl⟩

theorem insertMap_qinv {p : Params} {s : SState} (h : QInv s) (k v : Nat) :
    QInv (insertMap p s k v).1 :=
  qinv_of_eq h (insertMap_fields p s k v).2.2.1 (insertMap_fields p s k v).1
    (insertMap_fields p s k v).2.1

theorem insertMap_fault (p : Params) (s : SState) (k v : Nat) :
    (insertMap p s k v).1.fault = s.fault := by
  obtain ⟨_, _, _, _, e, _⟩ := insertMap_eq p s k v
  rw [e]

theorem invalidateMap_qinv {s : SState} (h : QInv s) (k : Nat) : QInv (invalidateMap s k).1 :=
  qinv_of_eq h (invalidateMap_fields s k).2.2.1 (invalidateMap_fields s k).1
    (invalidateMap_fields s k).2.1

theorem invalidateMap_fault (s : SState) (k : Nat) : (invalidateMap s k).1.fault = s.fault := by
  unfold invalidateMap
  split <;> rfl

end ConcS

namespace Sync

theorem insert_qinv (p : Params) {s : SState} (h : QInv s) (k v : Nat) :
    QInv (insert p s k v) ∧
    ((insert p s k v).fault = some Fault.hang → s.fault = some Fault.hang) := by
  rw [ConcS.insert_eq, ← ConcS.insertMap_fault p s k v]
  exact scheduleWriteOp_qinv p 2 (ConcS.insertMap_qinv h k v) _

theorem invalidate_qinv (p : Params) {s : SState} (h : QInv s) (k : Nat) :
    QInv (invalidate p s k) ∧
    ((invalidate p s k).fault = some Fault.hang → s.fault = some Fault.hang) := by
  rw [ConcS.invalidate_eq]
  split
  · rw [← ConcS.invalidateMap_fault s k]
    exact scheduleWriteOp_qinv p 2 (ConcS.invalidateMap_qinv h k) _
  · exact ⟨h, fun x => x⟩

theorem get_qinv (p : Params) {s : SState} (h : QInv s) (k : Nat) :
    QInv (get p s k).1 ∧
    ((get p s k).1.fault = some Fault.hang → s.fault = some Fault.hang) := by
  rw [ConcS.get_fst_eq]
  exact recordReadOp_qinv p h _

theorem syncRun_qinv (p : Params) {s : SState} (h : QInv s) :
    QInv (syncRun p s) ∧ ((syncRun p s).fault = some Fault.hang → s.fault = some Fault.hang) := by
  obtain ⟨a, b, c⟩ := syncRun_queues p s
  refine ⟨⟨by rw [c.running]; exact h.running, ?_, ?_⟩, c.hang⟩
  · rw [a]; exact Nat.zero_le _
  · rw [b]; exact Nat.zero_le _

/-- The state after the call, when no fault is pending. -/
def stepState (p : Params) (s : SState) : Op → SState
  | .ins k v => insert p s k v
  | .get k => (get p s k).1
  | .inv k => invalidate p s k
  | .invAll => invalidateAll s
  | .sync => syncRun p s
  | .adv d => { s with now := s.now + d }
  | _ => s

/-- What the call observes when no fault is pending before or after it. -/
def stepObs (p : Params) (s : SState) : Op → Obs
  | .ins _ _ => .ok
  | .get k => .val (get p s k).2
  | .has k => .bool (containsKey p s k)
  | .iter => .iter (sortBy (·.1) (iter p s))
  | .inv _ => .ok
  | .invAll => .ok
  | .invIf _ => .badOp
  | .sync => .ok
  | .adv _ => .ok
  | .snap => .snap (snapshot p s)
  | .freq k => .freq (s.sk.frequency (p.hash k))

theorem step_fst_ite (p : Params) (s : SState) (op : Op) :
    (step p s op).1 = if s.fault.isSome then s else stepState p s op := by
  unfold step
  split
  · rfl
  · dsimp only
    split <;> cases op <;> rfl

theorem step_qinv (p : Params) {s : SState} (h : QInv s) (op : Op) :
    QInv (step p s op).1 ∧
    ((step p s op).1.fault = some Fault.hang → s.fault = some Fault.hang) := by
  rw [step_fst_ite]
  split
  · exact ⟨h, fun x => x⟩
  · cases op with
    | ins k v => exact insert_qinv p h k v
    | get k => exact get_qinv p h k
    | inv k => exact invalidate_qinv p h k
    | invAll => exact ⟨qinv_of_eq h rfl rfl rfl, fun x => x⟩
    | sync => exact syncRun_qinv p h
    | adv d => exact ⟨qinv_of_eq h rfl rfl rfl, fun x => x⟩
    | _ => exact ⟨h, fun x => x⟩

theorem step_eq (p : Params) {s : SState} (hf : s.fault = none) (op : Op) :
    step p s op = match (stepState p s op).fault with
      | some f => (stepState p s op, Obs.panic f)
      | none => (stepState p s op, stepObs p s op) := by
  unfold step
  rw [if_neg (by rw [hf]; exact Bool.false_ne_true)]
  cases op <;> rfl

theorem step_fst {p : Params} {s : SState} (hf : s.fault = none) (op : Op) :
    (step p s op).1 = stepState p s op := by
  rw [step_fst_ite, hf]; rfl

theorem step_faulty {p : Params} {s : SState} (hf : s.fault.isSome = true) (op : Op) :
    step p s op = (s, .badOp) := by
  unfold step; rw [if_pos hf]

theorem step_sync_eq {p : Params} {s : SState} (hf : s.fault = none)
    (hf' : (syncRun p s).fault = none) : step p s .sync = (syncRun p s, .ok) := by
  rw [step_eq p hf]
  show (match (syncRun p s).fault with
    | some f => (syncRun p s, Obs.panic f)
    | none => (syncRun p s, Obs.ok)) = _
  rw [hf']

theorem step_obs_or_panic (p : Params) {s : SState} (hf : s.fault = none) (op : Op) :
    (step p s op).2 = stepObs p s op ∨ ∃ f, (step p s op).2 = Obs.panic f := by
  rw [step_eq p hf op]
  split
  · exact Or.inr ⟨_, rfl⟩
  · exact Or.inl rfl

theorem step_plain_or_stops (p : Params) (s : SState) (op : Op) :
    Spec.stops (step p s op).2 = true ∨ step p s op = (stepState p s op, stepObs p s op) := by
  cases hf : s.fault with
  | some f =>
    left
    rw [step_faulty (by rw [hf]; rfl)]
    rfl
  | none =>
    rw [step_eq p hf op]
    split
    · exact Or.inl rfl
    · exact Or.inr rfl

theorem step_panic (p : Params) (s : SState) (op : Op) (f : Fault)
    (h : (step p s op).2 = Obs.panic f) : (step p s op).1.fault = some f := by
  cases hf : s.fault with
  | some g =>
    rw [step_faulty (by rw [hf]; rfl)] at h
    cases h
  | none =>
    rw [step_eq p hf op] at h ⊢
    cases hx : (stepState p s op).fault with
    | some g =>
      rw [hx] at h
      cases h
      exact hx
    | none =>
      rw [hx] at h
      cases op <;> cases h

theorem step_obs_of_nofault {p : Params} {s : SState} (hf : s.fault = none) (op : Op)
    (hf' : (Sync.step p s op).1.fault = none) : (Sync.step p s op).2 = stepObs p s op := by
  rcases step_obs_or_panic p hf op with e | ⟨f, e⟩
  · exact e
  · rw [step_panic p s op f e] at hf'
    cases hf'

theorem step_snap (p : Params) (s : SState) (op : Op) (sn : Snap)
    (h : (step p s op).2 = Obs.snap sn) : sn = snapshot p s := by
  cases hf : s.fault with
  | some g =>
    rw [step_faulty (by rw [hf]; rfl)] at h
    cases h
  | none =>
    rw [step_eq p hf op] at h
    split at h
    · cases h
    · cases op <;> cases h
      rfl

theorem run_snap_state {p : Params} {I : SState → Prop} (hI : ∀ s op, I s → I (step p s op).1)
    (h : List Op) {s : SState} (hs : I s) {op : Op} {sn : Snap}
    (hm : (op, Obs.snap sn) ∈ run p s h) : ∃ s', I s' ∧ sn = snapshot p s' := by
  obtain ⟨s', hs', e⟩ := (isRun p).mem hI h s hs hm
  exact ⟨s', hs', step_snap p s' op sn e.symm⟩

/-- The state after a history.  `runState` (below) and `Nodes.finalState` (`SyncNodes.lean`) are the
same function, under the names with which two groups of results are stated
(`runState_eq_stateAfter`, `finalState_eq_stateAfter`). -/
def stateAfter (p : Params) : SState → List Op → SState
  | s, [] => s
  | s, op :: rest => stateAfter p (step p s op).1 rest

def runState (p : Params) : SState → List Op → SState
  | s, [] => s
  | s, op :: rest => runState p (step p s op).1 rest

theorem runState_eq_stateAfter (p : Params) :
    ∀ (h : List Op) (s : SState), runState p s h = stateAfter p s h
  | [], _ => rfl
  | _ :: rest, _ => runState_eq_stateAfter p rest _

theorem stateAfter_induct {p : Params} {I : SState → Prop} (hI : ∀ s op, I s → I (step p s op).1)
    (h : List Op) : ∀ {s : SState}, I s → I (stateAfter p s h) := by
  induction h with
  | nil => intro s hs; exact hs
  | cons op rest ih => intro s hs; exact ih (hI s op hs)

theorem stateAfter_append (p : Params) (l1 l2 : List Op) : ∀ (s : SState),
    stateAfter p s (l1 ++ l2) = stateAfter p (stateAfter p s l1) l2 := by
  induction l1 with
  | nil => intro s; rfl
  | cons op rest ih => intro s; exact ih _

theorem stateAfter_qinv (p : Params) (h : List Op) : ∀ {s : SState}, QInv s →
    QInv (stateAfter p s h) :=
  stateAfter_induct (I := QInv) (fun _ op hs => (step_qinv p hs op).1) h

theorem run_no_hang (p : Params) (h : List Op) : ∀ {s : SState}, QInv s →
    s.fault ≠ some Fault.hang → ∀ oo ∈ run p s h, oo.2 ≠ Obs.panic Fault.hang := by
  intro s hs hf oo hoo hp
  obtain ⟨s', ⟨hs', hf'⟩, e⟩ := (isRun p).mem (I := fun s => QInv s ∧ s.fault ≠ some Fault.hang)
    (fun s op h => ⟨(step_qinv p h.1 op).1, fun x => h.2 ((step_qinv p h.1 op).2 x)⟩) h s ⟨hs, hf⟩
    (show (oo.1, oo.2) ∈ run p s h from hoo)
  exact hf' ((step_qinv p hs' oo.1).2 (step_panic p s' oo.1 Fault.hang (e.symm.trans hp)))

end Sync
end MiniMoka
