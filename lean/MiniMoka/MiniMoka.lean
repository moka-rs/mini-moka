-- Root of the `MiniMoka` library: everything that `lake build` must check.
import MiniMoka.Basic
import MiniMoka.Gen.Constants
import MiniMoka.Sketch
import MiniMoka.Types
import MiniMoka.Unsync
import MiniMoka.Sync
import MiniMoka.Wire
import MiniMoka.Spec.Oracles
import MiniMoka.Driver
import MiniMoka.ConcL
import MiniMoka.ConcI
import MiniMoka.Lemmas.AL
import MiniMoka.Lemmas.ById
import MiniMoka.Lemmas.Sort
import MiniMoka.Lemmas.Ghost
import MiniMoka.Lemmas.IsRun
import MiniMoka.Lemmas.Walk
import MiniMoka.Lemmas.SnapView
import MiniMoka.Lemmas.Prefix
import MiniMoka.Lemmas.ExpOrd
import MiniMoka.Lemmas.SketchLawsDef
import MiniMoka.Lemmas.SyncPure
import MiniMoka.Lemmas.UnsyncNodes
import MiniMoka.Lemmas.UnsyncStruct
import MiniMoka.Lemmas.UnsyncInv
import MiniMoka.Lemmas.UnsyncOps
import MiniMoka.Lemmas.UnsyncInsert
import MiniMoka.Lemmas.UnsyncStep
import MiniMoka.Lemmas.UnsyncTrace
import MiniMoka.Lemmas.ConcL
import MiniMoka.Lemmas.ConcI
import MiniMoka.Lemmas.ConcV
import MiniMoka.Lemmas.ConcG
import MiniMoka.Lemmas.ConcB
import MiniMoka.Lemmas.UnsyncLookup
import MiniMoka.Lemmas.SyncMaint
import MiniMoka.Lemmas.SyncFrame
import MiniMoka.Lemmas.SyncActs
import MiniMoka.Lemmas.SyncCoupled
import MiniMoka.Lemmas.SyncLookup
import MiniMoka.ConcR
import MiniMoka.Lemmas.ConcR
import MiniMoka.Props.C02
import MiniMoka.Lemmas.UnsyncPrecise
import MiniMoka.Lemmas.UnsyncNoLoss
import MiniMoka.Lemmas.SketchLaws
import MiniMoka.Lemmas.SketchBits
import MiniMoka.Config
import MiniMoka.Props.C07
import MiniMoka.Props.C16
import MiniMoka.Props.C17
import MiniMoka.Props.C10
import MiniMoka.Props.C03
import MiniMoka.DequeHeap
import MiniMoka.Lemmas.DequeHeap
import MiniMoka.Props.C08Deque
import MiniMoka.Lemmas.Sketch
import MiniMoka.Props.C14
import MiniMoka.Props.C08Sketch
import MiniMoka.Props.C01
import MiniMoka.Props.C05
import MiniMoka.Props.C06
import MiniMoka.Props.C08Unsync
import MiniMoka.Props.C09Conc
import MiniMoka.Props.C16Conc
import MiniMoka.Lemmas.UnsyncAdmit
import MiniMoka.Props.C13
import MiniMoka.Props.C12
import MiniMoka.Lemmas.UnsyncCapacity
import MiniMoka.Props.C04
import MiniMoka.Lemmas.UnsyncExact
import MiniMoka.Props.C03A
import MiniMoka.Lemmas.SyncQueues
import MiniMoka.Props.C09Seq
import MiniMoka.Lemmas.Purity
import MiniMoka.Props.C15
import MiniMoka.Lemmas.SyncNodes
import MiniMoka.Props.C08Sync
import MiniMoka.Props.C08SyncAll
import MiniMoka.Props.C11
import MiniMoka.Lemmas.SyncCounters
import MiniMoka.Lemmas.SyncCapacity
import MiniMoka.Props.C10Sync
import MiniMoka.Lemmas.Agree.Capacity
import MiniMoka.Lemmas.Agree.Expiry
import MiniMoka.Lemmas.Agree.Admit
import MiniMoka.Lemmas.Agree.Housekeeper
import MiniMoka.Lemmas.Agree.SketchArith
import MiniMoka.Lemmas.Agree.Config
import MiniMoka.Lemmas.SketchFrame
import MiniMoka.Props.C14Cache
import MiniMoka.Lemmas.SyncExact
import MiniMoka.Props.C03ASync
import MiniMoka.Lemmas.Agree.Loops
import MiniMoka.Lemmas.SyncAInv
import MiniMoka.Lemmas.SyncAdmit
import MiniMoka.Lemmas.SyncMoves
import MiniMoka.Lemmas.SyncRecency
import MiniMoka.Props.C13Sync
import MiniMoka.Lemmas.SyncRefinesR
import MiniMoka.Props.C02Refines
import MiniMoka.Lemmas.SyncFits
import MiniMoka.Props.C03BSync
import MiniMoka.Lemmas.Agree.Lookup
import MiniMoka.Props.C14Trace
import MiniMoka.Props.NoFreqTrace
import MiniMoka.Props.NoFreq
import MiniMoka.Props.C03BTrace
import MiniMoka.Spec.OraclesC03W
import MiniMoka.Lemmas.Agree.Counters
import MiniMoka.Props.C03W
import MiniMoka.ConcT
import MiniMoka.Props.ConcT
import MiniMoka.Lemmas.Agree.Stamps
import MiniMoka.Lemmas.SyncDangling
import MiniMoka.Props.C13Dangling
import MiniMoka.Lemmas.Agree.Identity
import MiniMoka.Props.C10Order
import MiniMoka.ConcS
import MiniMoka.Lemmas.ConcS
import MiniMoka.Props.ConcS
import MiniMoka.Lemmas.ConcSLookup
import MiniMoka.Props.ConcSLookup
import MiniMoka.Lemmas.ProjR
import MiniMoka.Lemmas.ConcSRefinesR
import MiniMoka.Props.C02ConcS
import MiniMoka.Props.ConcSProgress
import MiniMoka.Props.C09Depart
import MiniMoka.Props.ConcSNoLoss
import MiniMoka.ConcM
import MiniMoka.Lemmas.ConcM
import MiniMoka.Props.ConcM
import MiniMoka.ConcF
import MiniMoka.Lemmas.ConcF
import MiniMoka.Props.ConcF
import MiniMoka.Lemmas.ConcFLookup
import MiniMoka.Props.ConcFLookup
import MiniMoka.Lemmas.ConcFRefinesR
import MiniMoka.Props.C02ConcF
import MiniMoka.ConcSI
import MiniMoka.Lemmas.ConcSI
import MiniMoka.Props.ConcSI
import MiniMoka.Lemmas.Agree.Enable
import MiniMoka.Props.ConcFMore
import MiniMoka.Spec.OraclesExt
import MiniMoka.Lemmas.UnsyncGrowExp
import MiniMoka.Props.C12Exp
import MiniMoka.SketchWord
import MiniMoka.Gen.Logic.SketchBits
import MiniMoka.Lemmas.Agree.SketchBits
import MiniMoka.SketchBitsModel
import MiniMoka.Props.C14Bits
import MiniMoka.Lemmas.ConcSRefill
import MiniMoka.Props.ConcSRefill
import MiniMoka.ConcV
import MiniMoka.Props.ConcV
import MiniMoka.ConcB
import MiniMoka.Props.ConcB
import MiniMoka.Lemmas.SyncGrowth
import MiniMoka.Props.C12SyncGrowth
import MiniMoka.ConcG
import MiniMoka.Props.ConcG
